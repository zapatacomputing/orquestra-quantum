/- C12 — PROPERTY THEOREMS (translation ties): the `Wavefunction` CLASS itself.
   `OQ.Generated.Wf.*` are REGENERATED from /repo's current `wavefunction.py` on every run (harness/translate_t13.py →
   OQ/Generated/TranslatedC12Wf.lean): `_is_number`, `_cast_sympy_matrix_to_numpy`, `_check_normalization`, `__init__`, `free_symbols`,
   `amplitudes`, `__len__`, `n_qubits`, `__setitem__` (copy – write – re-check – ROLLBACK), `bind`, `get_probabilities`,
   `flip_amplitudes`, `flip_wavefunction`, statement by statement, exceptions with their class, the object's state returned on a
   raise too.  numpy / sympy expressions are the fields of the parameter `ext : Wf.Ext …` (one per source pattern); the theorems
   hold for EVERY `ext` satisfying `OQ.C12.T13.Laws close ext` (OQ/Lemmas/C12_T13.lean – the model's assumptions about numpy / sympy,
   satisfied by the stand-ins `modelExt close` that the driver runs against the real class) and every tolerance test `close`.
   `trStep ext close s op` (OQ/Model/C12_T13Run.lean) performs the model's operation `op` THROUGH THE TRANSLATED METHODS; the main
   theorem `translated_step_eq` says it is the model's `step` – so every theorem of OQ/Props/C12.lean about histories is a theorem
   about the translated code (the END-TO-END theorems).  An edit of a Python method changes its generated definition and these stop
   checking at build time, for all inputs. -/
import OQ.Lemmas.C12_T13
import OQ.Props.C12
namespace OQ.C12
open OQ.Generated OQ.PyT OQ.C12.T13

/-- TRANSLATION TIE: `_is_number(x)` (`try: complex(x); return True / except Exception: return False`) regenerated from the current
    source returns the model's `Lin.isNum` and never raises.  All entries.  Law used: `complex_of`. -/
theorem translated_is_number_eq {close : Rat → Bool} {ext : MExt} (h : Laws close ext) (e : Lin) :
    Wf.is_number ext e = .ok e.isNum := by
  unfold Wf.is_number
  rw [h.complex_of]
  cases e.isNum <;> rfl

/-- TRANSLATION TIE: `Wavefunction._check_normalization(arr)` regenerated from the current source – the `isinstance … or … and not
    arr.free_symbols` test, `np.sum(np.abs(arr) ** 2)`, `np.isclose(·, 1.0)`, the comprehension over `_is_number`, `· > 1.0` – raises
    ValueError exactly when the model's `checkNorm close` says no, and never raises anything else.  ALL objects (1-d and (n,1) arrays,
    symbol-free, mixed and fully symbolic Matrices).  Laws used: `isinstance_*`, `attr_free_symbols`, `np_abs_sq`, `np_sum`,
    `np_isclose_one`, `gt_one`, `iter_vector`, `np_array_c128`, `complex_of`. -/
theorem translated_check_normalization_eq {close : Rat → Bool} {ext : MExt} (h : Laws close ext) (s : Store) :
    Wf.check_normalization ext s = if checkNorm close s.entries then .ok () else .error .ValueError := by
  unfold Wf.check_normalization checkNorm
  simp only [h.isinstance_ndarray, h.isinstance_Matrix, h.np_abs_sq, h.np_isclose_one, h.gt_one,
    h.iter_vector, translated_is_number_eq h]
  -- the guard says "no free symbol"
  have hfs : (isArr s || (!isArr s && !ext.truthy_FS (ext.attr_free_symbols s))) = allNum s.entries := by
    cases s with
    | arr1 v | arr2 v => exact (allNum_ofNum v).symm
    | mat v => rw [h.attr_free_symbols]; exact Bool.not_not _
  rw [hfs]
  cases ha : allNum s.entries
  · -- a symbol is left: the numeric entries go into a 1-d array, whose squared magnitudes sum to `numSq`
    rw [filterE_ok (fun e => .ok e.isNum) Lin.isNum _ (fun _ _ => rfl)]
    simp only [h.np_array_c128 _ (all_isNum_filter _), absSq_arr1, h.np_sum, List.map_map]
    show (if decide (1 < numSq s.entries) = true then _ else _) = _
    cases decide (1 < numSq s.entries) <;> rfl
  · simp only [if_true, absSq, ha, h.np_sum, ← numSq_allNum _ ha]
    cases close (numSq s.entries) <;> rfl

/-- TRANSLATION TIE: `Wavefunction.__init__(amplitude_vector)` regenerated from the current source – `bin(len(·)).count("1") != 1`,
    `np.array(·, dtype=complex)` with the fall-back `Matrix(·)` on TypeError, the final `_check_normalization` – is the model's
    `construct`: same object on success (`col` = the argument is a column), ValueError where the model refuses.  ALL argument vectors
    (any length incl. 0, numeric / symbolic / mixed).  Laws used: `len_input`, `np_array_complex`, `sympy_Matrix` + those of
    `_check_normalization`. -/
theorem translated_init_eq {close : Rat → Bool} {ext : MExt} (h : Laws close ext) (col : Bool) (v : List Lin) :
    Wf.init ext (col, v) = match construct close col v with
      | .ok s => .ok ⟨s⟩
      | .error e => .error (errOf e) := by
  unfold Wf.init
  simp only [h.len_input, countChar_bin, h.np_array_complex, h.sympy_Matrix, translated_check_normalization_eq h, construct_eq]
  by_cases hp : popcount v.length = 1
  · have hent := entries_ofInput col v
    unfold Store.ofInput at hent ⊢
    simp only [hp, Nat.cast_one, bne_self_eq_false, true_and, Bool.false_eq_true, if_false]
    cases ha : allNum v <;> simp only [ha, if_true, Bool.false_eq_true, if_false] at hent ⊢
    · -- `np.array(·, dtype=complex)` raises TypeError: the Matrix is kept
      have ht : (Exc.TypeError == Exc.TypeError) = true := by decide
      simp only [ht, if_true, mat_entries]
      rcases Bool.eq_false_or_eq_true (checkNorm close v) with hc | hc <;> simp only [hc] <;> rfl
    · rw [hent]
      rcases Bool.eq_false_or_eq_true (checkNorm close v) with hc | hc <;> simp only [hc] <;> rfl
  · have e1 : (((popcount v.length : Nat) : Int) != 1) = true := by
      simp only [bne_iff_ne, ne_eq]; exact_mod_cast hp
    simp only [e1, hp, false_and, if_true, if_false, errOf]

/-- NORMAL FORM of the translated `__setitem__` (copy, write, re-check, rollback): with `w = rawSet s key val` (the write alone):
    the write raised → that exception, the object as the write left it; the re-check passes → the written object; otherwise the WHOLE
    saved vector is back (through `[...] =` on an ndarray, by rebinding on a Matrix) and ValueError is raised.  ALL objects; keys /
    values: an int key with a scalar value, a bare slice key with a scalar or a list (the operations of the model).
    Laws used: `copy`, `setitem`, `setitem_all`, `isinstance_ndarray` + those of `_check_normalization`. -/
theorem translated_setitem_eq {close : Rat → Bool} {ext : MExt} (h : Laws close ext) (s : Store) (k : Key) (x : SliceVal)
    (hdom : ∀ i l, ¬ (k = .int i ∧ x = .list l)) :
    Wf.setitem ext ⟨s⟩ k x =
      match (rawSet s k x).2 with
      | .error e => (⟨(rawSet s k x).1⟩, .error e)
      | .ok _ =>
        if checkNorm close (rawSet s k x).1.entries then (⟨(rawSet s k x).1⟩, .ok ()) else (⟨s⟩, .error .ValueError) := by
  unfold Wf.setitem
  simp only [h.copy, h.setitem _ _ _ hdom, translated_check_normalization_eq h, h.isinstance_ndarray]
  cases hr : (rawSet s k x).2 with
  | error e => rfl
  | ok u =>
    simp only
    cases hc : checkNorm close (rawSet s k x).1.entries with
    | true => rfl
    | false =>
      have hv : (Exc.ValueError == Exc.ValueError) = true := by decide
      simp only [Bool.false_eq_true, if_false, hv, if_true]
      cases ha : isArr (rawSet s k x).1 with
      | false => rfl
      | true => simp only [if_true, h.setitem_all _ _ ha]

/-- TRANSLATION TIE (`wf[i] = val`, int key): the translated `__setitem__` is the model's step – ALL objects, ALL ints (negative
    wrap-around, out of range → IndexError), ALL values (a symbol into an ndarray → TypeError).  Both are `commit` of the write alone:
    the model's step by `step_setInt`, the translated method by its normal form. -/
theorem translated_setitem_int_eq {close : Rat → Bool} {ext : MExt} (h : Laws close ext) (s : Store) (i : Int) (val : Lin) :
    trStep ext close s (.setInt i val) = step close s (.setInt i val) := by
  rw [step_setInt, trStep, translated_setitem_eq h _ _ _ (fun _ _ hk => by cases hk.2), commit]
  cases (rawSet s (.int i) (.scalar val)).2 with
  | error e => rfl
  | ok u => dsimp only; cases checkNorm close (rawSet s (.int i) (.scalar val)).1.entries <;> rfl

/-- TRANSLATION TIE (`wf[a:b] = val`, bare slice key, step None): the translated `__setitem__` is the model's step – ALL objects, ALL
    bounds incl. None / negative / beyond the end, scalar and list values (numpy broadcasting errors, sympy's `(row, col)` reading of a
    bare slice with its IndexError / ShapeError). -/
theorem translated_setitem_slice_eq {close : Rat → Bool} {ext : MExt} (h : Laws close ext) (s : Store) (a b : Option Int) (val : SliceVal) :
    trStep ext close s (.setSlice a b val) = step close s (.setSlice a b val) := by
  rw [step_setSlice, trStep, translated_setitem_eq h _ _ _ (fun _ _ hk => by cases hk.1), commit]
  cases (rawSet s (.slice a b) val).2 with
  | error e => rfl
  | ok u => dsimp only; cases checkNorm close (rawSet s (.slice a b) val).1.entries <;> rfl

/-- TRANSLATION TIE: `wf.bind(symbol_map)` regenerated from the current source (`if not self.free_symbols: return self`, the assert,
    `.subs`, `type(self)(result)` with ValueError re-raised) is the model's step – ALL objects, ALL maps. -/
theorem translated_bind_eq {close : Rat → Bool} {ext : MExt} (h : Laws close ext) (s : Store) (m : List (String × Lin)) :
    trStep ext close s (.bind m) = step close s (.bind m) := by
  simp only [trStep, Wf.bind, Wf.free_symbols, h.getattr_free_symbols, h.isinstance_Matrix]
  cases s with
  | arr1 v | arr2 v => simp only [arr1_entries, arr2_entries, allNum_ofNum]; rfl
  | mat v =>
    simp only [mat_entries, step]
    rcases Bool.eq_false_or_eq_true (allNum v) with ha | ha
    · simp only [ha]; rfl
    · simp only [ha, Bool.not_false, Bool.not_true, Bool.false_eq_true, if_false, isArr, if_true, h.subs, h.as_input,
        asInput, translated_init_eq h]
      rcases hc : construct close true (v.map (Lin.subst m)) with e | s'
      · obtain rfl := construct_error _ _ _ _ hc
        rfl
      · rfl

/-- TRANSLATION TIE: the property `amplitudes` (with `_cast_sympy_matrix_to_numpy(·, complex=True)` and its TypeError fall-back to an
    object array) never raises and hands out the stored entries, for ALL objects.  Laws used: `getattr_free_symbols`, `flatten_*`. -/
theorem translated_amplitudes_eq {close : Rat → Bool} {ext : MExt} (h : Laws close ext) (s : Store) :
    Wf.amplitudes ext ⟨s⟩ = .ok s := by
  simp only [Wf.amplitudes, Wf.free_symbols, h.getattr_free_symbols, Wf.cast_sympy_matrix_to_numpy, if_true, h.flatten_c128]
  rcases Bool.eq_false_or_eq_true (allNum s.entries) with ha | ha
  · simp only [ha]; rfl
  · simp only [ha, Bool.not_false, if_true, Bool.false_eq_true, if_false, h.flatten_object s ha]
    rfl

/-- TRANSLATION TIE: `flip_wavefunction(wf)` = `Wavefunction(flip_amplitudes(wf.amplitudes))` regenerated from the current source
    (`len`, `_get_ordering`, `np.asarray(·)[ordering]`, the constructor) is the model's step, on every object whose length is a power of
    two – i.e. every object a constructor can have produced (other lengths: the model answers TypeError for an empty vector as the
    code does, for further lengths no bound on `ordering` is proved). -/
theorem translated_flip_eq {close : Rat → Bool} {ext : MExt} (h : Laws close ext) (s : Store) (hlen : ∃ k, s.length = 2 ^ k) :
    trStep ext close s .flip = step close s .flip := by
  obtain ⟨k, hk⟩ := hlen
  obtain ⟨w, hw, -, -⟩ := flipList_spec s.entries k hk
  have hperm := flipList_perm s.entries w k hk hw
  have hne : s.length ≠ 0 := by rw [hk]; exact (Nat.two_pow_pos k).ne'
  have hr : readAt s.entries (ordering s.length) = some w := by
    rw [flipList, if_neg (show ¬ s.entries.length = 0 from hne)] at hw; exact hw
  simp only [trStep, step, Wf.flip_wavefunction, translated_amplitudes_eq h, Wf.flip_amplitudes, h.len_vector, h.get_ordering, hne, if_false,
    h.asarray_take, hr, h.as_input, flipWf_eq, hw,
    withEntries_asInput s w (fun ha => by rw [allNum_perm _ _ hperm]; exact ha), translated_init_eq h]
  rcases hc : construct close s.col w with e | s'
  · obtain rfl := construct_error _ _ _ _ hc
    rfl
  · rfl

/-- TRANSLATION TIE (the whole object): performing a model operation through the TRANSLATED methods – `wf[i] = v`, `wf[a:b] = v`
    (`__setitem__`), `wf = wf.bind(m)`, `wf = flip_wavefunction(wf)` – gives exactly the model's `step`: the same object afterwards and
    the same outcome (ok / ValueError / TypeError / IndexError), for ALL objects and ALL operations (`flip`: objects of power-of-two
    length; `reload` is not translated and is the model's step by definition). -/
theorem translated_step_eq {close : Rat → Bool} {ext : MExt} (h : Laws close ext) (s : Store) (op : Op)
    (hlen : op = .flip → ∃ k, s.length = 2 ^ k) : trStep ext close s op = step close s op := by
  cases op with
  | setInt i val => exact translated_setitem_int_eq h s i val
  | setSlice a b val => exact translated_setitem_slice_eq h s a b val
  | bind m => exact translated_bind_eq h s m
  | flip => exact translated_flip_eq h s (hlen rfl)
  | reload => rfl

/-- TRANSLATION TIE: `get_probabilities()` (= `np.abs(self.amplitudes) ** 2`) regenerated from the current source is the model's
    `probabilities`: the squared magnitudes of a symbol-free object, nothing numeric for a symbolic one.  ALL objects. -/
theorem translated_get_probabilities_eq {close : Rat → Bool} {ext : MExt} (h : Laws close ext) (s : Store) :
    trProbabilities ext s = probabilities s := by
  simp only [trProbabilities, Wf.get_probabilities, translated_amplitudes_eq h, h.np_abs_sq, absSq, probabilities]

/-- END-TO-END (`rejected_unchanged` on the translated `__setitem__` / `bind` / `flip_wavefunction`): whenever the translated method
    raises, the object is EXACTLY as it was – the rollback of `__setitem__` restores the whole vector on arrays and Matrices, int and
    slice keys; errors of the write itself leave nothing written. -/
theorem translated_rejected_unchanged {close : Rat → Bool} {ext : MExt} (h : Laws close ext) (s : Store) (op : Op)
    (hlen : op = .flip → ∃ k, s.length = 2 ^ k) (hrej : (trStep ext close s op).2 ≠ .ok) : (trStep ext close s op).1 = s := by
  rw [translated_step_eq h s op hlen] at hrej ⊢
  exact rejected_unchanged close s op hrej

/-- END-TO-END (`inv_step`): one operation through the translated methods, accepted or rejected, keeps a valid object valid
    (power-of-two length; squared magnitudes summing to 1 in the sense of `close`, numeric part ≤ 1 next to symbols). -/
theorem translated_inv_step {close : Rat → Bool} {ext : MExt} (h : Laws close ext) (s : Store) (op : Op) (hinv : Inv close s) :
    Inv close (trStep ext close s op).1 := by
  rw [translated_step_eq h s op (fun _ => hinv.1)]
  exact inv_step close s op hinv

/-- END-TO-END (`inv_reachable`, "normalised after every accepted or rejected operation"): EVERY history of translated `__setitem__` /
    `bind` / `flip_wavefunction` calls from a valid object ends in a valid object, and it is the object the model's history ends in. -/
theorem translated_inv_reachable {close : Rat → Bool} {ext : MExt} (h : Laws close ext) (s : Store) (ops : List Op)
    (hinv : Inv close s) : Inv close (trRun ext close s ops) ∧ trRun ext close s ops = run close s ops := by
  induction ops generalizing s with
  | nil => exact ⟨hinv, rfl⟩
  | cons op ops ih =>
    have e := translated_step_eq h s op (fun _ => hinv.1)
    have hi := inv_step close s op hinv
    simp only [trRun, run, List.foldl_cons, e]
    exact ih _ hi

/-- END-TO-END (`inv_reachable_from_construct`): every object reachable from a successful TRANSLATED construction by any history of
    translated operations is valid; the translated constructor accepts exactly what `construct_ok_iff` says. -/
theorem translated_inv_reachable_from_init {close : Rat → Bool} {ext : MExt} (h : Laws close ext) (col : Bool) (v : List Lin)
    (s : Store) (ops : List Op) (hc : trConstruct ext col v = .ok s) :
    Inv close (trRun ext close s ops) ∧ s.entries = v ∧
      ((∃ k, v.length = 2 ^ k) ∧ (allNum v = true → close (numSq v) = true) ∧ (allNum v = false → numSq v ≤ 1)) := by
  have hcm : construct close col v = .ok s := by
    revert hc
    rw [trConstruct, translated_init_eq h]
    cases construct close col v with
    | error e => exact nofun
    | ok s' => exact fun hc => congrArg _ (Except.ok.inj hc)
  obtain ⟨hinv, hent⟩ := inv_init close col v s hcm
  exact ⟨(translated_inv_reachable h s ops hinv).1, hent, (construct_ok_iff close col v).mp ⟨s, hcm⟩⟩

/-- END-TO-END (`probs_sum`): on a valid symbol-free object the translated `get_probabilities` returns the squared magnitudes, each
    non-negative, whose sum passes the library's "= 1" test. -/
theorem translated_probs_sum {close : Rat → Bool} {ext : MExt} (h : Laws close ext) (s : Store) (hinv : Inv close s) (p : List Rat)
    (hp : trProbabilities ext s = some p) :
    p = s.entries.map (fun e => e.c.normSq) ∧ (∀ x ∈ p, 0 ≤ x) ∧ close p.sum = true := by
  rw [translated_get_probabilities_eq h] at hp
  exact probs_sum close s hinv p hp

/-! ## non-vacuity: the laws are satisfiable (`modelExt_laws`) and the TRANSLATED definitions run on concrete data -/

private def mx := modelExt isClose
private def v34 : Store := .arr1 [⟨3/5, 0⟩, ⟨0, 4/5⟩, 0, 0]
private def x0 : Store := .mat [Lin.ofSym "x", Lin.ofNum 0]

example : Laws isClose mx := modelExt_laws isClose
example : Wf.init mx (false, [Lin.ofNum ⟨3/5, 0⟩, Lin.ofNum ⟨0, 4/5⟩, Lin.ofNum 0, Lin.ofNum 0]) = .ok ⟨v34⟩ := by decide +kernel
example : Wf.init mx (false, [Lin.ofNum ⟨3/5, 0⟩, Lin.ofNum ⟨0, 4/5⟩, Lin.ofNum 0]) = .error .ValueError := by decide +kernel
example : Wf.init mx (false, [Lin.ofSym "x", Lin.ofNum ⟨5/4, 0⟩]) = .error .ValueError := by decide +kernel
example : Wf.init mx (false, [Lin.ofSym "x", Lin.ofNum 0]) = .ok ⟨x0⟩ := by decide +kernel
-- a rejected slice assignment is rolled back (the former defect F5), an accepted one is kept
example : Wf.setitem mx ⟨v34⟩ (.slice (some 0) (some 2) ) (.list [Lin.ofNum ⟨1/2, 0⟩, Lin.ofNum ⟨1/2, 0⟩])
    = (⟨v34⟩, .error .ValueError) := by decide +kernel
example : Wf.setitem mx ⟨v34⟩ (.slice (some 0) (some 2)) (.list [Lin.ofNum ⟨4/5, 0⟩, Lin.ofNum ⟨3/5, 0⟩])
    = (⟨.arr1 [⟨4/5, 0⟩, ⟨3/5, 0⟩, 0, 0]⟩, .ok ()) := by decide +kernel
example : Wf.setitem mx ⟨v34⟩ (.int 7) (.scalar (Lin.ofNum 0)) = (⟨v34⟩, .error .IndexError) := by decide +kernel
example : Wf.setitem mx ⟨v34⟩ (.int 0) (.scalar (Lin.ofSym "x")) = (⟨v34⟩, .error .TypeError) := by decide +kernel
example : Wf.setitem mx ⟨x0⟩ (.slice (some 0) (some 0)) (.scalar (Lin.ofNum ⟨5, 0⟩)) = (⟨x0⟩, .error .ValueError) := by decide +kernel
example : Wf.bind mx ⟨.mat [Lin.ofSym "x", Lin.ofNum ⟨3/5, 0⟩]⟩ [("x", Lin.ofNum ⟨0, 4/5⟩)]
    = .ok ⟨.arr2 [⟨0, 4/5⟩, ⟨3/5, 0⟩]⟩ := by decide +kernel
example : Wf.bind mx ⟨.mat [Lin.ofSym "x", Lin.ofNum ⟨3/5, 0⟩]⟩ [("x", Lin.ofNum ⟨1, 0⟩)] = .error .ValueError := by decide +kernel
example : Wf.get_probabilities mx ⟨v34⟩ = .ok (some [9/25, 16/25, 0, 0]) := by decide +kernel
example : Wf.flip_wavefunction mx ⟨.arr1 [⟨3/5, 0⟩, ⟨0, 4/5⟩, 0, 0]⟩ = .ok ⟨.arr1 [⟨3/5, 0⟩, 0, ⟨0, 4/5⟩, 0]⟩ := by decide +kernel
example : trRun mx isClose (.mat [Lin.ofSym "x", Lin.ofSym "y", Lin.ofNum ⟨3/5, 0⟩, Lin.ofNum 0])
    [.setInt (-1) (Lin.ofNum ⟨9/10, 0⟩), .bind [("x", Lin.ofNum 0)], .bind [("y", Lin.ofNum ⟨1, 0⟩)],
     .bind [("y", Lin.ofNum ⟨0, 4/5⟩)], .flip] = .arr2 [0, ⟨3/5, 0⟩, ⟨0, 4/5⟩, 0] := by decide +kernel
end OQ.C12
