/- C01 — PROPERTY THEOREMS (translation ties; translator `harness/translate_t12.py`): the Lean definitions regenerated on every run from the current
   Python source of the circuit container `circuits/_circuit.py` — `_circuit_size_by_operations`, `Circuit.__init__`, the properties
   `operations` / `n_qubits`, `_append_operation`, `_append_circuit`, `Circuit.bind`, `Circuit.to_unitary`, `split_circuit` — equal the
   hand-written model `OQ/Model/C01.lean` (`mkCircuit`, `addOp`, `addCirc`, `toUnitary`, `splitCircuit`), for ALL inputs, `none`
   exactly where the Python raises.

   Reading of the opaque objects (externals of the translated definitions = what the code reads of / does with them):
     operation  ω := `Oper R`;  `op.qubit_indices` := `Oper.qubits` (as ints);  `isinstance(op, GateOperation)` := `Oper.isGate`;
                `op.lifted_matrix(n)` := `Oper.lifted n` (the model of `GateOperation.lifted_matrix`, may raise);
     circuit    γ := `Circ R`;  `c.operations` := `c.ops`, `c.n_qubits` := `c.n`;
     `type(circuit)(operations=…, n_qubits=…)` / `Circuit(…, n_qubits=…)` := `newCirc` = the TRANSLATED constructor
                `Translated.circuit_init` itself (so the sums go through the regenerated validation of `n_qubits`);
     matrices   μ := `Mat R`, `operator.matmul` := `Mat.mul`; numeric/symbolic switch of `to_unitary`: ANY predicate
                `isinstance(m, sympy.MatrixBase)`, ANY conversion with the law `sympy.Matrix(m.tolist()) = m` (hypothesis). -/
import OQ.Generated.TranslatedC01
import OQ.Lemmas.TranslatedT12
import OQ.Props.C01
set_option linter.unusedSectionVars false
set_option linter.unusedSimpArgs false  -- some proofs carry rewrite rules for BOTH argument orders of a commutative call
namespace OQ.C01
open OQ.Generated OQ.Lift OQ.Py OQ.T12

section Container
variable {R : Type} [Zero R] [One R] [Add R] [Mul R]

/-- `operation.qubit_indices` as the code sees it (a tuple of ints) -/
def qiInt (o : Oper R) : List Int := (Oper.qubits o).map Int.ofNat

/-- `circuit.n_qubits` as the code sees it -/
def nInt (c : Circ R) : Int := (c.n : Int)

/-- the object the constructor leaves behind: `(self._operations, self._n_qubits)` read as a model circuit -/
def ofFields (p : List (Oper R) × Int) : Circ R := ⟨p.2.toNat, p.1⟩

/-- `Circuit(operations, n_qubits)` THROUGH THE TRANSLATED `__init__` -/
def newCirc (ops : List (Oper R)) (n : Int) : Option (Circ R) :=
  (Translated.circuit_init qiInt (some ops) (some n)).map ofFields

/-- TRANSLATION TIE: `_circuit_size_by_operations(operations)` regenerated from the current source is the width the model's
    `mkCircuit` computes when no width is declared: 0 for no operations, `ValueError` (`max()` of nothing) when no operation names
    a qubit, else 1 + the largest index.  Domain: every list of operations with natural qubit indices. -/
theorem translated_circuit_size_eq (ops : List (Oper R)) :
    Translated.circuit_size_by_operations qiInt ops =
      if ops.isEmpty then some 0
      else if (ops.flatMap Oper.qubits).isEmpty then none
      else some (((listMax (ops.flatMap Oper.qubits) + 1 : Nat)) : Int) := by
  unfold Translated.circuit_size_by_operations
  simp only [List.map_id', qiInt, ← List.map_flatMap, maxList_cast]
  split_ifs <;> rfl

/-- TRANSLATION TIE: `Circuit.__init__(self, operations, n_qubits)` regenerated from the current source is the model's `mkCircuit`:
    for every `operations` (None = no operations) and every INTEGER `n_qubits` or None — a negative width raises
    ("Non-positive value passed."), 0 / None fall back to the width by operations, a positive one is taken as is.
    (Non-integer `n_qubits` — floats — are outside the typing of the translation.) -/
theorem translated_circuit_init_eq (ops : Option (List (Oper R))) (d : Option Int) :
    (Translated.circuit_init qiInt ops d).map ofFields =
      if d.any (fun n => decide (n < 0)) then none else mkCircuit (ops.getD []) (d.map Int.toNat) := by
  have main : ∀ l : List (Oper R), (Translated.circuit_init qiInt (some l) d).map ofFields =
      if d.any (fun n => decide (n < 0)) then none else mkCircuit l (d.map Int.toNat) := by
    intro l
    -- no width declared, or 0: the width by operations
    have fallback : (Translated.circuit_init qiInt (some l) none).map ofFields = mkCircuit l none := by
      unfold Translated.circuit_init mkCircuit
      simp only [translated_circuit_size_eq]
      split_ifs <;> rfl
    rcases d with _ | n
    · exact fallback
    · rcases lt_trichotomy n 0 with hn | rfl | hn
      · simp [Translated.circuit_init, hn, hn.ne, hn.le]
      · exact fallback
      · obtain ⟨k, rfl⟩ : ∃ k : Nat, n = k + 1 := ⟨(n - 1).toNat, by omega⟩
        simp [Translated.circuit_init, hn.ne', hn.not_ge, hn.not_gt, ofFields, mkCircuit]
  cases ops with
  | none => exact main []
  | some l => exact main l

/-- TRANSLATION TIE: the property `Circuit.operations` returns the field `_operations` the constructor wrote. -/
theorem translated_circuit_operations_eq (c : Circ R) :
    Translated.circuit_operations (ω := Oper R) Circ.ops nInt c = c.ops := rfl

/-- TRANSLATION TIE: the property `Circuit.n_qubits` returns the field `_n_qubits` the constructor wrote. -/
theorem translated_circuit_n_qubits_eq (c : Circ R) :
    Translated.circuit_n_qubits (ω := Oper R) Circ.ops nInt c = (c.n : Int) := rfl

/-- the constructor, called with a list and a natural width, is the model's `mkCircuit` -/
theorem newCirc_eq (ops : List (Oper R)) (n : Nat) : newCirc ops (n : Int) = mkCircuit ops (some n) := by
  rw [newCirc, translated_circuit_init_eq]
  exact if_neg (by simp)

/-- TRANSLATION TIE: `_append_operation(other, circuit)` (the overload of `circuit + other` registered for `GateOperation`)
    regenerated from the current source, with the TRANSLATED constructor as `type(circuit)(…)`, is the model's `addOp` on gate
    operations: `ValueError` for an operation without qubits (`max()` of nothing), else the operations with `other` appended and
    the width `max(width, largest index + 1)`.  Domain: every circuit, every gate operation with natural indices. -/
theorem translated_append_operation_eq (c : Circ R) (o : Op R) :
    Translated.append_operation qiInt Circ.ops nInt newCirc (.gate o) c = addOp c (.gate o) := by
  unfold Translated.append_operation addOp
  simp only [qiInt, Oper.qubits, maxList_cast, nInt]
  by_cases h : o.qs.isEmpty
  · simp [h]
  · -- (the rewrite of a commuted `max` is there so that a commuted call keeps the tie)
    simp only [h, Bool.false_eq_true, if_false, ← Nat.cast_add_one, ← Nat.cast_max, Nat.max_comm (listMax o.qs + 1) c.n,
      newCirc_eq]
    generalize mkCircuit _ _ = r
    cases r <;> rfl

/-- TRANSLATION TIE: `_append_circuit(other, circuit)` (the overload of `circuit + other` registered for `Circuit`) regenerated
    from the current source, with the TRANSLATED constructor as `type(circuit)(…)`, is the model's `addCirc`.  All circuits. -/
theorem translated_append_circuit_eq (c d : Circ R) :
    Translated.append_circuit (ω := Oper R) Circ.ops nInt newCirc d c = addCirc c d := by
  unfold Translated.append_circuit addCirc
  -- (the rewrite of a commuted `max` is there so that a commuted call keeps the tie)
  simp only [nInt, ← Nat.cast_max, Nat.max_comm d.n c.n, newCirc_eq]
  generalize mkCircuit _ _ = r
  cases r <;> rfl

/-- `isinstance(other, GateOperation)` with the static type of the overload: the downcast of the right operand of `+` -/
def asGate : Oper R ⊕ Circ R → Option (Oper R)
  | .inl (.gate o) => some (.gate o)
  | _ => none

/-- `isinstance(other, Circuit)` -/
def asCirc : Oper R ⊕ Circ R → Option (Circ R)
  | .inr d => some d
  | _ => none

/-- TRANSLATION TIE: the `functools.singledispatch` function `_append_to_circuit(other, circuit)` regenerated from its REGISTRY as
    it is now (overloads for `GateOperation` → `_append_operation`, `Circuit` → `_append_circuit`, base: `NotImplementedError`) is
    the model's `addOp` / `addCirc`: a gate operation is appended, a circuit concatenated, any other operation (here: a phase-only
    operation) is rejected.  Right operands: every operation and every circuit. -/
theorem translated_append_to_circuit_eq (c : Circ R) (x : Oper R ⊕ Circ R) :
    Translated.append_to_circuit qiInt Circ.ops nInt newCirc asGate asCirc x c =
      match x with
      | .inl op => addOp c op
      | .inr d => addCirc c d := by
  unfold Translated.append_to_circuit
  rcases x with op | d
  · cases op with
    | gate o => simp only [asGate, translated_append_operation_eq]
    | mphase fs => simp only [asGate, asCirc]; rfl
  · simp only [asGate, asCirc, translated_append_circuit_eq]

/-- TRANSLATION TIE: `Circuit.__add__(self, other)` (= `_append_to_circuit(other, self)`) regenerated from the current source:
    `circuit + other` is the model's `addOp` / `addCirc`. -/
theorem translated_circuit_add_eq (c : Circ R) (x : Oper R ⊕ Circ R) :
    Translated.circuit_add qiInt Circ.ops nInt newCirc asGate asCirc c x =
      match x with
      | .inl op => addOp c op
      | .inr d => addCirc c d := by
  unfold Translated.circuit_add
  rw [translated_append_to_circuit_eq]
  rcases x with op | d
  · dsimp only
    cases addOp c op <;> rfl
  · dsimp only
    cases addCirc c d <;> rfl

/-- TRANSLATION TIE: `Circuit.bind(symbols_map)` regenerated from the current source builds, through the TRANSLATED constructor,
    the circuit of the bound operations on the SAME declared width (`bindOp` = `operation.bind`, any function). -/
theorem translated_circuit_bind_eq {S : Type} (bindOp : Oper R → S → Oper R) (c : Circ R) (s : S) :
    Translated.circuit_bind Circ.ops nInt bindOp newCirc c s = mkCircuit (c.ops.map (fun op => bindOp op s)) (some c.n) := by
  unfold Translated.circuit_bind
  simp only [nInt, newCirc_eq]
  generalize mkCircuit _ _ = r
  cases r <;> rfl

/-- TRANSLATION TIE: `Circuit.to_unitary()` regenerated from the current source is the model's `toUnitary`: lifted matrices of the
    REVERSED operations (a non-gate operation or a failing `lifted_matrix` raises), then `reduce(operator.matmul, …)` (raises on the
    empty circuit) — for every circuit, WHATEVER the numeric / symbolic classification `isSym` of the lifted matrices, provided the
    conversion of the mixed branch is the identity on values (`sympy.Matrix(m.tolist()) = m`, hypothesis `hconv`). -/
theorem translated_to_unitary_eq {N : Type} (isSym : Mat R → Bool) (tolist : Mat R → N) (ofList : N → Mat R)
    (hconv : ∀ m, ofList (tolist m) = m) (c : Circ R) :
    Translated.circuit_to_unitary Circ.ops nInt Oper.isGate (fun o n => Oper.lifted n.toNat o) isSym tolist ofList Mat.mul c
      = toUnitary c := by
  unfold Translated.circuit_to_unitary toUnitary
  dsimp only
  rw [foldlOpt_append_eq_mapM _ (Oper.lifted c.n) (by
    intro st op
    cases op with
    | gate o =>
      simp only [Oper.isGate, if_true, nInt, Int.toNat_natCast]
      cases Oper.lifted c.n (Oper.gate o) <;> rfl
    | mphase fs => simp [Oper.isGate, Oper.lifted])]
  cases hm : c.ops.reverse.mapM (Oper.lifted c.n) with
  | none => simp
  | some ms =>
    simp only [Option.map_some, List.nil_append, hconv, ite_self, List.map_id', reduce1_eq_reduceMul]
    cases reduceMul ms <;> rfl

/-- TRANSLATION TIE: `MultiPhaseOperation.apply(amplitude_vector)` regenerated from the current source is the model's
    `applyOper (.mphase …)`: a vector whose length differs from the number of parameters raises; otherwise amplitude `k` is
    multiplied by factor `k`.  numpy is a parameter: `np.asarray(params, dtype=float)` (may raise: an unbound symbol — here it
    succeeds, `thetas` are numbers), `· * 1j` and `np.exp` (together: `expi`, ANY function from parameters to factors),
    `np.multiply` (entrywise product of the state with the factors).  Domain: every parameter list and every state vector. -/
theorem translated_multiphase_apply_eq {Θ : Type} (expi : Θ → R) (thetas : List Θ) (v : Mat R) :
    Translated.multiphase_apply (π := List Θ) (ρ := Unit) (fun p => p) (fun (w : Mat R) => (w.r : Int))
        (fun (l : List Θ) => some l) () (fun l _ => l) (fun l => l) (fun w => w)
        (fun w (l : List Θ) => Mat.ofFn w.r 1 (fun i _ => w.get i 0 * (l.map expi).getD i 0)) thetas v
      = applyOper (.mphase (thetas.map expi)) v := by
  unfold Translated.multiphase_apply applyOper
  simp only [List.length_map, bne_iff_ne, ne_eq, Nat.cast_inj]

/-- TRANSLATION TIE: `split_circuit(circuit, predicate)` regenerated from the current source (the generator run to its end,
    `itertools.groupby` with its groups taken as lists), with the TRANSLATED constructor as `Circuit(operations, n_qubits=n_qubits)`,
    yields exactly the model's `splitCircuit`, for every well-formed circuit (what every constructor call returns:
    width 0 ⇒ no operations) and every predicate. -/
theorem translated_split_circuit_eq (c : Circ R) (hc : c.wf) (p : Oper R → Bool) :
    Translated.split_circuit Circ.ops nInt newCirc c p = some (splitCircuit c p) := by
  unfold Translated.split_circuit splitCircuit
  rw [groupby_eq_groupBy]
  dsimp only
  by_cases h0 : c.n = 0
  · rw [hc h0]; rfl
  · rw [foldlOpt_append_eq_map _ (fun (bg : Bool × List (Oper R)) => (bg.1, (⟨c.n, bg.2⟩ : Circ R))) (by
      intro st bg
      simp only [nInt, newCirc_eq, mkCircuit_pos _ _ (Nat.pos_of_ne_zero h0)])]
    simp

end Container

section EndToEnd
open OQ.Spec Matrix
variable {R : Type} [CommRing R]

/-- END-TO-END (`add_circuit_width_max` on the translated `_append_circuit` + translated `__init__`): `c1 + c2` has the operations
    of both in order and the larger of the two widths. -/
theorem translated_add_circuit_width_max (c d : Circ R) (hc : c.wf) (hd : d.wf) :
    Translated.append_circuit (ω := Oper R) Circ.ops nInt newCirc d c = some ⟨max c.n d.n, c.ops ++ d.ops⟩ := by
  rw [translated_append_circuit_eq]; exact add_circuit_width_max c d hc hd

/-- END-TO-END (`add_operation_width_max` on the translated `_append_operation` + translated `__init__`). -/
theorem translated_add_operation_width_max (c : Circ R) (o : Op R) (h : o.qs ≠ []) :
    Translated.append_operation qiInt Circ.ops nInt newCirc (.gate o) c =
      some ⟨max c.n (listMax o.qs + 1), c.ops ++ [.gate o]⟩ := by
  rw [translated_append_operation_eq]; exact (add_operation_width_max c o h []).1

/-- END-TO-END (sentence 3 of C01 on the translated `Circuit.__add__` → singledispatch → overloads → `__init__`): `c + d` for
    well-formed circuits has the operations of both in order and the larger width; `c + gate_operation` appends it with width
    `max(width, largest index + 1)`; `c + phase-only operation` raises. -/
theorem translated_circuit_add_width (c d : Circ R) (hc : c.wf) (hd : d.wf) (o : Op R) (ho : o.qs ≠ []) (fs : List R) :
    Translated.circuit_add qiInt Circ.ops nInt newCirc asGate asCirc c (.inr d) = some ⟨max c.n d.n, c.ops ++ d.ops⟩ ∧
    Translated.circuit_add qiInt Circ.ops nInt newCirc asGate asCirc c (.inl (.gate o))
      = some ⟨max c.n (listMax o.qs + 1), c.ops ++ [.gate o]⟩ ∧
    Translated.circuit_add qiInt Circ.ops nInt newCirc asGate asCirc c (.inl (.mphase fs)) = none := by
  refine ⟨?_, ?_, ?_⟩
  · rw [translated_circuit_add_eq]; exact add_circuit_width_max c d hc hd
  · rw [translated_circuit_add_eq]; exact (add_operation_width_max c o ho []).1
  · rw [translated_circuit_add_eq]; rfl

/-- END-TO-END (`toUnitary_ordered_product` on the translated `to_unitary`): for every non-empty circuit of valid gate operations
    the TRANSLATED `to_unitary` returns a `2^n × 2^n` matrix equal to the product, in program order (first operation rightmost), of
    each gate's own matrix on exactly its qubits and identity elsewhere. -/
theorem translated_toUnitary_ordered_product {N : Type} (isSym : Mat R → Bool) (tolist : Mat R → N) (ofList : N → Mat R)
    (hconv : ∀ m, ofList (tolist m) = m) (n : Nat) (gs : List (Op R)) (hne : gs ≠ []) (h : ∀ o ∈ gs, OpValid n o) :
    ∃ U, Translated.circuit_to_unitary Circ.ops nInt Oper.isGate (fun o k => Oper.lifted k.toNat o) isSym tolist ofList Mat.mul
        (⟨n, gs.map Oper.gate⟩ : Circ R) = some U ∧ U.r = 2 ^ n ∧ U.c = 2 ^ n ∧
      toBV n U = circSem n (gs.map Oper.gate) := by
  rw [translated_to_unitary_eq isSym tolist ofList hconv]
  exact toUnitary_ordered_product n gs hne h

/-- END-TO-END (F17 on the translated code): the empty circuit has no matrix — `reduce` of an empty sequence raises. -/
theorem translated_toUnitary_empty_none (n : Nat) :
    Translated.circuit_to_unitary Circ.ops nInt Oper.isGate (fun o k => Oper.lifted k.toNat o) (fun _ => false)
      (fun (m : Mat R) => m) (fun m => m) Mat.mul (⟨n, []⟩ : Circ R) = none := by
  rw [translated_to_unitary_eq (fun _ => false) (fun m => m) (fun m => m) (fun _ => rfl)]; rfl

/-- END-TO-END (`splitCircuit_spec` on the translated `split_circuit`): the pieces the TRANSLATED generator yields concatenate to
    the circuit's operations in order, each keeps the width of the whole circuit, is non-empty and constant under the predicate
    with the value of its tag, and consecutive tags differ. -/
theorem translated_split_circuit_spec (c : Circ R) (hc : c.wf) (p : Oper R → Bool) :
    ∃ pieces, Translated.split_circuit Circ.ops nInt newCirc c p = some pieces ∧
      (pieces.flatMap (fun s => s.2.ops) = c.ops) ∧
      (∀ s ∈ pieces, s.2.n = c.n ∧ s.2.ops ≠ [] ∧ ∀ op ∈ s.2.ops, p op = s.1) ∧
      List.IsChain (fun a b => a.1 ≠ b.1) pieces :=
  ⟨_, translated_split_circuit_eq c hc p, splitCircuit_spec c p⟩

end EndToEnd

/-! ### Non-vacuity: the TRANSLATED definitions on concrete inputs -/

section Examples
private def opA : Oper Int := .gate ⟨Mat.ofLists [[0, 1], [1, 0]], [2]⟩
private def opB : Oper Int := .gate ⟨Mat.ofLists [[1, 0], [0, -1]], [0]⟩
private def opP : Oper Int := .mphase [1, -1]

example : Translated.circuit_size_by_operations qiInt [opA, opB] = some 3 := by decide
example : Translated.circuit_size_by_operations qiInt ([] : List (Oper Int)) = some 0 := by decide
example : Translated.circuit_size_by_operations qiInt [(.gate ⟨Mat.ofLists [[1]], []⟩ : Oper Int)] = none := by decide
example : (Translated.circuit_init qiInt (some [opA, opB]) none).map (fun p => (p.1.length, p.2)) = some (2, 3) := by decide
example : (Translated.circuit_init qiInt (some [opA]) (some 5)).map (fun p => (p.1.length, p.2)) = some (1, 5) := by decide
example : (Translated.circuit_init qiInt (some [opA]) (some 0)).map (fun p => (p.1.length, p.2)) = some (1, 3) := by decide
example : (Translated.circuit_init qiInt (some [opA]) (some (-2))).isNone := by decide
example : (Translated.circuit_init qiInt (none : Option (List (Oper Int))) none).map (fun p => (p.1.length, p.2)) = some (0, 0) := by
  decide
example : (Translated.append_operation qiInt Circ.ops nInt newCirc opA (⟨1, [opB]⟩ : Circ Int)).map
    (fun c => (c.n, c.ops.length)) = some (3, 2) := by decide
example : (Translated.append_circuit Circ.ops nInt newCirc (⟨3, [opA]⟩ : Circ Int) ⟨1, [opB]⟩).map
    (fun c => (c.n, c.ops.length)) = some (3, 2) := by decide
example : (Translated.circuit_add qiInt Circ.ops nInt newCirc asGate asCirc (⟨1, [opB]⟩ : Circ Int) (.inl opA)).map
    (fun c => (c.n, c.ops.length)) = some (3, 2) := by decide
example : (Translated.circuit_add qiInt Circ.ops nInt newCirc asGate asCirc (⟨1, [opB]⟩ : Circ Int) (.inl opP)).isNone := by decide
example : (Translated.circuit_add qiInt Circ.ops nInt newCirc asGate asCirc (⟨1, [opB]⟩ : Circ Int) (.inr ⟨3, [opA]⟩)).map
    (fun c => (c.n, c.ops.length)) = some (3, 2) := by decide
example : (Translated.split_circuit Circ.ops nInt newCirc (⟨3, [opA, opP, opB, opA]⟩ : Circ Int) Oper.isGate).map
    (fun l => l.map (fun s => (s.1, s.2.ops.length, s.2.n))) = some [(true, 1, 3), (false, 1, 3), (true, 2, 3)] := by decide
-- `to_unitary`: X on qubit 0 after Z on qubit 0 of a one-qubit register is X·Z (first operation rightmost)
example : ((Translated.circuit_to_unitary Circ.ops nInt Oper.isGate (fun o n => Oper.lifted n.toNat o) (fun _ => false)
      (fun (m : Mat Int) => m) (fun m => m) Mat.mul
      (⟨1, [.gate ⟨Mat.ofLists [[1, 0], [0, -1]], [0]⟩, .gate ⟨Mat.ofLists [[0, 1], [1, 0]], [0]⟩]⟩ : Circ Int)).map
    (fun U => U.toLists)) = some [[0, -1], [1, 0]] := by decide +kernel
-- a phase-only operation makes it raise
example : (Translated.circuit_to_unitary Circ.ops nInt Oper.isGate (fun o n => Oper.lifted n.toNat o) (fun _ => false)
      (fun (m : Mat Int) => m) (fun m => m) Mat.mul (⟨1, [opB, opP]⟩ : Circ Int)).isNone := by decide +kernel
-- `MultiPhaseOperation.apply`: a length mismatch raises; otherwise entrywise product
example : (Translated.multiphase_apply (π := List Int) (ρ := Unit) (fun p => p) (fun (w : Mat Int) => (w.r : Int)) (fun l => some l) ()
    (fun l _ => l) (fun l => l) (fun w => w) (fun w l => Mat.ofFn w.r 1 (fun i _ => w.get i 0 * l.getD i 0)) [1, -1]
    (Mat.ofLists [[3], [5]])).map Mat.toLists = some [[3], [-5]] := by decide +kernel
example : (Translated.multiphase_apply (π := List Int) (ρ := Unit) (fun p => p) (fun (w : Mat Int) => (w.r : Int)) (fun l => some l) ()
    (fun l _ => l) (fun l => l) (fun w => w) (fun w l => Mat.ofFn w.r 1 (fun i _ => w.get i 0 * l.getD i 0)) [1, -1, 1]
    (Mat.ofLists [[3], [5]])).isNone := by decide +kernel
-- the hypothesis `hconv` is satisfiable (the conversion through nested lists)
example : ∀ m : List (List Int), (fun x => x) ((fun x => x) m) = m := fun _ => rfl
end Examples

end OQ.C01
