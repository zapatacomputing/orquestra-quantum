/- C15 — PROPERTY THEOREM (translation tie): `estimation._estimation.split_estimation_tasks_to_measure`.
   `OQ.Generated.Translated.split_estimation_tasks_to_measure` is REGENERATED from /repo's current Python source on every run
   (harness/translate.py → OQ/Generated/TranslatedC15.lean); tasks are opaque objects, the two attributes the function reads
   (`task.operator.is_constant`, `task.number_of_shots`) are parameters. -/
import OQ.Generated.TranslatedC15
import OQ.Lemmas.C15_Translated
namespace OQ.C15
open OQ.Generated

/-- TRANSLATION TIE: the `for i, task in enumerate(...)` loop of `split_estimation_tasks_to_measure` regenerated from the
    current Python source is the model's `splitTasks` (on which `split_lists`, `result_length` … are proved): the same
    two task lists and the same two index lists, for EVERY task list and whatever the attributes return. -/
theorem translated_split_estimation_tasks_eq {C : Type} (tasks : List (Task C)) :
    Translated.split_estimation_tasks_to_measure (fun t : Task C => t.op.isConstant) (fun t => t.shots) tasks
      = ((splitTasks tasks).toMeasure, (splitTasks tasks).notToMeasure,
         (splitTasks tasks).idxMeasure.map Int.ofNat, (splitTasks tasks).idxNot.map Int.ofNat) := by
  exact congrArg (fun st => (st.2.2.2, st.2.1, st.2.2.1, st.1)) (split_fold tasks 0 ⟨[], [], [], []⟩)

/-! non-vacuity (tasks 7 and 0 are "constant" resp. zero-shot) -/
example : Translated.split_estimation_tasks_to_measure (fun n : Nat => n == 7) (fun n => if n = 0 then some 0 else some 5)
    [7, 3, 0, 4] = ([3, 4], [7, 0], [1, 3], [0, 2]) := by decide
end OQ.C15
