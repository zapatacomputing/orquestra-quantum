/-
  C07 ⟷ C02 — LINKED PROPERTY THEOREMS: the hypotheses `HermOK` (truthful `is_hermitian` flags) and `WellDim`
  (every base factory returns a 2^n square matrix) of OQ/Props/C07.lean are THEOREMS of OQ/Props/C02.lean for the 27
  built-in gates (`flag_hermitian`, `builtin_dim`, `builtin_unitary`, proved against the gate table regenerated from
  /repo, over every commutative ⋆-ring with the constant laws `Laws k`, at all valid angle points `Valid a`).
  This file composes the two modules: for every gate whose base gates are built-in gates (`Builtin k g`, closed
  under all modifier methods: `builtin_closed`, `builtin_chain`) the C07 theorems hold with NO `HermOK` / `WellDim`
  hypothesis and with the dimension hypotheses `M.r = D`, `M.c = D` replaced by the conclusion `D = 2^num_qubits`.
  In addition (`unitary_builtin`): dagger / controlled / integer power of a built-in gate is unitary.

  Helper lemmas and the definitions `BuiltinBase`, `Builtin`, `BuiltinInt`, `UShape`, `Pure`, `Gate.All`, `Gate.Mod.Sat`,
  `realBase`: OQ/Lemmas/C07_Link.lean.  What stays a hypothesis: the laws of the sympy externals (`ExtLaws`, `ExpLaw`),
  `Laws k` (discharged at ℂ and ℚ(ζ₈) by `kC_laws`, `cyc8_laws`), `NoFrac` below a dagger (finding F16: the sentence is
  false of the code otherwise) and, for the block theorem on an arbitrary wrapper TREE, the shape invariant `Canon`
  (automatic for method-built gates: the `_chain` versions have no such hypothesis).
-/
import OQ.Lemmas.C07_Link
import OQ.Props.C07
namespace OQ.C07.Link
open Matrix OQ.Generated
open OQ.C02 (Row Laws Valid IsUnitaryOf kC angR kC_laws angR_valid cyc8_laws cyc8_valid_of_rat)

section Generic
variable {R : Type} [CommRing R] [StarRing R] {k : Scal R} {x : Ext R}

omit [StarRing R] in
/-- the flags and qubit counts hard-coded in the C07 model (`hermitianNames`, `builtinNumQubits`) are those of every
    row of the gate table regenerated from `_builtin_gates.py` (the table C02's theorems are about) -/
theorem model_table_agree : ∀ row ∈ gateTable,
    (Base.builtin k (Row.name row) ([] : List (Param R))).hermitian = Row.isHermitian row ∧
    (Base.builtin k (Row.name row) ([] : List (Param R))).numQubits = Row.numQubits row :=
  fun row hrow => table_agree row hrow

omit [StarRing R] in
/-- `.matrix` of a built-in base gate in the C07 model succeeds exactly when, and with the same matrix as,
    `<gate>.matrix` in the C02 model (same factory, row of the generated table, right number of parameters) -/
theorem builtin_base_matrix (cj : R → R) (row : Row) (hrow : row ∈ gateTable) (ps : List (Param R))
    (hl : ps.length = Row.numParams row) (M : Mat R) :
    gateMatrix cj x (.base (Base.builtin k (Row.name row) ps)) = .ok M ↔
      C02.gateMatrix gateTable k (Row.name row) (angs ps) = .ok M :=
  builtin_factory_ok_iff k row hrow ps hl M

/-- every modifier method keeps "all base gates are built-in gates" -/
theorem builtin_closed (g : Gate (Param R) R) (h : Builtin k g) :
    Builtin k g.daggerM ∧ (∀ m, Builtin k (g.ctlP m)) ∧ (∀ e, Builtin k (g.powerM e)) ∧ Builtin k g.expM :=
  ⟨Gate.all_daggerM g h, fun m => Gate.all_ctlP g m h, fun e => Gate.all_powerM g e trivial h,
    Gate.all_expM g trivial h⟩

/-- hence every gate built from a built-in gate by ANY chain of modifier calls (any depth, any order, any exponents) -/
theorem builtin_chain (b : Base (Param R) R) (hb : BuiltinBase k b) (ms : List Gate.Mod) :
    Builtin k (Gate.applyChain (.base b) ms) :=
  Gate.all_applyChain ms (fun m _ => by cases m <;> trivial) (.base b) hb

/-- a chain whose `.power` calls all have integer exponents builds a gate without non-integer `Power` (`NoFrac`),
    wherever the daggers / controls / exps are interleaved -/
theorem noFrac_chain {P : Type} (b : Base P R) (ms : List Gate.Mod)
    (hms : ∀ m ∈ ms, m.Sat (fun e => e.den = 1) True) : NoFrac (Gate.applyChain (.base b) ms) :=
  noFrac_of_all (pb := fun _ => True) (fun _ h => h) _ (Gate.all_applyChain ms hms (.base b) trivial)

/-- C07's hypothesis `WellDim` is C02's theorem `builtin_dim` -/
theorem wellDim_builtin (g : Gate (Param R) R) (h : Builtin k g) : WellDim g :=
  wellDim_of_all (wellDim_base k) g h

/-- C07's hypothesis `HermOK` is C02's theorem `flag_hermitian` -/
theorem hermOK_builtin (hk : Laws k) (g : Gate (Param R) R) (h : Builtin k g) : HermOK g :=
  hermOK_of_all (hermOK_base hk) g h

/-- "the modified gate reports the implied number of qubits", semantically: whenever the matrix of a gate over
    built-in bases can be computed it is square of dimension 2^num_qubits (no `WellDim` hypothesis) -/
theorem matrix_dim_builtin (hx : ExtLaws x) (g : Gate (Param R) R) (h : Builtin k g) (M : Mat R)
    (hM : gateMatrix star x g = .ok M) : M.r = 2 ^ g.numQubits ∧ M.c = 2 ^ g.numQubits :=
  gateMatrix_dim hx g (wellDim_builtin g h) M hM

/-- dagger / controlled / non-negative integer power of built-in gates never raise and never call sympy:
    the matrix is computed whatever the externals do (non-vacuity of every theorem below) -/
theorem matrix_computable_builtin (x : Ext R) (g : Gate (Param R) R) (h : Pure k g) :
    ∃ M, gateMatrix star x g = .ok M := by
  induction g with
  | base b => exact ok_base k b h
  | controlled y m ih =>
    obtain ⟨Y, hY⟩ := ih h
    exact ⟨_, gateMatrix_controlled_ok.2 ⟨Y, hY, rfl⟩⟩
  | dagger y ih =>
    obtain ⟨Y, hY⟩ := ih h
    exact ⟨_, gateMatrix_dagger_ok.2 ⟨Y, hY, rfl⟩⟩
  | power y e ih =>
    obtain ⟨Y, hY⟩ := ih h.2
    exact ⟨_, gateMatrix_power_ok.2 ⟨Y, hY, by rw [mpow, if_pos h.1.1, ipow, if_pos h.1.2]⟩⟩
  | exponential y => exact h.1.elim

/-- "for dagger the conjugate transpose" for every gate over built-in bases: `dagger_adjoint_partial` with `HermOK`
    (by C02 `flag_hermitian`), `WellDim` (by C02 `builtin_dim`) and `M.r = D`, `M.c = D` removed.  `NoFrac` stays
    (F16: false of the code below a non-integer power). -/
theorem dagger_adjoint_builtin (hx : ExtLaws x) (E : ∀ d, Matrix (Fin d) (Fin d) R → Matrix (Fin d) (Fin d) R)
    (hE : ExpLaw x E) (hEs : ∀ d A, E d Aᴴ = (E d A)ᴴ) (hk : Laws k)
    (g : Gate (Param R) R) (hb : Builtin k g) (hnf : NoFrac g)
    (M M' : Mat R) (hM : gateMatrix star x g = .ok M) (hM' : gateMatrix star x g.daggerM = .ok M') :
    M.r = 2 ^ g.numQubits ∧ M.c = 2 ^ g.numQubits ∧ M'.r = 2 ^ g.numQubits ∧ M'.c = 2 ^ g.numQubits ∧
      Mat.toM (2 ^ g.numQubits) (2 ^ g.numQubits) M' = (Mat.toM (2 ^ g.numQubits) (2 ^ g.numQubits) M)ᴴ := by
  obtain ⟨hr, hc⟩ := matrix_dim_builtin hx g hb M hM
  obtain ⟨a, b, c⟩ := dagger_adjoint_partial hx E hE hEs g (wellDim_builtin g hb) hnf (hermOK_builtin hk g hb)
    M M' _ hM hM' hr hc
  exact ⟨hr, hc, a, b, c⟩

/-- the same for method-built gates: ANY chain of `.dagger / .controlled(n) / .power(integer) / .exp` calls on a
    built-in gate at valid angle points, then `.dagger` — no hypothesis on the gate left at all -/
theorem dagger_adjoint_chain_builtin (hx : ExtLaws x) (E : ∀ d, Matrix (Fin d) (Fin d) R → Matrix (Fin d) (Fin d) R)
    (hE : ExpLaw x E) (hEs : ∀ d A, E d Aᴴ = (E d A)ᴴ) (hk : Laws k)
    (row : Row) (hrow : row ∈ gateTable) (ps : List (Param R)) (hl : ps.length = Row.numParams row)
    (hv : ∀ p ∈ ps, Valid p.toAng) (ms : List Gate.Mod) (hms : ∀ m ∈ ms, m.Sat (fun e => e.den = 1) True)
    (M M' : Mat R)
    (hM : gateMatrix star x (Gate.applyChain (.base (Base.builtin k (Row.name row) ps)) ms) = .ok M)
    (hM' : gateMatrix star x (Gate.applyChain (.base (Base.builtin k (Row.name row) ps)) ms).daggerM = .ok M') :
    let n := (Gate.applyChain (.base (Base.builtin k (Row.name row) ps)) ms).numQubits
    M'.r = 2 ^ n ∧ M'.c = 2 ^ n ∧ Mat.toM (2 ^ n) (2 ^ n) M' = (Mat.toM (2 ^ n) (2 ^ n) M)ᴴ := by
  intro n
  obtain ⟨_, _, a, b, c⟩ := dagger_adjoint_builtin hx E hE hEs hk _
    (builtin_chain _ ⟨row, hrow, ps, rfl, hl, hv⟩ ms) (noFrac_chain _ ms hms) M M' hM hM'
  exact ⟨a, b, c⟩

/-- "for k controls the identity on the first 2^n(2^k − 1) basis states followed by the original matrix":
    `controlled_matrix_block` with `WellDim` removed (C02 `builtin_dim`) -/
theorem controlled_matrix_block_builtin (hx : ExtLaws x) (g : Gate (Param R) R) (hcn : g.Canon) (hb : Builtin k g)
    (m : Nat) (M M' : Mat R) (hM : gateMatrix star x g = .ok M) (hM' : gateMatrix star x (g.ctlP m) = .ok M') :
    let d := 2 ^ g.numQubits
    let d0 := 2 ^ g.numQubits * (2 ^ (m + 1) - 1)
    M'.r = d0 + d ∧ M'.c = d0 + d ∧ ∀ i j, i < d0 + d → j < d0 + d →
      M'.get i j = if i < d0 ∧ j < d0 then (if i = j then 1 else 0)
        else if d0 ≤ i ∧ d0 ≤ j then M.get (i - d0) (j - d0) else 0 :=
  controlled_matrix_block hx g hcn (wellDim_builtin g hb) m M M' hM hM'

/-- the same for method-built gates: `Canon` (by `canon_reachable`) and `WellDim` both discharged — any chain of
    modifier calls on a built-in gate, then `.controlled(m+1)` -/
theorem controlled_matrix_block_chain_builtin (hx : ExtLaws x)
    (row : Row) (hrow : row ∈ gateTable) (ps : List (Param R)) (hl : ps.length = Row.numParams row)
    (hv : ∀ p ∈ ps, Valid p.toAng) (ms : List Gate.Mod) (m : Nat) (M M' : Mat R)
    (hM : gateMatrix star x (Gate.applyChain (.base (Base.builtin k (Row.name row) ps)) ms) = .ok M)
    (hM' : gateMatrix star x ((Gate.applyChain (.base (Base.builtin k (Row.name row) ps)) ms).ctlP m) = .ok M') :
    let n := (Gate.applyChain (.base (Base.builtin k (Row.name row) ps)) ms).numQubits
    let d0 := 2 ^ n * (2 ^ (m + 1) - 1)
    M'.r = d0 + 2 ^ n ∧ M'.c = d0 + 2 ^ n ∧ ∀ i j, i < d0 + 2 ^ n → j < d0 + 2 ^ n →
      M'.get i j = if i < d0 ∧ j < d0 then (if i = j then 1 else 0)
        else if d0 ≤ i ∧ d0 ≤ j then M.get (i - d0) (j - d0) else 0 :=
  controlled_matrix_block_builtin hx _ (canon_reachable _ ms) (builtin_chain _ ⟨row, hrow, ps, rfl, hl, hv⟩ ms)
    m M M' hM hM'

/-- "for an integer power the repeated product": `ipow_matrix` with `M.r = D`, `M.c = D` replaced by the derived
    `D = 2^num_qubits` -/
theorem ipow_matrix_builtin (hx : ExtLaws x) (g : Gate (Param R) R) (hb : Builtin k g) (e : Rat) (he : e.den = 1)
    (hn : 0 ≤ e.num) (M M' : Mat R) (hM : gateMatrix star x g = .ok M)
    (hM' : gateMatrix star x (g.powerM e) = .ok M') :
    M'.r = 2 ^ g.numQubits ∧ M'.c = 2 ^ g.numQubits ∧
      Mat.toM (2 ^ g.numQubits) (2 ^ g.numQubits) M' = Mat.toM (2 ^ g.numQubits) (2 ^ g.numQubits) M ^ e.num.toNat := by
  obtain ⟨hr, hc⟩ := matrix_dim_builtin hx g hb M hM
  exact ipow_matrix hx g e he hn M M' _ hM hM' hr hc

/-- "for a fractional power 1/q a matrix whose q-th power is the original": `root_matrix` without the dimension
    hypotheses -/
theorem root_matrix_builtin (hx : ExtLaws x) (g : Gate (Param R) R) (hb : Builtin k g) (e : Rat) (he : e.num = 1)
    (hq : 2 ≤ e.den) (M M' : Mat R) (hM : gateMatrix star x g = .ok M)
    (hM' : gateMatrix star x (g.powerM e) = .ok M') :
    M'.r = 2 ^ g.numQubits ∧ M'.c = 2 ^ g.numQubits ∧
      Mat.toM (2 ^ g.numQubits) (2 ^ g.numQubits) M' ^ e.den = Mat.toM (2 ^ g.numQubits) (2 ^ g.numQubits) M := by
  obtain ⟨hr, hc⟩ := matrix_dim_builtin hx g hb M hM
  exact root_matrix hx g e he hq M M' _ hM hM' hr hc

/-- every wrapper tree over built-in gates that uses only `Dagger`, `ControlledGate` and `Power` with integer
    exponents has a unitary matrix of dimension 2^num_qubits (negative exponents: sympy's inverse, under `ExtLaws`) -/
theorem unitary_builtin (hx : ExtLaws x) (hk : Laws k) (g : Gate (Param R) R) (hs : UShape k g) :
    ∀ M, gateMatrix star x g = .ok M → IsUnitaryOf (2 ^ g.numQubits) M := by
  intro M hM
  induction g generalizing M with
  | base b => exact unitary_base hk b hs M hM
  | controlled y m ih =>
    obtain ⟨Y, hY, rfl⟩ := gateMatrix_controlled_ok.1 hM
    have := ctl_unitary (2 ^ (y.numQubits + (m + 1)) - 2 ^ y.numQubits) _ Y (ih hs Y hY)
    rwa [two_pow_split] at this
  | dagger y ih =>
    obtain ⟨Y, hY, rfl⟩ := gateMatrix_dagger_ok.1 hM
    exact adjoint_unitary _ Y (ih hs Y hY)
  | power y e ih =>
    obtain ⟨Y, hY, h2⟩ := gateMatrix_power_ok.1 hM
    exact mpow_int_unitary hx _ Y M e hs.1 (ih hs.2 Y hY) h2
  | exponential y => exact hs.1.elim

/-- "the modified gate of a unitary built-in is unitary": for `g` as above, the matrices of `g.dagger`,
    `g.controlled(m+1)` and `g.power(e)` (`e` any integer) are unitary of the implied dimension -/
theorem modified_unitary_builtin (hx : ExtLaws x) (hk : Laws k) (g : Gate (Param R) R) (hs : UShape k g) :
    (∀ M, gateMatrix star x g.daggerM = .ok M → IsUnitaryOf (2 ^ g.numQubits) M) ∧
    (∀ m M, gateMatrix star x (g.ctlP m) = .ok M → IsUnitaryOf (2 ^ (g.numQubits + (m + 1))) M) ∧
    (∀ e : Rat, e.den = 1 → ∀ M, gateMatrix star x (g.powerM e) = .ok M → IsUnitaryOf (2 ^ g.numQubits) M) := by
  refine ⟨?_, ?_, ?_⟩
  · intro M hM
    have := unitary_builtin hx hk g.daggerM (Gate.all_daggerM g hs) M hM
    rwa [Gate.numQubits_daggerM] at this
  · intro m M hM
    have := unitary_builtin hx hk (g.ctlP m) (Gate.all_ctlP g m hs) M hM
    rwa [Gate.numQubits_ctlP] at this
  · intro e he M hM
    have := unitary_builtin hx hk (g.powerM e) (Gate.all_powerM g e he hs) M hM
    rwa [Gate.numQubits_powerM] at this

/-- method-built form: any chain of `.dagger / .controlled(n) / .power(integer)` calls on a built-in gate at valid
    angle points gives a unitary -/
theorem chain_unitary_builtin (hx : ExtLaws x) (hk : Laws k)
    (row : Row) (hrow : row ∈ gateTable) (ps : List (Param R)) (hl : ps.length = Row.numParams row)
    (hv : ∀ p ∈ ps, Valid p.toAng) (ms : List Gate.Mod) (hms : ∀ m ∈ ms, m.Sat (fun e => e.den = 1) False)
    (M : Mat R) (hM : gateMatrix star x (Gate.applyChain (.base (Base.builtin k (Row.name row) ps)) ms) = .ok M) :
    IsUnitaryOf (2 ^ (Gate.applyChain (.base (Base.builtin k (Row.name row) ps)) ms).numQubits) M :=
  unitary_builtin hx hk _ (Gate.all_applyChain ms hms (.base _) ⟨row, hrow, ps, rfl, hl, hv⟩) M hM

/-- "(inverse for negative exponents)" sharpened by unitarity: `ipow_neg_matrix` without dimension hypotheses and
    with the two-sided inverse `W` IDENTIFIED — `g.power(-n)` is the `n`-fold product of the conjugate transpose -/
theorem ipow_neg_matrix_builtin (hx : ExtLaws x) (hk : Laws k) (g : Gate (Param R) R) (hs : UShape k g)
    (e : Rat) (he : e.den = 1) (hn : e.num < 0) (M M' : Mat R) (hM : gateMatrix star x g = .ok M)
    (hM' : gateMatrix star x (g.powerM e) = .ok M') :
    M'.r = 2 ^ g.numQubits ∧ M'.c = 2 ^ g.numQubits ∧
      Mat.toM (2 ^ g.numQubits) (2 ^ g.numQubits) M' =
        (Mat.toM (2 ^ g.numQubits) (2 ^ g.numQubits) M)ᴴ ^ (-e.num).toNat := by
  obtain ⟨hr, hc, hU⟩ := unitary_builtin hx hk g hs M hM
  obtain ⟨a, b, W, w1, _, w3⟩ := ipow_neg_matrix hx g e he hn M M' _ hM hM' hr hc
  refine ⟨a, b, ?_⟩
  rw [w3, left_inv_eq_right_inv w1 hU.2]

end Generic

section Complex
variable {x : Ext ℂ}

/-- `NAME(θ₁,…)` of the table at real angles, under any chain of modifier calls: all bases are built-in gates -/
theorem real_builtin (row : Row) (hrow : row ∈ gateTable) (θs : List ℝ) (hl : θs.length = Row.numParams row)
    (ms : List Gate.Mod) : Builtin kC (Gate.applyChain (.base (realBase (Row.name row) θs)) ms) :=
  builtin_chain _ (real_builtinBase row hrow θs hl) ms

/-- "for dagger the conjugate transpose" over ℂ: every built-in gate, every list of real angles, every chain of
    `.dagger / .controlled(n) / .power(integer) / .exp` calls; `(e^A)ᴴ = e^{Aᴴ}` discharged by Mathlib, the flags and
    dimensions by C02.  Remaining hypotheses: only the laws of sympy's `inv` / `exp` (`exp_dagger` of C07 without
    `WellDim`, `HermOK`, `M.r = D`, `M.c = D`). -/
theorem real_dagger_adjoint (hx : ExtLaws x) (hE : ExpLaw x (fun _ A => NormedSpace.exp A))
    (row : Row) (hrow : row ∈ gateTable) (θs : List ℝ) (hl : θs.length = Row.numParams row)
    (ms : List Gate.Mod) (hms : ∀ m ∈ ms, m.Sat (fun e => e.den = 1) True) (M M' : Mat ℂ)
    (hM : gateMatrix star x (Gate.applyChain (.base (realBase (Row.name row) θs)) ms) = .ok M)
    (hM' : gateMatrix star x (Gate.applyChain (.base (realBase (Row.name row) θs)) ms).daggerM = .ok M') :
    let n := (Gate.applyChain (.base (realBase (Row.name row) θs)) ms).numQubits
    M'.r = 2 ^ n ∧ M'.c = 2 ^ n ∧ Mat.toM (2 ^ n) (2 ^ n) M' = (Mat.toM (2 ^ n) (2 ^ n) M)ᴴ := by
  intro n
  obtain ⟨_, _, a, b, c⟩ := dagger_adjoint_builtin hx _ hE (fun _ A => Matrix.exp_conjTranspose A) kC_laws _
    (real_builtin row hrow θs hl ms) (noFrac_chain _ ms hms) M M' hM hM'
  exact ⟨a, b, c⟩

/-- the block form of `.controlled(m+1)` over ℂ for every method-built gate over a built-in gate at real angles -/
theorem real_controlled_matrix_block (hx : ExtLaws x)
    (row : Row) (hrow : row ∈ gateTable) (θs : List ℝ) (hl : θs.length = Row.numParams row)
    (ms : List Gate.Mod) (m : Nat) (M M' : Mat ℂ)
    (hM : gateMatrix star x (Gate.applyChain (.base (realBase (Row.name row) θs)) ms) = .ok M)
    (hM' : gateMatrix star x ((Gate.applyChain (.base (realBase (Row.name row) θs)) ms).ctlP m) = .ok M') :
    let n := (Gate.applyChain (.base (realBase (Row.name row) θs)) ms).numQubits
    let d0 := 2 ^ n * (2 ^ (m + 1) - 1)
    M'.r = d0 + 2 ^ n ∧ M'.c = d0 + 2 ^ n ∧ ∀ i j, i < d0 + 2 ^ n → j < d0 + 2 ^ n →
      M'.get i j = if i < d0 ∧ j < d0 then (if i = j then 1 else 0)
        else if d0 ≤ i ∧ d0 ≤ j then M.get (i - d0) (j - d0) else 0 :=
  controlled_matrix_block_builtin hx _ (canon_reachable _ ms) (real_builtin row hrow θs hl ms) m M M' hM hM'

/-- every chain of `.dagger / .controlled(n) / .power(integer)` calls on a built-in gate at real angles has a
    unitary matrix over ℂ -/
theorem real_chain_unitary (hx : ExtLaws x)
    (row : Row) (hrow : row ∈ gateTable) (θs : List ℝ) (hl : θs.length = Row.numParams row)
    (ms : List Gate.Mod) (hms : ∀ m ∈ ms, m.Sat (fun e => e.den = 1) False) (M : Mat ℂ)
    (hM : gateMatrix star x (Gate.applyChain (.base (realBase (Row.name row) θs)) ms) = .ok M) :
    IsUnitaryOf (2 ^ (Gate.applyChain (.base (realBase (Row.name row) θs)) ms).numQubits) M :=
  unitary_builtin hx kC_laws _ (Gate.all_applyChain ms hms (.base _) (real_builtinBase row hrow θs hl)) M hM

end Complex

section Driver
variable {x : Ext Cyc8}

/-- the matrices the driver (`gateMatrix conj …` on `Base.builtin Scal.cyc8`) prints for `g` and `g.dagger` are EXACT
    conjugate transposes of each other, for every built-in gate at rational circle points under every chain of
    `.dagger / .controlled(n) / .power(integer) / .exp` calls (laws of the externals assumed, nothing else) -/
theorem driver_dagger_adjoint (hx : ExtLaws x) (E : ∀ d, Matrix (Fin d) (Fin d) Cyc8 → Matrix (Fin d) (Fin d) Cyc8)
    (hE : ExpLaw x E) (hEs : ∀ d A, E d Aᴴ = (E d A)ᴴ)
    (row : Row) (hrow : row ∈ gateTable) (qs : List (Rat × Rat)) (hl : qs.length = Row.numParams row)
    (hq : ∀ p ∈ qs, p.1 * p.1 + p.2 * p.2 = 1)
    (ms : List Gate.Mod) (hms : ∀ m ∈ ms, m.Sat (fun e => e.den = 1) True) (M M' : Mat Cyc8)
    (hM : gateMatrix conj x (Gate.applyChain (.base (Base.builtin Scal.cyc8 (Row.name row) (ratParams qs))) ms) = .ok M)
    (hM' : gateMatrix conj x
      (Gate.applyChain (.base (Base.builtin Scal.cyc8 (Row.name row) (ratParams qs))) ms).daggerM = .ok M') :
    let n := (Gate.applyChain (.base (Base.builtin Scal.cyc8 (Row.name row) (ratParams qs))) ms).numQubits
    M'.r = 2 ^ n ∧ M'.c = 2 ^ n ∧ Mat.toM (2 ^ n) (2 ^ n) M' = (Mat.toM (2 ^ n) (2 ^ n) M)ᴴ := by
  intro n
  obtain ⟨_, _, a, b, c⟩ := dagger_adjoint_builtin hx E hE hEs cyc8_laws _
    (builtin_chain _ (driver_builtinBase row hrow qs hl hq) ms) (noFrac_chain _ ms hms) M M' hM hM'
  exact ⟨a, b, c⟩

/-- … and under `.dagger / .controlled(n) / .power(integer)` chains they are EXACTLY unitary -/
theorem driver_chain_unitary (hx : ExtLaws x)
    (row : Row) (hrow : row ∈ gateTable) (qs : List (Rat × Rat)) (hl : qs.length = Row.numParams row)
    (hq : ∀ p ∈ qs, p.1 * p.1 + p.2 * p.2 = 1)
    (ms : List Gate.Mod) (hms : ∀ m ∈ ms, m.Sat (fun e => e.den = 1) False) (M : Mat Cyc8)
    (hM : gateMatrix conj x (Gate.applyChain (.base (Base.builtin Scal.cyc8 (Row.name row) (ratParams qs))) ms) = .ok M) :
    IsUnitaryOf (2 ^ (Gate.applyChain (.base (Base.builtin Scal.cyc8 (Row.name row) (ratParams qs))) ms).numQubits) M :=
  unitary_builtin hx cyc8_laws _
    (Gate.all_applyChain ms hms (.base _) (driver_builtinBase row hrow qs hl hq)) M hM

end Driver

section NonVacuity
open Inst

example : BuiltinBase Scal.cyc8 xBase := xBase_builtin
example : BuiltinBase Scal.cyc8 rxBase := rxBase_builtin
example : Laws Scal.cyc8 ∧ Laws kC := ⟨cyc8_laws, kC_laws⟩
-- the `HermOK` path is exercised: X is flagged, its `.dagger` is the gate itself (C02 `flag_hermitian` makes that right)
example : (Gate.base xBase).daggerM = .base xBase := rfl

example : gEx = .controlled (.power (.base rxBase) 2) 0 := rfl
-- its dagger really contains a `Dagger` node below the power below the controls
example : gEx.daggerM = .controlled (.power (.dagger (.base rxBase)) 2) 0 := rfl
example : gEx.numQubits = 2 ∧ (gEx.ctlP 1).numQubits = 4 := by decide

-- dagger_adjoint_builtin / dagger_adjoint_chain_builtin: all hypotheses hold together, both matrices exist
example : ∃ M M', ExtLaws (extNone Cyc8) ∧ ExpLaw (extNone Cyc8) (fun _ A => A) ∧ Laws Scal.cyc8 ∧
    Builtin Scal.cyc8 gEx ∧ NoFrac gEx ∧
    gateMatrix star (extNone Cyc8) gEx = .ok M ∧ gateMatrix star (extNone Cyc8) gEx.daggerM = .ok M' := by
  obtain ⟨M, hM⟩ := matrix_computable_builtin (extNone Cyc8) gEx gEx_pure
  obtain ⟨M', hM'⟩ := matrix_computable_builtin (extNone Cyc8) gEx.daggerM (Gate.all_daggerM _ gEx_pure)
  exact ⟨M, M', extNone_laws _, extNone_exp _ _, cyc8_laws,
    builtin_of_int _ (int_of_ushape _ (ushape_of_pure _ gEx_pure)), ⟨rfl, trivial⟩, hM, hM'⟩

-- controlled_matrix_block_builtin (merge of control counts), ipow_matrix_builtin, modified_unitary_builtin
example : ∃ M M' M'', gEx.Canon ∧ UShape Scal.cyc8 gEx ∧ gateMatrix star (extNone Cyc8) gEx = .ok M ∧
    gateMatrix star (extNone Cyc8) (gEx.ctlP 1) = .ok M' ∧ (3 : Rat).den = 1 ∧ 0 ≤ (3 : Rat).num ∧
    gateMatrix star (extNone Cyc8) (gEx.powerM 3) = .ok M'' := by
  obtain ⟨M, hM⟩ := matrix_computable_builtin (extNone Cyc8) gEx gEx_pure
  obtain ⟨M', hM'⟩ := matrix_computable_builtin (extNone Cyc8) (gEx.ctlP 1) (Gate.all_ctlP _ 1 gEx_pure)
  obtain ⟨M'', hM''⟩ := matrix_computable_builtin (extNone Cyc8) (gEx.powerM 3)
    (Gate.all_powerM _ 3 ⟨rfl, by decide⟩ gEx_pure)
  exact ⟨M, M', M'', canon_reachable _ _, ushape_of_pure _ gEx_pure, hM, hM', rfl, by decide, hM''⟩

-- ipow_neg_matrix_builtin: with a true-inverse external, `X.power(-2)` has a matrix (the inverse exists: X is unitary)
example : ∃ M M', ExtLaws (extInv Cyc8) ∧ UShape Scal.cyc8 (.base xBase) ∧ (-2 : Rat).den = 1 ∧ (-2 : Rat).num < 0 ∧
    gateMatrix star (extInv Cyc8) (.base xBase) = .ok M ∧
    gateMatrix star (extInv Cyc8) ((Gate.base xBase).powerM (-2)) = .ok M' := by
  obtain ⟨M, hM⟩ := ok_base Scal.cyc8 xBase xBase_builtin
  obtain ⟨Mi, hMi⟩ := extInv_ok_of_unitary _ M (unitary_base cyc8_laws xBase xBase_builtin M hM)
  refine ⟨M, npow Mi (-(-2 : Rat).num).toNat, extInv_laws _, xBase_builtin, rfl, by decide, hM, ?_⟩
  show (xBase.factory xBase.params).bind (fun M => mpow (extInv Cyc8) M (-2)) = _
  rw [hM]
  exact mpow_neg_ok _ M Mi (-2) rfl (by decide) hMi

-- real_dagger_adjoint / real_chain_unitary: CPHASE(θ) for EVERY real θ under controlled(2), dagger, power(3)
example (θ : ℝ) : ∃ M M', ExtLaws (extNone ℂ) ∧ ExpLaw (extNone ℂ) (fun _ A => NormedSpace.exp A) ∧
    ("CPHASE", 2, 1, false) ∈ gateTable ∧
    gateMatrix star (extNone ℂ) (Gate.applyChain (.base (realBase "CPHASE" [θ])) [.controlled 1, .dagger, .power 3]) = .ok M ∧
    gateMatrix star (extNone ℂ)
      (Gate.applyChain (.base (realBase "CPHASE" [θ])) [.controlled 1, .dagger, .power 3]).daggerM = .ok M' := by
  have hp : Pure kC (Gate.applyChain (.base (realBase "CPHASE" [θ])) [.controlled 1, .dagger, .power 3]) :=
    Gate.all_applyChain _ (by decide) _ (real_builtinBase ("CPHASE", 2, 1, false) (by decide) [θ] rfl)
  obtain ⟨M, hM⟩ := matrix_computable_builtin (extNone ℂ) _ hp
  obtain ⟨M', hM'⟩ := matrix_computable_builtin (extNone ℂ) _ (Gate.all_daggerM _ hp)
  exact ⟨M, M', extNone_laws _, extNone_exp _ _, by decide, hM, hM'⟩

end NonVacuity

end OQ.C07.Link
