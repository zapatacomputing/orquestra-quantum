/-
  C11 — PROPERTY THEOREMS: operators and result artefacts survive dict, file and text round trips.
  Model: OQ/Model/C11.lean.  Helper lemmas: OQ/Lemmas/C11.lean.

  Reading guide.
  * A `PauliTerm` is `Term κ` (`ops` = the dict `_ops` in insertion order, `coef` = the coefficient);
    `Term.WF` is the class invariant `__init__` establishes (distinct qubits, no stored identity).
  * "denotes the same matrix": `denote φ val s = Σ_t φ t.ops re(t) im(t)` for ANY interpretation `φ`
    satisfying `Interp φ` – `φ` depends only on the set of (qubit, operator) pairs and is additive in the
    coefficient.  The Kronecker-product matrix `(re + i·im)·P` is such a `φ`; so is the formal
    coefficient function.  Theorems are stated for every such `φ` at once.
  * `negl re im` is the library's zero test `np.isclose(c, 0.0)` (|c| ≤ 1e-8), an arbitrary predicate here:
    "same matrix to the 1e-8 tolerance" is proved in the exact form
    "result + (the coefficients that were dropped, each of which satisfies `negl`) = original".
  * External laws are hypotheses: `order` (frozenset iteration) returns a permutation; `de (ser d) = some d`
    (JSON text round trip); `CoefLaw` (Python's `str` / `complex` on numbers of magnitude < 1e15);
    `ofL (toL a) = a`, `truthy (toL a)` (numpy `tolist` / `np.array` on non-zero-size arrays).
-/
import OQ.Lemmas.C11
import Mathlib.Data.List.Forall2
import Mathlib.Algebra.Group.Prod
namespace OQ.C11

/-- **dict → same matrix.**  For every sum of well-formed terms (a single `PauliTerm` is the one-element
    sum; the empty sum is `[]`), converting to the dictionary form and back is accepted and yields an
    operator `r` such that, for one fixed list `D` of dropped terms whose coefficients all pass the library's
    zero test, `r + D` denotes what `s` denotes under every interpretation `φ` (in particular the matrix).
    Like terms are merged and negligible ones dropped because `convert_dict_to_op` accumulates with `+=`. -/
theorem dict_roundtrip_denote (negl : Rat → Rat → Bool) (order : Ops → Ops) (hord : ∀ o, (order o).Perm o)
    (s : PSum Coef) (hs : ∀ t ∈ s, t.WF) :
    ∃ r D : PSum Coef, dictToOp negl (opToDict order s) = .ok r ∧
      (∀ d ∈ D, negl d.coef.re d.coef.im = true) ∧
      ∀ {M : Type} [AddCommMonoid M] (φ : Ops → Rat → Rat → M), Interp φ →
        denote φ Coef.val r + denote φ Coef.val D = denote φ Coef.val s := by
  obtain ⟨D, hD, h⟩ := (foldl_addTerm_upToNegl negl (s.map (rebuilt order)) []).trans
    (.of_denote_eq fun _ hφ => denote_rebuilt hφ order hord s)
  exact ⟨_, D, dictToOp_opToDict negl order hord s hs, hD, h⟩

/-- **dict → same matrix, concretely.**  With the Kronecker-product matrix `opMatrix n` on any number `n` of
    qubits (`pauliMatrix`: entry (i,j) = ∏_q P_q(i_q, j_q), identity on idle qubits):
    `matrix(result) + matrix(dropped negligible terms) = matrix(original)`. -/
theorem dict_roundtrip_matrix (n : Nat) (negl : Rat → Rat → Bool) (order : Ops → Ops) (hord : ∀ o, (order o).Perm o)
    (s : PSum Coef) (hs : ∀ t ∈ s, t.WF) :
    ∃ r D : PSum Coef, dictToOp negl (opToDict order s) = .ok r ∧
      (∀ d ∈ D, negl d.coef.re d.coef.im = true) ∧
      opMatrix n Coef.val r + opMatrix n Coef.val D = opMatrix n Coef.val s := by
  obtain ⟨r, D, h1, h2, h3⟩ := dict_roundtrip_denote negl order hord s hs
  exact ⟨r, D, h1, h2, h3 (termMatrix n) (termMatrix_interp n)⟩

/-- **dict → exact for simplified operators.**  If `s` is simplified (pairwise different operator sets, no
    negligible coefficient – the fixed points of `PauliSum.simplify`, see `simplified_iff_fixed`), the round
    trip returns the terms one for one, in order: the same set of (qubit, operator) pairs, and exactly the
    same real and imaginary coefficient parts. -/
theorem dict_roundtrip_exact (negl : Rat → Rat → Bool) (order : Ops → Ops) (hord : ∀ o, (order o).Perm o)
    (s : PSum Coef) (hs : ∀ t ∈ s, t.WF) (hsimp : Simplified negl s) :
    ∃ r : PSum Coef, dictToOp negl (opToDict order s) = .ok r ∧
      List.Forall₂ (fun a b : Term Coef => a.ops.Perm b.ops ∧ a.coef.re = b.coef.re ∧ a.coef.im = b.coef.im) r s := by
  refine ⟨s.map (rebuilt order), ?_, ?_⟩
  · rw [dictToOp_opToDict negl order hord s hs,
      foldl_addTerm_simplified negl _ [] (simplified_rebuilt negl order hord s hsimp)]
    rfl
  · rw [List.forall₂_map_left_iff]
    exact List.forall₂_same.mpr (fun t _ => ⟨hord t.ops, (rebuilt_val order t).1, (rebuilt_val order t).2⟩)

/-- "simplified" is exactly "left unchanged by `PauliSum.simplify`", and `simplify` always produces such a
    sum – so the domain of `dict_roundtrip_exact` is the range of the library's own normalisation
    (every arithmetic operation of the library ends in `simplify`). -/
theorem simplified_iff_fixed (negl : Rat → Rat → Bool) (s : PSum Coef) :
    Simplified negl s ↔ simplify negl s = s :=
  ⟨simplify_of_simplified negl s, fun h => h ▸ simplify_simplified negl s⟩

/-- the operator returned by the dictionary round trip is itself simplified (hence a second round trip
    is exact). -/
theorem dict_roundtrip_simplified (negl : Rat → Rat → Bool) (order : Ops → Ops) (hord : ∀ o, (order o).Perm o)
    (s : PSum Coef) (hs : ∀ t ∈ s, t.WF) :
    ∃ r : PSum Coef, dictToOp negl (opToDict order s) = .ok r ∧ Simplified negl r :=
    ⟨_, dictToOp_opToDict negl order hord s hs, simplified_foldl_addTerm negl _ [] ⟨.nil, fun _ h => by cases h⟩⟩

/-- **through real JSON text / the file functions.**  `load_operator(save_operator(op))` is
    `convert_dict_to_op(convert_op_to_dict(op))` whenever the JSON library reads back the dictionary it
    wrote – so the dictionary theorems above apply verbatim to files (path or open file: both reach `json.load`). -/
theorem save_load_operator (ser : OpD → String) (de : String → Option OpD) (hjson : ∀ d, de (ser d) = some d)
    (negl : Rat → Rat → Bool) (order : Ops → Ops) (s : PSum Coef) :
    loadOperator de negl (saveOperator ser order s) = dictToOp negl (opToDict order s) := by
  simp [loadOperator, saveOperator, hjson]

/-- operator lists: each member is loaded as its own dictionary round trip, in order. -/
theorem save_load_operator_set (ser : List OpD → String) (de : String → Option (List OpD))
    (hjson : ∀ d, de (ser d) = some d) (negl : Rat → Rat → Bool) (order : Ops → Ops) (l : List (PSum Coef)) :
    loadOperatorSet de negl (saveOperatorSet ser order l) = l.mapM (fun s => dictToOp negl (opToDict order s)) := by
  simp [loadOperatorSet, saveOperatorSet, hjson, List.mapM_map]
  rfl

/-- **print → parse, one term.**  `PauliTerm(str(t))` is accepted and has the operations of `t` (same
    qubits, same operators, same order) and the coefficient `complex(str(c))`, whose value is the value of
    `c` by the law of `str`/`complex`.  Covers constants (`2.0*I`), negative, small and complex coefficients:
    whatever satisfies `CoefLaw`. -/
theorem parse_repr_term {κ : Type} (showC : κ → List Char) (readC : List Char → Option (Rat × Rat))
    (val : κ → Rat × Rat) (t : Term κ) (ht : t.WF) (hl : CoefLaw showC readC val t.coef) :
    parseTerm readC (reprTerm showC t) = some ⟨t.ops, val t.coef⟩ := by
  simp only [parseTerm, parseOpsAndCoef_reprTerm t ht hl, ht.filter_eq, Option.getD_some]

/-- **print → parse, sums.**  `PauliSum(str(s))` is accepted and returns the terms of `s` one for one (the
    `+` of a bracketed complex coefficient never cuts a term; a `+` between terms always does); the empty
    sum prints as `0*I` and is read back as the single constant term with coefficient zero. -/
theorem parse_repr_sum {κ : Type} (showC : κ → List Char) (readC : List Char → Option (Rat × Rat))
    (val : κ → Rat × Rat) (zero : κ) (s : PSum κ) (hs : ∀ t ∈ s, t.WF)
    (hl : ∀ t ∈ s, CoefLaw showC readC val t.coef) (hz : CoefLaw showC readC val zero) :
    parseSum readC (reprSum showC zero s) =
      some (if s.isEmpty then [⟨[], val zero⟩] else s.map (fun t => ⟨t.ops, val t.coef⟩)) := by
  rw [parseSum, parse_reprSum _ (fun t => ⟨t.ops, val t.coef⟩) zero s hs hl hz (parse_repr_term showC readC val)]
  cases s <;> rfl

/-- **print → parse denotes the same matrix**, for terms and sums, including the empty sum. -/
theorem parse_repr_sum_denote {κ : Type} (showC : κ → List Char) (readC : List Char → Option (Rat × Rat))
    (val : κ → Rat × Rat) (zero : κ) (hzero : val zero = (0, 0)) (s : PSum κ) (hs : ∀ t ∈ s, t.WF)
    (hl : ∀ t ∈ s, CoefLaw showC readC val t.coef) (hz : CoefLaw showC readC val zero) :
    ∃ r : PSum (Rat × Rat), parseSum readC (reprSum showC zero s) = some r ∧
      ∀ {M : Type} [AddCommMonoid M] (φ : Ops → Rat → Rat → M), Interp φ →
        denote φ id r = denote φ val s := by
  refine ⟨_, parse_repr_sum showC readC val zero s hs hl hz, ?_⟩
  intro M _ φ hφ
  cases s with
  | nil => simp [denote, hzero, hφ.zero]
  | cons t rest => simp [denote, List.map_map, Function.comp_def]

/-- **print → parse gives the same matrix, concretely** (Kronecker-product matrix on any number of qubits). -/
theorem parse_repr_sum_matrix (n : Nat) {κ : Type} (showC : κ → List Char) (readC : List Char → Option (Rat × Rat))
    (val : κ → Rat × Rat) (zero : κ) (hzero : val zero = (0, 0)) (s : PSum κ) (hs : ∀ t ∈ s, t.WF)
    (hl : ∀ t ∈ s, CoefLaw showC readC val t.coef) (hz : CoefLaw showC readC val zero) :
    ∃ r : PSum (Rat × Rat), parseSum readC (reprSum showC zero s) = some r ∧ opMatrix n id r = opMatrix n val s := by
  obtain ⟨r, h1, h2⟩ := parse_repr_sum_denote showC readC val zero hzero s hs hl hz
  exact ⟨r, h1, h2 (termMatrix n) (termMatrix_interp n)⟩

/-- a single printed term denotes the same matrix after parsing -/
theorem parse_repr_term_denote {κ : Type} (showC : κ → List Char) (readC : List Char → Option (Rat × Rat))
    (val : κ → Rat × Rat) (t : Term κ) (ht : t.WF) (hl : CoefLaw showC readC val t.coef) :
    ∃ r : Term (Rat × Rat), parseTerm readC (reprTerm showC t) = some r ∧
      ∀ {M : Type} [AddCommMonoid M] (φ : Ops → Rat → Rat → M), denote φ id [r] = denote φ val [t] :=
  ⟨_, parse_repr_term showC readC val t ht hl, fun φ => by simp [denote]⟩

/-! ## Numeric arrays and the artefacts built on them

`A` is the type of non-zero-size real ndarrays, `L` the JSON lists; `hback`/`htruthy` are the laws of
`tolist()`/`np.array` on them.  (A zero-size array loses its shape through `tolist()`; out of scope.) -/

section arrays
variable {A L : Type} (toL : A → L) (ofL : L → A) (truthy : L → Bool)
  (hback : ∀ a, ofL (toL a) = a) (htruthy : ∀ a, truthy (toL a) = true)
include hback htruthy

/-- real and complex arrays survive `{real, imag}`: the imaginary part is kept exactly when the array was complex -/
theorem array_roundtrip (a : CArr A) : dictToArray ofL truthy (arrayToDict toL a) = a := by
  obtain ⟨re, im⟩ := a
  cases im <;> simp [arrayToDict, dictToArray, hback, htruthy]

/-- **ExpectationValues** (values, correlations, covariances; real or complex; no frames given (`None`), an
    empty list of frames, one or several frames) are returned equal. -/
theorem expectation_values_roundtrip (e : EV A) : evFromDict ofL truthy (evToDict toL e) = e := by
  have ha := array_roundtrip toL ofL truthy hback htruthy
  simp only [evFromDict, evToDict, ha, mapFrames_roundtrip _ _ ha]

/-- **Parities** (values and optional correlation frames, including `None` and `[]`) are returned equal. -/
theorem parities_roundtrip (p : Par A) : parFromDict ofL truthy (parToDict toL p) = p := by
  have ha := array_roundtrip toL ofL truthy hback htruthy
  simp only [parFromDict, parToDict, ha, mapFrames_roundtrip _ _ ha]

/-- **measurement-count estimates** are returned equal, with per-frame counts or with the default
    `frame_meas=None`. -/
theorem nmeas_roundtrip (nmeas : Rat) (nterms : Int) (fm : Option (CArr A)) :
    nmeasFromDict ofL truthy (nmeasToDict toL nmeas nterms fm) = (nmeas, nterms, fm) := by
  cases fm <;> simp [nmeasFromDict, nmeasToDict, array_roundtrip toL ofL truthy hback htruthy]

end arrays

/-- **value estimates with precision**, including `precision=None`. -/
theorem value_estimate_roundtrip (v : VE) : veFromDict (veToDict v) = v := by
  cases v; rfl

/-- **measurement sets** (any list of bit tuples, including the empty list): tuples are restored. -/
theorem measurements_roundtrip (bitstrings : List (PyTuple Int)) :
    measFromDict (measToDict bitstrings) = bitstrings := by
  simp [measFromDict, measToDict, List.map_map, Function.comp_def]

/-- **circuit layers**: JSON turns the tuples into lists, `from_dict` restores them. -/
theorem layers_roundtrip (l : List (List (PyTuple Int))) :
    layersFromDict (jsonLayers (layersToDict l)) = l := by
  simp [layersFromDict, jsonLayers, layersToDict, List.map_map, Function.comp_def]

/-- **circuit connectivity**: tuples restored. -/
theorem connectivity_roundtrip (l : List (PyTuple Int)) :
    connectivityFromDict (jsonConnectivity (connectivityToDict l)) = l := by
  simp [connectivityFromDict, jsonConnectivity, connectivityToDict, List.map_map, Function.comp_def]

/-- **plain lists / circuit ordering**: the stored field is returned. -/
theorem list_roundtrip {α : Type} (l : List α) : listFromDict (listToDict l) = l := rfl

/-- **save then load, any artefact**: if the JSON library returns `norm d` for the text it wrote for `d`
    (`norm` = identity, or tuples → lists), loading the saved file is `fromDict (norm (toDict x))` – so each
    dictionary-level theorem above is a statement about the file functions, path or open file alike. -/
theorem save_then_load {D D' O : Type} (ser : D → String) (de : String → Option D') (norm : D → D')
    (hjson : ∀ d, de (ser d) = some (norm d)) (fromDict : D' → O) (d : D) :
    saveThenLoad ser de fromDict d = some (fromDict (norm d)) := by
  simp [saveThenLoad, hjson]

/-! ## non-vacuity and negative witnesses -/

-- a two-term operator with a complex coefficient and a multi-digit qubit: the round trip is accepted, exact
example : (dictToOp (fun re im => decide (re * re + im * im ≤ 1 / 10000000000000000)) (opToDict id
    [⟨[(0, .Z), (12, .X)], .cplx (1/2) (-3)⟩, ⟨[], .real (-2)⟩])).toOption =
    some [⟨[(0, .Z), (12, .X)], .cplx (1/2) (-3)⟩, ⟨[], .real (-2)⟩] := by decide +kernel
-- like terms are merged, a negligible one is dropped, `complex` with zero imaginary part comes back real
example : (dictToOp (fun re im => decide (re * re + im * im ≤ 1 / 10000000000000000)) (opToDict id
    [⟨[(3, .Y)], .real 1⟩, ⟨[(1, .X)], .real (1/1000000000000)⟩, ⟨[(3, .Y)], .cplx (1/4) 0⟩])).toOption =
    some [⟨[(3, .Y)], .real (5/4)⟩] := by decide +kernel
example : Simplified (fun re im => decide (re * re + im * im ≤ 1 / 10000000000000000))
    [⟨[(0, .Z), (12, .X)], .cplx (1/2) (-3)⟩, ⟨[], .real (-2)⟩] := by
  refine ⟨?_, ?_⟩
  · refine List.Pairwise.cons ?_ (List.Pairwise.cons (by simp) List.Pairwise.nil)
    intro b hb hp
    simp only [List.mem_singleton] at hb; subst hb
    exact absurd hp.length_eq (by decide)
  · intro t ht
    simp only [List.mem_cons, List.not_mem_nil, or_false] at ht
    rcases ht with rfl | rfl <;> decide +kernel
-- the 2×2 matrices: Z is diag(1,-1), Y has -i above and i below the diagonal (false = |0⟩, true = |1⟩)
example : pauliEntry .Z true true = -1 ∧ pauliEntry .Z false false = 1 ∧ pauliEntry .Y false true = -Complex.I ∧
    pauliEntry .Y true false = Complex.I ∧ pauliEntry .X false true = 1 := by simp [pauliEntry]
-- an interpretation: the formal coefficient of the constant term and the total coefficient
example : Interp (M := Rat × Rat) (fun _ re im => (re, im)) :=
  ⟨fun _ _ _ => rfl, fun _ _ _ _ _ => rfl, fun _ => rfl⟩
example : Interp (M := Rat × Rat) (fun k re im => if k.length = 0 then (re, im) else 0) :=
  ⟨fun a b h => by simp [h.length_eq], fun k a b c d => by by_cases h : k.length = 0 <;> simp [h],
   fun k => by by_cases h : k.length = 0 <;> simp [h]⟩

/-- coefficient texts as Python prints them, with their values (a finite table standing for `complex`) -/
def demoRead (s : List Char) : Option (Rat × Rat) :=
  if s = "(1+2j)".toList then some (1, 2) else if s = "-0.5".toList then some (-1/2, 0)
  else if s = "1e-12".toList then some (1/1000000000000, 0) else if s = "0".toList then some (0, 0) else none

example : CoefLaw (fun s : String => s.toList) demoRead (fun s => (demoRead s.toList).getD (0, 0)) "(1+2j)" :=
  ⟨by decide, by decide +kernel, fun _ _ => by decide⟩
example : CoefLaw (fun s : String => s.toList) demoRead (fun s => (demoRead s.toList).getD (0, 0)) "1e-12" :=
  ⟨by decide, by decide +kernel, fun _ h => absurd (by decide +kernel) h⟩
-- printing and parsing a sum with a bracketed complex coefficient, a constant and a multi-digit qubit
example : reprSum (fun s : String => s.toList) "0" [⟨[(0, .Z), (12, .X)], "(1+2j)"⟩, ⟨[], "-0.5"⟩, ⟨[(3, .Y)], "1e-12"⟩]
    = "(1+2j)*Z0*X12 + -0.5*I + 1e-12*Y3".toList := by decide
example : parseSum demoRead "(1+2j)*Z0*X12 + -0.5*I + 1e-12*Y3".toList =
    some [⟨[(0, .Z), (12, .X)], (1, 2)⟩, ⟨[], (-1/2, 0)⟩, ⟨[(3, .Y)], (1/1000000000000, 0)⟩] := by decide +kernel
example : parseSum demoRead (reprSum (fun s : String => s.toList) "0" ([] : PSum String)) = some [⟨[], (0, 0)⟩] := by
  decide +kernel
-- outside the quantifier (|c| ≥ 1e16 prints an exponent sign): the text law fails, as does the parser
example : coefTextOK "1e+16".toList = false := by decide
example : (splitPlus "1e+16*Z0".toList).length = 2 := by decide

-- arrays: non-empty rational lists as one-dimensional arrays
example : dictToArray (A := List Rat) id (fun l => !l.isEmpty) (arrayToDict id ⟨[1, 2], some [0, 0]⟩) = ⟨[1, 2], some [0, 0]⟩ := by
  decide +kernel
-- an empty frame list stays an empty list, no frames stay None (fixed 060d7df: used to come back as None)
example : evFromDict (A := List Rat) id (fun l => !l.isEmpty) (evToDict id ⟨⟨[1], none⟩, some [], none⟩) = ⟨⟨[1], none⟩, some [], none⟩ := by
  decide +kernel
example : evFromDict (A := List Rat) id (fun l => !l.isEmpty)
    (evToDict id ⟨⟨[1], none⟩, some [⟨[1, -1], some [0, 1/2]⟩], none⟩) = ⟨⟨[1], none⟩, some [⟨[1, -1], some [0, 1/2]⟩], none⟩ := by
  decide +kernel
-- saved with the default frame_meas=None (fixed 4422d44: the loader used to raise KeyError)
example : nmeasFromDict (A := List Rat) id (fun l => !l.isEmpty) (nmeasToDict id (7/2) 4 none) = (7/2, 4, none) := by
  decide +kernel
example : measToDict [⟨[0, 1]⟩, ⟨[1, 1]⟩, ⟨[0, 1]⟩] =
    ⟨[("01".toList, 2), ("11".toList, 1)], [[0, 1], [1, 1], [0, 1]]⟩ := by decide
example : veFromDict (veToDict ⟨3/2, none⟩) = ⟨3/2, none⟩ := rfl

end OQ.C11
