/- C12 — PROPERTY THEOREMS (translation ties): the LOOP of `Wavefunction.dicke_state` and the guard of `Wavefunction.zero_state`
   (`wavefunction.py`).  `OQ.Generated.Translated.dicke_state_pre` / `zero_state_pre` are REGENERATED from /repo's current source on
   every run (harness/translate_t6.py → OQ/Generated/TranslatedC12Dicke.lean): the function body up to its first numpy statement –
   the guards on `hamming_weight`, `int("1" * hamming_weight, base=2)`, the `while True:` loop with its `break` test, the
   appends and the counter – returning the values the amplitude vector is then built from (`counter`, `indices`), or the exception.
   The `while True:` loop is emitted with explicit FUEL; the theorems below show that fuel `2^n` is never exhausted.
   OUTSIDE the translation (numpy): `np.zeros(2**n)`, `wf[indices] = 1/np.sqrt(counter)`, the `Wavefunction(...)` constructor
   (their model is `dickeProbs` / `construct`, tied by the differential correspondence of `./check C12`). -/
import OQ.Generated.TranslatedC12Dicke
import OQ.Props.C12_Translated
import OQ.Lemmas.C12_TranslatedT6
namespace OQ.C12
open OQ.Generated OQ.Py OQ.Tr

/-- TRANSLATION TIE: the guard of `zero_state(n_qubits)` for an int argument (the `isinstance` branch is dead for an int):
    ValueError iff `n_qubits ≤ 0`, otherwise the array is sized by `n_qubits` itself. -/
theorem translated_zero_state_pre_eq (n : Int) :
    Translated.zero_state_pre n = if n ≤ 0 then .error .ValueError else .ok n := by
  simp only [Translated.zero_state_pre, Bool.not_true, Bool.false_eq_true, if_false, decide_eq_true_eq]

/-- … the translated guard refuses exactly `n ≤ 0`, and the model's `zeroState` refuses every such `n` (for every tolerance `close`;
    for `n ≥ 1` the model's answer depends on `close`). -/
theorem translated_zero_state_guard (close : Rat → Bool) (n : Int) :
    (Translated.zero_state_pre n = .error .ValueError ↔ n ≤ 0) ∧ (n ≤ 0 → zeroState close n = .error .value) := by
  rw [translated_zero_state_pre_eq]
  refine ⟨⟨fun e => ?_, fun h => if_pos h⟩, fun h => if_pos h⟩
  split at e
  · assumption
  · cases e

/-- one iteration of the translated loop, in the model's terms -/
theorem translated_dicke_step (n cur : Nat) (hcur : 0 < cur) (I : List Int) (c : Int) :
    Translated.dicke_state_pre_loop1_step (n : Int) ((cur : Int), I, c) =
      if msb (nextSameWeight cur) ≤ n
      then .ok (false, (((nextSameWeight cur : Nat) : Int), I ++ [((nextSameWeight cur : Nat) : Int)], c + 1))
      else .ok (true, (((nextSameWeight cur : Nat) : Int), I, c)) := by
  unfold Translated.dicke_state_pre_loop1_step
  simp only [translated_next_same_weight_eq cur hcur, translated_most_significant_set_bit_eq, Int.ofNat_le]
  by_cases h : msb (nextSameWeight cur) ≤ n <;> simp [h]

/-- TRANSLATION TIE (the loop): the `while True:` loop of `dicke_state` regenerated from the current source, run with any fuel
    from a state `(current_value, indices, counter) = (cur, acc, len(acc))` with `cur ≥ 1`, is the model's `dickeLoop`: it
    collects the same indices, `counter` stays `len(indices)`, and it runs out of fuel exactly when the model's loop does. -/
theorem translated_dicke_loop_eq (n : Nat) (fuel cur : Nat) (acc : List Nat) (hcur : 0 < cur) :
    (Translated.dicke_state_pre_loop1 (n : Int) fuel
        ((cur : Int), acc.map (fun k : Nat => (k : Int)), (acc.length : Int))).map (fun st => (st.2.2, st.2.1)) =
      match dickeLoop n fuel cur acc with
      | none => .error .OutOfFuel
      | some idx => .ok ((idx.length : Int), idx.map (fun k : Nat => (k : Int))) := by
  induction fuel generalizing cur acc with
  | zero => rfl
  | succ fuel ih =>
    simp only [Translated.dicke_state_pre_loop1, dickeLoop, translated_dicke_step n cur hcur]
    by_cases h : msb (nextSameWeight cur) ≤ n
    · simp only [h, if_true]
      simpa only [List.map_append, List.map_cons, List.map_nil, List.length_append, List.length_cons, List.length_nil,
        Nat.cast_add, Nat.cast_one, zero_add] using
        ih (nextSameWeight cur) (acc ++ [nextSameWeight cur]) (Nat.zero_lt_of_lt (nextSameWeight_next cur hcur).1)
    · simp only [h, if_false]
      rfl

/-- TRANSLATION TIE: `dicke_state(n_qubits, hamming_weight)` up to its first numpy statement, regenerated from the current source and
    run with fuel `2^n`, against the model's `dickeState`, on the WHOLE domain of int arguments:
    * `n ≤ 0`, `k < 0` or `k > n`: both raise ValueError (any fuel);
    * `k = 0` (and `n ≥ 1`): the zero state of `n` qubits is returned (`.inl n`), the model's support is `[0]`;
    * `1 ≤ k ≤ n`: the loop ends within the fuel and hands `(counter, indices) = (len idx, idx)` to the numpy part, where `idx` is
      the support the model's `dickeState` computes. -/
theorem translated_dicke_state_eq (n k : Int) :
    (n ≤ 0 ∨ k < 0 ∨ n < k →
      (∀ fuel, Translated.dicke_state_pre fuel n k = .error .ValueError) ∧ dickeState n k = .error .value) ∧
    (1 ≤ n → k = 0 →
      (∀ fuel, Translated.dicke_state_pre fuel n k = .ok (.inl n)) ∧ dickeState n k = .ok ([0], dickeProbs n.toNat [0])) ∧
    (1 ≤ k → k ≤ n → ∃ idx : List Nat,
      dickeState n k = .ok (idx, dickeProbs n.toNat idx) ∧
      Translated.dicke_state_pre (2 ^ n.toNat) n k = .ok (.inr ((idx.length : Int), idx.map (fun i : Nat => (i : Int))))) := by
  refine ⟨fun h => ⟨fun fuel => by rw [dicke_state_pre_eq, if_pos h], dicke_rejects n k h⟩, fun hn hk => ?_, fun hk hkn => ?_⟩
  · subst hk
    exact ⟨fun fuel => by rw [dicke_state_pre_eq, if_neg (by omega), if_pos rfl],
      by rw [dickeState_eq, if_neg (by omega), if_pos rfl]⟩
  · refine ⟨_, (dicke_support n k (by omega) (by omega) hkn).1, ?_⟩
    -- the loop tie from `2^k − 1`, where the model's loop is known to end with the whole support
    have hloop := translated_dicke_loop_eq n.toNat (2 ^ n.toNat) (2 ^ k.toNat - 1) [2 ^ k.toNat - 1]
      (Nat.sub_pos_of_lt (Nat.one_lt_two_pow (by omega)))
    rw [Int.toNat_of_nonneg (by omega), ← dickeIndices, dickeIndices_spec n.toNat k.toNat (by omega) (by omega)] at hloop
    rw [dicke_state_pre_eq, if_neg (by omega), if_neg (by omega)]
    exact congrArg (Except.map Sum.inr) hloop

/-- END-TO-END ON THE CODE AS IT IS NOW (`dicke_support` on the translated loop): for all `1 ≤ k ≤ n`, the translated
    `dicke_state` loop, run with fuel `2^n`, ends without exhausting the fuel, and the indices it collects are EXACTLY the integers
    below `2^n` of Hamming weight `k`, each once, in increasing order; `counter` is their number (≥ 1). -/
theorem translated_dicke_support (n k : Int) (hk : 1 ≤ k) (hkn : k ≤ n) :
    ∃ idx : List Nat,
      Translated.dicke_state_pre (2 ^ n.toNat) n k = .ok (.inr ((idx.length : Int), idx.map (fun i : Nat => (i : Int)))) ∧
      idx = (List.range (2 ^ n.toNat)).filter (fun w => decide (popcount w = k.toNat)) ∧
      idx.Nodup ∧ idx ≠ [] ∧ (∀ i, i ∈ idx ↔ i < 2 ^ n.toNat ∧ popcount i = k.toNat) := by
  obtain ⟨hstate, hne, -⟩ := dicke_support n k (by omega) (by omega) hkn
  obtain ⟨idx, hm, ht⟩ := (translated_dicke_state_eq n k).2.2 hk hkn
  obtain rfl : _ = idx := congrArg Prod.fst (Except.ok.inj (hstate.symm.trans hm))
  exact ⟨_, ht, rfl, List.nodup_range.filter _, hne,
    fun i => by rw [List.mem_filter, List.mem_range, decide_eq_true_eq]⟩

/-! non-vacuity: the TRANSLATED definitions on concrete arguments -/
example : Translated.dicke_state_pre 16 4 2 = .ok (.inr (6, [3, 5, 6, 9, 10, 12])) := by decide
example : Translated.dicke_state_pre 8 3 3 = .ok (.inr (1, [7])) := by decide
example : Translated.dicke_state_pre 8 3 0 = .ok (.inl 3) := by decide
example : Translated.dicke_state_pre 8 3 4 = .error .ValueError := by decide
example : Translated.dicke_state_pre 8 0 0 = .error .ValueError := by decide
example : Translated.dicke_state_pre 2 4 2 = .error .OutOfFuel := by decide
example : Translated.zero_state_pre 3 = .ok 3 ∧ Translated.zero_state_pre 0 = .error .ValueError := by decide
end OQ.C12
