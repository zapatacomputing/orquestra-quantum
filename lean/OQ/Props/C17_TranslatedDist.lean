/- C17 — PROPERTY THEOREMS (translation ties): the functions of `distributions/_measurement_outcome_distribution.py` behind the
   constructor and `subdistribution`.  The definitions `OQ.Generated.Translated.*` are REGENERATED from /repo's current Python source on
   every run (harness/translate_t4.py → OQ/Generated/TranslatedC17.lean); an edit of a Python function changes its definition and the
   equalities below stop checking at build time, for every input.

   Reading of the translated definitions (harness/translate_t4.py's docstring has the details):
   * a result `Except OQ.Py.Exc4 τ`: `.error c` = the Python call raises an exception of class `c` (runtime = RuntimeError, value =
     ValueError, index = IndexError, key = KeyError, zeroDiv = ZeroDivisionError).  The ties say that the CLASS agrees with the model's
     (`toExc`), and that KeyError / ZeroDivisionError, which the translated code could raise at `d[key]` and `1.0 / norm`, never occur.
   * probabilities are values of an abstract type `ν` with `[OQ.Py.PyNum ν]`; the ties are stated at `ν = Rat`, the type the model
     computes in.  FLOAT ROUNDING IS NOT MODELLED (neither by the model nor by the translation): `1.0 / norm` is the exact quotient.
   * `math.isclose` is the parameter `ext_isclose : ν → ν → Bool` (NO law is assumed about it: every theorem holds for every such
     function; the model's `close` is `fun x => ext_isclose x 1`), `sys.float_info.min` is the parameter `ext_float_min`, instantiated
     with the model's `floatMin` = 2^-1022.
   * dictionaries are insertion-ordered association lists; where a theorem needs the list to be a Python dict it says `keys.Nodup`.
     Callers' keys (`str | tuple | anything else`) are `OQ.Py.PyKey`; `toPyItems` embeds the model's raw items and is onto
     (`toPyItems_surjective`), so "for every `input`" is "for every dictionary with such keys".
   * `warnings.warn(...)` in `__init__` is skipped (it does not change `distribution_dict`); `copy.deepcopy` of a list of tuples is
     the list; in-place normalisation (`d[key] *= …`) is rendered as the new dictionary the function returns (the translator checks
     that the caller does not read the old one afterwards).
   * a METHOD is a function of the attributes it reads: `mod_init` returns the stored `distribution_dict`, `mod_subdistribution` takes
     `self.distribution_dict` and returns (`self.distribution_dict` after the call, the new object's `distribution_dict`). -/
import OQ.Lemmas.C17_TranslatedDist
import OQ.Props.C17
namespace OQ.C17
open OQ.Generated OQ.Py

/-- TRANSLATION TIE: `preprocess_distibution_dict` (the loop over `items()`, the `isinstance` dispatch, `"," in key`, `key.split(",")`,
    `tuple(map(int, …))`, `res_dict[…] = value`, the RuntimeError) regenerated from the current Python source IS the model's
    `preprocess` – for EVERY input dictionary: the same dictionary when Python returns one, ValueError (a `str` key that `int` rejects)
    and RuntimeError (a key that is neither `str` nor `tuple`) exactly where the model has them, at the first offending key.
    Domain: all inputs (str keys: ASCII without whitespace / underscores – the documented domain of `OQ.Py.intOfStr`). -/
theorem translated_preprocess_distibution_dict_eq (input : List (RawKey × Rat)) :
    Translated.preprocess_distibution_dict (toPyItems input) = liftE (preprocess input []) := by
  unfold Translated.preprocess_distibution_dict
  simp only [dictItems]
  rw [foldlE_preprocess _ _ input []]
  · cases preprocess input [] <;> rfl
  · intro st k v
    cases k with
    | str s =>
      simp only [toPyKey, mapE_intOfStr_key]
      cases preprocessKey (.str s) with
      | error e => rfl
      | ok k' => simp [liftE, dictSet_eq_set]
    | tup t => simp [toPyKey, preprocessKey, dictSet_eq_set]
    | other => simp [toPyKey, preprocessKey, toExc]

/-- TRANSLATION TIE: `_is_non_negative` is the first conjunct of the model's `isDistribution` – every dictionary. -/
theorem translated_is_non_negative_eq (d : Dict Key) :
    Translated.is_non_negative d = d.all (fun p => decide (0 ≤ p.2)) := by
  unfold Translated.is_non_negative
  simp [dictValues, List.all_map, Function.comp_def]

/-- TRANSLATION TIE: `_is_key_length_fixed` – every dictionary: IndexError on the empty one (`list(d.keys())[0]`), otherwise the
    second conjunct of `isDistribution` (all keys as long as the first). -/
theorem translated_is_key_length_fixed_eq (d : Dict Key) :
    Translated.is_key_length_fixed d = match d with
      | [] => .error .index
      | (k0, _) :: _ => .ok (d.all (fun p => p.1.length == k0.length)) := by
  unfold Translated.is_key_length_fixed
  cases d with
  | nil => rfl
  | cons p rest =>
    obtain ⟨k0, v0⟩ := p
    simp only [dictKeys, List.map_cons, indexE_zero_cons, bind_ok]
    have e : ∀ (a b : Nat), (((a : Nat) : Int) == ((b : Nat) : Int)) = (a == b) := by
      intro a b; rw [Bool.eq_iff_iff]; simp
    simp [List.all_map, Function.comp_def, e]

/-- TRANSLATION TIE: `_are_keys_non_negative_integer_tuples` is the third conjunct of `isDistribution` – every dictionary whose keys
    are tuples of Python ints (`isinstance(sub, (int, np.integer))` is then true by typing). -/
theorem translated_are_keys_non_negative_integer_tuples_eq (d : Dict Key) :
    Translated.are_keys_non_negative_integer_tuples d = d.all (fun p => p.1.all (fun e => decide (0 ≤ e))) := by
  unfold Translated.are_keys_non_negative_integer_tuples
  simp [dictKeys, List.all_map, Function.comp_def]

/-- TRANSLATION TIE: `is_measurement_outcome_distribution` (the short-circuit chain `not d == {} and … and … and …`) IS the model's
    `isDistribution` – every dictionary; in particular the IndexError of `_is_key_length_fixed` is never reached (the emptiness test
    comes first). -/
theorem translated_is_measurement_outcome_distribution_eq (d : Dict Key) :
    Translated.is_measurement_outcome_distribution d = .ok (isDistribution d) := by
  unfold Translated.is_measurement_outcome_distribution
  rw [translated_is_non_negative_eq, translated_is_key_length_fixed_eq, translated_are_keys_non_negative_integer_tuples_eq]
  cases d with
  | nil => rfl
  | cons p rest =>
    obtain ⟨k0, v0⟩ := p
    simp only [List.isEmpty_cons, Bool.not_false, if_true, bind_ok, isDistribution]
    cases ((k0, v0) :: rest : Dict Key).all fun p => decide (0 ≤ p.2) <;> rfl

/-- TRANSLATION TIE: `is_normalized` is `math.isclose(sum(d.values()), 1)` – every dictionary, every `isclose`; the model's
    `close pre.total` is this with `close = fun x => ext_isclose x 1`. -/
theorem translated_is_normalized_eq (ext : Rat → Rat → Bool) (d : Dict Key) :
    Translated.is_normalized ext d = ext d.total 1 := by
  rw [Translated.is_normalized, sumNum_dictValues]
  rfl

/-- TRANSLATION TIE: `normalize_measurement_outcome_distribution` (both ValueErrors, the `norm == 1` shortcut, the in-place loop
    `d[key] *= 1.0 / norm`) IS the model's `normalizeDict` – every Python dict (distinct keys), with `sys.float_info.min` = 2^-1022.
    In particular `d[key]` never raises KeyError and `1.0 / norm` never ZeroDivisionError. -/
theorem translated_normalize_measurement_outcome_distribution_eq (d : Dict Key) (hn : d.keys.Nodup) :
    Translated.normalize_measurement_outcome_distribution floatMin d = liftE (normalizeDict d) := by
  unfold Translated.normalize_measurement_outcome_distribution normalizeDict
  simp only [sumNum_dictValues, rat_beq, rat_lt, Int.cast_zero, Int.cast_one, Bool.and_eq_true, decide_eq_true_eq, apply_ite liftE]
  -- the same three tests on both sides; only the last branch computes
  refine ite_congr rfl (fun _ => rfl) fun h0 => ite_congr rfl (fun _ => rfl) fun _ => ite_congr rfl (fun _ => rfl) fun _ => ?_
  have := foldlE_scale (1 / d.total) d [] (by simpa [dictKeys, Dict.keys] using hn)
  rw [List.nil_append] at this
  simp only [divE_rat _ _ h0, bind_ok, rat_mul, this]
  rfl

/-- TRANSLATION TIE: `change_tuple_dict_keys_to_comma_separated_integers` (the dict comprehension with `",".join(map(str, key))`) on
    a dictionary with tuple keys IS the model's `saveDict` – every such dictionary (keys that collide as text overwrite, as in the
    model).  Not covered: dictionaries that also have `str` keys (passed through unchanged by the code; the model has none). -/
theorem translated_change_tuple_dict_keys_eq (d : Dict Key) :
    Translated.change_tuple_dict_keys_to_comma_separated_integers (dictTupKeys d) = dictStrKeys (saveDict d) := by
  unfold Translated.change_tuple_dict_keys_to_comma_separated_integers saveDict dictComp dictStrKeys dictTupKeys dictItems
  simp only [join_strOfInt]
  exact foldl_commas d []

/-- TRANSLATION TIE: `MeasurementOutcomeDistribution.__init__` as a function (input dictionary, `normalize`) ↦ stored
    `distribution_dict` IS the model's `construct` – EVERY input and flag, every `isclose`: the same stored dictionary, and
    RuntimeError / ValueError exactly where the model has them.  (`warnings.warn` does not change the stored dictionary.) -/
theorem translated_init_eq (ext : Rat → Rat → Bool) (nz : Bool) (input : List (RawKey × Rat)) :
    Translated.mod_init ext floatMin (toPyItems input) nz = liftE (construct (fun x => ext x 1) nz input) := by
  unfold Translated.mod_init construct
  rw [translated_preprocess_distibution_dict_eq]
  cases hp : preprocess input [] with
  | error e => rfl
  | ok pre =>
    have e : liftE (Except.ok pre : Except Err (Dict Key)) = .ok pre := rfl
    simp only [e, bind_ok, translated_is_measurement_outcome_distribution_eq, translated_is_normalized_eq, constructPre,
      translated_normalize_measurement_outcome_distribution_eq pre (preprocess_nodup input [] pre hp List.nodup_nil),
      Except.bind_ok', apply_ite liftE]
    rfl

/-- TRANSLATION TIE: `MeasurementOutcomeDistribution.subdistribution` (the `max(active_qubits) + 1 > len(first key)` guard, the
    duplicate guard via `set`, the accumulation loop with `new_counts.get(new_key, 0)`, Python tuple indexing incl. negative indices,
    the constructor call on the result with `normalize = is_normalized(self…)`) IS the model's `subdistribution` – every receiver that
    is a Python dict (distinct keys; NOT only valid distributions) and EVERY list of qubits: the receiver unchanged and the model's new
    dictionary, ValueError / IndexError / RuntimeError exactly where the model has them (`subResult`); `self.distribution_dict[key]`
    never raises KeyError. -/
theorem translated_subdistribution_eq (ext : Rat → Rat → Bool) (self : Dict Key) (qs : List Int) (hn : self.keys.Nodup) :
    Translated.mod_subdistribution ext floatMin self qs = subResult (subdistribution (fun x => ext x 1) self qs) := by
  unfold Translated.mod_subdistribution subdistribution
  rw [maxListE_eq]
  cases qs with
  | nil => rfl
  | cons q0 qs' =>
    cases self with
    | nil => rfl
    | cons p0 rest =>
      obtain ⟨k0, v0⟩ := p0
      have hloop := foldlE_accumulate ((k0, v0) :: rest) (q0 :: qs') ((k0, v0) :: rest) [] fun p hp =>
        dictGetE_of_mem _ (by simpa [dictKeys, Dict.keys] using hn) p.1 p.2 hp
      simp only [dictKeys, List.map_cons] at hloop
      -- both sides test the same two guards; `subResult` goes inside them
      simp only [bind_ok, dictKeys, List.map_cons, indexE_zero_cons, lenSet_ne_iff, decide_eq_true_eq, mapE_index, dictSet_eq_set,
        dictGetD_eq_getD, rat_add, Int.cast_zero, hloop, apply_ite subResult]
      refine if_congr Iff.rfl rfl (if_congr Iff.rfl rfl ?_)
      cases accumulate (projectKey (q0 :: qs')) ((k0, v0) :: rest) [] with
      | none => rfl
      | some nc =>
        have e : dictTupKeys nc = toPyItems (nc.map (fun p => (RawKey.tup p.1, p.2))) := by
          simp [dictTupKeys, toPyItems, toPyKey]
        simp only [ofOpt_some, bind_ok, translated_is_normalized_eq, subResult, e, translated_init_eq]
        cases construct (fun x => ext x 1) (ext (Dict.total ((k0, v0) :: rest)) 1)
          (nc.map (fun p => (RawKey.tup p.1, p.2))) <;> rfl

/-- `normalised_sum_one` ON THE TRANSLATED CONSTRUCTOR: whatever dictionary the regenerated `__init__` stores with normalisation on
    has values summing to exactly 1, or its sum passed the library's own `isclose(·, 1)` and was kept. -/
theorem translated_normalised_sum_one (ext : Rat → Rat → Bool) (input : List (RawKey × Rat)) (d : Dict Key)
    (h : Translated.mod_init ext floatMin (toPyItems input) true = .ok d) : d.total = 1 ∨ ext d.total 1 = true := by
  rw [translated_init_eq] at h
  exact normalised_sum_one (fun x => ext x 1) input d (liftE_ok h)

/-- `proportions` ON THE TRANSLATED CONSTRUCTOR: the stored dictionary is what the regenerated `preprocess_distibution_dict` returns,
    same keys in the same order, every value times one positive factor (1 or 1 / total). -/
theorem translated_proportions (ext : Rat → Rat → Bool) (input : List (RawKey × Rat)) (d : Dict Key)
    (h : Translated.mod_init ext floatMin (toPyItems input) true = .ok d) :
    ∃ (pre : Dict Key) (c : Rat), Translated.preprocess_distibution_dict (toPyItems input) = .ok pre ∧ 0 < c ∧ (c = 1 ∨ c = 1 / pre.total) ∧
      d = pre.map (fun p => (p.1, p.2 * c)) := by
  rw [translated_init_eq] at h
  obtain ⟨pre, c, hp, hc, hc', hd⟩ := proportions (fun x => ext x 1) input d (liftE_ok h)
  exact ⟨pre, c, by rw [translated_preprocess_distibution_dict_eq, hp]; rfl, hc, hc', hd⟩

/-- `rejects_empty` ON THE TRANSLATED CONSTRUCTOR: the empty dictionary is refused with RuntimeError. -/
theorem translated_rejects_empty (ext : Rat → Rat → Bool) (nz : Bool) :
    Translated.mod_init ext floatMin ([] : OQ.Py.Dict PyKey Rat) nz = .error .runtime := by
  have := translated_init_eq ext nz []
  rw [rejects_empty] at this
  exact this

/-- `rejects_negative` ON THE TRANSLATED CONSTRUCTOR: a negative value among what the regenerated `preprocess_distibution_dict` returns → RuntimeError. -/
theorem translated_rejects_negative (ext : Rat → Rat → Bool) (nz : Bool) (input : List (RawKey × Rat)) (pre : Dict Key)
    (hp : Translated.preprocess_distibution_dict (toPyItems input) = .ok pre) (hneg : ∃ p ∈ pre, p.2 < 0) :
    Translated.mod_init ext floatMin (toPyItems input) nz = .error .runtime := by
  rw [translated_preprocess_distibution_dict_eq] at hp
  rw [translated_init_eq, rejects_negative _ nz input pre (liftE_ok hp) hneg]
  rfl

/-- `rejects_unequal_length` ON THE TRANSLATED CONSTRUCTOR: keys of unequal length → RuntimeError. -/
theorem translated_rejects_unequal_length (ext : Rat → Rat → Bool) (nz : Bool) (input : List (RawKey × Rat)) (pre : Dict Key)
    (hp : Translated.preprocess_distibution_dict (toPyItems input) = .ok pre)
    (hlen : ∃ p ∈ pre, ∃ p' ∈ pre, p.1.length ≠ p'.1.length) :
    Translated.mod_init ext floatMin (toPyItems input) nz = .error .runtime := by
  rw [translated_preprocess_distibution_dict_eq] at hp
  rw [translated_init_eq, rejects_unequal_length _ nz input pre (liftE_ok hp) hlen]
  rfl

/-- `marginal` ON THE TRANSLATED METHOD: for every valid receiver of width `w`, every non-empty list of distinct in-range qubits in
    any order and every `isclose`, the regenerated `subdistribution` returns the receiver unchanged and exactly the grouped sums over
    the projection. -/
theorem translated_marginal (ext : Rat → Rat → Bool) (self : Dict Key) (w : Nat) (qs : List Int)
    (hv : Valid self w) (hne : qs ≠ []) (hr : ∀ q ∈ qs, 0 ≤ q ∧ q < w) (hnd : qs.Nodup) :
    Translated.mod_subdistribution ext floatMin self qs = .ok (self, groupSum (proj qs) self) := by
  rw [translated_subdistribution_eq ext self qs hv.nodup, (marginal (fun x => ext x 1) self w qs hv hne hr hnd).1]
  rfl

/-- `marginal_sum` ON THE TRANSLATED METHOD: each outcome of the returned dictionary carries the sum of the probabilities of all
    source outcomes projecting to it (0 for an outcome that is not a projection). -/
theorem translated_marginal_sum (ext : Rat → Rat → Bool) (self : Dict Key) (w : Nat) (qs : List Int)
    (hv : Valid self w) (hne : qs ≠ []) (hr : ∀ q ∈ qs, 0 ≤ q ∧ q < w) (hnd : qs.Nodup) :
    ∃ r : Dict Key, Translated.mod_subdistribution ext floatMin self qs = .ok (self, r) ∧
      ∀ x : Key, Dict.getD r x = ((self.filter (fun p => decide (proj qs p.1 = x))).map Prod.snd).sum :=
  ⟨_, translated_marginal ext self w qs hv hne hr hnd, fun x => marginal_sum (proj qs) self x⟩

/-- `marginal_order` ON THE TRANSLATED METHOD: every outcome of the returned dictionary is the projection of a source outcome, with the
    qubits in the listed order (entry `i` is the source entry at the `i`-th listed qubit), each projected outcome once. -/
theorem translated_marginal_order (ext : Rat → Rat → Bool) (self : Dict Key) (w : Nat) (qs : List Int)
    (hv : Valid self w) (hne : qs ≠ []) (hr : ∀ q ∈ qs, 0 ≤ q ∧ q < w) (hnd : qs.Nodup) :
    ∃ r : Dict Key, Translated.mod_subdistribution ext floatMin self qs = .ok (self, r) ∧ r.keys.Nodup ∧
      ∀ k ∈ r.keys, ∃ key ∈ self.keys, k.length = qs.length ∧
        ∀ i (h : i < qs.length), k.getD i 0 = key.getD (qs[i]).toNat 0 := by
  refine ⟨_, translated_marginal ext self w qs hv hne hr hnd, (marginal_support (proj qs) self).1, fun k hk => ?_⟩
  obtain ⟨key, hkey, rfl⟩ := ((marginal_support (proj qs) self).2 k).mp hk
  exact ⟨key, hkey, (marginal_order qs key).1, (marginal_order qs key).2⟩

/-- `source_intact` ON THE TRANSLATED METHOD: whenever the regenerated `subdistribution` returns, `self.distribution_dict` after the
    call is the one before it – every receiver that is a Python dict, every qubit list, every `isclose`.  (When it raises, the
    translated code has not assigned to `self` either: the translator renders every `self.a = …` / in-place change as a rebinding
    it would have to carry, and there is none.) -/
theorem translated_source_intact (ext : Rat → Rat → Bool) (self : Dict Key) (qs : List Int) (hn : self.keys.Nodup)
    (s' r : Dict Key) (h : Translated.mod_subdistribution ext floatMin self qs = .ok (s', r)) : s' = self :=
  (subResult_ok (translated_subdistribution_eq ext self qs hn ▸ h)).trans (source_intact _ self qs)

/-- `subdistribution_rejects` ON THE TRANSLATED METHOD: an empty qubit list, a repeated qubit and a too large qubit → ValueError. -/
theorem translated_subdistribution_rejects (ext : Rat → Rat → Bool) (self : Dict Key) (w : Nat) (hv : Valid self w)
    (qs : List Int) (hbad : qs = [] ∨ ¬ qs.Nodup ∨ ∃ q ∈ qs, (w : Int) ≤ q) :
    Translated.mod_subdistribution ext floatMin self qs = .error .value := by
  rw [translated_subdistribution_eq ext self qs hv.nodup]
  unfold subResult
  rw [subdistribution_rejects (fun x => ext x 1) self w hv qs hbad]
  rfl

/-! ## non-vacuity: the TRANSLATED definitions on concrete inputs (`isclose` = the prelude's exact `math.isclose`) -/

-- mixed str / tuple keys with a collision ("01" and (0,1)), a comma key, un-normalised weights
example : Translated.mod_init ratIsClose floatMin
    [(.str ['0', '1'], 1), (.tup [0, 1], 3), (.str ['1', ',', '1'], 4), (.tup [1, 0], 1)] true =
    .ok [([0, 1], 3/8), ([1, 1], 1/2), ([1, 0], 1/8)] := by decide +kernel
example : Translated.mod_init ratIsClose floatMin [(.str ['0'], -1), (.str ['1'], 2)] true = .error .runtime := by decide +kernel
example : Translated.mod_init ratIsClose floatMin [(.str ['0'], 1), (.str ['1', '1'], 2)] true = .error .runtime := by decide +kernel
example : Translated.mod_init ratIsClose floatMin [(.str ['0'], (0 : Rat))] true = .error .value := by decide +kernel
example : Translated.mod_init ratIsClose floatMin [(.str ['0', 'a'], (1 : Rat))] true = .error .value := by decide +kernel
example : Translated.mod_init ratIsClose floatMin [(.other, (1 : Rat))] true = .error .runtime := by decide +kernel
example : Translated.mod_init ratIsClose floatMin [(.tup [0], 1/4), (.tup [1], 1/4)] false = .ok [([0], 1/4), ([1], 1/4)] := by
  decide +kernel
-- marginal onto the reordered proper subset [2, 0]; negative index; the guards
example : Translated.mod_subdistribution ratIsClose floatMin [([0, 1, 1], 1/4), ([1, 0, 1], 1/2), ([1, 1, 1], 1/4)] [2, 0] =
    .ok ([([0, 1, 1], 1/4), ([1, 0, 1], 1/2), ([1, 1, 1], 1/4)], [([1, 0], 1/4), ([1, 1], 3/4)]) := by decide +kernel
example : Translated.mod_subdistribution ratIsClose floatMin [([0, 1], 1/2), ([1, 0], 1/2)] [-1] =
    .ok ([([0, 1], 1/2), ([1, 0], 1/2)], [([1], 1/2), ([0], 1/2)]) := by decide +kernel
example : Translated.mod_subdistribution ratIsClose floatMin [([0, 1], 1/2), ([1, 0], 1/2)] [1, 1] = .error .value := by decide +kernel
example : Translated.mod_subdistribution ratIsClose floatMin [([0, 1], 1/2), ([1, 0], 1/2)] [2] = .error .value := by decide +kernel
example : Translated.mod_subdistribution ratIsClose floatMin [([0, 1], 1/2), ([1, 0], 1/2)] [-3] = .error .index := by decide +kernel
example : Translated.mod_subdistribution ratIsClose floatMin [([0, 1], (1/2 : Rat))] [] = .error .value := by decide +kernel
example : Translated.mod_subdistribution ratIsClose floatMin ([] : Dict Key) [0] = .error .index := by decide +kernel
example : Translated.normalize_measurement_outcome_distribution floatMin [([0], (1 : Rat)), ([1], 3)] =
    .ok [([0], 1/4), ([1], 3/4)] := by decide +kernel
example : Translated.change_tuple_dict_keys_to_comma_separated_integers (dictTupKeys [([12, 4], (1/2 : Rat)), ([3, 5], 1/2)]) =
    [(.str ['1', '2', ',', '4'], 1/2), (.str ['3', ',', '5'], 1/2)] := by decide +kernel
example : Translated.is_key_length_fixed ([] : Dict Key) = .error .index := by decide +kernel
/-- the hypotheses of `translated_marginal` are met by this receiver -/
example : Valid [([0, 1, 1], 1/4), ([1, 0, 1], 1/2), ([1, 1, 1], 1/4)] 3 := by
  refine ⟨by decide, by decide, by decide, by decide +kernel, by decide⟩

end OQ.C17
