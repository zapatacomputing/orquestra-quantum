/- C19 — PROPERTY THEOREMS (translation ties): the sort keys of `circuits/symbolic/_sorting.py`.
   The definitions `OQ.Generated.Translated.*` are REGENERATED from /repo's current Python source on every run
   (harness/translate_t6.py → OQ/Generated/TranslatedC19.lean); an edit of a Python function changes the definition and these
   equalities stop checking at build time.
   A key element is a Python `int | str` (`OQ.Py.IntOrStr`); Python's comparison of two keys (lists) is `OQ.Py.cmpKeys`
   (`none` = TypeError), compared with CPython by harness/prelude_check.py like the rest of the prelude.
   DOMAIN of the rendering (see OQ/Exec/Py.lean): names whose digit characters are ASCII – on other digits CPython's `\d`,
   `str.isdigit` and `int` disagree with each other (a name containing a group such as "²" makes `natural_key` raise). -/
import OQ.Generated.TranslatedC19
import OQ.Props.C19
import OQ.Lemmas.C19_TranslatedT6
namespace OQ.C19
open OQ.Generated OQ.Py

/-- TRANSLATION TIE: `_convert_string_to_int_if_possible(text)` (`int(text) if text.isdigit() else text`) regenerated from the
    current source is the model's `convGroup`, for every string. -/
theorem translated_convert_eq (g : List Char) :
    Translated.convert_string_to_int_if_possible g = (convGroup g).toPy := by
  unfold Translated.convert_string_to_int_if_possible convGroup isdigit
  rw [funext isAsciiDigit_eq]
  by_cases h : (!g.isEmpty && g.all isDig) = true
  · rw [if_pos h, if_pos h, intOfDigits_eq g (List.all_eq_true.mp ((Bool.and_eq_true _ _).mp h).2)]; rfl
  · rw [if_neg h, if_neg h]; rfl

/-- TRANSLATION TIE: `natural_key(symbol)` regenerated from the current source (`re.split(r"(\d+)", symbol.name)`, each group
    converted) is the model's `naturalKey` of the symbol's name – for every symbol object (`attr_name` = its `.name`) and name. -/
theorem translated_natural_key_eq {α : Type} (attr_name : α → List Char) (symbol : α) :
    Translated.natural_key attr_name symbol = (naturalKey (attr_name symbol)).map KeyItem.toPy := by
  unfold Translated.natural_key naturalKey splitGroups reSplitDigits
  rw [reSplitDigitsGo_eq, List.map_map]
  apply List.map_congr_left
  intro g _
  exact translated_convert_eq g

/-- TRANSLATION TIE: `natural_key_revlex(symbol)` regenerated from the current source is the model's `naturalKeyRevlex`. -/
theorem translated_natural_key_revlex_eq {α : Type} (attr_name : α → List Char) (symbol : α) :
    Translated.natural_key_revlex attr_name symbol = (naturalKeyRevlex (attr_name symbol)).map KeyItem.toPy := by
  unfold Translated.natural_key_revlex naturalKeyRevlex
  rw [translated_natural_key_eq, List.map_reverse]

/-- END-TO-END ON THE CODE AS IT IS NOW (sentence 3 of the property): the keys `natural_key` computes for two symbols whose
    names differ only in one embedded maximal digit group compare – by Python's own list comparison – exactly as the integers
    the groups denote (`beta_2` before `beta_10`), any prefix and suffix, leading zeros allowed. -/
theorem translated_naturalKey_numeric {α : Type} (attr_name : α → List Char) (s₁ s₂ : α) (pfx sfx d₁ d₂ : List Char)
    (e₁ : attr_name s₁ = pfx ++ d₁ ++ sfx) (e₂ : attr_name s₂ = pfx ++ d₂ ++ sfx)
    (hp : NoTrailingDigit pfx) (hs : NoLeadingDigit sfx)
    (h₁ : d₁ ≠ []) (h₁' : ∀ c ∈ d₁, isDig c = true) (h₂ : d₂ ≠ []) (h₂' : ∀ c ∈ d₂, isDig c = true) :
    cmpKeys (Translated.natural_key attr_name s₁) (Translated.natural_key attr_name s₂) =
      some (compare (valDigits d₁) (valDigits d₂)) := by
  rw [translated_natural_key_eq, translated_natural_key_eq, cmpKeys_toPy, e₁, e₂]
  exact naturalKey_numeric pfx sfx d₁ d₂ hp hs h₁ h₁' h₂ h₂'

/-- END-TO-END: the translated keys never make Python's list comparison raise (no `int` is ever compared with a `str`), for
    ALL names – plain and reversed keys. -/
theorem translated_naturalKey_comparable {α : Type} (attr_name : α → List Char) (a b : α) :
    cmpKeys (Translated.natural_key attr_name a) (Translated.natural_key attr_name b) ≠ none ∧
    cmpKeys (Translated.natural_key_revlex attr_name a) (Translated.natural_key_revlex attr_name b) ≠ none := by
  rw [translated_natural_key_eq, translated_natural_key_eq, translated_natural_key_revlex_eq,
    translated_natural_key_revlex_eq, cmpKeys_toPy, cmpKeys_toPy]
  exact naturalKey_comparable _ _

/-- END-TO-END (`revlex`): for names `stem ++ number` the keys `natural_key_revlex` computes order by the number first and by
    the stem only among equal numbers (beta_1 < theta_1 < beta_2 < theta_2) – under Python's own list comparison. -/
theorem translated_naturalKeyRevlex_order {α : Type} (attr_name : α → List Char) (s₁ s₂ : α) (a b d₁ d₂ : List Char)
    (e₁ : attr_name s₁ = a ++ d₁) (e₂ : attr_name s₂ = b ++ d₂)
    (ha : ∀ c ∈ a, isDig c = false) (hb : ∀ c ∈ b, isDig c = false)
    (h₁ : d₁ ≠ []) (h₁' : ∀ c ∈ d₁, isDig c = true) (h₂ : d₂ ≠ []) (h₂' : ∀ c ∈ d₂, isDig c = true) :
    cmpKeys (Translated.natural_key_revlex attr_name s₁) (Translated.natural_key_revlex attr_name s₂) =
      some (if valDigits d₁ = valDigits d₂ then cmpChars a b else compare (valDigits d₁) (valDigits d₂)) := by
  rw [translated_natural_key_revlex_eq, translated_natural_key_revlex_eq, cmpKeys_toPy, e₁, e₂]
  exact naturalKeyRevlex_order a b d₁ d₂ ha hb h₁ h₁' h₂ h₂'

/-- SPECIFICATION PROVED ABOUT THE TRANSLATED CODE (there is no hand-written model of the key factory):
    `natural_key_fixed_names_order(names_order)(symbol)` regenerated from the current source, for a symbol named `<stem>_<digits>`
    (`stem` without underscore, a non-empty ASCII digit string) and a duplicate-free `names_order` holding `stem` at position `i`,
    returns the key `(int(digits), i)`: the index is compared first, the position of the stem in `names_order` second. -/
theorem translated_fixed_names_order_eq {α : Type} (attr_name : α → List Char) (names : List (List Char)) (symbol : α)
    (stem d : List Char) (i : Nat) (hname : attr_name symbol = stem ++ '_' :: d) (hs : '_' ∉ stem)
    (hne : d ≠ []) (hd : ∀ c ∈ d, isDig c = true) (hnd : names.Nodup) (hi : names[i]? = some stem) :
    Translated.natural_key_fixed_names_order attr_name names symbol = .ok [((valDigits d : Nat) : Int), (i : Int)] := by
  unfold Translated.natural_key_fixed_names_order
  simp only [hname, splitChar_stem_digits stem d hs hd, intParse_digits d hne hd]
  have := dictGet_weights names hnd stem i hi
  unfold weights at this
  simp only [this]

/-- … a name that does not consist of exactly two parts around ONE underscore makes the key raise ValueError (tuple unpacking of
    `symbol.name.split("_")`), whatever `names_order` is. -/
theorem translated_fixed_names_order_shape {α : Type} (attr_name : α → List Char) (names : List (List Char)) (symbol : α)
    (h : (attr_name symbol).count '_' ≠ 1) :
    Translated.natural_key_fixed_names_order attr_name names symbol = .error .ValueError := by
  have hl : (splitChar (attr_name symbol) '_').length ≠ 2 := by
    unfold splitChar; rw [splitCharGo_length]; omega
  unfold Translated.natural_key_fixed_names_order
  split
  · rename_i name index heq; rw [heq] at hl; simp at hl
  · rfl

/-- … and a well-formed name whose stem is not listed in `names_order` raises KeyError (after `int(index)` succeeded). -/
theorem translated_fixed_names_order_unknown {α : Type} (attr_name : α → List Char) (names : List (List Char)) (symbol : α)
    (stem d : List Char) (hname : attr_name symbol = stem ++ '_' :: d) (hs : '_' ∉ stem)
    (hne : d ≠ []) (hd : ∀ c ∈ d, isDig c = true) (hmiss : stem ∉ names) :
    Translated.natural_key_fixed_names_order attr_name names symbol = .error .KeyError := by
  unfold Translated.natural_key_fixed_names_order
  simp only [hname, splitChar_stem_digits stem d hs hd, intParse_digits d hne hd]
  have := dictGet_weights_missing names stem hmiss
  unfold weights at this
  simp only [this]

example : Translated.natural_key_fixed_names_order id ["gamma".toList, "beta".toList] "beta_12".toList = .ok [12, 1] := by
  decide +kernel
example : Translated.natural_key_fixed_names_order id ["gamma".toList, "beta".toList] "beta_1_2".toList
    = .error .ValueError := by decide +kernel
example : Translated.natural_key_fixed_names_order id ["gamma".toList, "beta".toList] "beta_x".toList
    = .error .ValueError := by decide +kernel
example : Translated.natural_key_fixed_names_order id ["gamma".toList, "beta".toList] "alpha_3".toList
    = .error .KeyError := by decide +kernel

/-! non-vacuity: the TRANSLATED definitions on concrete names (a symbol is its name here) -/
example : Translated.natural_key id "beta_10".toList = [.str "beta_".toList, .int 10, .str []] := by decide +kernel
example : Translated.natural_key_revlex id "x12y".toList = [.str "y".toList, .int 12, .str "x".toList] := by decide +kernel
example : cmpKeys (Translated.natural_key id "beta_2".toList) (Translated.natural_key id "beta_10".toList) = some .lt := by
  decide +kernel
example : cmpKeys (Translated.natural_key_revlex id "theta_1".toList) (Translated.natural_key_revlex id "beta_2".toList)
    = some .lt := by decide +kernel
example : Translated.convert_string_to_int_if_possible "007".toList = .int 7 := by decide +kernel
example : Translated.convert_string_to_int_if_possible [] = .str [] := by decide +kernel

end OQ.C19
