/- C04 — PROPERTY THEOREMS (translation ties): `utils.bitstring_to_tuple`, `utils.tuple_to_bitstring`, `measurements.convert_bitstring_to_int`.
   The definitions `OQ.Generated.Translated.*` are REGENERATED from /repo's current Python source on every run
   (harness/translate.py → OQ/Generated/TranslatedC04.lean); an edit of the Python function changes the definition and
   these equalities stop checking at build time. -/
import OQ.Generated.TranslatedC04
import OQ.Lemmas.Translated
import OQ.Model.C04
namespace OQ.C04
open OQ.Generated OQ.Py OQ.Tr

/-- TRANSLATION TIE: `bitstring_to_tuple` regenerated from the current Python source reverses the string (model
    `bitstringToTuple`), digit by digit. -/
theorem translated_bitstring_to_tuple_eq (s : List Nat) (h : ∀ d ∈ s, d < 10) :
    Translated.bitstring_to_tuple (s.map digitChar) = (OQ.C04.bitstringToTuple s).map Int.ofNat := by
  unfold Translated.bitstring_to_tuple OQ.C04.bitstringToTuple
  simp only [← List.map_reverse]
  exact map_charDigit_digitChar _ (fun d hd => h d (by simpa using hd))

/-- TRANSLATION TIE: `tuple_to_bitstring` regenerated from the current Python source keeps the order (model
    `tupleToBitstring`) — for entries that print as ONE character (< 10; multi-digit entries are the known text-format
    limitation F7). -/
theorem translated_tuple_to_bitstring_eq (t : List Nat) (h : ∀ d ∈ t, d < 10) :
    Translated.tuple_to_bitstring (t.map Int.ofNat) = (OQ.C04.tupleToBitstring t).map digitChar := by
  unfold Translated.tuple_to_bitstring OQ.C04.tupleToBitstring
  rw [map_strOfInt_digits t h, join_singletons]

/-- TRANSLATION TIE: `convert_bitstring_to_int` regenerated from the current Python source reads position 0 as the LEAST
    significant bit (little endian): it is the MSB-first value of the REVERSED tuple. -/
theorem translated_convert_bitstring_to_int_eq (b : List Nat) (h : ∀ d ∈ b, d < 10) :
    Translated.convert_bitstring_to_int (b.map Int.ofNat) = ((OQ.Lift.bitsToIndex b.reverse : Nat) : Int) := by
  unfold Translated.convert_bitstring_to_int
  rw [← List.map_reverse]
  have hr : ∀ d ∈ b.reverse, d < 10 := fun d hd => h d (List.mem_reverse.mp hd)
  rw [map_strOfInt_digits _ hr, join_singletons, intBase2_digits _ hr]

/-- ON THE CODE AS IT IS NOW: the two conversions are NOT inverse to each other – `bitstring_to_tuple(tuple_to_bitstring(t))` is
    `t` REVERSED.  Count strings (written by `tuple_to_bitstring`: position q = qubit q) and basis-index strings (read by
    `bitstring_to_tuple`: qubit 0 last) are different conventions; the library never feeds one into the other, and C04's
    `counts_key_position` / `tuple_of_index` are the statements for each. -/
theorem translated_tuple_bitstring_roundtrip (t : List Nat) (h : ∀ d ∈ t, d < 10) :
    Translated.bitstring_to_tuple (Translated.tuple_to_bitstring (t.map Int.ofNat)) = (t.reverse).map Int.ofNat := by
  rw [translated_tuple_to_bitstring_eq t h]
  unfold OQ.C04.tupleToBitstring
  rw [translated_bitstring_to_tuple_eq t h]
  rfl

/-! non-vacuity -/
example : Translated.bitstring_to_tuple ['1', '1', '0'] = [0, 1, 1] := by decide
example : Translated.tuple_to_bitstring [0, 1, 1] = ['0', '1', '1'] := by decide
example : Translated.convert_bitstring_to_int [1, 1, 0] = 3 := by decide
end OQ.C04
