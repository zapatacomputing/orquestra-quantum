/- C13 — PROPERTY THEOREMS (translation ties): the iterator / generator / count-dictionary functions of
   `circuits/_itertools.py`: `_iterate_in_batches`, `split_into_batches`, `_combine_measurements`, `combine_measurement_counts`,
   `combine_bitstrings`.  The definitions `OQ.Generated.Translated.*` are REGENERATED from /repo's current Python source on every run
   (harness/translate_t2.py → OQ/Generated/TranslatedC13.lean); an edit of a Python function changes its definition and the equalities
   below stop checking at build time.

   Reading of the translated definitions (harness/translate_t2.py's docstring has the details):
   * `none` = the Python call raises (`ValueError` of the guards, `ValueError` of `islice` with a negative count, `TypeError` of `reduce`
     on an empty group) — or the declared fuel of a `while` loop ran out; the ties `… = some …` below show that the latter never happens.
   * LAZINESS IS NOT MODELLED: a generator (function or expression) is the list of everything it yields when run to its end; an
     exception raised at the first `next()` counts as an exception of the call.
   * circuits / bitstring lists are opaque (`α`), dictionary keys are a type `κ` with `[BEq κ]` (key equality is a parameter); count
     dictionaries are insertion-ordered association lists (`OQ.Py.Dict κ Int`), multiplicities and counts are Python ints (`Int`).
   The model (`OQ/Model/C13.lean`) has natural-number multiplicities and counts (`Counts = List (String × Nat)`): the ties to it are
   stated through the embeddings `Int.ofNat` / `Counts.toPy`, which cover every non-negative input; what Python does on negative
   multiplicities (it raises) is proved separately (`…_neg`), and the statements about totals (`translated_combine_measurements_total`,
   `translated_combine_totals`) are proved directly on the translated code for ALL int counts (negative ones included) and every key type. -/
import OQ.Lemmas.C13_Iter
import OQ.Props.C13
namespace OQ.C13
open OQ.Generated OQ.Py

/-- TRANSLATION TIE: the generator `_iterate_in_batches(items, batch_size)` (`it = iter(items)`,
    `while chunk := tuple(islice(it, batch_size)): yield chunk`) regenerated from the current Python source yields exactly the model's
    `chunks` – for EVERY list of items and every positive batch size.  In particular the declared fuel `len(items) + 1` suffices (the
    result is `some …`).  Domain: `batch_size > 0`; the other two cases are the next two theorems. -/
theorem translated_iterate_in_batches_eq {α : Type} (items : List α) (k : Int) (hk : 0 < k) :
    Translated.iterate_in_batches items k = some (chunks k.toNat items.length items) := by
  rw [iterate_in_batches_eq_while, whileFuel_batches k hk _ items (le_refl _) _ [] (le_refl _)]
  rfl

/-- `batch_size = 0`: `islice(it, 0)` yields nothing, the first chunk is empty and the loop ends at once – no batch at all,
    whatever the items (as CPython does; checked by `translated_check`). -/
theorem translated_iterate_in_batches_zero {α : Type} (items : List α) :
    Translated.iterate_in_batches items 0 = some [] := by
  rw [iterate_in_batches_eq_while]
  rfl

/-- `batch_size < 0`: `islice` raises `ValueError` (at the first `next()` of the generator in Python). -/
theorem translated_iterate_in_batches_neg {α : Type} (items : List α) (k : Int) (hk : k < 0) :
    Translated.iterate_in_batches items k = none := by
  rw [iterate_in_batches_eq_while, whileFuel, batchStep, islice, if_pos hk]
  rfl

/-- TRANSLATION TIE: `split_into_batches` (both guards, the two generators, the `zip`, `max(samples_chunk)` inside the returned generator
    expression) regenerated from the current Python source IS the model's `splitIntoBatches` – for ALL inputs, no hypothesis: `none`
    exactly when Python raises (mismatched lengths, `max_batch_size ≤ 0`), the same list of `(chunk, max)` pairs otherwise
    (`max` of a chunk never sees an empty tuple, so its `ValueError` cannot occur). -/
theorem translated_split_into_batches_eq {α : Type} (cs : List α) (ns : List Int) (mb : Int) :
    Translated.split_into_batches cs ns mb = splitIntoBatches cs ns mb := by
  unfold Translated.split_into_batches splitIntoBatches
  by_cases h1 : cs.length = ns.length
  · by_cases h2 : mb ≤ 0
    · simp [h1, h2]
    · have hpos : 0 < mb := by omega
      have hne : ∀ c ∈ chunks mb.toNat ns.length ns, c ≠ [] := fun c hc h => by
        have := (chunks_bounds mb.toNat (by omega) ns.length ns (le_refl _) c hc).1
        simp [h] at this
      simp only [h1, bne_self_eq_false, Bool.false_eq_true, if_false, h2, decide_false, ne_eq, not_true_eq_false,
        translated_iterate_in_batches_eq _ _ hpos, Option.bind_some, mapOpt_zip_max _ _ hne]
  · have h1' : ((cs.length : Nat) : Int) ≠ ((ns.length : Nat) : Int) := by omega
    simp [h1, h1']

/-- END-TO-END (`batches_reject_iff` on the translated code): the code as it is now raises exactly on mismatched lengths or a
    non-positive maximum. -/
theorem translated_batches_reject_iff {α : Type} (cs : List α) (ns : List Int) (mb : Int) :
    Translated.split_into_batches cs ns mb = none ↔ (cs.length ≠ ns.length ∨ mb ≤ 0) := by
  rw [translated_split_into_batches_eq]; exact batches_reject_iff cs ns mb

/-- END-TO-END (`batches_accept` on the translated code): what an accepted call returns, unpacked – the circuit chunks, and the maxima
    of the sample chunks. -/
theorem translated_batches_accept {α : Type} (cs : List α) (ns : List Int) (mb : Int) (bs : List (List α × Int))
    (h : Translated.split_into_batches cs ns mb = some bs) :
    cs.length = ns.length ∧ 0 < mb ∧ bs.map (fun b => b.1) = chunks mb.toNat cs.length cs ∧
      bs.map (fun b => b.2) = (chunks mb.toNat cs.length ns).map listMax := by
  rw [translated_split_into_batches_eq] at h
  obtain ⟨h1, h2⟩ : cs.length = ns.length ∧ 0 < mb := by
    have := (batches_reject_iff cs ns mb).not.mp (by rw [h]; exact Option.some_ne_none bs)
    omega
  obtain ⟨ha, hl⟩ := batches_accept cs ns mb h1 h2
  rw [ha, ← h1] at h
  cases h
  -- the two chunkings have the same shape, so the `zip` loses nothing
  have hlen : (chunks mb.toNat cs.length cs).length = ((chunks mb.toNat cs.length ns).map listMax).length := by
    simpa [← h1] using congrArg List.length hl
  exact ⟨h1, h2, List.map_fst_zip hlen.le, List.map_snd_zip hlen.ge⟩

/-- END-TO-END (`batches_cover` on the translated code): the batches the code returns cover every circuit exactly once, in order. -/
theorem translated_batches_cover {α : Type} (cs : List α) (ns : List Int) (mb : Int) (bs : List (List α × Int))
    (h : Translated.split_into_batches cs ns mb = some bs) : (bs.map (fun b => b.1)).flatten = cs := by
  obtain ⟨_, h2, h3, _⟩ := translated_batches_accept cs ns mb bs h
  rw [h3]; exact batches_cover cs mb h2

/-- END-TO-END (`batches_size` on the translated code): every returned batch is non-empty and never exceeds `max_batch_size`. -/
theorem translated_batches_size {α : Type} (cs : List α) (ns : List Int) (mb : Int) (bs : List (List α × Int))
    (h : Translated.split_into_batches cs ns mb = some bs) :
    ∀ b ∈ bs, 1 ≤ b.1.length ∧ (b.1.length : Int) ≤ mb := by
  obtain ⟨_, h2, h3, _⟩ := translated_batches_accept cs ns mb bs h
  intro b hb
  have : b.1 ∈ chunks mb.toNat cs.length cs := by rw [← h3]; exact List.mem_map_of_mem hb
  exact batches_size cs mb h2 b.1 this

/-- END-TO-END (`batches_samples_ge` on the translated code, pointwise): circuit `i` is element `i % max_batch_size` of batch
    `i / max_batch_size`, and that batch requests at least the `n_samples_per_circuit[i]` samples the circuit asked for. -/
theorem translated_batches_samples_ge {α : Type} (cs : List α) (ns : List Int) (mb : Int) (bs : List (List α × Int))
    (h : Translated.split_into_batches cs ns mb = some bs) (i : Nat) (hi : i < cs.length) :
    ∃ b, bs[i / mb.toNat]? = some b ∧ b.1[i % mb.toNat]? = cs[i]? ∧ ∀ n, ns[i]? = some n → n ≤ b.2 := by
  obtain ⟨h1, h2, -, -⟩ := translated_batches_accept cs ns mb bs h
  rw [translated_split_into_batches_eq, (batches_accept cs ns mb h1 h2).1, ← h1] at h
  cases h
  have hk : 0 < mb.toNat := by omega
  obtain ⟨c, hc1, hc2⟩ := chunks_index mb.toNat hk cs.length cs (le_refl _) i hi
  obtain ⟨s, hs1, hs2⟩ := chunks_index mb.toNat hk cs.length ns (by omega) i (by omega)
  exact ⟨(c, listMax s), List.getElem?_zip_eq_some.mpr ⟨hc1, by rw [List.getElem?_map, hs1]; rfl⟩, hc2,
    fun n hn => listMax_ge s n (List.mem_of_getElem? (hs2.trans hn))⟩

/-- TRANSLATION TIE: `_combine_measurements` (`Counter(first)`, `result[bitstring] += count` over `second.items()`, `dict(result)`)
    regenerated from the current Python source is the model's `combineTwo`, entry by entry AND in the same key order (keys of `first`
    keep their positions, new keys of `second` are appended in `second`'s order) – for all count dictionaries with natural-number counts
    (`Counts.toPy` embeds the model's `String × Nat` entries into Python's `str × int`). -/
theorem translated_combine_measurements_eq (a b : Counts) :
    Translated.combine_measurements a.toPy b.toPy = (combineTwo a b).toPy := by
  unfold Translated.combine_measurements combineTwo
  show List.foldl (fun (st : Counter String) (p : String × Int) => dictSet st p.1 (counterGet st p.1 + p.2)) a.toPy b.toPy = _
  induction b generalizing a with
  | nil => rfl
  | cons p b ih => rw [toPy_cons, List.foldl_cons, List.foldl_cons, dictSet_bump, ih]

/-- END-TO-END (`combineTwo_total` on the translated code, and for ALL int counts and every key type, negative counts included):
    merging two count dictionaries adds the totals – no shot is lost or invented. -/
theorem translated_combine_measurements_total {κ : Type} [BEq κ] (a b : Dict κ Int) :
    pyTotal (Translated.combine_measurements a b) = pyTotal a + pyTotal b :=
  foldl_add_hom (β := κ × Int) pyTotal (fun st p => dictSet st p.1 (counterGet st p.1 + p.2)) (fun p => p.2)
    (fun d p => dictSet_add_total d p.1 p.2) b a

/-- ON THE TRANSLATED CODE, per outcome (any key type whose `==` is equality): the merged count of an outcome is its count in `first`
    plus everything `second` holds for it. -/
theorem translated_combine_measurements_get {κ : Type} [BEq κ] [LawfulBEq κ] (a b : Dict κ Int) (k : κ) :
    counterGet (Translated.combine_measurements a b) k
      = counterGet a k + ((b.filter (fun p => p.1 == k)).map (fun p => p.2)).sum := by
  have h := foldl_add_hom (fun d => counterGet d k) _ _ (fun d (p : κ × Int) => counterGet_dictSet_add d p.1 k p.2) b a
  rw [List.sum_map_ite, List.map_const', List.sum_replicate, nsmul_zero, add_zero] at h
  simp only [Bool.decide_eq_true] at h
  exact h

/-- TRANSLATION TIE of the expression `reduce(_combine_measurements, group)`: the model's `reduceCombine`; an EMPTY group (multiplicity 0)
    is `none` on both sides – Python's `reduce() of empty iterable with no initial value` (TypeError). -/
theorem translated_reduce_combine_eq (g : List Counts) :
    reduce1 Translated.combine_measurements (g.map Counts.toPy) = (reduceCombine g).map Counts.toPy := by
  cases g with
  | nil => rfl
  | cons c cs =>
    simp only [List.map_cons, reduce1, reduceCombine, Option.map_some]
    congr 1
    induction cs generalizing c with
    | nil => rfl
    | cons d ds ih => simp only [List.map_cons, List.foldl_cons, translated_combine_measurements_eq, ih]

/-- TRANSLATION TIE: `combine_measurement_counts` (the walrus length check, `iter`, the comprehension
    `[reduce(_combine_measurements, islice(measurements_it, multiplicity)) for multiplicity in multiplicities]` consuming ONE shared
    iterator) regenerated from the current Python source is the model's `combineCounts` – for all natural-number counts and
    multiplicities: `none` exactly when `len(all_measurements) ≠ sum(multiplicities)` (ValueError) or some multiplicity is 0
    (`reduce` of an empty group: TypeError – multiplicity 0 IS an error of `combine_measurement_counts`, unlike `combine_bitstrings`). -/
theorem translated_combine_measurement_counts_eq (all : List Counts) (mults : List Nat) :
    Translated.combine_measurement_counts (all.map Counts.toPy) (mults.map Int.ofNat)
      = (combineCounts all mults).map (List.map Counts.toPy) := by
  show grouped (reduce1 Translated.combine_measurements) _ _ = _
  rw [grouped_ofNat, List.length_map, regroup_map,
    mapM_map_comm Counts.toPy Counts.toPy reduceCombine _ translated_reduce_combine_eq, combineCounts]
  split <;> rfl

/-- a NEGATIVE multiplicity always raises (the length check fails, or `islice` gets a negative count: ValueError) – the part of Python's
    domain the natural-number model cannot express. -/
theorem translated_combine_measurement_counts_neg {κ : Type} [BEq κ] (all : List (Dict κ Int)) (mults : List Int)
    (h : ∃ m ∈ mults, m < 0) : Translated.combine_measurement_counts all mults = none :=
  grouped_neg (reduce1 Translated.combine_measurements) all mults h

/-- totals through `reduce(_combine_measurements, group)` on the translated code (all int counts, every key type) -/
theorem translated_reduce_total {κ : Type} [BEq κ] (g : List (Dict κ Int)) (out : Dict κ Int)
    (h : reduce1 Translated.combine_measurements g = some out) : pyTotal out = (g.map pyTotal).sum := by
  cases g with
  | nil => cases h
  | cons c cs =>
    cases h
    exact foldl_add_hom pyTotal Translated.combine_measurements pyTotal translated_combine_measurements_total cs c

/-- END-TO-END (the "combine" half of C13 on the translated code, all int counts, every key type): whenever
    `combine_measurement_counts` returns, the i-th combined dictionary holds exactly the shots of the i-th group of consecutive
    measurements, and no shot is lost or invented overall. -/
theorem translated_combine_totals {κ : Type} [BEq κ] (all : List (Dict κ Int)) (mults : List Nat) (out : List (Dict κ Int))
    (h : Translated.combine_measurement_counts all (mults.map Int.ofNat) = some out) :
    all.length = mults.sum ∧ out.map pyTotal = (regroup all mults).map (fun g => (g.map pyTotal).sum) ∧
      (out.map pyTotal).sum = (all.map pyTotal).sum := by
  change grouped (reduce1 Translated.combine_measurements) all _ = some out at h
  rw [grouped_ofNat] at h
  split at h
  · cases h
  · next hl =>
    have hl := not_not.mp hl
    have ht := mapM_sum_of _ pyTotal pyTotal translated_reduce_total _ _ h
    refine ⟨hl, ht, ?_⟩
    -- the groups, concatenated, are all the measurements
    conv_rhs => rw [← regroup_flatten_of_sum mults all hl]
    rw [ht, List.map_flatten, List.sum_flatten, List.map_map]; rfl

/-- TRANSLATION TIE: `combine_bitstrings` (`[sum(islice(bitstrings_it, multiplicity), start=[]) for multiplicity in multiplicities]`)
    regenerated from the current Python source is the model's `combineBitstrings` – for all lists of (opaque) bitstring lists and all
    natural-number multiplicities: `none` exactly when `len(all_bitstrings) ≠ sum(multiplicities)`; a multiplicity 0 yields an empty
    list here (no error, unlike the counts version). -/
theorem translated_combine_bitstrings_eq {α : Type} (all : List (List α)) (mults : List Nat) :
    Translated.combine_bitstrings all (mults.map Int.ofNat) = combineBitstrings all mults := by
  show grouped (fun g => some (sumLists g)) all _ = _
  rw [grouped_ofNat, combineBitstrings]
  simp only [sumLists_eq]
  exact congrArg (ite _ none) List.mapM_pure

/-- a NEGATIVE multiplicity always raises (length check or `islice`: ValueError). -/
theorem translated_combine_bitstrings_neg {α : Type} (all : List (List α)) (mults : List Int)
    (h : ∃ m ∈ mults, m < 0) : Translated.combine_bitstrings all mults = none :=
  grouped_neg (fun g => some (sumLists g)) all mults h

/-- END-TO-END (`combine_bitstrings_groups` on the translated code): the i-th result is the concatenation of the i-th group – every
    shot kept, in order. -/
theorem translated_combine_bitstrings_groups {α : Type} (gs : List (List (List α))) :
    Translated.combine_bitstrings gs.flatten ((gs.map List.length).map Int.ofNat) = some (gs.map List.flatten) := by
  rw [translated_combine_bitstrings_eq]; exact combine_bitstrings_groups gs

/-! non-vacuity: concrete inputs of the TRANSLATED definitions (accepting and rejecting) -/
example : Translated.iterate_in_batches ["a", "b", "c", "d", "e"] 2 = some [["a", "b"], ["c", "d"], ["e"]] := by decide
example : Translated.iterate_in_batches [1, 2, 3] 0 = some [] := by decide
example : Translated.iterate_in_batches [1, 2, 3] (-1) = none := by decide
example : Translated.split_into_batches ["a", "b", "c"] [5, 9, 2] 2 = some [(["a", "b"], 9), (["c"], 2)] := by decide
example : Translated.split_into_batches ["a", "b", "c"] [5, 9] 2 = none := by decide
example : Translated.split_into_batches ["a"] [5] 0 = none := by decide
example : Translated.combine_measurements [("00", 1), ("11", 2)] [("01", 4), ("00", 3)] = [("00", 4), ("11", 2), ("01", 4)] := by
  decide
example : Translated.combine_measurement_counts [[("0", 1)], [("1", 2)], [("0", 3)]] [1, 2]
    = some [[("0", 1)], [("1", 2), ("0", 3)]] := by decide
example : Translated.combine_measurement_counts [[("0", 1)]] [1, 0] = none := by decide
example : Translated.combine_measurement_counts [[("0", 1)]] [2] = none := by decide
example : Translated.combine_measurement_counts [[("0", 1)], [("1", 1)]] [3, -1] = none := by decide
example : Translated.combine_bitstrings [["00", "01"], ["1", "0"], ["0"]] [1, 2] = some [["00", "01"], ["1", "0", "0"]] := by
  decide
example : Translated.combine_bitstrings [["0"]] [1, 0] = some [["0"], []] := by decide
example : Translated.combine_bitstrings [["0"]] [2] = none := by decide

end OQ.C13
