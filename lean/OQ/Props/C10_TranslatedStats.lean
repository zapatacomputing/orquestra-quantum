/- C10 — PROPERTY THEOREMS (translation ties): the measurement statistics written with numpy –
   `measurements._convert_bitstrings_to_vector`, `parities.check_parity_of_vector`, `measurements.get_expectation_value_from_frequencies`,
   `Measurements.get_expectation_values`.  The definitions `OQ.Generated.Translated.*` are REGENERATED from /repo's current Python source on
   every run (harness/translate_t15.py → OQ/Generated/TranslatedC10.lean); an edit of a Python function changes its definition and the
   equalities below stop checking at build time, for every input.

   Reading of the translated definitions (harness/translate_t15.py's docstring has the details):
   * a numpy array is `OQ.Py.Arr1 τ` (the list of entries) or `OQ.Py.Arr2 τ` (the rows AND the width); every numpy operation is a prelude
     function `OQ.Py.np…` (OQ/Exec/Py.lean, block T15) that is compared with numpy itself on every run (harness/prelude_check.py):
     reshape (ValueError), fancy column indexing (IndexError), broadcasting products / differences (ValueError), item reads and writes
     (IndexError), division by a Python int.  FLOAT ROUNDING AND dtypes ARE NOT MODELLED (values are exact, `ν = Rat` in the ties).
   * `.error c` = the Python call raises an exception of class `c`.  ONE exception to this reading, inherited from the model (`Err.nan`):
     `get_expectation_value_from_frequencies` on a dictionary whose counts sum to 0 does not raise – numpy divides by zero and the
     result is `nan`; this is `.error .zeroDiv` (`OQ.Py.npTrueDivE`).  In `get_expectation_values` the final division by the
     denominator (0 for one shot with Bessel's correction) yields entries `none` (non-finite), exactly as the model's `divOrNan`.
   * a set of qubits is the list of its elements in iteration order; the ties hold for EVERY order.
   * the operator and its terms are OPAQUE objects: `is_ising`, `terms`, `coefficient`, `qubits` are parameters `attr_…`; the ties
     instantiate them with the model's `Term` (`is_ising` = all letters are Z).
   * externals of `get_expectation_values`: `isinstance(c, np.integer)` / `int(c)` (ASSUMED LAW `hint`: `int(c) = c` as a number whenever
     `c` is a numpy integer) and `set.symmetric_difference` (ASSUMED LAW `hsymm`: the result lists, in some order, exactly the model's
     `symmDiff`).
   NOT translated (their tie remains the differential correspondence of `./check C10`): `get_parities_from_measurements` (in-place `+=`
   on a view of a 3-d array), `get_expectation_values_from_parities`, `concatenate_expectation_values`, `expectation_values_to_real`
   (object mutation, `np.sqrt`; no hand-written model in OQ/Model/C10.lean). -/
import OQ.Lemmas.C10_TranslatedStats
import OQ.Props.C10
import OQ.Props.C10_TranslatedCounts
namespace OQ.C10
open OQ.Generated OQ.Py

/-- TRANSLATION TIE: `_convert_bitstrings_to_vector(bitstrings)` (`len([*bitstrings][0])`, `"".join`, `np.frombuffer(…, "u1") - ord("0")`,
    `.astype(int).reshape(-1, n_qubits)`) regenerated from the current Python source IS the model's `convertBitstringsToVector` – for
    EVERY list of bitstrings over '0'/'1' (any lengths, ragged and empty included): the same rows, the width of the first key, and the
    same exception class (IndexError for no key, ValueError of `reshape` for width 0 / a size the width does not divide). -/
theorem translated_convert_bitstrings_to_vector_eq (keys : List Shot) :
    Translated.convert_bitstrings_to_vector (keys.map encS) = convResult keys (convertBitstringsToVector keys) := by
  unfold Translated.convert_bitstrings_to_vector
  cases keys with
  | nil => rfl
  | cons k0 ks =>
    rw [List.map_cons, indexE_zero_cons]
    simp only [bind_ok, ← List.map_cons, join_nil_eq, flatten_map_encS, u1_of_encS]
    have hl : (encS k0).length = k0.length := by simp [encS]
    rw [hl]
    unfold convertBitstringsToVector
    simp only []
    generalize (k0 :: ks).flatten = all
    have hlen : (encT all).length = all.length := by simp [encT]
    unfold npReshapeE
    rw [hlen, Int.toNat_natCast]
    by_cases hw : k0.length = 0
    · rw [if_pos (by omega), if_pos hw]; rfl
    · rw [if_neg (by omega), if_neg hw]
      by_cases hd : all.length % k0.length ≠ 0
      · rw [if_pos hd, if_pos hd]; rfl
      · rw [if_neg hd, if_neg hd]
        simp only [bind_ok, convResult, List.headD_cons]
        rw [show encT all = all.map (fun b => if b then (1 : Int) else 0) from rfl, npChunks_map]
        rfl

/-- TRANSLATION TIE: `check_parity_of_vector(bitstrings_vector, marked_qubits)` (`np.ones(shape[0])` when nothing is marked, else
    `(bitstrings_vector[:, np.fromiter(marked_qubits, dtype=int)].sum(axis=1) + 1) % 2`) IS the model's `checkParityOfVector` – for every
    2-d array of bits with rows of one length `w` and every list of non-negative qubit indices IN ANY ORDER, on the domain "at least one
    row, or all indices inside the width" (the model's list of rows does not record the width of an array without rows, where numpy
    still checks the indices; negative indices are outside the model): the same parity vector, IndexError for an index ≥ w. -/
theorem translated_check_parity_of_vector_eq (rows : List Shot) (w : Nat) (marked : List Nat)
    (hrows : ∀ r ∈ rows, r.length = w) (hne : rows ≠ [] ∨ ∀ q ∈ marked, q < w) :
    Translated.check_parity_of_vector ⟨w, rows.map encT⟩ (marked.map Int.ofNat) = parResult (checkParityOfVector rows marked) := by
  unfold Translated.check_parity_of_vector
  rw [checkParity_eq rows marked w hrows]
  cases marked with
  | nil =>
    rw [if_pos (Or.inr (by simp))]
    simp only [List.map_nil, List.isEmpty_nil, if_true, npShape2, indexE_zero_cons, bind_ok, parResult, npOnes,
      List.length_map, Int.toNat_natCast, List.map_map]
    exact congrArg _ (List.map_const' (l := rows) (b := (1 : Int))).symm
  | cons q0 qs =>
    simp only [List.map_cons, List.isEmpty_cons, Bool.false_eq_true, if_false]
    rw [← List.map_cons]
    generalize q0 :: qs = marked at hne ⊢
    rw [npFromIterInt, npTakeCols_encT]
    by_cases hin : ∀ q ∈ marked, q < w
    · rw [if_pos hin, if_pos (Or.inr hin)]
      simp only [bind_ok, parResult, npModS, npAddS, npSumAxis1, List.map_map]
      refine congrArg _ (List.map_congr_left fun r _ => ?_)
      -- `(row[marked].sum() + 1) % 2` on ints is the model's parity on naturals
      simp only [Function.comp]
      rw [show (fun q => (((bitAt r q).toNat : Nat) : Int)) = Int.ofNat ∘ fun q => (bitAt r q).toNat from rfl,
        ← List.map_map, OQ.C13.py_sum_ofNat, fmod_two, sum_toNat_eq_count, succ_mod_two]
      rfl
    · rw [if_neg hin, if_neg (not_or.mpr ⟨hne.resolve_right hin, hin⟩)]
      rfl

/-- TRANSLATION TIE: `get_expectation_value_from_frequencies(marked_qubits, bitstring_frequencies)` (the two calls above, `* 2 - 1`,
    `sum(values)`, `np.fromiter(values) * parity / num_measurements`, `.sum().item()`) IS the model's `expectationFromFrequencies` – for
    EVERY list of qubit indices and EVERY dictionary of '0'/'1' keys with non-negative int counts (ragged keys, zero counts, no key
    included): the same value, the same exception class, and `.error .zeroDiv` exactly where the model says `nan` (total count 0:
    numpy returns nan without raising). -/
theorem translated_get_expectation_value_from_frequencies_eq (marked : List Nat) (freq : Counts) :
    Translated.get_expectation_value_from_frequencies (ν := Rat) (marked.map Int.ofNat) (countsToPy freq) =
      numResult (expectationFromFrequencies (R := Rat) marked freq) := by
  unfold Translated.get_expectation_value_from_frequencies expectationFromFrequencies
  rw [dictKeys_countsToPy, dictValues_countsToPy, translated_convert_bitstrings_to_vector_eq]
  cases hc : convertBitstringsToVector (freq.map (fun p => p.1)) with
  | error e => rfl
  | ok rows =>
    obtain ⟨hrne, hrl⟩ := convert_ok_inv _ rows hc
    simp only [convResult, bind_ok]
    rw [translated_check_parity_of_vector_eq rows _ marked hrl (Or.inl hrne)]
    cases hp : checkParityOfVector rows marked with
    | error e => rfl
    | ok par =>
      simp only [parResult, bind_ok, npSubS, npMulS]
      -- `num_measurements`: the source is accepted in both forms, `sum(d.values())` (a `let`) and `sum(int(count) for count in d.values())`
      -- (a generator expression over Python ints whose element is the loop variable: `mapE (fun count => .ok count)`, which is the list
      -- itself – `mapE_ok_id`); after this step the two generated terms coincide
      try simp only [mapE_ok_id, bind_ok]
      have hsig : List.map (fun x => x - 1) (List.map (fun x => x * 2) (par.map Int.ofNat)) = par.map (fun p => ((p : Nat) : Int) * 2 - 1) := by
        simp [List.map_map, Function.comp_def]
      rw [OQ.C13.py_sum_ofNat, zip1_broadcast, hsig]
      cases hb : broadcastMul (freq.map (fun p => p.2)) (par.map (fun p => ((p : Nat) : Int) * 2 - 1)) with
      | error e => rfl
      | ok prods =>
        have hfne : freq.map (fun p => p.2) ≠ [] := fun h => by
          rw [List.map_eq_nil_iff.mp h] at hc; cases hc
        have hpne : par.map (fun p => ((p : Nat) : Int) * 2 - 1) ≠ [] := by
          rw [checkParity_eq rows marked _ hrl] at hp
          split_ifs at hp
          cases hp
          simpa using hrne
        exact trueDiv_sum prods _ (broadcast_ne_nil _ _ prods hfne hpne hb)

/-- TRANSLATION TIE: `Measurements.get_expectation_values(ising_operator, use_bessel_correction)` regenerated from the current Python
    source – the Ising test, `get_counts()`, the coefficient comprehension with the `np.integer` conversion, the comprehension of
    coefficient × frequencies observable, the double loop that fills `correlations` entry by entry (`[i, i]`, `[i, j]` from the symmetric
    difference with term `i` first, `[j, i]` copied from `[i, j]`), the Bessel switch, `(correlations - values[:, None] * values[None, :])
    / denominator` – IS the model's `getExpectationValues`: the same values, the same n × n tables (entries `none` where the denominator
    is 0), the same exception class.
    DOMAIN: every list of bit shots of one length `w` (ANY w, no shot included), every operator (Ising or not) whose qubits lie inside
    the width, both settings of the switch.  Excluded: shots of different lengths and qubits ≥ w – for those
    `translated_get_expectation_values_raises` covers every case in which the values stage raises.
    ASSUMED LAWS of the externals: `hint` (a numpy-integer coefficient converts to the same number) and `hsymm` (the symmetric difference
    of two qubit sets lists the model's `symmDiff` in some order). -/
theorem translated_get_expectation_values_eq (isnp : Rat → Bool) (toInt : Rat → Int) (symm : List Int → List Int → List Int)
    (hint : ∀ c, isnp c = true → ((toInt c : Int) : Rat) = c)
    (hsymm : ∀ a b : List Nat, ∃ l : List Nat, symm (a.map Int.ofNat) (b.map Int.ofNat) = l.map Int.ofNat ∧ l.Perm (symmDiff a b))
    (shots : List Shot) (terms : List (Term Rat)) (bessel : Bool) (w : Nat)
    (hl : ∀ s ∈ shots, s.length = w) (hq : ∀ t ∈ terms, ∀ q ∈ t.qubits, q < w) :
    Translated.measurements_get_expectation_values (ν := Rat) (Ω := List (Term Rat)) (Τ := Term Rat) isnp toInt symm
      (fun ts => ts.all Term.isIsing) (fun ts => ts) Term.coeff (fun t => t.qubits.map Int.ofNat) (shots.map encT) terms bessel
    = evResult terms.length (getExpectationValues shots terms bessel) := by
  rw [getEV_eq shots terms bessel w hl hq]
  unfold Translated.measurements_get_expectation_values
  by_cases hI : terms.all Term.isIsing = true
  swap
  · simp [hI, evResult, toExc10]
  simp only [hI, Bool.not_true, Bool.false_eq_true, if_false, if_true]
  rw [translated_get_counts_eq, coeffs_stage isnp toInt hint]
  simp only [bind_ok, zip_map_self, mapE_map, translated_get_expectation_value_from_frequencies_eq, vals_step,
    termValues_eq shots terms w hl hq]
  by_cases hd : terms = [] ∨ (shots ≠ [] ∧ w ≠ 0)
  swap
  · rw [if_neg hd, if_neg hd]; rfl
  rw [if_pos hd, if_pos hd]
  simp only [up, bind_ok, evResult, evRaw, withIdx_table _ terms dT]
  let M : Nat → Nat → Rat := fun a b => entrySpec shots (a, terms.getD a dT) (b, terms.getD b dT)
  have hmem : ∀ j, j < terms.length → terms.getD j dT ∈ terms := fun j hj => by
    rw [List.getD_eq_getElem?_getD, List.getElem?_eq_getElem hj]; exact List.getElem_mem _
  have hE : ∀ j k, j < terms.length → k < terms.length →
      Translated.get_expectation_value_from_frequencies (ν := Rat)
        (symm ((terms.getD j dT).qubits.map Int.ofNat) ((terms.getD k dT).qubits.map Int.ofNat))
        (countsToPy (getCounts shots)) =
        .ok (meanZ (symmDiff (terms.getD j dT).qubits (terms.getD k dT).qubits) shots) := by
    intro j k hj hk
    obtain ⟨l, hl1, hl2⟩ := hsymm (terms.getD j dT).qubits (terms.getD k dT).qubits
    obtain ⟨hne, hw⟩ := hd.resolve_left (List.ne_nil_of_length_pos (Nat.zero_lt_of_lt hj))
    rw [hl1, translated_get_expectation_value_from_frequencies_eq, expectation_getCounts_eq l shots w hl, if_neg hne,
      if_neg hw, if_pos fun q hq' => (mem_symmDiff _ _ q (hl2.mem_iff.mp hq')).elim (hq _ (hmem j hj) q) (hq _ (hmem k hk) q),
      meanZ_perm l _ hl2]
    rfl
  have hH0 : (fun (_ _ : Nat) => (0 : Rat)) = Hf M 0 := by
    funext a b; simp [Hf]
  rw [npZeros2_eq, hH0, foldlE_enumerate _ terms dT (fun m => tab terms.length (Hf M m)),
    tab_congr _ (Hf M terms.length) M fun a ha b hb => if_pos ⟨ha, hb⟩]
  · simp only [bind_ok, outer_ok, List.length_map, tab]
    rw [zip2_same _ terms.length _ _ (by simp only [List.length_map, List.length_range])
      (by simp only [List.length_map]) (by simp only [List.forall_mem_map, List.length_map, List.length_range, implies_true])
      (by simp only [List.forall_mem_map, List.length_map, implies_true])]
    simp only [bind_ok, npDivS2, npArray1, cov_eq]
    rfl
  · intro j hj
    have hMjj : M j j = (terms.getD j dT).coeff * (terms.getD j dT).coeff := if_pos rfl
    simp only []
    rw [indexE_map_getD Term.coeff terms dT j hj, bind_ok, tab_get _ _ j j hj hj, bind_ok,
      tab_set _ _ j j _ hj, ← hMjj, Gf_zero, Int.toNat_natCast,
      foldlE_range _ Int.ofNat (fun k => tab terms.length (Gf M j k)) j, bind_ok, Gf_end]
    intro k hk
    have hkn : k < terms.length := by omega
    have hMjk : M j k = (terms.getD j dT).coeff * (terms.getD k dT).coeff *
        meanZ (symmDiff (terms.getD j dT).qubits (terms.getD k dT).qubits) shots :=
      (if_neg hk.ne').trans (if_pos hk)
    have hMkj : M k j = (terms.getD j dT).coeff * (terms.getD k dT).coeff *
        meanZ (symmDiff (terms.getD j dT).qubits (terms.getD k dT).qubits) shots :=
      (if_neg hk.ne).trans (if_neg (Nat.lt_asymm hk))
    simp only [Int.ofNat_eq_natCast, indexE_getD terms dT k hkn, indexE_map_getD Term.coeff terms dT k hkn, bind_ok,
      hE j k hj hkn, tab_get _ _ j k hj hkn,
      tab_get _ _ k j hkn hj, tab_set _ _ j k _ hj, tab_set _ _ k j _ hkn, and_self, if_true]
    rw [Gf_step M j k _ hMjk hMkj]

/-- TRANSLATION TIE (the raising cases, ALL inputs – shots of any lengths, qubits anywhere): a non-Ising operator makes the translated
    method raise TypeError, and whenever the model's values stage (`coefficient × frequencies observable`, term by term) raises `e` – no
    shot at all (IndexError), width 0 / ragged keys (ValueError of `reshape` or of the broadcast), a qubit outside the width (IndexError) –
    the translated method raises the same class; the model reports the same. -/
theorem translated_get_expectation_values_raises (isnp : Rat → Bool) (toInt : Rat → Int) (symm : List Int → List Int → List Int)
    (hint : ∀ c, isnp c = true → ((toInt c : Int) : Rat) = c)
    (shots : List Shot) (terms : List (Term Rat)) (bessel : Bool) (e : Err)
    (h : (¬ terms.all Term.isIsing = true ∧ e = .type) ∨
         (terms.all Term.isIsing = true ∧ mapE (termValue (getCounts shots)) terms = .error e)) :
    Translated.measurements_get_expectation_values (ν := Rat) (Ω := List (Term Rat)) (Τ := Term Rat) isnp toInt symm
      (fun ts => ts.all Term.isIsing) (fun ts => ts) Term.coeff (fun t => t.qubits.map Int.ofNat) (shots.map encT) terms bessel
      = .error (toExc10 e) ∧ getExpectationValues shots terms bessel = .error e := by
  unfold Translated.measurements_get_expectation_values getExpectationValues
  rcases h with ⟨hI, rfl⟩ | ⟨hI, hv⟩
  · simp [hI, toExc10]
  · simp only [hI, Bool.not_true, Bool.false_eq_true, if_false, hv, and_true]
    rw [translated_get_counts_eq]
    rw [coeffs_stage isnp toInt hint]
    simp only [bind_ok, zip_map_self, mapE_map, translated_get_expectation_value_from_frequencies_eq, vals_step, hv]
    rfl

/-- `check_parity_of_vector_spec` ON THE TRANSLATED FUNCTION: entry 1 exactly for the rows with an even number of 1s on the marked
    qubits, 0 for the others. -/
theorem translated_check_parity_of_vector_spec (rows : List Shot) (marked : List Nat) (w : Nat)
    (h : ∀ r ∈ rows, r.length = w) (hm : ∀ q ∈ marked, q < w) :
    Translated.check_parity_of_vector ⟨w, rows.map encT⟩ (marked.map Int.ofNat) =
      .ok (rows.map (fun r => if evenParity marked r then 1 else 0)) := by
  rw [translated_check_parity_of_vector_eq rows w marked h (Or.inr hm), check_parity_of_vector_spec rows marked w h hm]
  simp only [parResult, List.map_map, Function.comp_def, apply_ite Int.ofNat]
  rfl

/-- `frequencies_expectation_eq_weighted_mean_partial` ON THE TRANSLATED FUNCTION: on a frequency dictionary with keys of one positive
    width and a positive total, the regenerated `get_expectation_value_from_frequencies` returns the frequency-weighted mean of the ±1
    eigenvalue of the Z-string on the marked qubits. -/
theorem translated_frequencies_expectation_eq_weighted_mean (marked : List Nat) (freq : Counts) (w : Nat) (hne : freq ≠ [])
    (hw : 0 < w) (hk : ∀ p ∈ freq, p.1.length = w) (hm : ∀ q ∈ marked, q < w) (ht : freq.total ≠ 0) :
    Translated.get_expectation_value_from_frequencies (ν := Rat) (marked.map Int.ofNat) (countsToPy freq) =
      .ok ((((freq.map (fun p => ((p.2 : Nat) : Int) * zval marked p.1)).sum : Int) : Rat) / ((freq.total : Nat) : Rat)) := by
  rw [translated_get_expectation_value_from_frequencies_eq,
    frequencies_expectation_eq_weighted_mean_partial marked freq w hne hw hk hm ht]
  rfl

/-- `expectation_values_reported_partial` ON THE TRANSLATED METHOD: on a non-empty list of shots of one positive width, for every Ising
    operator whose qubits lie inside the width, the regenerated `get_expectation_values` raises nothing and returns the record of sample
    statistics `evSpec` (values, one n × n correlation table, one n × n covariance table). -/
theorem translated_expectation_values_reported (isnp : Rat → Bool) (toInt : Rat → Int) (symm : List Int → List Int → List Int)
    (hint : ∀ c, isnp c = true → ((toInt c : Int) : Rat) = c)
    (hsymm : ∀ a b : List Nat, ∃ l : List Nat, symm (a.map Int.ofNat) (b.map Int.ofNat) = l.map Int.ofNat ∧ l.Perm (symmDiff a b))
    (shots : List Shot) (terms : List (Term Rat)) (bessel : Bool) (w : Nat) (hne : shots ≠ []) (hw : 0 < w)
    (hl : ∀ s ∈ shots, s.length = w) (hI : ∀ t ∈ terms, t.isIsing = true)
    (hq : ∀ t ∈ terms, ∀ q ∈ t.qubits, q < w) (hn : ∀ t ∈ terms, t.qubits.Nodup) :
    Translated.measurements_get_expectation_values (ν := Rat) (Ω := List (Term Rat)) (Τ := Term Rat) isnp toInt symm
      (fun ts => ts.all Term.isIsing) (fun ts => ts) Term.coeff (fun t => t.qubits.map Int.ofNat) (shots.map encT) terms bessel
      = .ok ((evSpec shots terms bessel).values, [⟨terms.length, (evSpec shots terms bessel).correlations⟩],
             [⟨terms.length, (evSpec shots terms bessel).covariances⟩]) := by
  rw [translated_get_expectation_values_eq isnp toInt symm hint hsymm shots terms bessel w hl hq,
    expectation_values_reported_partial shots terms bessel w hne hw hl hI hq hn]
  rfl

/-- `value_eq_mean` ON THE TRANSLATED METHOD: "the reported expectation value of each term is its coefficient times the sample mean of
    the term's ±1 eigenvalue over the shots" – the first component of what the regenerated method returns. -/
theorem translated_value_eq_mean (isnp : Rat → Bool) (toInt : Rat → Int) (symm : List Int → List Int → List Int)
    (hint : ∀ c, isnp c = true → ((toInt c : Int) : Rat) = c)
    (hsymm : ∀ a b : List Nat, ∃ l : List Nat, symm (a.map Int.ofNat) (b.map Int.ofNat) = l.map Int.ofNat ∧ l.Perm (symmDiff a b))
    (shots : List Shot) (terms : List (Term Rat)) (bessel : Bool) (w : Nat) (hne : shots ≠ []) (hw : 0 < w)
    (hl : ∀ s ∈ shots, s.length = w) (hI : ∀ t ∈ terms, t.isIsing = true)
    (hq : ∀ t ∈ terms, ∀ q ∈ t.qubits, q < w) (hn : ∀ t ∈ terms, t.qubits.Nodup) :
    ∃ corr cov, Translated.measurements_get_expectation_values (ν := Rat) (Ω := List (Term Rat)) (Τ := Term Rat) isnp toInt symm
      (fun ts => ts.all Term.isIsing) (fun ts => ts) Term.coeff (fun t => t.qubits.map Int.ofNat) (shots.map encT) terms bessel
      = .ok (terms.map (fun t => t.coeff * mean (fun s => ((zval t.qubits s : Int) : Rat)) shots), corr, cov) := by
  refine ⟨[⟨terms.length, (evSpec shots terms bessel).correlations⟩], [⟨terms.length, (evSpec shots terms bessel).covariances⟩], ?_⟩
  rw [translated_expectation_values_reported isnp toInt symm hint hsymm shots terms bessel w hne hw hl hI hq hn]
  rfl

/-- `correlation_eq_mean_product` ON THE TRANSLATED METHOD: "the reported correlations are the sample means of products of two terms'
    values" – the one n × n table of the second component, every entry, diagonal included. -/
theorem translated_correlation_eq_mean_product (isnp : Rat → Bool) (toInt : Rat → Int) (symm : List Int → List Int → List Int)
    (hint : ∀ c, isnp c = true → ((toInt c : Int) : Rat) = c)
    (hsymm : ∀ a b : List Nat, ∃ l : List Nat, symm (a.map Int.ofNat) (b.map Int.ofNat) = l.map Int.ofNat ∧ l.Perm (symmDiff a b))
    (shots : List Shot) (terms : List (Term Rat)) (bessel : Bool) (w : Nat) (hne : shots ≠ []) (hw : 0 < w)
    (hl : ∀ s ∈ shots, s.length = w) (hI : ∀ t ∈ terms, t.isIsing = true)
    (hq : ∀ t ∈ terms, ∀ q ∈ t.qubits, q < w) (hn : ∀ t ∈ terms, t.qubits.Nodup) :
    ∃ vals cov, Translated.measurements_get_expectation_values (ν := Rat) (Ω := List (Term Rat)) (Τ := Term Rat) isnp toInt symm
      (fun ts => ts.all Term.isIsing) (fun ts => ts) Term.coeff (fun t => t.qubits.map Int.ofNat) (shots.map encT) terms bessel
      = .ok (vals, [⟨terms.length, terms.map (fun ti => terms.map (fun tj =>
          mean (fun s => (ti.coeff * ((zval ti.qubits s : Int) : Rat)) * (tj.coeff * ((zval tj.qubits s : Int) : Rat))) shots))⟩], cov) := by
  refine ⟨(evSpec shots terms bessel).values, [⟨terms.length, (evSpec shots terms bessel).covariances⟩], ?_⟩
  rw [translated_expectation_values_reported isnp toInt symm hint hsymm shots terms bessel w hne hw hl hI hq hn]
  rfl

/-- `covariance_formula` ON THE TRANSLATED METHOD: "the estimator covariances are (correlation minus product of means) divided by the
    number of shots, or by one less with Bessel's correction" – the one n × n table of the third component; with Bessel's correction at
    least two shots are needed for the quotient to exist (`some`). -/
theorem translated_covariance_formula (isnp : Rat → Bool) (toInt : Rat → Int) (symm : List Int → List Int → List Int)
    (hint : ∀ c, isnp c = true → ((toInt c : Int) : Rat) = c)
    (hsymm : ∀ a b : List Nat, ∃ l : List Nat, symm (a.map Int.ofNat) (b.map Int.ofNat) = l.map Int.ofNat ∧ l.Perm (symmDiff a b))
    (shots : List Shot) (terms : List (Term Rat)) (bessel : Bool) (w : Nat) (hne : shots ≠ []) (hw : 0 < w)
    (hl : ∀ s ∈ shots, s.length = w) (hI : ∀ t ∈ terms, t.isIsing = true)
    (hq : ∀ t ∈ terms, ∀ q ∈ t.qubits, q < w) (hn : ∀ t ∈ terms, t.qubits.Nodup) (hb : bessel = true → 2 ≤ shots.length) :
    ∃ vals corr, Translated.measurements_get_expectation_values (ν := Rat) (Ω := List (Term Rat)) (Τ := Term Rat) isnp toInt symm
      (fun ts => ts.all Term.isIsing) (fun ts => ts) Term.coeff (fun t => t.qubits.map Int.ofNat) (shots.map encT) terms bessel
      = .ok (vals, corr, [⟨terms.length, terms.map (fun ti => terms.map (fun tj =>
          some ((corrSpec shots ti tj - (ti.coeff * meanZ ti.qubits shots) * (tj.coeff * meanZ tj.qubits shots)) /
            (if bessel then ((shots.length : Nat) : Rat) - 1 else ((shots.length : Nat) : Rat)))))⟩]) := by
  refine ⟨(evSpec shots terms bessel).values, [⟨terms.length, (evSpec shots terms bessel).correlations⟩], ?_⟩
  rw [translated_expectation_values_reported isnp toInt symm hint hsymm shots terms bessel w hne hw hl hI hq hn,
    ← covariance_formula shots terms bessel w (evSpec shots terms bessel) hne hl hq hn
      (expectation_values_reported_partial shots terms bessel w hne hw hl hI hq hn) hb]

/-! ## non-vacuity: the TRANSLATED definitions on concrete inputs (and stand-ins for the externals that satisfy the assumed laws) -/

/-- stand-ins for the externals: no coefficient is a numpy integer (so `int`, here the floor, is never applied), the symmetric difference
    in the model's order -/
def exSymm (a b : List Int) : List Int := a.filter (fun q => !b.contains q) ++ b.filter (fun q => !a.contains q)

example : Translated.convert_bitstrings_to_vector [['0', '1'], ['1', '1'], ['1', '0']] = .ok ⟨2, [[0, 1], [1, 1], [1, 0]]⟩ := by decide
example : Translated.convert_bitstrings_to_vector [['0'], ['1', '1'], ['1']] = .ok ⟨1, [[0], [1], [1], [1]]⟩ := by decide
example : Translated.convert_bitstrings_to_vector [['0', '1'], ['1']] = .error .value := by decide
example : Translated.convert_bitstrings_to_vector [[], []] = .error .value := by decide
example : Translated.convert_bitstrings_to_vector [] = .error .index := by decide
example : Translated.check_parity_of_vector ⟨2, [[0, 1], [1, 1], [1, 0]]⟩ [1, 0] = .ok [0, 1, 0] := by decide
example : Translated.check_parity_of_vector ⟨2, [[0, 1], [1, 1]]⟩ [] = .ok [1, 1] := by decide
example : Translated.check_parity_of_vector ⟨2, [[0, 1], [1, 1]]⟩ [2] = .error .index := by decide
example : Translated.check_parity_of_vector ⟨2, []⟩ [2] = .error .index := by decide
example : Translated.get_expectation_value_from_frequencies (ν := Rat) [0] [(['0', '1'], 2), (['1', '1'], 1), (['1', '0'], 1)] = .ok 0 := by
  decide +kernel
example : Translated.get_expectation_value_from_frequencies (ν := Rat) [0, 1] [(['0', '1'], 2), (['1', '1'], 1), (['1', '0'], 1)] =
    .ok (-1 / 2) := by decide +kernel
example : Translated.get_expectation_value_from_frequencies (ν := Rat) [0] [(['0', '1'], 0)] = .error .zeroDiv := by decide +kernel
example : Translated.get_expectation_value_from_frequencies (ν := Rat) [2] [(['0', '1'], 1)] = .error .index := by decide +kernel
example : Translated.measurements_get_expectation_values (ν := Rat) (Ω := List (Term Rat)) (Τ := Term Rat) (fun _ => false) (fun q => q.floor)
    exSymm (fun ts => ts.all Term.isIsing) (fun ts => ts) Term.coeff (fun t => t.qubits.map Int.ofNat) (exShots.map encT) exTerms true =
    .ok ([0, -1/4, 3, 0],
      [⟨4, [[4, -1/2, 0, 4], [-1/2, 1/4, -3/4, -1/2], [0, -3/4, 9, 0], [4, -1/2, 0, 4]]⟩],
      [⟨4, [[some (4/3), some (-1/6), some 0, some (4/3)], [some (-1/6), some (1/16), some 0, some (-1/6)],
            [some 0, some 0, some 0, some 0], [some (4/3), some (-1/6), some 0, some (4/3)]]⟩]) := by decide +kernel
example : Translated.measurements_get_expectation_values (ν := Rat) (Ω := List (Term Rat)) (Τ := Term Rat) (fun _ => false) (fun q => q.floor)
    exSymm (fun ts => ts.all Term.isIsing) (fun ts => ts) Term.coeff (fun t => t.qubits.map Int.ofNat) [[1, 0]] [⟨2, [(0, .Z)]⟩] true =
    .ok ([-2], [⟨1, [[4]]⟩], [⟨1, [[none]]⟩]) := by decide +kernel
example : Translated.measurements_get_expectation_values (ν := Rat) (Ω := List (Term Rat)) (Τ := Term Rat) (fun _ => false) (fun q => q.floor)
    exSymm (fun ts => ts.all Term.isIsing) (fun ts => ts) Term.coeff (fun t => t.qubits.map Int.ofNat) [[1, 0]] [⟨2, [(0, .X)]⟩] true =
    .error .type := by decide +kernel
/-- the stand-in for `set.symmetric_difference` satisfies the assumed law (it is the model's `symmDiff` read on ints) -/
example : ∀ a b : List Nat, ∃ l : List Nat, exSymm (a.map Int.ofNat) (b.map Int.ofNat) = l.map Int.ofNat ∧ l.Perm (symmDiff a b) :=
  fun a b => ⟨symmDiff a b, symmDiff_map_ofNat a b, List.Perm.refl _⟩
/-- the hypotheses of the end-to-end theorems are met by `exShots` / `exTerms` -/
example : Translated.measurements_get_expectation_values (ν := Rat) (Ω := List (Term Rat)) (Τ := Term Rat) (fun _ => false) (fun q => q.floor)
    exSymm (fun ts => ts.all Term.isIsing) (fun ts => ts) Term.coeff (fun t => t.qubits.map Int.ofNat) (exShots.map encT) exTerms true =
    .ok ((evSpec exShots exTerms true).values, [⟨4, (evSpec exShots exTerms true).correlations⟩],
         [⟨4, (evSpec exShots exTerms true).covariances⟩]) :=
  translated_expectation_values_reported _ _ _ (by intro c h; cases h)
    (fun a b => ⟨symmDiff a b, symmDiff_map_ofNat a b, List.Perm.refl _⟩)
    exShots exTerms true 2 (by decide) (by decide) (by decide) (by decide) (by decide) (by decide)

end OQ.C10
