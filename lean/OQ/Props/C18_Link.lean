/-
  C18 ∘ C01 ∘ C02 — LINKED THEOREMS: the decomposition theorems of `OQ.Props.C18`, stated there for an abstract
  `Placement` and an assumed action `denote E k ops = some U`, composed with
    * `OQ.Props.C01` (`toUnitary_ordered_product`: the matrix `Circuit.to_unitary()` RETURNS is the ordered product
      of the gates placed by `Spec.lift` along `sigmaOf`), and
    * `OQ.Props.C02` (`builtin_dim`: every gate of the generated table has the dimension of its arity;
      `u3_is_rz_ry_rz`: the table's U3 matrix is e^{i(φ+λ)/2}·RZ(φ)·RY(θ)·RZ(λ)),
  into END-TO-END statements about the EXECUTABLE unitary `circuitUnitary` (= `Lift.toUnitary`, what the model
  driver prints and the harness compares with the library's `to_unitary()`).
  Helper lemmas: OQ/Lemmas/C18_Link.lean.

  What is closed.
    * hypothesis `hU : denote E k ops = some U` of `decompose_plain_up_to_phase`, `decompose_up_to_phase_partial`,
      `decompose_controlled_partial`, `decompose_plain_up_to_phase_complex`: here "`to_unitary()` of the
      input circuit returns `U`" (`circuitUnitary k c = some U`), with `E` the placement the code implements;
    * their conclusion `∃ U', denote E k out = some U' ∧ …`: here "`to_unitary()` of the decomposed circuit
      returns `U'`" and an ENTRYWISE relation of the two returned matrices;
    * the shape side condition `WellShaped` (which the executable embedding, unlike numpy's `@`, does not check) is
      discharged for every gate of the built-in table by C02 (`wellShaped_of_table`), and `BuiltinU3` with it.
  What stays open is exactly what is open in `OQ.Props.C18` (F9): controlled U3s with e^{i(φ+λ)/2} ≠ 1.
-/
import OQ.Props.C18
import OQ.Props.C01
import OQ.Props.C02
import OQ.Lemmas.C18_Link
set_option linter.unusedSectionVars false
namespace OQ.C18.Link
open Matrix OQ OQ.Spec OQ.C18 OQ.Lift

section Semantics
variable {R : Type} [CommRing R] [StarRing R]

/-- the placement the code implements is a placement through `OQ.Spec.lift` in the sense of C18
    (`Placement.ofLift`): on a duplicate-free tuple inside the register it is C01's `Spec.lift (sigmaOf qs n)`
    of the MSB-first re-indexed gate matrix. -/
theorem stdPlacement_is_spec_lift (n : Nat) (qs : List Nat) (hd : qs.Nodup) (hlt : ∀ q ∈ qs, q < n)
    (m : Mat R) :
    (stdPlacement R n).emb qs (Mat.toM (2 ^ qs.length) (2 ^ qs.length) m) =
      Spec.lift (C01.sigmaOf qs n hd hlt) (C01.toBV qs.length m) :=
  stdPlacement_emb n qs hd hlt _

/-- C18's action of an operation list, at the code's placement, IS C01's specification `circSem` of the same
    gates (ordered product, first operation rightmost, each gate on exactly its qubits). -/
theorem denote_is_circSem (n : Nat) (k : Scal R) (ops : List (Operation (Ang R) R)) (l : List (Lift.Op R))
    (hl : liftOps k ops = some l) (hv : ∀ o ∈ l, C01.OpValid n o) :
    denote (stdPlacement R n) k ops = some (C01.circSem n (l.map C01.Oper.gate)) := by
  induction ops generalizing l with
  | nil =>
    obtain rfl : [] = l := Option.some.inj hl
    simp only [denote, denoteBy, List.map_nil, C01.circSem_nil]
  | cons op ops ih =>
    obtain ⟨g, qs, m, l', rfl, hm, hl', rfl⟩ := liftOps_cons_eq_some.mp hl
    have h1 := denoteOp_std n k g qs m hm (hv _ List.mem_cons_self)
    have h2 := ih l' hl' fun o ho => hv o (List.mem_cons_of_mem _ ho)
    unfold denote at h2 ⊢
    simp only [denoteBy, h1, h2, Option.bind_some, List.map_cons, C01.circSem_cons]
    rfl

/-- **discharges `hU`**: if `to_unitary()` of a circuit of well-shaped gates returns `U`, then `U` is `2^n × 2^n`
    and the circuit has the action `toBV n U` in the sense of C18 at the code's placement
    (C01 `toUnitary_ordered_product` composed with `denote_is_circSem`). -/
theorem circuitUnitary_is_denote (k : Scal R) (c : Circuit (Ang R) R) (hshape : ∀ op ∈ c.ops, WellShaped k op)
    (U : Mat R) (hU : circuitUnitary k c = some U) :
    U.r = 2 ^ c.n ∧ U.c = 2 ^ c.n ∧ c.n ≠ 0 ∧ c.ops ≠ [] ∧
      denote (stdPlacement R c.n) k c.ops = some (C01.toBV c.n U) := by
  obtain ⟨l, hl, hne, hv, hr, hc, hsem⟩ := circuitUnitary_valid k c.n c.ops hshape U hU
  refine ⟨hr, hc, ?_, fun e => hne ((liftOps_eq_nil k c.ops l hl).mpr e), ?_⟩
  · -- some operation sits on some qubit of the register
    obtain ⟨o, ho⟩ := List.exists_mem_of_ne_nil l hne
    obtain ⟨q, hq⟩ := List.exists_mem_of_ne_nil _ (hv o ho).ne
    exact Nat.ne_zero_of_lt ((hv o ho).lt q hq)
  · rw [hsem]; exact denote_is_circSem c.n k c.ops l hl hv

/-- **transfer to the executable unitary.**  Any relation `Rel` that the C18 theorems establish between the
    actions of two operation lists at the code's placement holds between the (bit-indexed views of the) matrices
    `to_unitary()` RETURNS for them – provided the second list sits on qubit tuples of the first and is non-empty
    when the first is (both are structural facts of the bundled rule, `decompose_u3_qs`). -/
theorem exec_of_denote (n : Nat) (k : Scal R) (ops out : List (Operation (Ang R) R))
    (Rel : Matrix (BV (Fin n)) (BV (Fin n)) R → Matrix (BV (Fin n)) (BV (Fin n)) R → Prop)
    (hshape : ∀ op ∈ ops, WellShaped k op)
    (hinv : (ops ≠ [] → out ≠ []) ∧ ∀ o ∈ out, ∃ op ∈ ops, o.qs = op.qs)
    (hden : ∀ U, denote (stdPlacement R n) k ops = some U →
      ∃ U', denote (stdPlacement R n) k out = some U' ∧ Rel U U')
    (U : Mat R) (hU : circuitUnitary k ⟨ops, n⟩ = some U) :
    ∃ U' : Mat R, circuitUnitary k ⟨out, n⟩ = some U' ∧
      U.r = 2 ^ n ∧ U.c = 2 ^ n ∧ U'.r = 2 ^ n ∧ U'.c = 2 ^ n ∧ Rel (C01.toBV n U) (C01.toBV n U') := by
  obtain ⟨l, hl, hne, hv, hr, hc, hsem⟩ := circuitUnitary_valid k n ops hshape U hU
  obtain ⟨V', hV', hrel⟩ := hden _ (denote_is_circSem n k ops l hl hv)
  obtain ⟨l', hl', hls'⟩ := liftOps_of_denote _ k out V' hV'
  have hl'ne : l' ≠ [] := fun e =>
    hinv.1 (fun e0 => hne ((liftOps_eq_nil k ops l hl).mpr e0)) ((liftOps_eq_nil k out l' hl').mp e)
  -- the pairs of `out` sit on qubit tuples of `ops`, which are those of the valid pairs `l`
  have hlv' : ∀ o ∈ l', C01.OpValid n o := by
    intro o ho
    obtain ⟨g, hg, -⟩ := (liftOps_spec k hl').2 o ho
    obtain ⟨op, hop, e⟩ := hinv.2 _ hg
    obtain ⟨o0, ho0, e0⟩ := List.mem_map.mp (show op.qs ∈ l.map (fun o => o.qs) by
      rw [(liftOps_spec k hl).1]; exact List.mem_map_of_mem hop)
    have hq : o.qs = o0.qs := e.trans e0.symm
    have h0 := hv o0 ho0
    exact ⟨hq ▸ h0.ne, hq ▸ h0.nodup, hq ▸ h0.lt, (hls' o ho).1, (hls' o ho).2⟩
  obtain ⟨U', hU', hr', hc', hsem'⟩ := circuitUnitary_of_valid k n out l' hl' hl'ne hlv'
  have hd' := denote_is_circSem n k out l' hl' hlv'
  rw [hV', Option.some.injEq] at hd'
  exact ⟨U', hU', hr, hc, hr', hc', by rw [hsem, hsem', ← hd']; exact hrel⟩

end Semantics

section EndToEnd
variable {R : Type} [CommRing R] [StarRing R]

/-- **END TO END, PARTIAL (controlled U3s need e^{i(φ+λ)/2} = 1, F9).**
    For every circuit `c` (any width, any gates around, plain and controlled U3s on any qubits), every list of
    bundled rules: if `decompose_orquestra_circuit` returns `c'` and `c.to_unitary()` returns `U`, then
    `c'.to_unitary()` returns a matrix `U'` of the same size `2^n × 2^n`, `c'` has the width of `c`, and
    `U[i][j] = p · U'[i][j]` for ONE scalar `p` of modulus one.
    Closes, in `decompose_up_to_phase_partial`: the abstract placement `E` (here the code's `_lift_matrix`, by C01),
    the assumed action `hU` (here the returned matrix) and the existential action of the output (here the returned
    matrix).  `hshape`: gate matrices have the dimension of their qubit tuples – the library's `@` raises otherwise
    (C01 `lifted_matrix_defined_iff`); discharged for table gates by `wellShaped_of_table`.
    MISSING for the full statement: controlled U3s with e^{i(φ+λ)/2} ≠ 1 (`hphase`), where it is false. -/
theorem decompose_up_to_phase_partial_exec (k : Scal R) (hi : k.i * k.i = -1) (hs : star k.i = -k.i)
    (rules : List (Rule (Operation (Ang R) R))) (hrules : ∀ r ∈ rules, r = u3Rule)
    (c c' : Circuit (Ang R) R)
    (hreal : ∀ op ∈ c.ops, RealParams op) (hbuiltin : ∀ op ∈ c.ops, BuiltinU3 op)
    (hphase : ∀ op ∈ c.ops, CtrlPhaseTrivial k op) (hshape : ∀ op ∈ c.ops, WellShaped k op)
    (h : decomposeCircuit rules c = some c') (U : Mat R) (hU : circuitUnitary k c = some U) :
    ∃ (U' : Mat R) (p : R), circuitUnitary k c' = some U' ∧ c'.n = c.n ∧ p * star p = 1 ∧
      U.r = 2 ^ c.n ∧ U.c = 2 ^ c.n ∧ U'.r = 2 ^ c.n ∧ U'.c = 2 ^ c.n ∧
      ∀ i j, U.get i j = p * U'.get i j := by
  obtain ⟨_, _, hn, _, _⟩ := circuitUnitary_is_denote k c hshape U hU
  obtain ⟨hn', hdec⟩ := width_kept rules c c' hn h
  have hinv := decompose_u3_qs rules hrules c.ops c'.ops hdec
  obtain ⟨U', hU', hr, hc, hr', hc', hrel⟩ := exec_of_denote c.n k c.ops c'.ops PhaseEq hshape hinv
    (fun V hV => decompose_up_to_phase_partial (stdPlacement R c.n) k hi hs rules hrules c.ops c'.ops
      hreal hbuiltin hphase hdec V hV) U hU
  obtain ⟨p, hp, hpU⟩ := hrel
  refine ⟨U', p, ?_, hn', hp, hr, hc, hr', hc', entries_of_toBV c.n U U' p hpU hr hc hr' hc'⟩
  rw [← hn'] at hU'
  exact hU'

/-- **END TO END, circuits whose U3s are uncontrolled** (any number, any placement, among any other gates): the
    property holds in full for the matrices `to_unitary()` returns – the matrix of the decomposed circuit is a
    unit-modulus scalar multiple of the matrix of the original.
    Closes `E`, `hU` and the existential action of `decompose_plain_up_to_phase` (see
    `decompose_up_to_phase_partial_exec`). -/
theorem decompose_plain_up_to_phase_exec (k : Scal R) (hi : k.i * k.i = -1) (hs : star k.i = -k.i)
    (rules : List (Rule (Operation (Ang R) R))) (hrules : ∀ r ∈ rules, r = u3Rule)
    (c c' : Circuit (Ang R) R)
    (hreal : ∀ op ∈ c.ops, RealParams op) (hbuiltin : ∀ op ∈ c.ops, BuiltinU3 op)
    (hplain : ∀ op ∈ c.ops, isCtrlU3 op = false) (hshape : ∀ op ∈ c.ops, WellShaped k op)
    (h : decomposeCircuit rules c = some c') (U : Mat R) (hU : circuitUnitary k c = some U) :
    ∃ (U' : Mat R) (p : R), circuitUnitary k c' = some U' ∧ c'.n = c.n ∧ p * star p = 1 ∧
      U.r = 2 ^ c.n ∧ U.c = 2 ^ c.n ∧ U'.r = 2 ^ c.n ∧ U'.c = 2 ^ c.n ∧
      ∀ i j, U.get i j = p * U'.get i j :=
  decompose_up_to_phase_partial_exec k hi hs rules hrules c c' hreal hbuiltin
    (fun op hop => ctrlPhaseTrivial_of_plain k (hplain op hop)) hshape h U hU

/-- **END TO END, controlled U3 with trivial phase, PARTIAL**: for a U3(θ,φ,λ) with `c` controls on `c + 1`
    qubits and e^{i(φ+λ)/2} = 1, `to_unitary()` of the three controlled rotations the rule produces returns a
    matrix with EXACTLY the entries of `to_unitary()` of the controlled U3 (no phase at all).
    Closes `E` / `hU` of `decompose_controlled_partial`.  MISSING: e^{i(φ+λ)/2} ≠ 1, where the statement is false
    (`controlled_phase_necessary`, `cu3_relative_phase`). -/
theorem decompose_controlled_partial_exec (k : Scal R) (hi : k.i * k.i = -1)
    (th ph la : Ang R) (hph : RealAng ph) (hla : RealAng la) (hone : ph.ehp k * la.ehp k = 1)
    (c n : Nat) (qs : List Nat) (hqs : qs.length = c + 1) (U : Mat R)
    (hU : circuitUnitary k ⟨[.gate (.controlled (.mf "U3" [th, ph, la] none) c) qs], n⟩ = some U) :
    ∃ U' : Mat R,
      circuitUnitary k ⟨[.gate (.controlled (rzGate la) c) qs, .gate (.controlled (ryGate th) c) qs,
                          .gate (.controlled (rzGate ph) c) qs], n⟩ = some U' ∧
      U'.r = U.r ∧ U'.c = U.c ∧ ∀ i j, U.get i j = U'.get i j := by
  have hshape : ∀ op ∈ [Operation.gate (.controlled (.mf "U3" [th, ph, la] none) c : Gate (Ang R) R) qs],
      WellShaped k op := List.forall_mem_singleton.mpr fun m hm => by
    obtain rfl : ctrlMatrix c (Gates.u3 k th ph la) = m := Option.some.inj hm
    rw [ctrl_r, ctrl_c, hqs, pow_succ, Nat.mul_comm]
    exact ⟨rfl, rfl⟩
  obtain ⟨U', hU', hr, hc, hr', hc', hrel⟩ := exec_of_denote n k _
    [.gate (.controlled (rzGate la) c) qs, .gate (.controlled (ryGate th) c) qs,
     .gate (.controlled (rzGate ph) c) qs] Eq hshape
    ⟨fun _ => List.cons_ne_nil _ _, fun o ho => ⟨_, List.mem_singleton.mpr rfl,
      forall_mem_three (P := fun o => o.qs = qs) rfl rfl rfl o ho⟩⟩
    (fun V hV => ⟨V, decompose_controlled_partial (stdPlacement R n) k hi th ph la hph hla hone c qs V hV, rfl⟩)
    U hU
  exact ⟨U', hU', hr'.trans hr.symm, hc'.trans hc.symm, fun i j => by
    rw [entries_of_toBV n U U' 1 (by rw [one_smul]; exact hrel) hr hc hr' hc', one_mul]⟩

end EndToEnd

section Table
variable {R : Type} [CommRing R] [StarRing R]
open OQ.Generated

/-- C18's "real angle" and C02's "valid angle point" are the same hypothesis -/
theorem realAng_iff_valid (a : Ang R) : RealAng a ↔ C02.Valid a :=
  ⟨fun h => ⟨h.1, h.2.1, h.2.2⟩, fun h => ⟨h.circle, h.sc, h.ss⟩⟩

/-- the matrix C18's semantics gives a built-in gate IS the matrix C02's `<gate>.matrix` computes from the
    generated table (so every C02 theorem about the table – dimension, unitarity, identities – is a theorem about
    the gates of C18's circuits) -/
theorem gateMatrix_of_table (k : Scal R) (name : String) (ps : List (Ang R)) (M : Mat R)
    (h : C02.gateMatrix gateTable k name ps = .ok M) : gateMatrix k (.mf name ps none) = some M := by
  unfold C02.gateMatrix at h
  split at h
  · cases h
  · split at h
    · cases h
    · split at h
      · rename_i m hm
        cases h
        exact hm
      · cases h

/-- an operation applying a gate of the built-in table (plain, or with `c` controls) to as many qubits as the gate
    declares (plus `c`) -/
def TableOp : Operation (Ang R) R → Prop
  | .gate (.mf name ps none) qs =>
    ∃ row ∈ gateTable, C02.Row.name row = name ∧ ps.length = C02.Row.numParams row ∧
      qs.length = C02.Row.numQubits row
  | .gate (.controlled (.mf name ps none) c) qs =>
    ∃ row ∈ gateTable, C02.Row.name row = name ∧ ps.length = C02.Row.numParams row ∧
      qs.length = C02.Row.numQubits row + c
  | _ => False

/-- a table operation has a gate matrix, of the dimension of its qubit tuple (C02 `builtin_dim`) -/
theorem table_gateMatrix (k : Scal R) (g : Gate (Ang R) R) (qs : List Nat) (h : TableOp (.gate g qs)) :
    ∃ m, gateMatrix k g = some m ∧ m.r = 2 ^ qs.length ∧ m.c = 2 ^ qs.length ∧ 1 ≤ qs.length := by
  have hpos : ∀ row ∈ gateTable, 1 ≤ C02.Row.numQubits row := by decide
  match g, h with
  | .mf _ ps none, ⟨row, hrow, rfl, hps, hq⟩ =>
    obtain ⟨M, hM, hr, hc⟩ := C02.builtin_dim k row hrow ps hps
    exact ⟨M, gateMatrix_of_table k _ ps M hM, hq ▸ hr, hq ▸ hc, hq ▸ hpos row hrow⟩
  | .controlled (.mf _ ps none) c, ⟨row, hrow, rfl, hps, hq⟩ =>
    obtain ⟨M, hM, hr, hc⟩ := C02.builtin_dim k row hrow ps hps
    exact ⟨ctrlMatrix c M, congrArg (Option.map (ctrlMatrix c)) (gateMatrix_of_table k _ ps M hM),
      by rw [ctrl_r, hr, hq, pow_add], by rw [ctrl_c, hr, hq, pow_add], hq ▸ Nat.le_add_right_of_le (hpos row hrow)⟩

/-- **discharges `hshape`** (C02 `builtin_dim`): table gates on the declared number of qubits are well shaped -/
theorem wellShaped_of_table (k : Scal R) (op : Operation (Ang R) R) (h : TableOp op) : WellShaped k op := by
  cases op with
  | other t qs => trivial
  | gate g qs =>
    obtain ⟨m, hm, hr, hc, _⟩ := table_gateMatrix k g qs h
    exact fun m' hm' => Option.some.inj (hm.symm.trans hm') ▸ ⟨hr, hc⟩

/-- **discharges `hbuiltin`**: a table operation never is a custom gate reusing the name "U3" -/
theorem builtinU3_of_table (op : Operation (Ang R) R) (h : TableOp op) : BuiltinU3 op :=
  match op, h with
  | .gate (.mf _ _ none) _, _ => fun _ => rfl
  | .gate (.controlled (.mf _ _ none) _) _, _ => fun _ => rfl

/-- every circuit of table operations has its list of (matrix, qubits) pairs -/
theorem liftOps_defined (k : Scal R) : ∀ (ops : List (Operation (Ang R) R)), (∀ op ∈ ops, TableOp op) →
    ∃ l, liftOps k ops = some l
  | [], _ => ⟨[], rfl⟩
  | .other _ _ :: _, h => (h _ List.mem_cons_self).elim
  | .gate g qs :: ops, h => by
    obtain ⟨l, hl⟩ := liftOps_defined k ops fun o ho => h o (List.mem_cons_of_mem _ ho)
    obtain ⟨m, hm, _⟩ := table_gateMatrix k g qs (h _ List.mem_cons_self)
    exact ⟨⟨m, qs⟩ :: l, liftOps_cons_eq_some.mpr ⟨g, qs, m, l, rfl, hm, hl, rfl⟩⟩

/-- **discharges `hU`**: `to_unitary()` is DEFINED for every non-empty circuit of table gates, each on the number
    of qubits it declares, on distinct qubits of the register (C01 `toUnitary_ordered_product` for existence). -/
theorem circuitUnitary_defined (k : Scal R) (c : Circuit (Ang R) R) (hne : c.ops ≠ [])
    (htable : ∀ op ∈ c.ops, TableOp op) (hqs : ∀ op ∈ c.ops, op.qs.Nodup ∧ ∀ q ∈ op.qs, q < c.n) :
    ∃ U, circuitUnitary k c = some U := by
  obtain ⟨l, hl⟩ := liftOps_defined k c.ops htable
  have hlv : ∀ o ∈ l, C01.OpValid c.n o := by
    intro o ho
    obtain ⟨g, hg, hm⟩ := (liftOps_spec k hl).2 o ho
    obtain ⟨m, hm', hr, hc, hpos⟩ := table_gateMatrix k g o.qs (htable _ hg)
    obtain rfl : o.m = m := Option.some.inj (hm.symm.trans hm')
    exact ⟨fun e => by rw [e] at hpos; exact absurd hpos (by decide), (hqs _ hg).1, (hqs _ hg).2, hr, hc⟩
  obtain ⟨U, hU, -⟩ := circuitUnitary_of_valid k c.n c.ops l hl
    (fun e => hne ((liftOps_eq_nil k c.ops l hl).mp e)) hlv
  exact ⟨U, hU⟩

/-- **the matrix identity behind the rule, from C02**: `u3_plain` of `OQ.Props.C18` is C02's `u3_is_rz_ry_rz`
    (proved there for the closed form the generated table uses, i.e. for what `u3_matrix` returns after
    `sympy.simplify`) read from right to left. -/
theorem u3_plain_from_C02 (k : Scal R) (hk : C02.Laws k) (th ph la : Ang R) (hph : C02.Valid ph)
    (hla : C02.Valid la) :
    Mat.toM 2 2 (Gates.u3 k th ph la) =
      (ph.ehp k * la.ehp k) •
        (Mat.toM 2 2 (Gates.rz k ph) * Mat.toM 2 2 (Gates.ry th) * Mat.toM 2 2 (Gates.rz k la)) :=
  (C02.u3_is_rz_ry_rz hk hph hla).symm

/-- **plain U3, with the phase NAMED, from C02's identity `u3_is_rz_ry_rz`**: under every
    placement, if U3(θ,φ,λ) on `qs` acts as `U`, then RZ(λ), RY(θ), RZ(φ) on `qs` (circuit order) act as some `U'`
    with `U = e^{i(φ+λ)/2} • U'`, and that scalar has modulus one.  The only look inside a gate matrix is C02's
    theorem about the table; the rest is `u3_plain_sound`. -/
theorem u3_plain_phase_via_C02 {ι : Type} [Fintype ι] [DecidableEq ι] (E : Placement R ι) (k : Scal R)
    (hk : C02.Laws k) (th ph la : Ang R) (hph : C02.Valid ph) (hla : C02.Valid la) (qs : List Nat)
    (U : Matrix (BV ι) (BV ι) R) (hU : denote E k [.gate (.mf "U3" [th, ph, la] none) qs] = some U) :
    ∃ U', denote E k [.gate (rzGate la) qs, .gate (ryGate th) qs, .gate (rzGate ph) qs] = some U' ∧
      U = (ph.ehp k * la.ehp k) • U' ∧ (ph.ehp k * la.ehp k) * star (ph.ehp k * la.ehp k) = 1 := by
  unfold denote at *
  rw [denoteBy_singleton] at hU
  obtain ⟨U', hU', rfl⟩ := u3_plain_sound E k th ph la (u3_plain_from_C02 k hk th ph la hph hla) qs U hU
  exact ⟨U', hU', rfl, (realAng_phase k hk.ii hk.si ph ((realAng_iff_valid ph).mpr hph)).mul
    (realAng_phase k hk.ii hk.si la ((realAng_iff_valid la).mpr hla))⟩

/-- `u3_rule_sound` under C02's vocabulary: the constants satisfy C02's `Laws` (true in ℂ: `kC_laws`, and in the
    driver's ring ℚ(ζ₈): `cyc8_laws`) – the two scalar hypotheses of `u3_rule_sound` are among them. -/
theorem u3_rule_sound_of_laws {ι : Type} [Fintype ι] [DecidableEq ι] (E : Placement R ι) (k : Scal R)
    (hk : C02.Laws k) : (u3Rule : Rule (Operation (Ang R) R)).Sound (denoteOp E k) (U3Good k) :=
  u3_rule_sound E k hk.ii hk.si

/-- **END TO END for circuits of built-in gates, PARTIAL (F9)** (C18 ∘ C01 ∘ C02): every operation applies a gate of
    the generated table, plain or controlled, to the number of qubits it declares; parameters are valid angle points.
    Then `to_unitary()` of the decomposed circuit is a unit-modulus multiple of `to_unitary()` of the original.
    Controlled U3s with e^{i(φ+λ)/2} ≠ 1 are excluded by `hphase`, and cannot be included
    (`controlled_rule_exact_false`). -/
theorem decompose_up_to_phase_exec_builtin_partial (k : Scal R) (hk : C02.Laws k)
    (rules : List (Rule (Operation (Ang R) R))) (hrules : ∀ r ∈ rules, r = u3Rule)
    (c c' : Circuit (Ang R) R) (htable : ∀ op ∈ c.ops, TableOp op)
    (hvalid : ∀ op ∈ c.ops, ∀ g qs, op = .gate g qs → ∀ a ∈ g.params, C02.Valid a)
    (hphase : ∀ op ∈ c.ops, CtrlPhaseTrivial k op)
    (h : decomposeCircuit rules c = some c') (U : Mat R) (hU : circuitUnitary k c = some U) :
    ∃ (U' : Mat R) (p : R), circuitUnitary k c' = some U' ∧ c'.n = c.n ∧ p * star p = 1 ∧
      U.r = 2 ^ c.n ∧ U.c = 2 ^ c.n ∧ U'.r = 2 ^ c.n ∧ U'.c = 2 ^ c.n ∧
      ∀ i j, U.get i j = p * U'.get i j :=
  decompose_up_to_phase_partial_exec k hk.ii hk.si rules hrules c c'
    (realParams_of (fun a => (realAng_iff_valid a).mpr) hvalid)
    (fun op hop => builtinU3_of_table op (htable op hop)) hphase
    (fun op hop => wellShaped_of_table k op (htable op hop)) h U hU

/-- the same when no U3 is controlled: the property in full for circuits of built-in gates.  No hypothesis about
    shapes, custom gates, placements or actions is left: only C02's laws of the constants. -/
theorem decompose_plain_up_to_phase_exec_builtin (k : Scal R) (hk : C02.Laws k)
    (rules : List (Rule (Operation (Ang R) R))) (hrules : ∀ r ∈ rules, r = u3Rule)
    (c c' : Circuit (Ang R) R) (htable : ∀ op ∈ c.ops, TableOp op)
    (hvalid : ∀ op ∈ c.ops, ∀ g qs, op = .gate g qs → ∀ a ∈ g.params, C02.Valid a)
    (hplain : ∀ op ∈ c.ops, isCtrlU3 op = false)
    (h : decomposeCircuit rules c = some c') (U : Mat R) (hU : circuitUnitary k c = some U) :
    ∃ (U' : Mat R) (p : R), circuitUnitary k c' = some U' ∧ c'.n = c.n ∧ p * star p = 1 ∧
      U.r = 2 ^ c.n ∧ U.c = 2 ^ c.n ∧ U'.r = 2 ^ c.n ∧ U'.c = 2 ^ c.n ∧
      ∀ i j, U.get i j = p * U'.get i j :=
  decompose_up_to_phase_exec_builtin_partial k hk rules hrules c c' htable hvalid
    (fun op hop => ctrlPhaseTrivial_of_plain k (hplain op hop)) h U hU

/-- **END TO END with `hU` discharged too**: for a non-empty circuit of table gates on distinct qubits of the
    register (valid angle points, U3s uncontrolled), BOTH `to_unitary()` calls succeed and the two returned
    matrices agree up to one unit-modulus scalar.  The only remaining hypothesis about the run is that the
    decomposition itself returned (`h`). -/
theorem decompose_plain_up_to_phase_total_builtin (k : Scal R) (hk : C02.Laws k)
    (rules : List (Rule (Operation (Ang R) R))) (hrules : ∀ r ∈ rules, r = u3Rule)
    (c c' : Circuit (Ang R) R) (hne : c.ops ≠ []) (htable : ∀ op ∈ c.ops, TableOp op)
    (hqs : ∀ op ∈ c.ops, op.qs.Nodup ∧ ∀ q ∈ op.qs, q < c.n)
    (hvalid : ∀ op ∈ c.ops, ∀ g qs, op = .gate g qs → ∀ a ∈ g.params, C02.Valid a)
    (hplain : ∀ op ∈ c.ops, isCtrlU3 op = false)
    (h : decomposeCircuit rules c = some c') :
    ∃ (U U' : Mat R) (p : R), circuitUnitary k c = some U ∧ circuitUnitary k c' = some U' ∧ c'.n = c.n ∧
      p * star p = 1 ∧ U.r = 2 ^ c.n ∧ U.c = 2 ^ c.n ∧ U'.r = 2 ^ c.n ∧ U'.c = 2 ^ c.n ∧
      ∀ i j, U.get i j = p * U'.get i j := by
  obtain ⟨U, hU⟩ := circuitUnitary_defined k c hne htable hqs
  obtain ⟨U', p, hrest⟩ := decompose_plain_up_to_phase_exec_builtin k hk rules hrules c c' htable hvalid hplain h U hU
  exact ⟨U, U', p, hU, hrest⟩

end Table

section Corollaries
open OQ.Generated

/-- **ℂ / real angles, END TO END** (the executable counterpart of `decompose_plain_up_to_phase_complex`): for
    real rotation angles and uncontrolled U3s, `to_unitary()` of the decomposed circuit and of the original differ
    by ONE complex number of absolute value 1, entry by entry. -/
theorem decompose_plain_up_to_phase_exec_complex (n : Nat) (c c' : Circuit (Ang ℂ) ℂ)
    (hreal : ∀ op ∈ c.ops, ∀ g qs, op = .gate g qs → ∀ a ∈ g.params, ∃ t : ℝ, a = angOfReal t)
    (hbuiltin : ∀ op ∈ c.ops, BuiltinU3 op) (hplain : ∀ op ∈ c.ops, isCtrlU3 op = false)
    (hshape : ∀ op ∈ c.ops, WellShaped scalC op)
    (h : decomposeCircuit (List.replicate n u3Rule) c = some c') (U : Mat ℂ)
    (hU : circuitUnitary scalC c = some U) :
    ∃ (U' : Mat ℂ) (p : ℂ), circuitUnitary scalC c' = some U' ∧ c'.n = c.n ∧ ‖p‖ = 1 ∧
      U'.r = U.r ∧ U'.c = U.c ∧ ∀ i j, U.get i j = p * U'.get i j := by
  obtain ⟨U', p, hU', _, hp, hr, hc, hr', hc', hent⟩ := decompose_plain_up_to_phase_exec scalC scalC_ii scalC_star
    (List.replicate n u3Rule) (fun r hr => List.eq_of_mem_replicate hr) c c'
    (realParams_of (fun a ⟨t, ht⟩ => ht ▸ realAng_ofReal t) hreal) hbuiltin hplain hshape h U hU
  exact ⟨U', p, hU', by assumption, norm_eq_one_of_mul_star p hp, hr'.trans hr.symm, hc'.trans hc.symm, hent⟩

/-- **ℂ / real angles, built-in gates, END TO END with every side condition discharged** (C02's constants `kC`
    and angle points `angR θ`, whose laws C02 proves): circuits of table gates at REAL parameter values, U3s
    uncontrolled, any number of rule applications. -/
theorem decompose_plain_up_to_phase_exec_real_builtin (n : Nat) (c c' : Circuit (Ang ℂ) ℂ)
    (htable : ∀ op ∈ c.ops, TableOp op)
    (hreal : ∀ op ∈ c.ops, ∀ g qs, op = .gate g qs → ∀ a ∈ g.params, ∃ t : ℝ, a = C02.angR t)
    (hplain : ∀ op ∈ c.ops, isCtrlU3 op = false)
    (h : decomposeCircuit (List.replicate n u3Rule) c = some c') (U : Mat ℂ)
    (hU : circuitUnitary C02.kC c = some U) :
    ∃ (U' : Mat ℂ) (p : ℂ), circuitUnitary C02.kC c' = some U' ∧ c'.n = c.n ∧ ‖p‖ = 1 ∧
      U'.r = U.r ∧ U'.c = U.c ∧ ∀ i j, U.get i j = p * U'.get i j := by
  obtain ⟨U', p, hU', hn, hp, hr, hc, hr', hc', hent⟩ := decompose_plain_up_to_phase_exec_builtin C02.kC C02.kC_laws
    (List.replicate n u3Rule) (fun r hr => List.eq_of_mem_replicate hr) c c' htable
    (fun op hop g qs e a ha => by obtain ⟨t, rfl⟩ := hreal op hop g qs e a ha; exact C02.angR_valid t)
    hplain h U hU
  exact ⟨U', p, hU', hn, norm_eq_one_of_mul_star p hp, hr'.trans hr.symm, hc'.trans hc.symm, hent⟩

/-- **the driver's ring, END TO END**: over ℚ(ζ₈) with the constants the model driver uses and RATIONAL points of
    the unit circle as angles (what the harness generates), for circuits of table gates with uncontrolled U3s: the
    two matrices the driver PRINTS (`U`, `U2` of its `unitary` operation) differ by one scalar `p` with
    `p · conj p = 1` – exactly, no tolerance. -/
theorem decompose_plain_up_to_phase_exec_driver (n : Nat) (c c' : Circuit (Ang Cyc8) Cyc8)
    (htable : ∀ op ∈ c.ops, TableOp op)
    (hrat : ∀ op ∈ c.ops, ∀ g qs, op = .gate g qs → ∀ a ∈ g.params,
      ∃ x y : Rat, x * x + y * y = 1 ∧ a = ⟨Cyc8.ofRat x, Cyc8.ofRat y⟩)
    (hplain : ∀ op ∈ c.ops, isCtrlU3 op = false)
    (h : decomposeCircuit (List.replicate n u3Rule) c = some c') (U : Mat Cyc8)
    (hU : circuitUnitary Scal.cyc8 c = some U) :
    ∃ (U' : Mat Cyc8) (p : Cyc8), circuitUnitary Scal.cyc8 c' = some U' ∧ c'.n = c.n ∧ p * conj p = 1 ∧
      U'.r = U.r ∧ U'.c = U.c ∧ ∀ i j, U.get i j = p * U'.get i j := by
  obtain ⟨U', p, hU', hn, hp, hr, hc, hr', hc', hent⟩ := decompose_plain_up_to_phase_exec_builtin Scal.cyc8
    C02.cyc8_laws (List.replicate n u3Rule) (fun r hr => List.eq_of_mem_replicate hr) c c' htable
    (fun op hop g qs e a ha => by
      obtain ⟨x, y, hxy, rfl⟩ := hrat op hop g qs e a ha
      exact C02.cyc8_valid_of_rat x y hxy)
    hplain h U hU
  exact ⟨U', p, hU', hn, hp, hr'.trans hr.symm, hc'.trans hc.symm, hent⟩

end Corollaries

section NonVacuity
open OQ.Generated

/-- rational circle points 2·atan(4/3), −2·atan(4/3), 2·atan(12/5) in the driver's ring -/
def q35 : Ang Cyc8 := ⟨Cyc8.ofRat (3/5), Cyc8.ofRat (4/5)⟩
def q35n : Ang Cyc8 := ⟨Cyc8.ofRat (3/5), Cyc8.ofRat (-(4/5))⟩
def q513 : Ang Cyc8 := ⟨Cyc8.ofRat (5/13), Cyc8.ofRat (12/13)⟩

/-- X(2); U3(θ,φ,λ)(0) with φ+λ ≠ 0; CNOT(2,0); RY(θ)(1) on a 3-qubit register (descending, gapped indices) -/
def exCirc : Circuit (Ang Cyc8) Cyc8 :=
  ⟨[.gate (.mf "X" [] none) [2], .gate (.mf "U3" [q513, q35, q513] none) [0],
    .gate (.mf "CNOT" [] none) [2, 0], .gate (.mf "RY" [q513] none) [1]], 3⟩

/-- every hypothesis of `decompose_plain_up_to_phase_exec_driver` / `…_total_builtin` holds of `exCirc` -/
example : (∀ op ∈ exCirc.ops, TableOp op) ∧ (∀ op ∈ exCirc.ops, isCtrlU3 op = false) ∧ exCirc.ops ≠ [] ∧
    (∀ op ∈ exCirc.ops, op.qs.Nodup ∧ ∀ q ∈ op.qs, q < exCirc.n) ∧
    (∀ op ∈ exCirc.ops, ∀ g qs, op = .gate g qs → ∀ a ∈ g.params,
      ∃ x y : Rat, x * x + y * y = 1 ∧ a = ⟨Cyc8.ofRat x, Cyc8.ofRat y⟩) := by
  have h513 : ∃ x y : Rat, x * x + y * y = 1 ∧ q513 = ⟨Cyc8.ofRat x, Cyc8.ofRat y⟩ := ⟨5/13, 12/13, by norm_num, rfl⟩
  have h35 : ∃ x y : Rat, x * x + y * y = 1 ∧ q35 = ⟨Cyc8.ofRat x, Cyc8.ofRat y⟩ := ⟨3/5, 4/5, by norm_num, rfl⟩
  refine ⟨?_, by decide, by decide, by decide, ?_⟩ <;>
    simp only [exCirc, List.forall_mem_cons, List.not_mem_nil, false_imp_iff, implies_true, and_true]
  · exact ⟨⟨("X", 1, 0, true), by decide, rfl, rfl, rfl⟩, ⟨("U3", 1, 3, false), by decide, rfl, rfl, rfl⟩,
      ⟨("CNOT", 2, 0, true), by decide, rfl, rfl, rfl⟩, ⟨("RY", 1, 1, false), by decide, rfl, rfl, rfl⟩⟩
  · refine ⟨?_, ?_, ?_, ?_⟩ <;> rintro _ _ ⟨⟩ a ha <;>
      simp only [Gate.params, List.mem_cons, List.not_mem_nil, or_false] at ha
    · rcases ha with rfl | rfl | rfl
      exacts [h513, h35, h513]
    · exact ha ▸ h513

/-- the decomposition with two rules returns a 6-operation circuit of width 3, and `to_unitary()` is defined
    before and after -/
example : (decomposeCircuit (List.replicate 2 u3Rule) exCirc).map (fun c => (c.ops.length, c.n)) = some (6, 3) ∧
    (circuitUnitary Scal.cyc8 exCirc).isSome = true ∧
    (((decomposeCircuit (List.replicate 2 u3Rule) exCirc).bind (circuitUnitary Scal.cyc8)).isSome = true) := by
  refine ⟨by decide +kernel, by decide +kernel, by decide +kernel⟩

/-- the single plain U3(θ,φ,λ)(0) with φ+λ ≠ 0 on one qubit -/
def exSmall : Circuit (Ang Cyc8) Cyc8 := ⟨[.gate (.mf "U3" [q513, q35, q513] none) [0]], 1⟩

/-- … and the theorem bites: the two returned matrices are NOT equal (entry (0,0): cos θ/2 against
    e^{−i(φ+λ)/2}·cos θ/2 – the phase `p` is not 1 here) -/
example : (circuitUnitary Scal.cyc8 exSmall).map (fun U => U.get 0 0) ≠
    ((decomposeCircuit [u3Rule] exSmall).bind (circuitUnitary Scal.cyc8)).map (fun U => U.get 0 0) := by
  -- one qubit is the whole register: the entries are those of U3 and of RZ(φ)·RY(θ)·RZ(λ)
  obtain ⟨U, hU, hget⟩ := circuitUnitary_range Scal.cyc8 exSmall (by decide) (Gates.u3 Scal.cyc8 q513 q35 q513) []
    rfl (by decide)
  obtain ⟨U', hU', hget'⟩ := circuitUnitary_range Scal.cyc8
    ⟨[.gate (rzGate q513) [0], .gate (ryGate q513) [0], .gate (rzGate q35) [0]], 1⟩ (by decide)
    (Gates.rz Scal.cyc8 q35) [Gates.ry q513, Gates.rz Scal.cyc8 q513] rfl (by decide)
  have hd : (decomposeCircuit [u3Rule] exSmall).bind (circuitUnitary Scal.cyc8) = some U' :=
    Option.bind_eq_some_iff.mpr ⟨_, rfl, hU'⟩
  rw [hU, hd, Option.map_some, Option.map_some, hget, hget']
  decide +kernel

/-- the hypotheses of `decompose_controlled_partial_exec` at a non-trivial point: CU3(θ,φ,−φ) with two controls on
    qubits (3,0,2) of a 4-qubit register -/
example : C18.RealAng q35 ∧ C18.RealAng q35n ∧ q35.ehp Scal.cyc8 * q35n.ehp Scal.cyc8 = 1 ∧
    ([3, 0, 2] : List Nat).length = 2 + 1 ∧
    (circuitUnitary Scal.cyc8
      ⟨[.gate (.controlled (.mf "U3" [q513, q35, q35n] none) 2) [3, 0, 2]], 4⟩).isSome = true := by
  refine ⟨(realAng_iff_valid _).mpr (C02.cyc8_valid_of_rat _ _ (by norm_num)),
    (realAng_iff_valid _).mpr (C02.cyc8_valid_of_rat _ _ (by norm_num)), by decide +kernel, rfl, by decide +kernel⟩

/-- … and that operation meets the hypotheses of `decompose_up_to_phase_exec_builtin_partial` -/
example :
    let op : Operation (Ang Cyc8) Cyc8 := .gate (.controlled (.mf "U3" [q513, q35, q35n] none) 2) [3, 0, 2]
    TableOp op ∧ CtrlPhaseTrivial Scal.cyc8 op := by
  refine ⟨⟨("U3", 1, 3, false), by decide, rfl, rfl, rfl⟩, ?_⟩
  intro _ g qs th ph la hg hps
  injection hg with hg1 hg2
  subst hg1
  simp only [Gate.params, List.cons.injEq, and_true] at hps
  obtain ⟨_, rfl, rfl⟩ := hps
  decide +kernel

/-- the ℂ hypotheses: `C02.kC` satisfies `Laws`, every real angle gives a valid point, so
    `decompose_plain_up_to_phase_exec_real_builtin` applies to every table circuit at real parameters -/
example : C02.Laws C02.kC ∧ ∀ t : ℝ, C02.Valid (C02.angR t) := ⟨C02.kC_laws, C02.angR_valid⟩

end NonVacuity

end OQ.C18.Link
