/- C14 — PROPERTY THEOREMS (translation tie of the runner CLASSES, work package T5).
   `OQ.Generated.Runners.Base.*` / `Tracker.*` / `Sim.*` are REGENERATED from /repo's current Python source on every run
   (harness/translate_state.py → OQ/Generated/TranslatedRunners.lean): `BaseCircuitRunner`, `MeasurementTrackingBackend` and
   `BaseWavefunctionSimulator`, method by method, STATE PASSING (`self → args → self' × Result r`; the state is returned in the
   error case too – Python does not roll back what was assigned before a `raise`), one set of definitions per concrete class
   following the MRO (an override replaces the base-class body; inherited methods are re-emitted with their `self.…` calls
   resolved to the override), every abstract / foreign call a PARAMETER (`Base.Ext`, `Tracker.Ext`, `Sim.Ext`) that may change
   the state in any way and may raise.

   Part 1 (ties): with the externals instantiated as the model instantiates them (`baseExt`, `trackerExt`, `simExt`) the
   translated methods ARE the model's `Leaf.run/batch/dist`, `Runner.run/batch/dist` and `step`, for ALL states and ALL
   arguments, rejected calls and failing externals included (state maps `concBase` / `concT` / `concSim`).
   Part 2 (end-to-end through the tie): `reject_before_execute`, `base_increment_exact`, `sim_increment_exact`,
   `tracker_increment_exact` of Props/C14.lean restated on the translated definitions.
   Part 3 (end-to-end, directly on the translated code, for ARBITRARY types and ARBITRARY externals): rejection needs no assumption
   at all; the counter statements assume exactly the frame law the docstring of `_run_and_measure` demands ("does not touch the
   counters": `Base.Frame`, `Tracker.Frame`) – and, for the base class, are false without it (negative witness `xBump` below).
   Not translated: exception messages (only the class is kept); `get_exact_expectation_values`; the numerics behind the
   simulator's externals (numpy state vectors, `split_circuit`, sampling are parameters).
   Helper lemmas that depend on the generated method bodies are `private theorem`s of this file (not counted as obligations),
   so that a change of the Python source is reported against this file's theorems. -/
import OQ.Lemmas.C14_TranslatedRunners
import OQ.Props.C14
set_option linter.unusedSimpArgs false
set_option linter.unnecessarySeqFocus false
namespace OQ.C14
open OQ.Generated.Runners OQ.PyS

/-! ### Part 1a — `BaseCircuitRunner` = the model's `.base` leaf -/

/-- TRANSLATION TIE `BaseCircuitRunner.__init__` (any externals, any prior state): both counters are 0 afterwards, nothing else
    changes – the state `Runner.fresh` describes. -/
theorem translated_base_init_eq {ω C M D : Type} (x : Base.Ext ω C M D) (s : Base.State ω) :
    Base.init x s = (⟨0, 0, s.world⟩, .ok ()) := rfl

/-- TRANSLATION TIE of the two counter properties `n_jobs_executed` / `n_circuits_executed`: they read the fields, and change
    nothing. -/
theorem translated_base_counter_properties_eq {ω C M D : Type} (x : Base.Ext ω C M D) (s : Base.State ω) :
    Base.n_jobs_executed x s = (s, .ok s._n_jobs_executed) ∧
    Base.n_circuits_executed x s = (s, .ok s._n_circuits_executed) := ⟨rfl, rfl⟩

/-- TRANSLATION TIE `BaseCircuitRunner.run_and_measure` = `Leaf.run` of a `.base` leaf: for EVERY model state, circuit and
    count (also `n ≤ 0`, also when the abstract `_run_and_measure` raises) the translated method ends in the image of the
    model's state and returns the model's outcome.  Externals: `baseExt ext` (the abstract method answers `ext.exec` at the
    current invocation index and bumps the index). -/
theorem translated_base_run_and_measure_eq (ext : Ext) (l : Leaf) (hk : l.kind = .base) (c : Circ) (n : Int) :
    Base.run_and_measure (baseExt ext) (concBase l) c n
      = (concBase (l.run ext c n).1, toResult (l.run ext c n).2) := by
  unfold Base.run_and_measure Leaf.run
  by_cases h : n ≤ 0
  · simp [h, toResult, excOf]
  · simp only [h, decide_false, Bool.false_eq_true, if_false, hk, baseExt, concBase]
    cases ext.exec l.calls c n <;> simp [toResult, concBase]

private theorem Base.run_batch_eq_shell {ω C M D : Type} (x : Base.Ext ω C M D) (s : Base.State ω) (cs : List C)
    (ns : Int ⊕ List Int) :
    Base.run_batch_and_measure x s cs ns = batchShell (Base._run_batch_and_measure x s cs) s cs.length ns := by
  cases ns <;> rfl

/-- TRANSLATION TIE `BaseCircuitRunner.run_batch_and_measure` (with the default `_run_batch_and_measure`, a comprehension
    calling `self.run_and_measure` → `PyS.collectEach`) = `Leaf.batch`: every batch, every `n_samples` (an int – `nArg (.one n)` –
    or a list), including wrong lengths, non-positive counts, the empty batch with a non-positive scalar, and a failure in the
    middle of the batch (the state then holds what ran before it). -/
theorem translated_base_run_batch_and_measure_eq (ext : Ext) (l : Leaf) (hk : l.kind = .base) (cs : List Circ) (ns : NSpec) :
    Base.run_batch_and_measure (baseExt ext) (concBase l) cs (nArg ns)
      = (concBase (l.batch ext cs ns).1, toResult (l.batch ext cs ns).2) := by
  rw [Base.run_batch_eq_shell]
  obtain ⟨_, rfl, e⟩ := batchShell_collectEach (fun s l => s = concBase l) .base ext
    (fun s p => Base.run_and_measure (baseExt ext) s p.1 p.2)
    (fun s l p hk h => ⟨_, rfl, h ▸ translated_base_run_and_measure_eq ext l hk p.1 p.2⟩) cs ns _ l hk rfl
  exact e

/-- TRANSLATION TIE `BaseCircuitRunner.get_measurement_outcome_distribution` = `Leaf.dist` (`n_samples = None` included). -/
theorem translated_base_get_measurement_outcome_distribution_eq (ext : Ext) (l : Leaf) (hk : l.kind = .base) (c : Circ)
    (n : Option Int) :
    Base.get_measurement_outcome_distribution (baseExt ext) (concBase l) c n
      = (concBase (l.dist ext c n).1, toResult (l.dist ext c n).2) := by
  cases n with
  | none => simp [Base.get_measurement_outcome_distribution, Leaf.dist, hk, toResult, excOf]
  | some n =>
    simp only [Base.get_measurement_outcome_distribution, Leaf.dist, translated_base_run_and_measure_eq ext l hk]
    rcases l.run ext c n with ⟨l', o⟩
    cases o <;> simp [toResult, baseExt]

/-- TRANSLATION TIE, one statement for all three operations: a call dispatched to the translated methods (`Base.call`) is the
    model's `step` on the same call – same state (through `concBase`), same result or exception. -/
theorem translated_base_step_eq (ext : Ext) (l : Leaf) (hk : l.kind = .base) (call : Call) :
    Base.call (baseExt ext) (concBase l) (rcall call)
      = (concRunnerBase (step ext (.leaf l) call).1, rres (step ext (.leaf l) call).2) := by
  rw [step_leaf]
  cases call with
  | run c n => exact call_tie (translated_base_run_and_measure_eq ext l hk c n) fun _ => rfl
  | batch cs ns => exact call_tie (translated_base_run_batch_and_measure_eq ext l hk cs ns) fun _ => rfl
  | dist c n => exact call_tie (translated_base_get_measurement_outcome_distribution_eq ext l hk c n) fun _ => rfl

/-- `concBase` loses nothing: `absBase` recovers the model state. -/
theorem translated_base_state_roundtrip (l : Leaf) (hk : l.kind = .base) : absBase (concBase l) = l := by
  obtain ⟨kind, k, calls⟩ := l
  subst hk
  simp [absBase, concBase]

/-! ### Part 1b — `MeasurementTrackingBackend` = the model's `.tracker` (around ANY model runner chain `inner`) -/

/-- TRANSLATION TIE `MeasurementTrackingBackend.__init__` (calls the translated `BaseCircuitRunner.__init__` through `super()`):
    counters 0, `raw_data = []`, the arguments stored, `type` = the class name of the wrapped runner; `world` untouched. -/
theorem translated_tracker_init_eq {ω B C M D J O F : Type} (x : Tracker.Ext ω B C M D J O F) (s : Tracker.State ω B J)
    (inner : B) (fn : List Char) (rb : Option Bool) :
    Tracker.init x s inner fn rb
      = (⟨0, 0, rb, inner, [], x.attr_B___class_____name__ inner, fn, s.world⟩, .ok ()) := rfl

/-- TRANSLATION TIE `MeasurementTrackingBackend.record_raw_measurement_data` = the model's `mkMeasRecord` (through `recDict`): for
    every state, circuit and measurement the method appends exactly the dict of the model's record – circuit, histogram,
    number of gates, number of shots, and the bitstrings iff `record_bitstrings` is `True` – and nothing else changes. -/
theorem translated_tracker_record_raw_measurement_data_eq (ext : Ext) (dev : List Char) (reprD : DistVal → List Char) (dumps : Dict2 Payload → List Char) (s : TState) (c : Circ) (m : List Shot) :
    Tracker.record_raw_measurement_data (trackerExt ext dev reprD dumps) s c m
      = ({ s with raw_data := s.raw_data ++ [recDict s.type reprD (mkMeasRecord (s.record_bitstrings == some true) c m)] },
         .ok ()) := by
  unfold Tracker.record_raw_measurement_data
  by_cases h : (s.record_bitstrings == some true) = true <;>
    simp [trackerExt, recDict, mkMeasRecord, h, shotsInt, kDataType, kDevice, kCircuit, kCounts, kGates, kShots,
      kBitstrings, vMeasurement]
  rfl  -- with bitstrings: the comprehension is translated to a `map` of the identity, which `simp` leaves

/-- TRANSLATION TIE `MeasurementTrackingBackend.save_raw_data` (`with open(name, "w+") as f: … f.write(json.dumps(data))`, then
    `self.raw_data = []`): with the file system of `trackerExt` the file afterwards holds exactly the text of
    `{"raw-data": raw_data}` and `raw_data` is empty – for every state. -/
theorem translated_tracker_save_raw_data_eq (ext : Ext) (dev : List Char) (reprD : DistVal → List Char) (dumps : Dict2 Payload → List Char)
    (s : TState) :
    Tracker.save_raw_data (trackerExt ext dev reprD dumps) s
      = ({ s with raw_data := [], world := (s.world.1, fileText dumps s.raw_data) }, .ok ()) := by
  simp [Tracker.save_raw_data, trackerExt_open, trackerExt_write, trackerExt_exit, trackerExt_dumps, fileText, kRawData]

private theorem forEach_record (ext : Ext) (dev : List Char) (reprD : DistVal → List Char) (dumps : Dict2 Payload → List Char)
    (body : TState → Circ × List Shot → TState × Result Unit)
    (hbody : ∀ st p, body st p = ((Tracker.record_raw_measurement_data (trackerExt ext dev reprD dumps) st p.1 p.2).1, .ok ()))
    (ps : List (Circ × List Shot)) (s : TState) :
    forEach body s ps
      = ({ s with raw_data := s.raw_data ++
            ps.map (fun p => recDict s.type reprD (mkMeasRecord (s.record_bitstrings == some true) p.1 p.2)) }, .ok ()) := by
  induction ps generalizing s with
  | nil => simp [forEach]
  | cons p ps ih =>
    simp only [forEach, hbody, translated_tracker_record_raw_measurement_data_eq, ih]
    simp

/-- TRANSLATION TIE of the tracker's single call: the INHERITED `BaseCircuitRunner.run_and_measure` with `self._run_and_measure`
    resolved to the tracker's override (forward to the wrapped runner, `record_raw_measurement_data`, `save_raw_data`) =
    `Runner.run` on `.tracker`, for every tracker state (also with pending `raw`), every wrapped chain, every argument.
    `rb` is the Python value of `record_bitstrings` (`None` counts as `False`: hypothesis `hrb`).  Externals: `trackerExt`
    (wrapped runner = the model's `inner`, `save_raw_data` moves `raw_data` into the file and clears it). -/
theorem translated_tracker_run_and_measure_eq (ext : Ext) (dev fn : List Char) (reprD : DistVal → List Char) (dumps : Dict2 Payload → List Char)
    (rb : Option Bool) (inner : Runner) (bits : Bool) (k : Counters) (raw file : List Record) (c : Circ) (n : Int)
    (hrb : (rb == some true) = bits) :
    Tracker.run_and_measure (trackerExt ext dev reprD dumps) (concT dev fn reprD dumps rb (.tracker inner bits k raw file)) c n
      = (concT dev fn reprD dumps rb ((Runner.tracker inner bits k raw file).run ext c n).1,
         toResult ((Runner.tracker inner bits k raw file).run ext c n).2) := by
  unfold Tracker.run_and_measure Tracker._run_and_measure
  by_cases h : n ≤ 0
  · simp [h, Runner.run, toResult, excOf]
  · simp only [h, decide_false, Bool.false_eq_true, if_false, Runner.run, trackerExt_run,
      translated_tracker_save_raw_data_eq, concT, translated_tracker_record_raw_measurement_data_eq]
    rcases inner.run ext c n with ⟨inner', o⟩
    cases o with
    | err e => simp [toResult, concT]
    | ok m => simp [toResult, concT, hrb]

/-- TRANSLATION TIE of the tracker's OVERRIDE `run_batch_and_measure` = `Runner.batch` on `.tracker`: forward first, count
    `len(circuits)` / 1 only after the wrapped runner accepted, one record per `zip(circuits, measurements)` (→ `PyS.forEach`),
    save. -/
theorem translated_tracker_run_batch_and_measure_eq (ext : Ext) (dev fn : List Char) (reprD : DistVal → List Char) (dumps : Dict2 Payload → List Char)
    (rb : Option Bool) (inner : Runner) (bits : Bool) (k : Counters) (raw file : List Record) (cs : List Circ) (ns : NSpec)
    (hrb : (rb == some true) = bits) :
    Tracker.run_batch_and_measure (trackerExt ext dev reprD dumps) (concT dev fn reprD dumps rb (.tracker inner bits k raw file)) cs (nArg ns)
      = (concT dev fn reprD dumps rb ((Runner.tracker inner bits k raw file).batch ext cs ns).1,
         toResult ((Runner.tracker inner bits k raw file).batch ext cs ns).2) := by
  unfold Tracker.run_batch_and_measure
  simp only [Runner.batch, trackerExt_batch, translated_tracker_save_raw_data_eq, concT, nSpec_nArg]
  rcases inner.batch ext cs ns with ⟨inner', o⟩
  cases o with
  | err e => simp [toResult, concT]
  | ok ms =>
    simp only [toResult]
    rw [forEach_record ext dev reprD dumps _ (fun st p => by simp [translated_tracker_record_raw_measurement_data_eq])]
    simp [concT, hrb, Function.comp_def]

/-- TRANSLATION TIE of the tracker's OVERRIDE `get_measurement_outcome_distribution` = `Runner.dist` on `.tracker`. -/
theorem translated_tracker_get_measurement_outcome_distribution_eq (ext : Ext) (dev fn : List Char)
    (reprD : DistVal → List Char) (dumps : Dict2 Payload → List Char) (rb : Option Bool) (inner : Runner) (bits : Bool) (k : Counters) (raw file : List Record)
    (c : Circ) (n : Option Int) :
    Tracker.get_measurement_outcome_distribution (trackerExt ext dev reprD dumps)
        (concT dev fn reprD dumps rb (.tracker inner bits k raw file)) c n
      = (concT dev fn reprD dumps rb ((Runner.tracker inner bits k raw file).dist ext c n).1,
         toResult ((Runner.tracker inner bits k raw file).dist ext c n).2) := by
  unfold Tracker.get_measurement_outcome_distribution
  simp only [Runner.dist, trackerExt_dist, translated_tracker_save_raw_data_eq, trackerExt_to_dict, trackerExt_repr,
    trackerExt_ops, concT]
  rcases inner.dist ext c n with ⟨inner', o⟩
  cases o with
  | err e => simp [toResult, concT]
  | ok d =>
    simp [toResult, concT, recDict, kDataType, kDevice, kCircuit, kDistribution, kGates, kShots, vDistribution]

/-- TRANSLATION TIE, one statement for all three operations of the tracker: `Tracker.call` = the model's `step`. -/
theorem translated_tracker_step_eq (ext : Ext) (dev fn : List Char) (reprD : DistVal → List Char) (dumps : Dict2 Payload → List Char)
    (rb : Option Bool) (inner : Runner) (bits : Bool) (k : Counters) (raw file : List Record) (call : Call)
    (hrb : (rb == some true) = bits) :
    Tracker.call (trackerExt ext dev reprD dumps) (concT dev fn reprD dumps rb (.tracker inner bits k raw file)) (rcall call)
      = (concT dev fn reprD dumps rb (step ext (.tracker inner bits k raw file) call).1,
         rres (step ext (.tracker inner bits k raw file) call).2) := by
  cases call with
  | run c n =>
    rw [step_run]
    exact call_tie (translated_tracker_run_and_measure_eq ext dev fn reprD dumps rb inner bits k raw file c n hrb) fun _ => rfl
  | batch cs ns =>
    rw [step_batch]
    exact call_tie (translated_tracker_run_batch_and_measure_eq ext dev fn reprD dumps rb inner bits k raw file cs ns hrb)
      fun _ => rfl
  | dist c n =>
    rw [step_dist]
    exact call_tie (translated_tracker_get_measurement_outcome_distribution_eq ext dev fn reprD dumps rb inner bits k raw file c n)
      fun _ => rfl

/-! ### Part 1c — `BaseWavefunctionSimulator` = the model's `.sim a` leaf
(`a = true`: every operation native – `SymbolicSimulator`; `a = false`: the default `is_natively_supported`).  The state map
`concSim` carries a ghost `cur` (the circuit last given to `split_circuit`, through which the instantiated `Wavefunction` /
`sample_from_wavefunction` know which circuit they belong to); the ties say "for every `cur` there is a `cur'`". -/

/-- TRANSLATION TIE `BaseWavefunctionSimulator.__init__` (keyword-only `seed`; `super().__init__()` → the translated
    `BaseCircuitRunner.__init__`): counters 0, seed stored. -/
theorem translated_sim_init_eq {ω C M D V W O P X Y : Type} (x : Sim.Ext ω C M D V W O P X Y) (s : Sim.State ω)
    (sd : Option Int) : Sim.init x s sd = (⟨0, 0, sd, s.world⟩, .ok ()) := rfl

/-- TRANSLATION TIE of the loop of `get_wavefunction` (`for is_supported, subcircuit in split_circuit(…)`: one job per segment,
    one circuit per natively supported segment, nested `for operation in subcircuit.operations` – two `PyS.forEach`, the state
    vector loop-carried) = the model's `getWavefunction` / `countSegments` over the `groupby` keys `segKeys (nativeFlags a c)`:
    both counters grow by exactly `segCircuits a c` / `segJobs a c`, with or without an initial state; the result is the
    wavefunction, or `TypeError` for a circuit with free symbols (where the model places it), AFTER the counting. -/
theorem translated_sim_get_wavefunction_eq (ext : Ext) (a : Bool) (s : SState) (c : Circ) (init : Option Unit) :
    Sim.get_wavefunction (simExt ext a) s c init
      = ({ s with _n_circuits_executed := s._n_circuits_executed + (segCircuits a c : Nat),
                  _n_jobs_executed := s._n_jobs_executed + (segJobs a c : Nat), world := (s.world.1, c) },
         if c.symbolic then .raised .TypeError else .ok c) := by
  -- with these externals `np.zeros` and the item assignment are no-ops: the branch without an initial state is the other one
  have : Sim.get_wavefunction (simExt ext a) s c init = Sim.get_wavefunction (simExt ext a) s c (some ()) := by
    cases init <;> rfl
  rw [this]
  dsimp only [Sim.get_wavefunction, simExt]
  rw [forEach_fold _ segStep (fun st p => by
    obtain ⟨b, cc⟩ := p
    cases b
    · rw [if_neg Bool.false_ne_true, forEach_id _ fun _ _ => rfl]; rfl
    · rfl)]
  simp only [foldl_segStep]
  split <;> rfl

/-- TRANSLATION TIE of the simulator's OVERRIDE `run_and_measure` + its `_run_and_measure` (free-symbol check, `get_wavefunction`,
    sampling) = `Leaf.run` of a `.sim a` leaf, for every state, circuit and count. -/
theorem translated_sim_run_and_measure_eq (ext : Ext) (a : Bool) (l : Leaf) (hk : l.kind = .sim a) (sd : Option Int)
    (cur c : Circ) (n : Int) :
    ∃ cur', Sim.run_and_measure (simExt ext a) (concSim l sd cur) c n
      = (concSim (l.run ext c n).1 sd cur', toResult (l.run ext c n).2) := by
  unfold Sim.run_and_measure Sim._run_and_measure Leaf.run
  by_cases h : n ≤ 0
  · exact ⟨cur, by simp [h, toResult, excOf]⟩
  · by_cases hs : c.symbolic = true
    · exact ⟨cur, by simp [h, hs, hk, simExt, toResult, excOf]⟩
    · refine ⟨c, ?_⟩
      simp only [h, decide_false, Bool.false_eq_true, if_false, hk, translated_sim_get_wavefunction_eq]
      simp [simExt, hs, concSim, toResult, getWavefunction_eq]

private theorem Sim.run_batch_eq_shell {ω C M D V W O P X Y : Type} (x : Sim.Ext ω C M D V W O P X Y) (s : Sim.State ω)
    (cs : List C) (ns : Int ⊕ List Int) :
    Sim.run_batch_and_measure x s cs ns = batchShell (Sim._run_batch_and_measure x s cs) s cs.length ns := by
  cases ns <;> rfl

/-- TRANSLATION TIE of the INHERITED `run_batch_and_measure` / `_run_batch_and_measure` as resolved for the simulator (the
    comprehension calls the simulator's override) = `Leaf.batch` of a `.sim a` leaf. -/
theorem translated_sim_run_batch_and_measure_eq (ext : Ext) (a : Bool) (l : Leaf) (hk : l.kind = .sim a) (sd : Option Int)
    (cur : Circ) (cs : List Circ) (ns : NSpec) :
    ∃ cur', Sim.run_batch_and_measure (simExt ext a) (concSim l sd cur) cs (nArg ns)
      = (concSim (l.batch ext cs ns).1 sd cur', toResult (l.batch ext cs ns).2) := by
  rw [Sim.run_batch_eq_shell]
  obtain ⟨_, ⟨cur', rfl⟩, e⟩ := batchShell_collectEach (fun s l => ∃ cur, s = concSim l sd cur) (.sim a) ext
    (fun s p => Sim.run_and_measure (simExt ext a) s p.1 p.2)
    (fun s l p hk ⟨cur, h⟩ => by
      obtain ⟨cur', e⟩ := translated_sim_run_and_measure_eq ext a l hk sd cur p.1 p.2
      exact ⟨_, ⟨cur', rfl⟩, h ▸ e⟩) cs ns _ l hk ⟨cur, rfl⟩
  exact ⟨cur', e⟩

/-- TRANSLATION TIE of the simulator's OVERRIDE `get_measurement_outcome_distribution` = `Leaf.dist` of a `.sim a` leaf:
    `n_samples = None` computes the wavefunction (counting the segments) and returns the exact distribution. -/
theorem translated_sim_get_measurement_outcome_distribution_eq (ext : Ext) (a : Bool) (l : Leaf) (hk : l.kind = .sim a)
    (sd : Option Int) (cur c : Circ) (n : Option Int) :
    ∃ cur', Sim.get_measurement_outcome_distribution (simExt ext a) (concSim l sd cur) c n
      = (concSim (l.dist ext c n).1 sd cur', toResult (l.dist ext c n).2) := by
  cases n with
  | none =>
    refine ⟨c, ?_⟩
    simp only [Sim.get_measurement_outcome_distribution, Leaf.dist, hk, translated_sim_get_wavefunction_eq]
    by_cases hs : c.symbolic = true <;> simp [hs, simExt, concSim, toResult, excOf, getWavefunction_eq]
  | some n =>
    obtain ⟨cur', h⟩ := translated_sim_run_and_measure_eq ext a l hk sd cur c n
    refine ⟨cur', ?_⟩
    simp only [Sim.get_measurement_outcome_distribution, Leaf.dist, h]
    rcases l.run ext c n with ⟨l', o⟩
    cases o <;> simp [toResult, simExt]

/-- TRANSLATION TIE, one statement for all three operations of the simulator: `Sim.call` = the model's `step`. -/
theorem translated_sim_step_eq (ext : Ext) (a : Bool) (l : Leaf) (hk : l.kind = .sim a) (sd : Option Int) (cur : Circ)
    (call : Call) :
    ∃ cur', Sim.call (simExt ext a) (concSim l sd cur) (rcall call)
      = (concRunnerSim sd cur' (step ext (.leaf l) call).1, rres (step ext (.leaf l) call).2) := by
  rw [step_leaf]
  cases call with
  | run c n =>
    obtain ⟨cur', h⟩ := translated_sim_run_and_measure_eq ext a l hk sd cur c n
    exact ⟨cur', call_tie h fun _ => rfl⟩
  | batch cs ns =>
    obtain ⟨cur', h⟩ := translated_sim_run_batch_and_measure_eq ext a l hk sd cur cs ns
    exact ⟨cur', call_tie h fun _ => rfl⟩
  | dist c n =>
    obtain ⟨cur', h⟩ := translated_sim_get_measurement_outcome_distribution_eq ext a l hk sd cur c n
    exact ⟨cur', call_tie h fun _ => rfl⟩

/-! ### Part 2 — property theorems of Props/C14.lean restated on the translated definitions THROUGH the tie -/

/-- `reject_before_execute` END-TO-END (base runner): an invalid request makes the TRANSLATED method raise `ValueError` and the
    whole translated state – counters and the number of external invocations – is what it was. -/
theorem translated_base_reject_before_execute_via_model (ext : Ext) (l : Leaf) (hk : l.kind = .base) (call : Call)
    (h : call.badArgs) :
    Base.call (baseExt ext) (concBase l) (rcall call) = (concBase l, .raised .ValueError) := by
  rw [translated_base_step_eq ext l hk, reject_before_execute ext (.leaf l) call h]; rfl

/-- `reject_before_execute` / `rejected_unchanged` END-TO-END (tracker around any chain): own counters, pending raw data, file
    and the whole wrapped chain are unchanged by an invalid request, which raises `ValueError`. -/
theorem translated_tracker_reject_before_execute_via_model (ext : Ext) (dev fn : List Char) (reprD : DistVal → List Char) (dumps : Dict2 Payload → List Char)
    (rb : Option Bool) (inner : Runner) (bits : Bool) (k : Counters) (raw file : List Record) (call : Call)
    (hrb : (rb == some true) = bits) (h : call.badArgs) :
    Tracker.call (trackerExt ext dev reprD dumps) (concT dev fn reprD dumps rb (.tracker inner bits k raw file)) (rcall call)
      = (concT dev fn reprD dumps rb (.tracker inner bits k raw file), .raised .ValueError) := by
  rw [translated_tracker_step_eq ext dev fn reprD dumps rb inner bits k raw file call hrb,
    reject_before_execute ext _ call h]; rfl

/-- `base_increment_exact` END-TO-END: a successful translated call adds exactly the number of circuits of the call to both
    counters. -/
theorem translated_base_increment_exact_via_model (ext : Ext) (l : Leaf) (hk : l.kind = .base) (call : Call)
    (hok : ∀ e, (Base.call (baseExt ext) (concBase l) (rcall call)).2 ≠ .raised e) :
    (Base.call (baseExt ext) (concBase l) (rcall call)).1._n_circuits_executed = l.k.nCircuits + call.circuits.length ∧
    (Base.call (baseExt ext) (concBase l) (rcall call)).1._n_jobs_executed = l.k.nJobs + call.circuits.length := by
  rw [translated_base_step_eq ext l hk, step_leaf] at hok ⊢
  obtain ⟨h1, h2⟩ := base_increment_exact ext l hk call _ _ (step_leaf ext l call) (rres_ne_raised _ hok)
  exact ⟨(congrArg Nat.cast h1).trans (Int.natCast_add _ _), (congrArg Nat.cast h2).trans (Int.natCast_add _ _)⟩

/-- `tracker_increment_exact` END-TO-END: the translated tracker adds +1/+1 (single), +len/+1 (batch), nothing for a
    distribution call and nothing for ANY failed call – with `trackerExt`, where only the wrapped runner can fail
    (`to_dict`, `get_counts`, `repr`, `json.dumps` and the file never raise). -/
theorem translated_tracker_increment_exact_via_model (ext : Ext) (dev fn : List Char) (reprD : DistVal → List Char) (dumps : Dict2 Payload → List Char)
    (rb : Option Bool) (inner : Runner) (bits : Bool) (k : Counters) (raw file : List Record) (call : Call)
    (hrb : (rb == some true) = bits) :
    (Tracker.call (trackerExt ext dev reprD dumps) (concT dev fn reprD dumps rb (.tracker inner bits k raw file)) (rcall call)).1._n_circuits_executed
      = k.nCircuits + (trackerWork call (step ext (.tracker inner bits k raw file) call).2).1 ∧
    (Tracker.call (trackerExt ext dev reprD dumps) (concT dev fn reprD dumps rb (.tracker inner bits k raw file)) (rcall call)).1._n_jobs_executed
      = k.nJobs + (trackerWork call (step ext (.tracker inner bits k raw file) call).2).2 := by
  rw [translated_tracker_step_eq ext dev fn reprD dumps rb inner bits k raw file call hrb, step_tracker]
  exact ⟨Int.natCast_add _ _, Int.natCast_add _ _⟩

/-- `sim_increment_exact` END-TO-END: a successful call of the translated simulator adds, for every circuit of the call, one job
    per segment and one circuit per natively supported segment. -/
theorem translated_sim_increment_exact_via_model (ext : Ext) (a : Bool) (l : Leaf) (hk : l.kind = .sim a) (sd : Option Int)
    (cur : Circ) (call : Call)
    (hok : ∀ e, (Sim.call (simExt ext a) (concSim l sd cur) (rcall call)).2 ≠ .raised e) :
    (Sim.call (simExt ext a) (concSim l sd cur) (rcall call)).1._n_circuits_executed
      = l.k.nCircuits + ((call.circuits.map (segCircuits a)).sum : Nat) ∧
    (Sim.call (simExt ext a) (concSim l sd cur) (rcall call)).1._n_jobs_executed
      = l.k.nJobs + ((call.circuits.map (segJobs a)).sum : Nat) := by
  obtain ⟨cur', h⟩ := translated_sim_step_eq ext a l hk sd cur call
  rw [h, step_leaf] at hok ⊢
  obtain ⟨h1, h2⟩ := sim_increment_exact ext l a hk call _ _ (step_leaf ext l call) (rres_ne_raised _ hok)
  exact ⟨(congrArg Nat.cast h1).trans (Int.natCast_add _ _), (congrArg Nat.cast h2).trans (Int.natCast_add _ _)⟩

/-! ### Part 3 — the same sentences proved directly on the translated code, for arbitrary externals -/

/-- `reject_before_execute` on the translated `BaseCircuitRunner`, for ALL types and ALL externals (no assumption whatsoever:
    no external is invoked): `ValueError`, and the state – `world` included – is unchanged. -/
theorem translated_base_reject_before_execute {ω C M D : Type} (x : Base.Ext ω C M D) (s : Base.State ω)
    (call : RCall C) (h : call.badArgs) : Base.call x s call = (s, (.raised .ValueError : RRes M D)) := by
  cases call with
  | run c n => simp [Base.call, Base.run_and_measure, show n ≤ 0 from h, RRes.ofResult]
  | batch cs ns => simp only [Base.call, Base.run_batch_eq_shell, batchShell_bad _ s cs ns h, RRes.ofResult]
  | dist c n =>
    cases n with
    | none => exact h.elim
    | some n =>
      simp [Base.call, Base.get_measurement_outcome_distribution, Base.run_and_measure, show n ≤ 0 from h, RRes.ofResult]

/-- `rejected_unchanged` on the translated `BaseCircuitRunner`: the counters after a rejected call. -/
theorem translated_base_rejected_unchanged {ω C M D : Type} (x : Base.Ext ω C M D) (s : Base.State ω)
    (call : RCall C) (h : call.badArgs) :
    ((Base.call x s call : Base.State ω × RRes M D)).1._n_circuits_executed = s._n_circuits_executed ∧
    ((Base.call x s call : Base.State ω × RRes M D)).1._n_jobs_executed = s._n_jobs_executed := by
  rw [translated_base_reject_before_execute x s call h]; exact ⟨rfl, rfl⟩

/-- `reject_before_execute` on the translated `BaseWavefunctionSimulator`, for ALL types and ALL externals: `ValueError`, state
    unchanged, nothing executed (no segment counted). -/
theorem translated_sim_reject_before_execute {ω C M D V W O P X Y : Type} (x : Sim.Ext ω C M D V W O P X Y) (s : Sim.State ω)
    (call : RCall C) (h : call.badArgs) : Sim.call x s call = (s, (.raised .ValueError : RRes M D)) := by
  cases call with
  | run c n => simp [Sim.call, Sim.run_and_measure, show n ≤ 0 from h, RRes.ofResult]
  | batch cs ns => simp only [Sim.call, Sim.run_batch_eq_shell, batchShell_bad _ s cs ns h, RRes.ofResult]
  | dist c n =>
    cases n with
    | none => exact h.elim
    | some n =>
      simp [Sim.call, Sim.get_measurement_outcome_distribution, Sim.run_and_measure, show n ≤ 0 from h, RRes.ofResult]

private theorem base_run_ran {ω C M D : Type} (x : Base.Ext ω C M D) (hx : Base.Frame x) (s : Base.State ω) (c : C) (n : Int) :
    Base.Ran s 1 (Base.run_and_measure x s c n).1 (∀ e, (Base.run_and_measure x s c n).2 ≠ .raised e) := by
  unfold Base.run_and_measure
  split
  · exact .failed 1 ⟨rfl, rfl⟩ fun h => h _ rfl
  · have hf := hx.1 s c n
    generalize x.self__run_and_measure s c n = p at hf ⊢
    obtain ⟨s', r⟩ := p
    dsimp only at hf
    cases r with
    | raised e => exact .failed 1 hf fun h => h _ rfl
    | ok m => exact ⟨1, Nat.le_refl _, by simp [hf.1], by simp [hf.2], fun _ => rfl⟩

private theorem base_call_ran {ω C M D : Type} (x : Base.Ext ω C M D) (hx : Base.Frame x) (s : Base.State ω) (call : RCall C) :
    Base.Ran s call.size (Base.call x s call).1 (∀ e, (Base.call x s call).2 ≠ .raised e) := by
  cases call with
  | run c n => exact (base_run_ran x hx s c n).imp RRes.ofResult_ne_raised
  | batch cs ns =>
    simp only [Base.call, RCall.size, Base.run_batch_eq_shell]
    by_cases hb : (RCall.batch cs ns).badArgs
    · rw [batchShell_bad _ s cs ns hb]
      exact .failed _ ⟨rfl, rfl⟩ fun h => h _ rfl
    · rw [batchShell_good _ s cs ns hb]
      have := Base.Ran.collectEach (fun self (p : C × Int) => Base.run_and_measure x self p.1 p.2)
        (fun s p => base_run_ran x hx s p.1 p.2) (cs.zip (spcOf cs.length ns)) s
      rw [List.length_zip, spcOf_length cs ns hb, Nat.min_self] at this
      exact this.imp RRes.ofResult_ne_raised
  | dist c n =>
    simp only [Base.call, RCall.size]
    cases n with
    | none => exact .failed _ ⟨rfl, rfl⟩ fun h => h _ rfl
    | some n =>
      have h := base_run_ran x hx s c n
      simp only [Base.get_measurement_outcome_distribution]
      generalize Base.run_and_measure x s c n = p at h ⊢
      obtain ⟨s1, r⟩ := p
      cases r with
      | raised e => exact h.imp fun hh => absurd rfl (hh e)
      | ok m => exact (h.imp fun _ => nofun).trans (.zero (hx.2 s1 m))

/-- what ONE CALL of the translated `BaseCircuitRunner` does to the counters under the frame law, for all types and externals:
    a successful call adds exactly the number of circuits of the call (1, `len(batch)`, 1) to both counters; a call that raises
    has added the number `j ≤ size` of circuits that ran before the failure (`failed_call_counts_what_ran` on the translated
    code; `j = 0` for a rejected call). -/
theorem translated_base_call_counts {ω C M D : Type} (x : Base.Ext ω C M D) (hx : Base.Frame x) (s : Base.State ω) (call : RCall C) :
    match (Base.call x s call).2 with
    | .raised _ => ∃ j : Nat, j ≤ call.size ∧
        (Base.call x s call).1._n_circuits_executed = s._n_circuits_executed + j ∧
        (Base.call x s call).1._n_jobs_executed = s._n_jobs_executed + j
    | _ => (Base.call x s call).1._n_circuits_executed = s._n_circuits_executed + call.size ∧
        (Base.call x s call).1._n_jobs_executed = s._n_jobs_executed + call.size := by
  obtain ⟨j, hj, hc, hJ, hk⟩ := base_call_ran x hx s call
  generalize Base.call x s call = p at hc hJ hk ⊢
  obtain ⟨s', r⟩ := p
  cases r with
  | raised e => exact ⟨j, hj, hc, hJ⟩
  | _ => rw [← hk nofun]; exact ⟨hc, hJ⟩

/-- `increment_exact` on the translated `BaseCircuitRunner` under the frame law: a successful call adds exactly the number of
    circuits of the call (1, `len(batch)`, 1) to both counters. -/
theorem translated_base_increment_exact {ω C M D : Type} (x : Base.Ext ω C M D) (hx : Base.Frame x) (s : Base.State ω)
    (call : RCall C) (hok : ∀ e, (Base.call x s call).2 ≠ .raised e) :
    (Base.call x s call).1._n_circuits_executed = s._n_circuits_executed + call.size ∧
    (Base.call x s call).1._n_jobs_executed = s._n_jobs_executed + call.size := by
  obtain ⟨j, _, hc, hJ, hk⟩ := base_call_ran x hx s call
  rw [← hk hok]; exact ⟨hc, hJ⟩

/-- `counters_monotone` on the translated `BaseCircuitRunner` under the frame law: EVERY call, failed or not, adds one and the
    same number `j ≤ size` to both counters, so neither ever decreases. -/
theorem translated_base_counters_monotone {ω C M D : Type} (x : Base.Ext ω C M D) (hx : Base.Frame x) (s : Base.State ω)
    (call : RCall C) :
    ∃ j : Nat, j ≤ call.size ∧ (Base.call x s call).1._n_circuits_executed = s._n_circuits_executed + j ∧
      (Base.call x s call).1._n_jobs_executed = s._n_jobs_executed + j := by
  obtain ⟨j, hj, hc, hJ, _⟩ := base_call_ran x hx s call
  exact ⟨j, hj, hc, hJ⟩

/- Every `match` that follows a call in a translated body is taken apart by `split`; `Keeps.same` turns the equation it
   yields into `Same`. -/
section
variable {ω B C M D J O F : Type} (x : Tracker.Ext ω B C M D J O F) (hx : Tracker.Frame x)
include hx

private theorem tracker_record_keeps (c : C) (m : M) :
    Tracker.Keeps (fun s => Tracker.record_raw_measurement_data x s c m) := by
  refine .intro fun s => ?_
  unfold Tracker.record_raw_measurement_data
  split
  next h1 => exact (hx.to_dict c).same h1
  next h1 =>
    refine ((hx.to_dict c).same h1).trans ?_
    split
    next h2 => exact (hx.get_counts m).same h2
    next h2 => split <;> exact ((hx.get_counts m).same h2 :)

private theorem tracker_save_keeps : Tracker.Keeps (Tracker.save_raw_data x) := by
  refine .intro fun s => ?_
  unfold Tracker.save_raw_data
  split
  next h1 => exact (hx.open_ _ _).same h1
  next f h1 =>
    refine ((hx.open_ _ _).same h1).trans ?_
    dsimp only
    split
    next h2 =>
      refine ((hx.dumps _).same h2).trans ?_
      split <;> next h3 => exact (hx.exit f).same h3
    next h2 =>
      refine ((hx.dumps _).same h2).trans ?_
      split <;> next h3 =>
        refine ((hx.write f _).same h3).trans ?_
        split <;> next h4 => exact ((hx.exit f).same h4 :)

private theorem tracker_inner_run_keeps (c : C) (n : Int) :
    Tracker.Keeps (fun s => Tracker._run_and_measure x s c n) := by
  refine .intro fun s => ?_
  unfold Tracker._run_and_measure
  split
  next h1 => exact (hx.inner_run c n).same h1
  next m h1 =>
    refine ((hx.inner_run c n).same h1).trans ?_
    split
    next h2 => exact (tracker_record_keeps x hx c m).same h2
    next h2 =>
      refine ((tracker_record_keeps x hx c m).same h2).trans ?_
      split <;> next h3 => exact (tracker_save_keeps x hx).same h3

private theorem tracker_run_adds (s : Tracker.State ω B J) (c : C) (n : Int) :
    Tracker.Adds s 1 1 (Tracker.run_and_measure x s c n) := by
  unfold Tracker.run_and_measure
  split
  · exact .raised
  · split
    next => exact .raised
    next h1 =>
      obtain ⟨k1, k2⟩ := (tracker_inner_run_keeps x hx c n).same h1
      exact fun _ => ⟨congrArg (· + 1) k1, congrArg (· + 1) k2⟩

private theorem tracker_batch_adds (s : Tracker.State ω B J) (cs : List C) (ns : Int ⊕ List Int) :
    Tracker.Adds s cs.length 1 (Tracker.run_batch_and_measure x s cs ns) := by
  unfold Tracker.run_batch_and_measure
  split
  next => exact .raised
  next h1 =>
    obtain ⟨k1, k2⟩ := (hx.inner_batch cs ns).same h1
    dsimp only
    split
    next => exact .raised
    next h2 =>
      split
      next => exact .raised
      next h3 =>
        obtain ⟨k3, k4⟩ := ((Tracker.forEach_keeps _ (fun p => .intro fun st => by
          split <;> next h => exact (tracker_record_keeps x hx p.1 p.2).same h) _).same h2).trans
            ((tracker_save_keeps x hx).same h3)
        exact fun _ => ⟨k3.trans (congrArg (· + _) k1), k4.trans (congrArg (· + 1) k2)⟩

private theorem tracker_dist_keeps (c : C) (n : Option Int) :
    Tracker.Keeps (fun s => Tracker.get_measurement_outcome_distribution x s c n) := by
  refine .intro fun s => ?_
  unfold Tracker.get_measurement_outcome_distribution
  split
  next h1 => exact (hx.inner_dist c n).same h1
  next d h1 =>
    refine ((hx.inner_dist c n).same h1).trans ?_
    split
    next h2 => exact (hx.to_dict c).same h2
    next h2 =>
      refine ((hx.to_dict c).same h2).trans ?_
      split
      next h3 => exact (hx.repr d).same h3
      next h3 =>
        refine ((hx.repr d).same h3).trans ?_
        dsimp only
        split <;> next h4 => exact ((tracker_save_keeps x hx).same h4 :)
end

/-- `tracker_passthrough` (failure half) on the translated tracker, for ALL types and ALL externals, no assumption: a failure of
    the wrapped runner's method is passed through – same exception – and the state is exactly the state the wrapped call left:
    nothing was counted, recorded or written afterwards. -/
theorem translated_tracker_failure_passthrough {ω B C M D J O F : Type} (x : Tracker.Ext ω B C M D J O F)
    (s s1 : Tracker.State ω B J) (e : Exc) :
    (∀ c n, 0 < n → x.self_inner_backend_run_and_measure s c n = (s1, .raised e) →
        Tracker.run_and_measure x s c n = (s1, .raised e)) ∧
    (∀ cs ns, x.self_inner_backend_run_batch_and_measure s cs ns = (s1, .raised e) →
        Tracker.run_batch_and_measure x s cs ns = (s1, .raised e)) ∧
    (∀ c n, x.self_inner_backend_get_measurement_outcome_distribution s c n = (s1, .raised e) →
        Tracker.get_measurement_outcome_distribution x s c n = (s1, .raised e)) := by
  refine ⟨?_, ?_, ?_⟩
  · intro c n hn h
    have : ¬ n ≤ 0 := by omega
    simp [Tracker.run_and_measure, Tracker._run_and_measure, this, h]
  · intro cs ns h
    simp [Tracker.run_batch_and_measure, h]
  · intro c n h
    simp [Tracker.get_measurement_outcome_distribution, h]

/-- `rejected_unchanged` on the translated tracker under the frame law: a call rejected by the tracker itself (`n ≤ 0`) or by
    the wrapped runner (its method raises – that is how a tracker learns that a batch or a distribution request is invalid)
    raises and leaves the tracker's own counters unchanged.  (False of the code before /repo 9fda0c7, which bumped the
    counters BEFORE asking the wrapped runner.) -/
theorem translated_tracker_rejected_unchanged {ω B C M D J O F : Type} (x : Tracker.Ext ω B C M D J O F)
    (hx : Tracker.Frame x) (s : Tracker.State ω B J) (call : RCall C) (h : Tracker.Rejected x s call) :
    (∃ e, (Tracker.call x s call).2 = (.raised e : RRes M D)) ∧
    (Tracker.call x s call).1._n_circuits_executed = s._n_circuits_executed ∧
    (Tracker.call x s call).1._n_jobs_executed = s._n_jobs_executed := by
  cases call with
  | run c n =>
    by_cases hn : n ≤ 0
    · rw [Tracker.call, Tracker.run_and_measure, if_pos (decide_eq_true hn)]
      exact ⟨⟨_, rfl⟩, rfl, rfl⟩
    · obtain ⟨e, he⟩ := h.resolve_left hn
      exact (hx.inner_run c n).raised_through he
        (fun s1 => (translated_tracker_failure_passthrough x s s1 e).1 c n (Int.not_le.1 hn)) _
  | batch cs ns =>
    obtain ⟨e, he⟩ := h
    exact (hx.inner_batch cs ns).raised_through he (fun s1 => (translated_tracker_failure_passthrough x s s1 e).2.1 cs ns) _
  | dist c n =>
    obtain ⟨e, he⟩ := h
    exact (hx.inner_dist c n).raised_through he (fun s1 => (translated_tracker_failure_passthrough x s s1 e).2.2 c n) _

/-- `increment_exact` on the translated tracker under the frame law: +1/+1 for a successful single call, +len(circuits)/+1 for a
    successful batch call, +0/+0 for a distribution call. -/
theorem translated_tracker_increment_exact {ω B C M D J O F : Type} (x : Tracker.Ext ω B C M D J O F)
    (hx : Tracker.Frame x) (s : Tracker.State ω B J) (call : RCall C)
    (hok : ∀ e, (Tracker.call x s call).2 ≠ (.raised e : RRes M D)) :
    (Tracker.call x s call).1._n_circuits_executed = s._n_circuits_executed + call.trackerWork.1 ∧
    (Tracker.call x s call).1._n_jobs_executed = s._n_jobs_executed + call.trackerWork.2 := by
  cases call with
  | run c n => exact tracker_run_adds x hx s c n (RRes.ofResult_ne_raised hok)
  | batch cs ns => exact tracker_batch_adds x hx s cs ns (RRes.ofResult_ne_raised hok)
  | dist c n =>
    obtain ⟨k1, k2⟩ := tracker_dist_keeps x hx c n s
    exact ⟨k1.trans (Int.add_zero _).symm, k2.trans (Int.add_zero _).symm⟩

/-! ### non-vacuity and negative witnesses
`xT`: circuits are Int labels, measurements `[label, count, invocation index]`; the abstract method raises `ValueError` on a
negative label; `xBump` violates the frame law (its abstract method bumps `_n_jobs_executed`). -/

/-- a stand-in for `json.dumps` on the file content: one character per record -/
def dumpsT : Dict2 Payload → List Char
  | [(_, .dicts ds)] => List.replicate ds.length 'r'
  | _ => []

def xT : Base.Ext Nat Int (List Int) (List Int) where
  self__run_and_measure := fun s c n =>
    ({ s with world := s.world + 1 }, if c < 0 then .raised .ValueError else .ok [c, n, s.world])
  M_get_distribution := fun s m => (s, .ok m.reverse)

def xBump : Base.Ext Nat Int (List Int) (List Int) :=
  { xT with self__run_and_measure := fun s c n =>
      ({ s with world := s.world + 1, _n_jobs_executed := s._n_jobs_executed + 5 }, .ok [c, n]) }

example : Base.Frame xT := ⟨fun _ _ _ => ⟨rfl, rfl⟩, fun _ _ => ⟨rfl, rfl⟩⟩
example : Base.call xT ⟨0, 0, 0⟩ (.batch [7, 8, 9] (.inl 5)) = (⟨3, 3, 3⟩, .batch [[7, 5, 0], [8, 5, 1], [9, 5, 2]]) := by decide
example : Base.call xT ⟨0, 0, 0⟩ (.batch [7, 8] (.inr [5, 1])) = (⟨2, 2, 2⟩, .batch [[7, 5, 0], [8, 1, 1]]) := by decide
-- rejected: a list with a non-positive entry, the empty batch with the scalar 0 (fixed in /repo 8d91e2e), a wrong length
example : Base.call xT ⟨4, 4, 9⟩ (.batch [7, 8] (.inr [5, 0])) = (⟨4, 4, 9⟩, .raised .ValueError) := by decide
example : (RCall.batch ([] : List Int) (.inl 0)).badArgs ∧
    Base.call xT ⟨4, 4, 9⟩ (.batch [] (.inl 0)) = (⟨4, 4, 9⟩, .raised .ValueError) := ⟨by simp [RCall.badArgs], by decide⟩
example : Base.call xT ⟨4, 4, 9⟩ (.batch [7] (.inr [])) = (⟨4, 4, 9⟩, .raised .ValueError) := by decide
example : Base.call xT ⟨4, 4, 9⟩ (.batch [] (.inr [])) = (⟨4, 4, 9⟩, .batch []) := by decide
-- a batch failing at its second circuit keeps what ran before it: counters 1/1, two invocations made
example : Base.call xT ⟨0, 0, 0⟩ (.batch [7, -1, 9] (.inl 2)) = (⟨1, 1, 2⟩, .raised .ValueError) := by decide
example : Base.call xT ⟨0, 0, 0⟩ (.dist 7 (some 3)) = (⟨1, 1, 1⟩, .distr [0, 3, 7]) := by decide
example : Base.call xT ⟨0, 0, 0⟩ (.dist 7 none) = (⟨0, 0, 0⟩, .raised .ValueError) := by decide
-- NEGATIVE WITNESS: without the frame law `increment_exact` fails on the translated code (the external bumped the job counter)
example : ¬ Base.Frame xBump := fun h => absurd (h.1 ⟨0, 0, 0⟩ 0 1).2 (by decide)
example : (Base.call xBump ⟨0, 0, 0⟩ (.run 7 1) : Base.State Nat × RRes (List Int) (List Int)) = (⟨1, 6, 1⟩, .meas [7, 1]) := by decide
-- the model instance: a batch failing at its second circuit (the example of Props/C14.lean, on the translated code)
example : Base.call (baseExt exT) (concBase ⟨.base, ⟨0, 0⟩, 0⟩) (rcall (.batch [cH, cSym, cMP] (.one 2)))
    = (⟨1, 1, 2⟩, .raised .ValueError) := by decide
-- tracker around a base runner: a rejected batch changes nothing (own counters 3/2 stay, wrapped runner untouched) …
set_option synthInstance.maxSize 512 in
example : (Tracker.call (trackerExt exT ['H'] (fun _ => []) dumpsT) (concT ['H'] ['f'] (fun _ => []) dumpsT (some true)
      (.tracker base0 true ⟨3, 2⟩ [] [])) (rcall (.batch [cH, cMP] (.many [3, 0]))))
    = (concT ['H'] ['f'] (fun _ => []) dumpsT (some true) (.tracker base0 true ⟨3, 2⟩ [] []), .raised .ValueError) := by decide +kernel
-- … an accepted one counts len/1, and the file holds one dict per circuit
example : (Tracker.call (trackerExt exT ['H'] (fun _ => []) dumpsT) (concT ['H'] ['f'] (fun _ => []) dumpsT none
      (.tracker base0 false ⟨3, 2⟩ [] [])) (rcall (.batch [cH, cMP] (.many [1, 1])))).1._n_circuits_executed = 5 := by decide +kernel
example : ((Tracker.call (trackerExt exT ['H'] (fun _ => []) dumpsT) (concT ['H'] ['f'] (fun _ => []) dumpsT none
      (.tracker base0 false ⟨3, 2⟩ [] [])) (rcall (.batch [cH, cMP] (.many [1, 1])))).1.world.2.length,
    (Tracker.call (trackerExt exT ['H'] (fun _ => []) dumpsT) (concT ['H'] ['f'] (fun _ => []) dumpsT none
      (.tracker base0 false ⟨3, 2⟩ [] [])) (rcall (.batch [cH, cMP] (.many [1, 1])))).1._n_jobs_executed) = (2, 3) := by decide +kernel
-- the simulator on gate / non-gate / gate / non-gate / non-gate: 4 segments = 4 jobs, 2 of them native = 2 circuits
-- (default native set); everything native: one segment (the examples of Props/C14.lean, on the translated code)
example : (Sim.call (simExt exT false) (concSim ⟨.sim false, ⟨0, 0⟩, 0⟩ none cH) (rcall (.run cMP 4))).1
    = concSim ⟨.sim false, ⟨2, 4⟩, 1⟩ none cMP := by decide +kernel
example : (Sim.call (simExt exT true) (concSim ⟨.sim true, ⟨0, 0⟩, 0⟩ (some 7) cH) (rcall (.run cMP 4))).1
    = concSim ⟨.sim true, ⟨1, 1⟩, 1⟩ (some 7) cMP := by decide +kernel
-- a circuit with free symbols: rejected by a single run without counting; the exact distribution counts, then fails
example : Sim.call (simExt exT true) (concSim ⟨.sim true, ⟨0, 0⟩, 0⟩ none cH) (rcall (.run cSym 2))
    = (concSim ⟨.sim true, ⟨0, 0⟩, 0⟩ none cH, .raised .ValueError) := by decide +kernel
example : Sim.call (simExt exT true) (concSim ⟨.sim true, ⟨0, 0⟩, 0⟩ none cH) (rcall (.dist cSym none))
    = (concSim ⟨.sim true, ⟨1, 1⟩, 0⟩ none cSym, .raised .TypeError) := by decide +kernel

end OQ.C14
