/-
  C11 — TRANSLATION TIE (work package T9), operators through the dictionary form.
  `OQ/Generated/TranslatedC11.lean` is regenerated on every run from the CURRENT source of
  `operators/_io.py: convert_op_to_dict, convert_dict_to_op` by harness/translate_t9.py (dictionaries with fixed keys are the
  structures `OpD / TermD / CoefD / PauliOpD` of the model, key -> field as declared in harness/tables_t9.py: RECORDS).
  The theorems below state that the regenerated definitions ARE the model's `opToDict` / `dictToOp` (for all inputs), and
  restate the round-trip theorems of `Props/C11.lean` on the translated writer / reader pair.

  Externals (parameters of the translated definitions):
    * `PauliSum` / `PauliTerm` objects are opaque (`OP`, `SM`, `TM`); `op.terms`, `term.operations` (the frozenset seen as the list
      of its items in CPython's ITERATION ORDER), `term.coefficient` are `attr_…`;
    * `PauliSum()`, `PauliTerm.from_iterable` (may raise), `full_operator += term` (`PauliSum.__add__`: there is no `__iadd__`,
      checked every run) are `ext_…`; the reader raises exactly when `from_iterable` does (it has no `raise` of its own);
    * numbers: `OQ.Py.Num` (int / float as exact rationals – float rounding is not modelled – or complex).
-/
import OQ.Lemmas.C11_TranslatedT9
import OQ.Props.C11
namespace OQ.C11
open OQ.Py OQ.Generated

/-- **`convert_op_to_dict` (translated) = `opToDict`** for ALL operators and every behaviour of the opaque objects: if `view`
    reads a term object as a model term such that `term.operations` iterates as `order` of its operations and `term.coefficient`
    is its coefficient, the dictionary written by the translated code is the model's dictionary of the viewed terms.
    Domain: every `op` (the function never raises). -/
theorem translated_convert_op_to_dict_eq {OP TM : Type} (terms : OP → List TM) (operations : TM → List (Int × Pauli))
    (coefficient : TM → Num) (order : Ops → Ops) (view : TM → Term Coef)
    (hops : ∀ t, operations t = (order (view t).ops).map (fun o => ((o.1 : Int), o.2)))
    (hcoef : ∀ t, coefficient t = toNum (view t).coef) (op : OP) :
    Translated.convert_op_to_dict terms operations coefficient op = opToDict order ((terms op).map view) := by
  unfold Translated.convert_op_to_dict opToDict
  rw [List.map_map, ← List.nil_append (List.map _ _), ← foldl_append_singleton]
  dsimp only
  congr 2
  funext st term
  simp only [Function.comp, hops, hcoef, termToDict]
  cases (view term).coef <;> simp [toNum, Num.isComplex, Num.re, Num.im, List.map_map, Function.comp_def]

/-- **`convert_dict_to_op` (translated) = `dictToOp`** for ALL dictionaries of the schema, with the externals instantiated by the
    model's `PauliSum()` = `[]`, `PauliTerm.from_iterable` = `fromIterable` (ValueError on repeated / negative indices) and
    `+=` = `addTerm negl` (copy, append, simplify): same operator, and `ValueError` exactly where the model rejects.
    Domain: every `OpD` (a dictionary with other keys / value types is outside the schema: the Python raises KeyError / TypeError
    there, which neither side models). -/
theorem translated_convert_dict_to_op_eq (negl : Rat → Rat → Bool) (d : OpD) :
    Translated.convert_dict_to_op (SM := PSum Coef) (TM := Term Coef) [] (fun ops c => liftE (fromIterable ops (ofNum c)))
      (addTerm negl) d = liftE (dictToOp negl d) := by
  unfold Translated.convert_dict_to_op dictToOp
  rw [Except.bind_ok', ← foldlExc_liftE]
  congr 1
  funext st td
  dsimp only
  rw [foldl_append_singleton (fun p : PauliOpD => (p.op, p.qubit)), List.nil_append]
  unfold coefOfDict
  cases td.coefficient.imag with
  | none => exact liftE_bind _ _
  | some i =>
    by_cases h0 : i = 0
    · subst h0; exact liftE_bind _ _
    · have hb : (i != 0) = true := by simpa using h0
      simp only [hb, if_true, ne_eq, h0, not_false_eq_true, liftE_bind]
      simp [Num.add, Num.mul, Num.j, Num.re, Num.im, ofNum, cmul]

/-- the translated writer on model operators (objects viewed as themselves) -/
theorem translated_convert_op_to_dict_model (order : Ops → Ops) (s : PSum Coef) :
    Translated.convert_op_to_dict (OP := PSum Coef) (TM := Term Coef) (fun s => s)
      (fun t => (order t.ops).map (fun o => ((o.1 : Int), o.2))) (fun t => toNum t.coef) s = opToDict order s := by
  simpa using translated_convert_op_to_dict_eq (OP := PSum Coef) (TM := Term Coef) (fun s => s) _ _ order id (fun _ => rfl)
    (fun _ => rfl) s

/-- END-TO-END (`dict_roundtrip_denote` ON THE TRANSLATED PAIR): the translated reader applied to what the translated writer
    produced is accepted and returns an operator that, together with dropped terms whose coefficients pass the library's zero
    test, denotes what the original denotes under every interpretation (in particular the matrix). -/
theorem translated_dict_roundtrip_denote (negl : Rat → Rat → Bool) (order : Ops → Ops) (hord : ∀ o, (order o).Perm o)
    (s : PSum Coef) (hs : ∀ t ∈ s, t.WF) :
    ∃ r D : PSum Coef,
      Translated.convert_dict_to_op (SM := PSum Coef) (TM := Term Coef) [] (fun ops c => liftE (fromIterable ops (ofNum c)))
        (addTerm negl)
        (Translated.convert_op_to_dict (OP := PSum Coef) (TM := Term Coef) (fun s => s)
          (fun t => (order t.ops).map (fun o => ((o.1 : Int), o.2))) (fun t => toNum t.coef) s) = .ok r ∧
      (∀ d ∈ D, negl d.coef.re d.coef.im = true) ∧
      ∀ {M : Type} [AddCommMonoid M] (φ : Ops → Rat → Rat → M), Interp φ →
        denote φ Coef.val r + denote φ Coef.val D = denote φ Coef.val s := by
  obtain ⟨r, D, h1, h2, h3⟩ := dict_roundtrip_denote negl order hord s hs
  refine ⟨r, D, ?_, h2, h3⟩
  rw [translated_convert_op_to_dict_model, translated_convert_dict_to_op_eq, h1]
  rfl

/-- END-TO-END (`dict_roundtrip_exact` ON THE TRANSLATED PAIR): for simplified operators the translated round trip returns the
    terms one for one, in order, with the same operator sets and exactly the same real and imaginary parts. -/
theorem translated_dict_roundtrip_exact (negl : Rat → Rat → Bool) (order : Ops → Ops) (hord : ∀ o, (order o).Perm o)
    (s : PSum Coef) (hs : ∀ t ∈ s, t.WF) (hsimp : Simplified negl s) :
    ∃ r : PSum Coef,
      Translated.convert_dict_to_op (SM := PSum Coef) (TM := Term Coef) [] (fun ops c => liftE (fromIterable ops (ofNum c)))
        (addTerm negl)
        (Translated.convert_op_to_dict (OP := PSum Coef) (TM := Term Coef) (fun s => s)
          (fun t => (order t.ops).map (fun o => ((o.1 : Int), o.2))) (fun t => toNum t.coef) s) = .ok r ∧
      List.Forall₂ (fun a b : Term Coef => a.ops.Perm b.ops ∧ a.coef.re = b.coef.re ∧ a.coef.im = b.coef.im) r s := by
  obtain ⟨r, h1, h2⟩ := dict_roundtrip_exact negl order hord s hs hsimp
  refine ⟨r, ?_, h2⟩
  rw [translated_convert_op_to_dict_model, translated_convert_dict_to_op_eq, h1]
  rfl

/-! ## non-vacuity: the TRANSLATED definitions on concrete inputs -/

-- a complex and a real coefficient, a multi-digit qubit, reversed iteration order of the frozenset
example : Translated.convert_op_to_dict (OP := PSum Coef) (TM := Term Coef) (fun s => s)
    (fun t => (t.ops.reverse).map (fun o => ((o.1 : Int), o.2))) (fun t => toNum t.coef)
    [⟨[(0, .Z), (12, .X)], .cplx (1/2) (-3)⟩, ⟨[], .real (-2)⟩]
    = ⟨[⟨[⟨12, .X⟩, ⟨0, .Z⟩], ⟨1/2, some (-3)⟩⟩, ⟨[], ⟨-2, none⟩⟩]⟩ := by decide +kernel
-- the reader: `imag` truthy gives a complex coefficient, `imag = 0` and no `imag` give a real one; like terms are merged by `+=`
example : Translated.convert_dict_to_op (SM := PSum Coef) (TM := Term Coef) [] (fun ops c => liftE (fromIterable ops (ofNum c)))
    (addTerm (fun re im => decide (re * re + im * im ≤ 1 / 10000000000000000)))
    ⟨[⟨[⟨12, .X⟩, ⟨0, .Z⟩], ⟨1/2, some (-3)⟩⟩, ⟨[⟨3, .Y⟩], ⟨1, some 0⟩⟩, ⟨[⟨3, .Y⟩, ⟨5, .I⟩], ⟨1/4, none⟩⟩]⟩
    = .ok [⟨[(12, .X), (0, .Z)], .cplx (1/2) (-3)⟩, ⟨[(3, .Y)], .real (5/4)⟩] := by decide +kernel
-- a repeated qubit index is rejected with ValueError (raised by the external `from_iterable`)
example : Translated.convert_dict_to_op (SM := PSum Coef) (TM := Term Coef) [] (fun ops c => liftE (fromIterable ops (ofNum c)))
    (addTerm (fun _ _ => false)) ⟨[⟨[⟨1, .X⟩, ⟨1, .Z⟩], ⟨1, none⟩⟩]⟩ = .error .ValueError := by decide +kernel

end OQ.C11
