/-
  C07 — PROPERTY THEOREMS: gate modifiers (dagger, controlled, power, exp) mean what they say.
  Model: OQ/Model/C07.lean (the wrapper classes of circuits/_gates.py and their modifier METHODS with the
  re-association rules).  Helper lemmas: OQ/Lemmas/C07.lean.

  Conventions.  `Gate.daggerM / ctlI / ctlP / powerM / expM / replaceParams` are the Python methods
  `.dagger / .controlled(n) (checked, any int) / .controlled(m+1) / .power(e) / .exp / .replace_params`.
  `gateMatrix star x g` is `g.matrix`; it is `.ok M` when no exception is raised.  Matrices are compared through the
  view `Mat.toM D D M : Matrix (Fin D) (Fin D) R`.  sympy's inverse / non-integer power / exponential are the
  externals `x : Ext R` with the laws `ExtLaws x`, `ExpLaw x E`.  `Gate.Canon` is the shape invariant of every gate the
  methods can build (`canon_reachable`).  All theorems hold over every commutative star ring `R`; the statements
  about the matrix exponential are instantiated at `ℂ`.
-/
import OQ.Lemmas.C07
import OQ.Lemmas.C07_Inst
namespace OQ.C07
open Matrix

section Structure
variable {P R : Type}

/-- "the modified gate reports the implied number of qubits": dagger, power and exp keep it -/
theorem numQubits_dagger_power_exp (g : Gate P R) (e : Rat) :
    g.daggerM.numQubits = g.numQubits ∧ (g.powerM e).numQubits = g.numQubits ∧ g.expM.numQubits = g.numQubits :=
  ⟨Gate.numQubits_daggerM g, Gate.numQubits_powerM g e, rfl⟩

/-- "the modified gate reports the implied number of qubits": whenever `.controlled(n)` is accepted (any Python
    int `n`, including the merge with an existing `ControlledGate`), the result acts on `n` more qubits -/
theorem numQubits_controlled (g g' : Gate P R) (n : Int) (h : g.ctlI n = .ok g') :
    (g'.numQubits : Int) = g.numQubits + n :=
  (Gate.ctlI_ok g g' n h).1

/-- "… and the same parameters": every modifier keeps `params` -/
theorem params_modifiers (g : Gate P R) (e : Rat) :
    g.daggerM.params = g.params ∧ (g.powerM e).params = g.params ∧ g.expM.params = g.params ∧
    ∀ n g', g.ctlI n = .ok g' → g'.params = g.params :=
  ⟨Gate.params_daggerM g, Gate.params_powerM g e, rfl, fun n g' h => (Gate.ctlI_ok g g' n h).2⟩

/-- "all control counts ≥ 1": a valid count is always accepted, and the checked method is then the
    re-association function `ctlP` (about which the matrix theorems speak) -/
theorem controlled_accepts (g : Gate P R) (n : Int) (hn : 1 ≤ n) : g.ctlI n = .ok (g.ctlP (n - 1).toNat) :=
  Gate.ctlI_pos g n hn

/-- a count below one is rejected with `ValueError` by every method-built gate that is not already a
    `ControlledGate` (on a `ControlledGate` the counts add up first, as in the code) -/
theorem controlled_rejects (g : Gate P R) (hc : g.Canon) (hg : g.isCtl = false) (n : Int) (hn : n < 1) :
    g.ctlI n = .error .value := by
  induction g with
  | controlled y k => cases hg
  | dagger y =>
    obtain ⟨b, rfl, _⟩ := hc
    rw [Gate.ctlI, Gate.ctlI, Gate.mkControlled_of_lt _ hn]; rfl
  | power y e ih => rw [Gate.ctlI, ih hc.1 hc.2]; rfl
  | _ => exact Gate.mkControlled_of_lt _ hn

/-- every gate obtained from a base gate by any nesting of the modifier methods satisfies the shape invariant -/
theorem canon_reachable (b : Base P R) (ms : List Gate.Mod) : (Gate.applyChain (.base b) ms).Canon :=
  Gate.canon_applyChain _ ms trivial

/-- last sentence, one modifier: replacing the parameters of a modified gate gives the same gate as modifying
    the re-parameterised gate -/
theorem replaceParams_modifier (g : Gate P R) (hc : g.Canon) (m : Gate.Mod) (ps : List P) :
    (m.apply g).replaceParams ps = m.apply (g.replaceParams ps) := by
  rw [Gate.replaceParams_eq_mapParams _ ps (Gate.canon_apply m g hc), Gate.replaceParams_eq_mapParams g ps hc,
    Gate.mapParams_apply]

/-- last sentence, all chains of any depth and order: `chain(base).replace_params(ps) = chain(base built with ps)` -/
theorem replaceParams_commutes (b : Base P R) (ms : List Gate.Mod) (ps : List P) :
    (Gate.applyChain (.base b) ms).replaceParams ps = Gate.applyChain (.base { b with params := ps }) ms := by
  rw [Gate.replaceParams_eq_mapParams _ ps (canon_reachable b ms), Gate.mapParams_applyChain]
  rfl

/-- re-association: `g.power(e).controlled(n) = g.controlled(n).power(e)` (all gates; tests/…/_gates_test.py l.265) -/
theorem power_controlled (g : Gate P R) (e : Rat) (m : Nat) : (g.powerM e).ctlP m = (g.ctlP m).powerM e := by
  cases g <;> rfl

/-- re-association: `g.dagger.controlled(n) = g.controlled(n).dagger` on method-built gates (test l.255) -/
theorem dagger_controlled (g : Gate P R) (hc : g.Canon) (m : Nat) : g.daggerM.ctlP m = (g.ctlP m).daggerM := by
  rcases Gate.isCtl_cases g with hg | ⟨y, k, rfl⟩
  · obtain ⟨h1, h2⟩ := Gate.canon_daggerM g hc
    rw [Gate.ctlP_of_not_ctl g m hc hg, Gate.ctlP_of_not_ctl g.daggerM m h1 (h2.trans hg)]
    rfl
  · rfl

/-- re-association: `.dagger` twice returns the gate itself (test l.156: `gate.dagger.dagger is gate`) -/
theorem dagger_involutive (g : Gate P R) (hc : g.Canon) : g.daggerM.daggerM = g := by
  induction g with
  | base b =>
    simp only [Gate.daggerM]
    split
    · rename_i hb; simp only [Gate.daggerM, hb, if_true]
    · rfl
  | controlled y k ih => simp only [Gate.daggerM, ih hc.1]
  | dagger y =>
    obtain ⟨b, rfl, hb⟩ := hc
    simp [Gate.daggerM, hb]
  | power y e ih =>
    obtain ⟨_, h2⟩ := Gate.canon_daggerM y hc.1
    rw [Gate.daggerM, Gate.powerM_of_not_ctl _ e (h2.trans hc.2), Gate.daggerM, ih hc.1,
      Gate.powerM_of_not_ctl _ e hc.2]
  | exponential y ih => simp only [Gate.daggerM, Gate.expM, ih hc]

end Structure

section Matrices
variable {P R : Type} [CommRing R] [StarRing R] {x : Ext R}

/-- "for k controls the identity on the first 2^n(2^k − 1) basis states followed by the original matrix":
    entries of the matrix of `g.controlled(m+1)` for every method-built gate `g` (including the merge of counts when
    `g` is already controlled) -/
theorem controlled_matrix_block (hx : ExtLaws x) (g : Gate P R) (hcn : g.Canon) (hw : WellDim g) (m : Nat)
    (M M' : Mat R) (hM : gateMatrix star x g = .ok M) (hM' : gateMatrix star x (g.ctlP m) = .ok M') :
    let d := 2 ^ g.numQubits
    let d0 := 2 ^ g.numQubits * (2 ^ (m + 1) - 1)
    M'.r = d0 + d ∧ M'.c = d0 + d ∧ ∀ i j, i < d0 + d → j < d0 + d →
      M'.get i j = if i < d0 ∧ j < d0 then (if i = j then 1 else 0)
        else if d0 ≤ i ∧ d0 ≤ j then M.get (i - d0) (j - d0) else 0 := by
  intro d d0
  obtain ⟨hr, hc⟩ := gateMatrix_dim hx g hw M hM
  rw [ctlP_matrix star x g hcn m M hM] at hM'
  cases hM'
  exact ⟨by rw [ctlMatrix_r, hr], by rw [ctlMatrix_c, hc],
    fun i j hi hj => ctlMatrix_get d0 M i j (by rw [hr]; exact hi) (by rw [hc]; exact hj)⟩

omit [StarRing R] in
/-- "(controls come first in the qubit list)": the block matrix is `|1…1⟩⟨1…1| ⊗ M + (1 − |1…1⟩⟨1…1|) ⊗ 1` with the
    `k` control qubits as the LEFT (most significant = first) Kronecker factor -/
theorem controlled_eq_proj_form (k d : Nat) (M : Mat R) (hr : M.r = d) (hc : M.c = d) :
    Mat.toM (2 ^ k * d) (2 ^ k * d) (ctlMatrix (d * (2 ^ k - 1)) M) =
      Mat.toM (2 ^ k * d) (2 ^ k * d) (((projAll k).kron M).add ((projRest k).kron (Mat.identity d))) ∧
    Mat.toM (2 ^ k) (2 ^ k) (projRest (R := R) k) = 1 - Mat.toM (2 ^ k) (2 ^ k) (projAll k) := by
  refine ⟨?_, projRest_eq k⟩
  funext i j
  exact controlled_proj_entries k d M hr hc i j i.2 j.2

/-- "for an integer power the repeated product": `g.power(n)`, `n ≥ 0`, for every gate (the power is pushed under
    the controls of a `ControlledGate`) -/
theorem ipow_matrix (hx : ExtLaws x) (g : Gate P R) (e : Rat) (he : e.den = 1) (hn : 0 ≤ e.num)
    (M M' : Mat R) (D : Nat) (hM : gateMatrix star x g = .ok M) (hM' : gateMatrix star x (g.powerM e) = .ok M')
    (hr : M.r = D) (hc : M.c = D) :
    M'.r = D ∧ M'.c = D ∧ Mat.toM D D M' = Mat.toM D D M ^ e.num.toNat := by
  obtain ⟨a, b, c⟩ := powerM_int hx g e he M M' D hM hM' hr hc
  exact ⟨a, b, (IntPow.of_nonneg hn).1 c⟩

/-- "(inverse for negative exponents)": `g.power(-n)` is the `n`-fold product of a two-sided inverse of the original -/
theorem ipow_neg_matrix (hx : ExtLaws x) (g : Gate P R) (e : Rat) (he : e.den = 1) (hn : e.num < 0)
    (M M' : Mat R) (D : Nat) (hM : gateMatrix star x g = .ok M) (hM' : gateMatrix star x (g.powerM e) = .ok M')
    (hr : M.r = D) (hc : M.c = D) :
    M'.r = D ∧ M'.c = D ∧ ∃ W : Matrix (Fin D) (Fin D) R,
      W * Mat.toM D D M = 1 ∧ Mat.toM D D M * W = 1 ∧ Mat.toM D D M' = W ^ (-e.num).toNat := by
  obtain ⟨a, b, c⟩ := powerM_int hx g e he M M' D hM hM' hr hc
  exact ⟨a, b, (IntPow.of_neg hn).1 c⟩

/-- "for a fractional power 1/q a matrix whose q-th power is the original" -/
theorem root_matrix (hx : ExtLaws x) (g : Gate P R) (e : Rat) (he : e.num = 1) (hq : 2 ≤ e.den)
    (M M' : Mat R) (D : Nat) (hM : gateMatrix star x g = .ok M) (hM' : gateMatrix star x (g.powerM e) = .ok M')
    (hr : M.r = D) (hc : M.c = D) :
    M'.r = D ∧ M'.c = D ∧ Mat.toM D D M' ^ e.den = Mat.toM D D M := by
  refine powerM_lift hx e (fun d A B => B ^ e.den = A) ?_ ?_ g M M' D hM hM' hr hc
  · intro d0 d A B h; rw [← blockDiag_pow, h]
  · intro d M M' hr hc h
    rw [mpow, if_neg (by omega)] at h
    exact hx.root d M e M' he hq hr hc h

/-- "for dagger the conjugate transpose" — PARTIAL: proved for every gate that contains no `Power` with a non-integer
    exponent (`NoFrac`), given truthful `is_hermitian` flags (`HermOK`, property C02) and `exp(Aᴴ) = exp(A)ᴴ` for the
    external exponential.  What is missing: gates with a fractional power below the dagger, for which the statement is
    FALSE of the code (`power_half_dagger_not_adjoint`, finding F16). -/
theorem dagger_adjoint_partial (hx : ExtLaws x) (E : ∀ d, Matrix (Fin d) (Fin d) R → Matrix (Fin d) (Fin d) R)
    (hE : ExpLaw x E) (hEs : ∀ d A, E d Aᴴ = (E d A)ᴴ)
    (g : Gate P R) (hw : WellDim g) (hnf : NoFrac g) (hh : HermOK g)
    (M M' : Mat R) (D : Nat) (hM : gateMatrix star x g = .ok M) (hM' : gateMatrix star x g.daggerM = .ok M')
    (hr : M.r = D) (hc : M.c = D) :
    M'.r = D ∧ M'.c = D ∧ Mat.toM D D M' = (Mat.toM D D M)ᴴ := by
  induction g generalizing M M' D with
  | base b =>
    unfold Gate.daggerM at hM'
    split at hM'
    · rename_i hb
      cases hM.symm.trans hM'
      exact ⟨hr, hc, (hh hb M D hM hr hc).symm⟩
    · obtain ⟨Y, hY, rfl⟩ := gateMatrix_dagger_ok.1 hM'
      cases hM.symm.trans hY
      exact ⟨hc, hr, toM_adjointWith' D M hr hc⟩
  | controlled y k ih =>
    exact MatRel.controlled (Rel := fun _ A B => B = Aᴴ) (fun d0 _ _ _ h => by rw [h, blockDiag_conjTranspose])
      (Gate.numQubits_daggerM y) (ih hw hnf hh) M M' D hM hM' hr hc
  | dagger y =>
    obtain ⟨Y, hY, rfl⟩ := gateMatrix_dagger_ok.1 hM
    cases hY.symm.trans hM'
    exact ⟨hc, hr, by rw [toM_adjointWith' D M' hc hr, conjTranspose_conjTranspose]⟩
  | power y e ih =>
    -- `Power.dagger` is the power of the dagger: both sides are integer powers, of `Y` and of `Yᴴ`
    obtain ⟨Y, hY, h2⟩ := gateMatrix_power_ok.1 hM
    obtain ⟨Y', hY'⟩ := powerM_ok_inv e y.daggerM M' hM'
    obtain rfl : D = 2 ^ y.numQubits := hr.symm.trans (gateMatrix_dim hx _ hw M hM).1
    obtain ⟨hYr, hYc⟩ := gateMatrix_dim hx y hw Y hY
    obtain ⟨a, b, c⟩ := ih hw hnf.2 hh Y Y' _ hY hY' hYr hYc
    obtain ⟨p, q, r⟩ := powerM_int hx y.daggerM e hnf.1 Y' M' _ hY' hM' a b
    rw [c] at r
    exact ⟨p, q, (mpow_int hx hnf.1 hYr hYc h2).conjTranspose_unique r⟩
  | exponential y ih =>
    obtain ⟨Y, hY, h2⟩ := gateMatrix_exponential_ok.1 hM
    obtain ⟨Y', hY', h3⟩ := gateMatrix_exponential_ok.1 hM'
    obtain rfl : D = 2 ^ y.numQubits := hr.symm.trans (gateMatrix_dim hx _ hw M hM).1
    obtain ⟨hYr, hYc⟩ := gateMatrix_dim hx y hw Y hY
    obtain ⟨a, b, c⟩ := ih hw hnf hh Y Y' _ hY hY' hYr hYc
    obtain ⟨e1, e2⟩ := hx.exp_dim _ _ h3
    exact ⟨e1.trans a, e2.trans b, by rw [hE _ Y' M' a b h3, c, hEs, hE _ Y M hYr hYc h2]⟩

end Matrices

section Complex
variable {P : Type} {x : Ext ℂ}

/-- "for exp the matrix exponential": when sympy's `exp` is the matrix exponential, so is the matrix of `g.exp` -/
theorem exp_matrix (hE : ExpLaw x (fun _ A => NormedSpace.exp A)) (g : Gate P ℂ) (M M' : Mat ℂ) (D : Nat)
    (hM : gateMatrix star x g = .ok M) (hM' : gateMatrix star x g.expM = .ok M') (hr : M.r = D) (hc : M.c = D) :
    Mat.toM D D M' = NormedSpace.exp (Mat.toM D D M) := by
  obtain ⟨Y, hY, h2⟩ := gateMatrix_exponential_ok.1 hM'
  cases hM.symm.trans hY
  exact hE D M M' hr hc h2

/-- `(e^A)ᴴ = e^{Aᴴ}`: the dagger theorem with the exponential law discharged at ℂ — the dagger of any chain of
    controlled / integer power / exp / dagger modifiers over complex matrices is the conjugate transpose -/
theorem exp_dagger (hx : ExtLaws x) (hE : ExpLaw x (fun _ A => NormedSpace.exp A))
    (g : Gate P ℂ) (hw : WellDim g) (hnf : NoFrac g) (hh : HermOK g)
    (M M' : Mat ℂ) (D : Nat) (hM : gateMatrix star x g = .ok M) (hM' : gateMatrix star x g.daggerM = .ok M')
    (hr : M.r = D) (hc : M.c = D) :
    Mat.toM D D M' = (Mat.toM D D M)ᴴ :=
  (dagger_adjoint_partial hx _ hE (fun _ A => Matrix.exp_conjTranspose A) g hw hnf hh M M' D hM hM' hr hc).2.2

end Complex

section F16
open Inst

/-- structure behind F16: `Power.dagger` is "power of the dagger" and the dagger of a gate flagged hermitian is the gate
    itself, so `g.power(e).dagger` IS `g.power(e)` for every flagged base gate and every exponent -/
theorem power_dagger_of_flagged {P R : Type} (b : Base P R) (hb : b.hermitian = true) (e : Rat) :
    ((Gate.base b).powerM e).daggerM = (Gate.base b).powerM e := by
  simp [Gate.powerM, Gate.daggerM, hb]

/-- NEGATIVE WITNESS (finding F16): the full-strength sentence "for dagger the conjugate transpose" is false of the
    code.  For `X.power(1/2)` with the root sympy returns (`sqrtX`, whose square is X — the root law holds), the matrix of
    `X.power(1/2).dagger` is the same matrix, not its conjugate transpose: entry (0,0) is (1+i)/2, the adjoint has (1−i)/2. -/
theorem power_half_dagger_not_adjoint :
    (sqrtX.mul sqrtX).toLists = (Gates.x (R := Cyc8)).toLists ∧
    gateMatrix conj extF16 (xGate.powerM half) = .ok sqrtX ∧
    gateMatrix conj extF16 (xGate.powerM half).daggerM = .ok sqrtX ∧
    sqrtX.get 0 0 ≠ conj (sqrtX.get 0 0) := by
  have hd : half.den ≠ 1 := by rw [half_den]; decide
  have h1 : gateMatrix conj extF16 (xGate.powerM half) = .ok sqrtX := by
    show mpow extF16 Gates.x half = .ok sqrtX
    rw [mpow, if_neg hd]; rfl
  refine ⟨by decide +kernel, h1, ?_, by decide +kernel⟩
  have : (xGate.powerM half).daggerM = xGate.powerM half :=
    power_dagger_of_flagged _ rfl half
  rw [this, h1]

end F16

section NonVacuity
open Inst

-- structure: X under two controls, square root, dagger: 3 qubits
example : ((xGate.ctlP 1).powerM half).daggerM.numQubits = 3 := by decide
example : xGate.ctlI 2 = .ok (xGate.ctlP 1) := controlled_accepts xGate 2 (by decide)
example : xGate.Canon ∧ xGate.isCtl = false ∧ ((0 : Int) < 1) := ⟨trivial, rfl, by decide⟩
example : (Gate.applyChain v [.controlled 1, .power half, .dagger, .exp, .controlled 0]).Canon := canon_reachable _ _
example := replaceParams_commutes (P := Unit) (R := ℤ) ⟨"V", fun _ => .ok (Mat.ofLists [[1, 2], [3, 4]]), [], 1, false⟩
  [.controlled 1, .power half, .dagger, .exp] [()]
-- controlled_matrix_block: V under `.controlled(2)` on top of an existing controlled gate (the counts merge)
example : ∃ M M', ExtLaws (extNone ℤ) ∧ (v.ctlP 0).Canon ∧ WellDim (v.ctlP 0) ∧
    gateMatrix star (extNone ℤ) (v.ctlP 0) = .ok M ∧ gateMatrix star (extNone ℤ) ((v.ctlP 0).ctlP 1) = .ok M' :=
  ⟨_, _, extNone_laws ℤ, canon_reachable _ [.controlled 0], v_wellDim, rfl, rfl⟩
-- ipow_matrix: (controlled V)^3, exponent 3 = 3/1
example : ∃ M M', (3 : Rat).den = 1 ∧ 0 ≤ (3 : Rat).num ∧ gateMatrix star (extNone ℤ) (v.ctlP 0) = .ok M ∧
    gateMatrix star (extNone ℤ) ((v.ctlP 0).powerM 3) = .ok M' ∧ M.r = 4 ∧ M.c = 4 :=
  ⟨_, _, rfl, by decide, rfl, rfl, rfl, rfl⟩
-- ipow_neg_matrix and root_matrix: the laws are satisfiable with successful external calls (identity gate)
example : ∃ M, ExtLaws extId ∧ (-2 : Rat).den = 1 ∧ (-2 : Rat).num < 0 ∧ gateMatrix star extId (one.ctlP 0) = .ok M ∧
    (gateMatrix star extId ((one.ctlP 0).powerM (-2))).toBool = true ∧ M.r = 4 ∧ M.c = 4 :=
  ⟨_, extId_laws, rfl, by decide, rfl, by decide +kernel, rfl, rfl⟩
example : ∃ M, half.num = 1 ∧ 2 ≤ half.den ∧ gateMatrix star extId (one.ctlP 0) = .ok M ∧
    (gateMatrix star extId ((one.ctlP 0).powerM half)).toBool = true ∧ M.r = 4 ∧ M.c = 4 :=
  ⟨_, half_num, by rw [half_den], rfl, by decide +kernel, rfl, rfl⟩
-- dagger_adjoint_partial: dagger of (controlled V)^2 (a Dagger node under a Power under a ControlledGate)
example : ∃ M M', ExpLaw (extNone ℤ) (fun _ A => A) ∧ WellDim ((v.ctlP 0).powerM 2) ∧ NoFrac ((v.ctlP 0).powerM 2) ∧
    HermOK ((v.ctlP 0).powerM 2) ∧ gateMatrix star (extNone ℤ) ((v.ctlP 0).powerM 2) = .ok M ∧
    gateMatrix star (extNone ℤ) ((v.ctlP 0).powerM 2).daggerM = .ok M' :=
  ⟨_, _, extNone_exp ℤ _, v_wellDim, ⟨rfl, trivial⟩, by simp [HermOK, Gate.powerM, Gate.ctlP, v], rfl, rfl⟩
-- exp_matrix / exp_dagger: an external that really exponentiates (exp 0 = 1)
example : ExpLaw extExp0 (fun _ A => NormedSpace.exp A) ∧
    gateMatrix star extExp0 zero2.expM = .ok (Mat.identity 2) := ⟨extExp0_exp, zero2_exp_ok⟩

end NonVacuity

end OQ.C07
