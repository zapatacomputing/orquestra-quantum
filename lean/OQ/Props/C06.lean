/-
  C06 — PROPERTY THEOREMS: binding parameters commutes with evaluating the circuit.
  Model: OQ/Model/C06.lean.  Helper lemmas: OQ/Lemmas/C06.lean.

  Reading guide.  `ρ : String → V` is an assignment of values to symbols, `comp A ρ m` the
  assignment "substitute the map `m`, then evaluate at `ρ`".  "Evaluate symbolically and substitute
  afterwards" is evaluation at `comp A ρ m`; "bind and then evaluate" is evaluation of the bound
  object at `ρ`.  Matrices are abstract (`Sem`): the theorems hold for every interpretation of the
  built-in factories and of the wrappers that satisfies `Laws` (block-diagonal controls add up, the
  adjoint is an involution commuting with the control block – the laws the re-association rules of
  `.controlled` / `.dagger` rely on).  `HermOK` = the `is_hermitian` flags tell the truth;
  `CustomOK` = a custom gate gets at least as many params as its definition orders and its stored
  matrix mentions only ordered symbols.  The domain of symbol maps is "values do not mention the
  map's own keys" (`subst` is simultaneous substitution).
-/
import OQ.Lemmas.C06
namespace OQ.C06

/-! ## Sentence 1 — bind then evaluate = evaluate then substitute -/

/-- S1, parameters: substituting into a parameter (through the `sub_symbols` dispatch) and evaluating
    equals evaluating the original parameter after substitution. -/
theorem eval_bind_param {V : Type} (A : Alg V) (ρ : String → V) (m : SymMap) (p : Param) :
    (subSymbols m p).eval A ρ = p.eval A (comp A ρ m) :=
  eval_subSymbols A ρ m p

/-- S1, gates / wrapped gates / custom gates: whenever `bind` returns a gate, its matrix is the
    matrix of the original gate evaluated symbolically and substituted afterwards – for every chain
    of `ControlledGate` / `Dagger` wrappers over a built-in or custom factory gate (bind re-wraps
    through `.controlled` / `.dagger`, which may re-associate the chain). -/
theorem gateMatrix_bind {V M : Type} (S : Sem V M) (L : Laws S) (ρ : String → V) (m : SymMap)
    (g g' : Gate) (hh : HermOK S g) (hc : CustomOK g) (h : g.bind m = .ok g') :
    gateMatrix S ρ g' = gateMatrix S (comp S.alg ρ m) g := by
  induction g generalizing g' with
  | mf nm fac ps nq herm => cases h; exact mfMatrix_bind S ρ m nm fac ps nq herm hc
  | ctrl w k ih =>
    obtain ⟨w', hw, h2⟩ := Res.bind_eq_ok h
    rw [controlled_matrix S L ρ (isCD_bind hw) (hermOK_bind S (g := w) hh hw) h2, ih w' hh hc hw]
    rfl
  | dag w ih =>
    obtain ⟨w', hw, h2⟩ := Res.bind_eq_ok h
    rw [(dagger_matrix S L ρ (isCD_bind hw) (hermOK_bind S (g := w) hh hw) h2).1, ih w' hh hc hw]
    rfl
  | exp | pow => cases h

/-- S1, custom gates: the factory substitutes positionally and simultaneously – with distinct ordered
    symbols, the i-th formal symbol of the stored matrix is evaluated as the i-th actual parameter
    (actual parameters are not substituted again, even if they mention formal symbols). -/
theorem custom_positional {V : Type} (A : Alg V) (ρ : String → V) (ord : List String) (ps : List Param)
    (hn : ord.Nodup) (e : PExpr) (i : Nat) (hi : i < ord.length) (hp : i < ps.length) :
    eval A ρ (subst (customDict ord ps) e) = eval A (comp A ρ (customDict ord ps)) e ∧
    comp A ρ (customDict ord ps) ord[i] = ps[i].eval A ρ := by
  refine ⟨eval_subst A ρ _ e, ?_⟩
  have hz : i < (List.zip ord ps).length := by rw [List.length_zip]; omega
  have hmem : (ord[i], ps[i]) ∈ customDict ord ps := by
    rw [← List.getElem_zip (h := hz)]; exact List.mem_reverse.mpr (List.getElem_mem hz)
  simp only [comp, lookup_of_mem_nodup _ _ _ hmem (keys_customDict_nodup ord ps hn)]

/-- S1, operations (gate operations, MultiPhaseOperation, ResetOperation alike): whenever `op.bind`
    returns, the bound operation's parameters evaluate to the original parameters evaluated after
    substitution, position by position, and the qubits are kept. -/
theorem op_bind_eval {V : Type} (A : Alg V) (ρ : String → V) (m : SymMap) (o o' : Op)
    (h : o.bind m = .ok o') :
    o'.params.map (Param.eval A ρ) = o.params.map (Param.eval A (comp A ρ m)) ∧ o'.qubits = o.qubits := by
  refine ⟨?_, op_qubits_bind h⟩
  rw [op_params_bind h, List.map_map]
  exact List.map_congr_left fun p _ => eval_subSymbols A ρ m p

/-- S1, totality: `Circuit.bind` returns a circuit for every circuit none of whose gate operations has
    a power/exponential wrapper – gate operations, MultiPhaseOperations and ResetOperations alike
    (the only refusals are the NotImplementedErrors of sentence 7). -/
theorem circuit_bind_total (m : SymMap) (c : Circuit)
    (h : ∀ o ∈ c.ops, ∀ g qs, o = .gate g qs → g.isCD = true) :
    ∃ c', c.bind m = .ok c' := by
  obtain ⟨ops', hops⟩ := mapRes_all_ok (Op.bind m) c.ops fun o ho => op_bind_total m (h o ho)
  exact ⟨mkCircuit ops' c.nQubits, by rw [Circuit.bind, hops]; rfl⟩

/-- S1, non-gate operations: binding a ResetOperation returns a reset of the same qubit whatever the map
    (fix ddf37fe; before it the real `bind` raised TypeError), and `replace_params` does the same. -/
theorem reset_bind (m : SymMap) (q : Nat) (ps : List Param) :
    Op.bind m (.reset q) = .ok (.reset q) ∧ Op.replaceParams (.reset q) ps = .ok (.reset q) :=
  ⟨rfl, rfl⟩

/-- S1, circuits: whenever `Circuit.bind` returns, the bound circuit keeps the width and the
    qubits of every operation, and its unitary (`to_unitary`: product of the lifted gate matrices,
    including the ValueError for non-gate operations and the TypeError of the empty product) is the
    unitary of the original circuit evaluated symbolically and substituted afterwards. -/
theorem circuitMatrix_bind {V M : Type} (S : Sem V M) (L : Laws S) (ρ : String → V) (m : SymMap)
    (c c' : Circuit) (hwf : c.WF) (hh : ∀ o ∈ c.ops, o.HermOK S) (hc : ∀ o ∈ c.ops, o.CustomOK)
    (h : c.bind m = .ok c') :
    circuitMatrix S ρ c' = circuitMatrix S (comp S.alg ρ m) c ∧ c'.nQubits = c.nQubits ∧
      c'.ops.map Op.qubits = c.ops.map Op.qubits := by
  obtain ⟨hf, hn⟩ := circuit_bind_ops hwf h
  refine ⟨?_, hn, (map_eq_map_of_forall₂ (hf.imp fun _ _ hab => (op_qubits_bind hab).symm)).symm⟩
  -- operation by operation, `to_unitary` lifts the same matrix or raises the same ValueError
  obtain ⟨hlen, hz⟩ := List.forall₂_iff_zip.mp hf
  have hl : List.Forall₂ (fun o' o => liftedOp S ρ c.nQubits o' = liftedOp S (comp S.alg ρ m) c.nQubits o)
      c'.ops c.ops := by
    refine (List.forall₂_iff_zip.mpr ⟨hlen, fun {o o'} hab => ?_⟩).flip
    have ho := (List.of_mem_zip hab).1
    have hb := hz hab
    cases o with
    | gate g qs =>
      obtain ⟨g', hg, rfl⟩ := Res.map_eq_ok hb
      exact congrArg (fun X => Res.ok (S.lift X qs c.nQubits)) (gateMatrix_bind S L ρ m g g' (hh _ ho) (hc _ ho) hg)
    | multiPhase ps | reset q => cases hb; rfl
  unfold circuitMatrix
  rw [hn, mapRes_congr₂ (List.forall₂_reverse_iff.mpr hl)]

/-! ## Sentence 2 — binding in several partial steps equals binding once -/

/-- S2, parameters: two successive substitutions give literally the parameter of the single
    substitution with the merged map (values of the first map do not mention keys of the second;
    on a shared key the first map wins, as it does step-wise).  In the implementation sympy
    canonicalises between the two steps (`gamma + 0` becomes the bare symbol `gamma`, which the second
    step then answers with the raw Python value instead of a sympy number), so there the two results
    agree in value – `eval_bind_param` applied twice – but may differ in representation; the
    correspondence check compares values. -/
theorem bind_bind_param (m1 m2 : SymMap) (h : NoMention m1 m2) (p : Param) :
    subSymbols m2 (subSymbols m1 p) = subSymbols (m1 ++ m2) p :=
  subSymbols_subSymbols m1 m2 h p

/-- S2, gates: when binding `m1` and then `m2` succeeds, so does binding the merged map once, the
    resulting parameter tuples are identical and the matrices are equal. -/
theorem bind_bind_gate {V M : Type} (S : Sem V M) (L : Laws S) (ρ : String → V) (m1 m2 : SymMap)
    (hnm : NoMention m1 m2) (g g1 g2 : Gate) (hh : HermOK S g) (hc : CustomOK g)
    (h1 : g.bind m1 = .ok g1) (h2 : g1.bind m2 = .ok g2) :
    ∃ g12, g.bind (m1 ++ m2) = .ok g12 ∧ g12.params = g2.params ∧
      gateMatrix S ρ g12 = gateMatrix S ρ g2 := by
  obtain ⟨g12, h12, _⟩ := bind_cd (m1 ++ m2) (bind_ok_isCD h1)
  refine ⟨g12, h12, ?_, ?_⟩
  · rw [params_bind h12, params_bind h2, params_bind h1, List.map_map]
    exact List.map_congr_left fun p _ => (subSymbols_subSymbols m1 m2 hnm p).symm
  · rw [gateMatrix_bind S L ρ (m1 ++ m2) g g12 hh hc h12,
      gateMatrix_bind S L ρ m2 g1 g2 (hermOK_bind S hh h1) (customOK_bind hc h1) h2,
      gateMatrix_bind S L (comp S.alg ρ m2) m1 g g1 hh hc h1, comp_comp S.alg ρ m1 m2 hnm]

/-- S2, circuits: step-wise binding and binding once give circuits with identical parameter tuples,
    operation by operation (binding once succeeds whenever the step-wise binding did). -/
theorem bind_bind_circuit (m1 m2 : SymMap) (hnm : NoMention m1 m2) (c c1 c2 : Circuit) (hwf : c.WF)
    (h1 : c.bind m1 = .ok c1) (h2 : c1.bind m2 = .ok c2) :
    ∃ c12, c.bind (m1 ++ m2) = .ok c12 ∧ c12.ops.map Op.params = c2.ops.map Op.params ∧
      c12.nQubits = c2.nQubits := by
  have hf1 := circuit_bind_ops hwf h1
  have hwf1 : c1.WF := by
    obtain ⟨ops1, _, rfl⟩ := Res.map_eq_ok h1
    exact mkCircuit_wf _ _
  have hf2 := circuit_bind_ops hwf1 h2
  obtain ⟨l12, hl12, hps⟩ := forall₂_bind_bind hnm hf1.1 hf2.1
  have h12 : c.bind (m1 ++ m2) = .ok (mkCircuit l12 c.nQubits) := by rw [Circuit.bind, hl12]; rfl
  have hf12 := circuit_bind_ops hwf h12
  refine ⟨_, h12, ?_, ?_⟩
  · rw [← hps]; unfold mkCircuit; split <;> rfl
  · rw [hf12.2, hf2.2, hf1.2]

/-! ## Sentence 3 — absent symbols and numeric parameters are untouched -/

/-- S3: a numeric (Python number) parameter is returned unchanged by any map. -/
theorem bind_number (m : SymMap) (q : Rat) : subSymbols m (.number q) = .number q := rfl

/-- S3: a parameter none of whose symbols is a key of the map is returned unchanged
    (in particular every symbol-free sympy expression). -/
theorem bind_absent (m : SymMap) (p : Param) (h : ∀ s ∈ p.symbols, lookup m s = none) :
    subSymbols m p = p :=
  subSymbols_eq_self m p h

/-- S3, gates and operations: binding acts on the parameter tuple position by position – the i-th
    parameter of the bound operation is `sub_symbols` of the i-th original parameter, so the
    parameters covered by `bind_number` / `bind_absent` stay literally what they were. -/
theorem bind_params_pointwise (m : SymMap) (o o' : Op) (h : o.bind m = .ok o') :
    o'.params = o.params.map (subSymbols m) ∧
    ∀ i (hi : i < o.params.length) (hi' : i < o'.params.length),
      (∀ s ∈ (o.params[i]).symbols, lookup m s = none) → o'.params[i] = o.params[i] := by
  have hp := op_params_bind h
  refine ⟨hp, ?_⟩
  intro i hi hi' hs
  simp only [hp, List.getElem_map]
  exact subSymbols_eq_self m _ hs

/-! ## Sentence 4 — extra symbols in the map are ignored -/

/-- S4, gates: two maps that agree on the gate's free symbols bind it to the same result; in
    particular adding, removing or changing entries whose keys are not free symbols of the gate
    changes nothing (not even the outcome "refused"). -/
theorem bind_extra_gate (m m' : SymMap) (g : Gate)
    (h : ∀ s ∈ g.freeSymbols, lookup m s = lookup m' s) : g.bind m = g.bind m' := by
  rw [bind_eq, bind_eq, map_subSymbols_congr h]

/-- S4, circuits: maps agreeing on every symbol that occurs in a parameter of the circuit give the
    same bound circuit. -/
theorem bind_extra_circuit (m m' : SymMap) (c : Circuit)
    (h : ∀ o ∈ c.ops, ∀ s ∈ o.freeSymbols, lookup m s = lookup m' s) : c.bind m = c.bind m' := by
  refine congrArg (Res.map _) (mapRes_congr₂ (List.forall₂_same.mpr fun o ho => ?_))
  have hs := h o ho
  cases o with
  | gate g qs => exact congrArg (Res.map _) (bind_extra_gate m m' g hs)
  | multiPhase ps => exact congrArg (fun l => Res.ok (Op.multiPhase l)) (map_subSymbols_congr hs)
  | reset q => rfl

/-! ## Sentence 5 — the reported free symbols are exactly the symbols the parameters depend on -/

/-- S5, gates and operations: `free_symbols` lists exactly the symbols occurring in some sympy
    parameter, each once, in ascending order of their names. -/
theorem freeSymbols_exact (ps : List Param) :
    (∀ s, s ∈ getFreeSymbols ps ↔ ∃ p ∈ ps, s ∈ p.symbols) ∧ (getFreeSymbols ps).Pairwise (· < ·) :=
  ⟨fun s => mem_getFreeSymbols s ps, sorted_sortSyms _⟩

/-- S5, semantic side: the gate matrix depends on the assignment only through the reported free
    symbols – two assignments that agree on them give the same matrix. -/
theorem freeSymbols_sound {V M : Type} (S : Sem V M) (ρ ρ' : String → V) (g : Gate) (hc : CustomOK g)
    (h : ∀ s ∈ g.freeSymbols, ρ s = ρ' s) : gateMatrix S ρ g = gateMatrix S ρ' g := by
  induction g with
  | mf nm fac ps nq herm =>
    exact mfMatrix_congr S ρ ρ' nm fac ps nq herm hc fun p hp =>
      Param.eval_congr _ _ _ p fun s hs => h s ((mem_getFreeSymbols s ps).mpr ⟨p, hp, hs⟩)
  | ctrl w k ih | dag w ih | exp w ih | pow w e ih => simp only [gateMatrix]; rw [ih hc h]

/-- S5, after binding: the free symbols of the bound operation are exactly the unbound symbols of the
    original parameters together with the symbols of the values substituted for the bound ones
    ("the symbols its parameters still depend on"). -/
theorem freeSymbols_bind (m : SymMap) (o o' : Op) (h : o.bind m = .ok o') (s : String) :
    s ∈ o'.freeSymbols ↔
      ∃ p ∈ o.params, (s ∈ p.symbols ∧ lookup m s = none) ∨
        ∃ k ∈ p.symbols, ∃ v, lookup m k = some v ∧ s ∈ v.symbols := by
  simp only [Op.freeSymbols, mem_getFreeSymbols, op_params_bind h, List.mem_map, exists_exists_and_eq_and,
    mem_symbols_subSymbols]

/-- S5, circuits: `Circuit.free_symbols` is the concatenation of the operations' lists with every
    later duplicate removed: same members, no repetition, and ordered by first appearance. -/
theorem circuit_freeSymbols_order (c : Circuit) :
    let all := c.ops.flatMap Op.freeSymbols
    c.freeSymbols = firstAppearance all ∧
    (∀ s, s ∈ c.freeSymbols ↔ s ∈ all) ∧ c.freeSymbols.Nodup ∧ c.freeSymbols.Sublist all ∧
    c.freeSymbols.Pairwise (fun a b => all.idxOf a < all.idxOf b) := by
  intro all
  rw [circuit_freeSymbols_eq c]
  exact ⟨rfl, fun s => mem_firstAppearance s all, nodup_firstAppearance all, sublist_firstAppearance all,
    firstAppearance_order all⟩

/-! ## Sentence 6 — no free symbols iff every parameter is symbol-free -/

/-- S6 -/
theorem no_free_iff (c : Circuit) :
    c.freeSymbols = [] ↔ ∀ o ∈ c.ops, ∀ p ∈ o.params, p.symbols = [] := by
  rw [circuit_freeSymbols_eq, firstAppearance_eq_nil, List.flatMap_eq_nil_iff]
  exact forall₂_congr fun o _ => getFreeSymbols_eq_nil o.params

/-! ## Sentence 7 — power and exponential refuse with NotImplementedError -/

/-- S7: `Power.bind` raises NotImplementedError -/
theorem bind_power_notimpl (m : SymMap) (g : Gate) (e : Rat) : (Gate.pow g e).bind m = .err .notimpl := rfl

/-- S7: `Exponential.bind` raises NotImplementedError -/
theorem bind_exp_notimpl (m : SymMap) (g : Gate) : (Gate.exp g).bind m = .err .notimpl := rfl

/-- S7, every chain: `bind` either returns a gate (exactly when no power/exponential wrapper occurs
    anywhere in the chain, and then the result contains none either) or raises NotImplementedError –
    never another error, never a gate for a chain that contains such a wrapper. -/
theorem bind_refuses_iff (m : SymMap) (g : Gate) :
    (g.isCD = true → ∃ g', g.bind m = .ok g' ∧ g'.isCD = true) ∧
    (g.isCD = false → g.bind m = .err .notimpl) :=
  ⟨bind_cd m, fun h => by rw [bind_eq, h]; rfl⟩

/-- S7, why nothing is lost: a power / exponential gate cannot even be built over free symbols
    (constructor guard), so a gate that refuses to bind has no free symbols to bind. -/
theorem power_exp_no_free (g g' : Gate) (e : Rat) :
    (mkPow g e = .ok g' → g'.freeSymbols = []) ∧ (mkExp g = .ok g' → g'.freeSymbols = []) := by
  constructor <;> intro h
  · obtain ⟨hf, rfl⟩ := mkPow_eq_ok.mp h; exact hf
  · obtain ⟨hf, rfl⟩ := mkExp_eq_ok.mp h; exact hf

/-- mechanism: whenever `bind` returns, it is `replace_params` applied to the substituted tuple, and
    `replace_params` installs exactly the tuple it is given. -/
theorem bind_eq_replace_params (m : SymMap) (g g' : Gate) (h : g.bind m = .ok g') :
    g.replaceParams (g.params.map (subSymbols m)) = .ok g' ∧ g'.params = g.params.map (subSymbols m) :=
  ⟨bind_eq_replaceParams h, params_bind h⟩

/-! ## non-vacuity: concrete inputs meeting the hypotheses -/
namespace Ex
def x : PExpr := .sym "x"
def y : PExpr := .sym "y"
def z : PExpr := .sym "z"
/-- `RX(2*x*y + 1)` -/
def rx1 : Gate := .mf "RX" (.builtin "RX") [.expr (.add (.mul (.mul (.num 2) x) y) (.num 1))] 1 false
/-- custom gate `U(theta, gamma)` with matrix [[theta, gamma], [gamma*theta, 1]] and ordering (gamma, theta) -/
def cust (ps : List Param) : Gate :=
  .mf "U" (.custom [[.sym "theta", .sym "gamma"], [.mul (.sym "gamma") (.sym "theta"), .num 1]] ["gamma", "theta"]) ps 1 false
def pt (s : String) : Option Rat := if s = "y" then some 3 else if s = "z" then some (1/2) else some 7

-- a partial map into an expression parameter with two symbols
example : rx1.bind [("x", .number (1/2))] =
    .ok (.mf "RX" (.builtin "RX") [.expr (.add (.mul (.mul (.num 2) (.num (1/2))) y) (.num 1))] 1 false) := by
  decide +kernel
example : (Gate.ctrl (.dag rx1) 2).bind [("x", .expr z), ("w", .number 5)] =
    .ok (.ctrl (.dag (.mf "RX" (.builtin "RX") [.expr (.add (.mul (.mul (.num 2) z) y) (.num 1))] 1 false)) 2) := by
  decide +kernel
-- re-association by bind: a hand-made Dagger(ControlledGate(Controlled(RX))) comes back as c-c-c-RX†
example : (Gate.dag (.ctrl (.ctrl rx1 1) 2)).bind [] = .ok (.ctrl (.dag rx1) 3) := by decide +kernel
-- the hypotheses of gateMatrix_bind are satisfiable: lawful interpretation, truthful flags, closed custom gate
example : HermOK freeSem (.ctrl (.mf "X" (.builtin "X") [] 1 true) 1) := by
  intro _ ps ρ; rfl
example : CustomOK (cust [.expr x, .number 2]) := by
  unfold cust CustomOK
  decide
example : gateMatrix freeSem pt (.ctrl (.dag rx1) 2) = .g 2 true "RX" [[some 43]] := by decide +kernel
-- F15 (fixed): formal `gamma` is replaced by actual `theta`, formal `theta` by `gamma`, simultaneously
example : customEntries [[.sym "theta", .sym "gamma"]] ["gamma", "theta"] [.expr (.sym "theta"), .expr (.sym "gamma")]
    = [[.sym "gamma", .sym "theta"]] := by decide +kernel
-- step-wise = once, with a symbolic value
example : NoMention [("x", .expr z)] [("y", .number 3)] := by
  intro k v h s hs
  by_cases hk : k = "x"
  · subst hk
    simp only [lookup, if_true, Option.some.injEq] at h
    subst h
    simp only [Param.symbols, z, PExpr.symbols, List.mem_singleton] at hs
    subst hs; decide
  · simp [lookup, Ne.symm hk] at h
example : (rx1.bind [("x", .expr z)]).bind (Gate.bind [("y", .number 3)]) =
    rx1.bind [("x", .expr z), ("y", .number 3)] := by decide +kernel
-- free symbols: sorted by name per gate, first appearance per circuit
example : rx1.freeSymbols = ["x", "y"] := by decide +kernel
example : Circuit.freeSymbols ⟨[.gate (.mf "RY" (.builtin "RY") [.expr y] 1 false) [0], .gate rx1 [1],
    .multiPhase [.expr z, .expr x, .number 1, .number 2]], 2⟩ = ["y", "x", "z"] := by decide +kernel
example : Circuit.freeSymbols ⟨[.gate (.mf "RY" (.builtin "RY") [.number 1] 1 false) [0]], 1⟩ = [] := by decide +kernel
-- refusals
example : (Gate.ctrl (.pow (.mf "X" (.builtin "X") [] 1 true) (1/2)) 1).bind [("x", .number 1)] = .err .notimpl := by
  decide +kernel
example : mkPow rx1 2 = .err .value := by decide +kernel
-- a circuit with a reset binds to the same reset (regression input of the fixed defect)
example : Circuit.bind [("x", .number 1)] ⟨[.gate (.mf "RX" (.builtin "RX") [.expr x] 1 false) [0], .reset 0], 1⟩ =
    .ok ⟨[.gate (.mf "RX" (.builtin "RX") [.number 1] 1 false) [0], .reset 0], 1⟩ := by
  decide +kernel
example : (mkCircuit [.gate rx1 [2]] 0).nQubits = 3 := by decide +kernel
end Ex

end OQ.C06
