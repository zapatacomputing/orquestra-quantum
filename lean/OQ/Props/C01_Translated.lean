/- C01 — PROPERTY THEOREMS (translation ties): the Lean definitions regenerated from the current Python
   source of `_unitary_tools._permute` / `_permutation_making_qubits_adjacent` / `_basis_bitstring` equal the model. -/
import OQ.Generated.TranslatedC01
import OQ.Model.Lift
import OQ.Lemmas.Translated
namespace OQ.C01
open OQ.Generated OQ.Lift

/-- TRANSLATION TIE: `_permute` regenerated from the current Python source is the model's `permute`. -/
theorem translated_permute_eq (v p : List Nat) :
    Translated.permute (v.map Int.ofNat) (p.map Int.ofNat) = (permute v p).map Int.ofNat := by
  unfold Translated.permute permute
  simp only [List.map_map]
  apply List.map_congr_left
  intro i _
  simp only [Function.comp, Int.toNat_natCast, Int.ofNat_eq_natCast]
  rw [List.getD_eq_getElem?_getD, List.getD_eq_getElem?_getD, List.getElem?_map]
  cases v[i]? <;> simp

private theorem contains_map_ofNat (qs : List Nat) (i : Nat) :
    (qs.map Int.ofNat).contains (Int.ofNat i) = qs.contains i := by
  induction qs with
  | nil => rfl
  | cons q qs ih =>
    simp only [List.map_cons, List.contains_cons, ih]
    congr 1
    simp [Int.ofNat_eq_natCast]

/-- TRANSLATION TIE: `_permutation_making_qubits_adjacent` regenerated from the current Python source
    is the model's `permMakingAdjacent`. -/
theorem translated_permMakingAdjacent_eq (qs : List Nat) (n : Nat) :
    Translated.permutation_making_qubits_adjacent (qs.map Int.ofNat) (n : Int)
      = (permMakingAdjacent qs n).map Int.ofNat := by
  unfold Translated.permutation_making_qubits_adjacent permMakingAdjacent
  simp only [List.map_append, Int.toNat_natCast, List.map_id']
  congr 1
  rw [List.filter_map]
  congr 1
  apply List.filter_congr
  intro i _
  simp only [Function.comp]
  rw [contains_map_ofNat]

open OQ.Py OQ.Tr in
/-- TRANSLATION TIE: `_basis_bitstring(i, n)` (= `bin(i)[2:].zfill(n)` digit by digit) regenerated from the current
    Python source is the model's `basisBitstring` — bit `q` of `i`, qubit 0 most significant — for every width `n ≥ 1` and
    every `i < 2^n`. -/
theorem translated_basis_bitstring_eq (i n : Nat) (hn : 1 ≤ n) (hi : i < 2 ^ n) :
    Translated.basis_bitstring (i : Int) (n : Int) = (OQ.Lift.basisBitstring i n).map Int.ofNat := by
  unfold Translated.basis_bitstring
  rw [sliceFrom_bin]
  unfold binDigits
  rw [zfill_digits _ (binDigitsFuel_ne_nil _ _)
    (fun d hd => Nat.lt_trans (binDigitsFuel_lt_two _ _ d hd) (by decide))]
  rw [map_charDigit_digitChar]
  · rw [binDigitsFuel_eq, ← bits_eq_basisBitstring, ← OQ.C04.formatBin_eq_bits n i hn hi]
    rfl
  · intro d hd
    simp only [List.mem_append, List.mem_replicate] at hd
    rcases hd with h | h
    · omega
    · exact Nat.lt_trans (binDigitsFuel_lt_two _ _ d h) (by decide)

/-- width 0: Python gives `[0]` (`zfill` never truncates); `_permute` with the empty order discards it -/
theorem translated_basis_bitstring_zero : Translated.basis_bitstring 0 0 = [0] := by decide
end OQ.C01
