/- C17 — PROPERTY THEOREMS (translation ties): the distances between outcome distributions – `distributions/mmd.py`
   (`compute_rbf_kernel`, `compute_multi_rbf_kernel`, `compute_mmd`), `clipped_negative_log_likelihood.py`,
   `jensen_shannon_divergence.py`, and `MeasurementOutcomeDistribution.get_number_of_subsystems` / `evaluate_distribution_distance` of
   `_measurement_outcome_distribution.py`.  The definitions `OQ.Generated.Translated.*` are REGENERATED from /repo's current Python source
   on every run (harness/translate_t16.py → OQ/Generated/TranslatedC17Distances.lean); an edit of a Python function changes its
   definition and the equalities below stop checking at build time, for every input.

   Reading of the translated definitions (harness/translate_t16.py's docstring has the details):
   * numbers are values of an abstract type `ν` with `[OQ.Py.PyNum ν]`.  The model's analytic definitions (`nllOf`, `jsdOf`, `mmdSingle`,
     `mmdMulti`, `quadForm`: OQ/Lemmas/C17.lean) are real valued, so the ties are stated at `ν = ℝ` (`realPyNum`: `==`, `<`, `<=` decided
     classically) on the real images `castD p` of the model's rational dictionaries.  FLOAT ROUNDING, nan / inf ARE NOT MODELLED.
   * EXTERNALS (parameters of the translated definitions): `np.exp` = `ext_exp`, `math.log` = `ext_log` – instantiated with Mathlib's
     `Real.exp` / `Real.log` in the ties, because the model is written with them.  Assumed of `math.log`: it raises ValueError exactly when its argument is not
     positive (`OQ.Py.mathLogE`, compared with CPython on every run).  `ext_set_order` = the order in which CPython iterates the set
     `set(target_keys).union(measured_keys)`; ASSUMED LAW (hypothesis `horder` of every theorem): it is a permutation of the elements.
   * an object of class MeasurementOutcomeDistribution is its attribute `distribution_dict`; in `evaluate_distribution_distance` an
     argument that is not such an object is `none` (only `isinstance` looks at it).
   * numpy: arrays are lists (of rows); each vectorised operation is ONE prelude function (`OQ.Py.np…`, compared with numpy on every
     run).  `1.0 / (2 * sigma)` raises ZeroDivisionError for a Python float / int `sigma == 0` (numpy scalars, for which the quotient
     is `inf` with a warning, are outside the modelled domain).  `try … except ZeroDivisionError: print; raise` is its body.
   * `.error c` = the Python call raises an exception of class `c` (value = ValueError, zeroDiv = ZeroDivisionError, type = TypeError,
     runtime = RuntimeError, index = IndexError). -/
import OQ.Lemmas.C17_TranslatedDistances
import OQ.Props.C17
import OQ.Props.C17_TranslatedDist
namespace OQ.C17
open OQ.Generated OQ.Py

/-- TRANSLATION TIE: `compute_clipped_negative_log_likelihood` (the parameter lookup with default, the union of the two key sets, the
    loop with the two `get(…, 0)`, the clipping `max(epsilon, ·)`, `math.log`, the accumulation and the final sign) regenerated from the
    current Python source IS the model's `nllOf epsilon (pairData p q)` = −Σ p(k)·log max(ε, q(k)) over the union of the supports.
    Domain: all pairs of Python dicts (distinct keys) with rational values, every parameter dictionary (`epsOf par` is its "epsilon"
    entry, by default the double 1e-9), every iteration order of the set, provided every clipped value is positive (in particular
    whenever ε > 0) – the complement is `translated_nll_raises`. -/
theorem translated_nll_eq (order : List Key → List Key) (horder : ∀ l, (order l).Perm l)
    (par : OQ.Py.Dict (List Char) ℝ) (p q : Dict Key) (hp : p.keys.Nodup) (hq : q.keys.Nodup)
    (hpos : ∀ k ∈ unionKeys p q, 0 < max (epsOf par) ((q.getD k : Rat) : ℝ)) :
    Translated.compute_clipped_negative_log_likelihood Real.log order (castD p) (castD q) par =
      .ok (nllOf (epsOf par) (pairData p q)) := by
  rw [nll_tie order horder par p q hp hq, if_pos hpos]

/-- TRANSLATION TIE, the rest of the domain: when some outcome of the union has a non-positive clipped value (only possible with
    ε ≤ 0), `math.log` raises ValueError – whatever the iteration order. -/
theorem translated_nll_raises (order : List Key → List Key) (horder : ∀ l, (order l).Perm l)
    (par : OQ.Py.Dict (List Char) ℝ) (p q : Dict Key) (hp : p.keys.Nodup) (hq : q.keys.Nodup)
    (hbad : ∃ k ∈ unionKeys p q, ¬ 0 < max (epsOf par) ((q.getD k : Rat) : ℝ)) :
    Translated.compute_clipped_negative_log_likelihood Real.log order (castD p) (castD q) par = .error .value := by
  obtain ⟨k, hk, hb⟩ := hbad
  rw [nll_tie order horder par p q hp hq, if_neg fun h => hb (h k hk)]

/-- the tie for a positive clipping constant -/
theorem translated_nll_eq_of_pos (order : List Key → List Key) (horder : ∀ l, (order l).Perm l)
    (par : OQ.Py.Dict (List Char) ℝ) (hε : 0 < epsOf par) (p q : Dict Key) (hp : p.keys.Nodup) (hq : q.keys.Nodup) :
    Translated.compute_clipped_negative_log_likelihood Real.log order (castD p) (castD q) par =
      .ok (nllOf (epsOf par) (pairData p q)) :=
  translated_nll_eq order horder par p q hp hq (fun _ _ => lt_max_of_lt_left hε)

/-- TRANSLATION TIE: `compute_jensen_shannon_divergence` (two calls of the translated log-likelihood with the arguments exchanged,
    each halved, added) IS the model's `jsdOf`.  Domain: as `translated_nll_eq`, in both directions. -/
theorem translated_jsd_eq (order : List Key → List Key) (horder : ∀ l, (order l).Perm l)
    (par : OQ.Py.Dict (List Char) ℝ) (p q : Dict Key) (hp : p.keys.Nodup) (hq : q.keys.Nodup)
    (hpq : ∀ k ∈ unionKeys p q, 0 < max (epsOf par) ((q.getD k : Rat) : ℝ))
    (hqp : ∀ k ∈ unionKeys q p, 0 < max (epsOf par) ((p.getD k : Rat) : ℝ)) :
    Translated.compute_jensen_shannon_divergence Real.log order (castD p) (castD q) par = .ok (jsdOf (epsOf par) p q) := by
  rw [jsd_tie order horder par p q hp hq, if_pos ⟨hpq, hqp⟩]

/-- TRANSLATION TIE: `compute_rbf_kernel` on 1-d arrays of Python ints (`x[:, None] - y[None, :]`, `np.abs`, `** 2`, `astype(float)`,
    `gamma = 1.0 / (2 * sigma)`, `np.exp(-gamma * exponent)`) IS the matrix of the model's Gaussian kernel `gaussK (1 / (2σ))` –
    EVERY pair of arrays and every real `sigma`; ZeroDivisionError exactly for `sigma = 0`. -/
theorem translated_rbf_kernel_eq (x y : List Int) (σ : ℝ) :
    Translated.compute_rbf_kernel Real.exp x y σ =
      if σ = 0 then .error .zeroDiv
      else .ok (x.map fun a => y.map fun b => gaussK (1 / (2 * σ)) ((a : Int) : ℝ) ((b : Int) : ℝ)) := by
  unfold Translated.compute_rbf_kernel
  simp only [exponent_eq, Int.cast_one, Int.cast_ofNat]
  by_cases hσ : σ = 0
  · subst hσ
    simp [divE_real_zero]
  · have h2 : (2 : ℝ) * σ ≠ 0 := mul_ne_zero two_ne_zero hσ
    simp only [divE_real _ _ h2, bind_ok, hσ, if_false, npMap2, npScale2, List.map_map, Function.comp_def, negNum_real, gaussK]

/-- TRANSLATION TIE: `compute_multi_rbf_kernel` (the loop over `sigmas` adding one Gaussian kernel matrix each, the division by
    `len(sigmas)`) IS the matrix of the model's `multiK`.  Domain: every pair of arrays, every list of NON-ZERO sigmas (a zero raises
    ZeroDivisionError; for the empty list numpy returns nan – `0.0 / 0` – which is not modelled: the equation then holds with
    Lean's `x / 0 = 0` and says nothing about Python). -/
theorem translated_multi_rbf_kernel_eq (x y : List Int) (σs : List ℝ) (hσ : ∀ σ ∈ σs, σ ≠ 0) :
    Translated.compute_multi_rbf_kernel Real.exp x y σs =
      .ok (x.map fun a => y.map fun b => multiK (σs.map fun σ => 1 / (2 * σ)) ((a : Int) : ℝ) ((b : Int) : ℝ)) := by
  unfold Translated.compute_multi_rbf_kernel
  dsimp only
  have hz : (npZerosLike2 (npAsFloat2 (npPow2 (npAbs2 (npOuterSub x y)) (2 : Int)) : NpMat ℝ) : NpMat ℝ) =
      x.map fun a => y.map fun b => (0 : ℝ) := by
    simp [exponent_eq, npZerosLike2, List.map_map, Function.comp_def]
  -- each pass of the loop computes one Gaussian kernel matrix as `compute_rbf_kernel` does, and adds it
  rw [hz, foldlE_npAdd2 _ (Translated.compute_rbf_kernel Real.exp x y)
    (fun st σ => by unfold Translated.compute_rbf_kernel; cases divE ((1 : Int) : ℝ) (((2 : Int) : ℝ) * σ) <;> rfl) x y
    (fun σ a b => gaussK (1 / (2 * σ)) ((a : Int) : ℝ) ((b : Int) : ℝ)) σs
    (fun σ hs => (translated_rbf_kernel_eq x y σ).trans (if_neg (hσ σ hs))) (fun _ _ => 0)]
  simp only [bind_ok, npDivInt2, List.map_map, Function.comp_def, multiK, zero_add, List.length_map, Int.cast_natCast]

/-- TRANSLATION TIE: `compute_mmd` with a scalar `sigma` (the parameter lookup with default 1.0, the union of the key sets, the two value
    vectors, the integer codes `int("".join(map(str, item)), 2)`, the `hasattr(sigma, "__len__")` dispatch, the translated
    `compute_rbf_kernel`, `diff.dot(kernel_matrix.dot(diff))`) IS the model: `mmdSingle σ` of the model's `mmdData p q`, ValueError where
    an outcome has no base-2 code.  Domain: all pairs of Python dicts (distinct keys) whose outcomes have non-negative entries (for a
    negative entry Python reads a sign, e.g. `int("-1", 2) = -1`, the model has ValueError; the constructor never stores such keys),
    every parameter dictionary whose "sigma" (default 1.0) is a non-zero number, every iteration order. -/
theorem translated_mmd_single_eq (order : List Key → List Key) (horder : ∀ l, (order l).Perm l)
    (par : OQ.Py.Dict (List Char) (NumOrSeq ℝ)) (σ : ℝ) (hpar : sigmaOf par = .num σ) (hσ : σ ≠ 0)
    (p q : Dict Key) (hp : p.keys.Nodup) (hq : q.keys.Nodup) (hk : ∀ k ∈ unionKeys p q, ∀ e ∈ k, 0 ≤ e) :
    Translated.compute_mmd Real.exp order (castD p) (castD q) par =
      match mmdData p q with
      | .ok a => .ok (mmdSingle σ a)
      | .error _ => .error .value := by
  rw [compute_mmd_unfold order par p q hp hq, hpar]
  exact (mmdTail_eq _ (gaussK (1 / (2 * σ))) (fun basis => (translated_rbf_kernel_eq basis basis σ).trans (if_neg hσ)) p q _ (horder _) hk).trans
    (mmdRes_eq rfl).symm

/-- TRANSLATION TIE: `compute_mmd` with a sequence of sigmas IS `mmdMulti σs` of the model's `mmdData p q`.  Domain: as
    `translated_mmd_single_eq`, the "sigma" entry a sequence of non-zero numbers (see `translated_multi_rbf_kernel_eq` for the empty one). -/
theorem translated_mmd_multi_eq (order : List Key → List Key) (horder : ∀ l, (order l).Perm l)
    (par : OQ.Py.Dict (List Char) (NumOrSeq ℝ)) (σs : List ℝ) (hpar : sigmaOf par = .seq σs) (hσ : ∀ σ ∈ σs, σ ≠ 0)
    (p q : Dict Key) (hp : p.keys.Nodup) (hq : q.keys.Nodup) (hk : ∀ k ∈ unionKeys p q, ∀ e ∈ k, 0 ≤ e) :
    Translated.compute_mmd Real.exp order (castD p) (castD q) par =
      match mmdData p q with
      | .ok a => .ok (mmdMulti σs a)
      | .error _ => .error .value := by
  rw [compute_mmd_unfold order par p q hp hq, hpar]
  exact (mmdTail_eq _ (multiK (σs.map fun σ => 1 / (2 * σ)))
    (fun basis => translated_multi_rbf_kernel_eq basis basis σs hσ) p q _ (horder _) hk).trans (mmdRes_eq rfl).symm

/-- TRANSLATION TIE: `MeasurementOutcomeDistribution.get_number_of_subsystems` is the length of the first key; IndexError on the
    empty dictionary – every dictionary. -/
theorem translated_get_number_of_subsystems_eq (d : Dict Key) :
    Translated.mod_get_number_of_subsystems d = match d with
      | [] => .error .index
      | (k0, _) :: _ => .ok (k0.length : Int) := by
  unfold Translated.mod_get_number_of_subsystems
  cases d with
  | nil => rfl
  | cons a rest => obtain ⟨k0, v0⟩ := a; rfl

/-- TRANSLATION TIE: `evaluate_distribution_distance` (the two `isinstance` tests, the comparison of the numbers of subsystems, the
    comparison of the two `is_normalized`, the call of the distance function with the keyword arguments passed on) IS the hand-written
    `evalDistance` – EVERY pair of arguments (an object of another class is `none`), every distance function that returns or raises,
    every keyword-argument value, every `isclose` (values at `Rat`, as in the ties of `is_normalized`). -/
theorem translated_evaluate_distribution_distance_eq {κ ρ : Type} (ext : Rat → Rat → Bool) (t m : Option (Dict Key))
    (f : Dict Key → Dict Key → κ → Except Exc4 ρ) (kw : κ) :
    Translated.evaluate_distribution_distance ext t m f kw = evalDistance (fun x => ext x 1) t m f kw := by
  unfold Translated.evaluate_distribution_distance evalDistance
  cases t with
  | none => cases m <;> rfl
  | some t =>
    cases m with
    | none => rfl
    | some m =>
      simp only [translated_get_number_of_subsystems_eq, translated_is_normalized_eq]
      cases t with
      | nil => rfl
      | cons a t' =>
        cases m with
        | nil => rfl
        | cons b m' =>
          obtain ⟨kt, vt⟩ := a
          obtain ⟨km, vm⟩ := b
          simp only [bind_ok, Except.bind_ok', bne_iff_ne, ne_eq, Nat.cast_inj]

/-- the NLL FORMULA ON THE TRANSLATED CODE: for a positive clipping constant the regenerated function returns
    −Σ_{k ∈ supp p ∪ supp q} p(k) · log max(ε, q(k)) – for every iteration order of the set. -/
theorem translated_nll_formula (order : List Key → List Key) (horder : ∀ l, (order l).Perm l)
    (par : OQ.Py.Dict (List Char) ℝ) (hε : 0 < epsOf par) (p q : Dict Key) (hp : p.keys.Nodup) (hq : q.keys.Nodup) :
    Translated.compute_clipped_negative_log_likelihood Real.log order (castD p) (castD q) par =
      .ok (-((unionKeys p q).map fun k => ((p.getD k : Rat) : ℝ) * Real.log (max (epsOf par) ((q.getD k : Rat) : ℝ))).sum) := by
  rw [translated_nll_eq_of_pos order horder par hε p q hp hq, nllOf_pairData]

/-- `nll_ge_entropy` ON THE TRANSLATED CODE: what the regenerated `compute_clipped_negative_log_likelihood` returns is at least the
    target's entropy, up to the clipping constant: ≥ H(p) + (Σp − Σq) − |supp p ∪ supp q|·ε. -/
theorem translated_nll_ge_entropy (order : List Key → List Key) (horder : ∀ l, (order l).Perm l)
    (par : OQ.Py.Dict (List Char) ℝ) (hε : 0 < epsOf par) (p q : Dict Key) (hp : p.keys.Nodup) (hq : q.keys.Nodup)
    (hpv : ∀ a ∈ p, 0 ≤ a.2) (hqv : ∀ a ∈ q, 0 ≤ a.2) :
    ∃ v : ℝ, Translated.compute_clipped_negative_log_likelihood Real.log order (castD p) (castD q) par = .ok v ∧
      entropyOf p + ((p.total : ℝ) - (q.total : ℝ)) - ((unionKeys p q).length : ℝ) * epsOf par ≤ v :=
  ⟨_, translated_nll_eq_of_pos order horder par hε p q hp hq, nll_ge_entropy (epsOf par) hε p q hp hq hpv hqv⟩

/-- `jsd_symm` ON THE TRANSLATED CODE, for ALL inputs: exchanging the two distributions does not change what the regenerated
    `compute_jensen_shannon_divergence` does – the same value, or ValueError both ways (possible only with ε ≤ 0). -/
theorem translated_jsd_symm (order : List Key → List Key) (horder : ∀ l, (order l).Perm l)
    (par : OQ.Py.Dict (List Char) ℝ) (p q : Dict Key) (hp : p.keys.Nodup) (hq : q.keys.Nodup) :
    Translated.compute_jensen_shannon_divergence Real.log order (castD p) (castD q) par =
      Translated.compute_jensen_shannon_divergence Real.log order (castD q) (castD p) par := by
  rw [jsd_tie order horder par p q hp hq, jsd_tie order horder par q p hq hp, jsd_symm]
  exact if_congr and_comm rfl rfl

/-- `mmd_nonneg` ON THE TRANSLATED CODE: whatever the regenerated `compute_mmd` returns for a kernel width σ > 0 is ≥ 0. -/
theorem translated_mmd_nonneg (order : List Key → List Key) (horder : ∀ l, (order l).Perm l)
    (par : OQ.Py.Dict (List Char) (NumOrSeq ℝ)) (σ : ℝ) (hpar : sigmaOf par = .num σ) (hσ : 0 < σ)
    (p q : Dict Key) (hp : p.keys.Nodup) (hq : q.keys.Nodup) (hk : ∀ k ∈ unionKeys p q, ∀ e ∈ k, 0 ≤ e) (v : ℝ)
    (h : Translated.compute_mmd Real.exp order (castD p) (castD q) par = .ok v) : 0 ≤ v := by
  rw [mmdRes_ok (translated_mmd_single_eq order horder par σ hpar hσ.ne' p q hp hq hk) h]
  exact mmd_nonneg σ hσ _

/-- `mmd_nonneg_multi` ON THE TRANSLATED CODE: the same for a sequence of positive kernel widths. -/
theorem translated_mmd_nonneg_multi (order : List Key → List Key) (horder : ∀ l, (order l).Perm l)
    (par : OQ.Py.Dict (List Char) (NumOrSeq ℝ)) (σs : List ℝ) (hpar : sigmaOf par = .seq σs) (hσ : ∀ σ ∈ σs, 0 < σ)
    (p q : Dict Key) (hp : p.keys.Nodup) (hq : q.keys.Nodup) (hk : ∀ k ∈ unionKeys p q, ∀ e ∈ k, 0 ≤ e) (v : ℝ)
    (h : Translated.compute_mmd Real.exp order (castD p) (castD q) par = .ok v) : 0 ≤ v := by
  rw [mmdRes_ok (translated_mmd_multi_eq order horder par σs hpar (fun σ hs => (hσ σ hs).ne') p q hp hq hk) h]
  exact mmd_nonneg_multi σs hσ _

/-- the kernel the parameter dictionary selects, for the statements that do not depend on which -/
noncomputable def kernelOf : NumOrSeq ℝ → ℝ → ℝ → ℝ
  | .num σ => gaussK (1 / (2 * σ))
  | .seq σs => multiK (σs.map fun σ => 1 / (2 * σ))

/-- both ties in one: for a "sigma" entry without zeros the regenerated `compute_mmd` is the quadratic form of the selected kernel -/
theorem translated_mmd_eq (order : List Key → List Key) (horder : ∀ l, (order l).Perm l)
    (par : OQ.Py.Dict (List Char) (NumOrSeq ℝ))
    (hpar : match sigmaOf par with | .num σ => σ ≠ 0 | .seq σs => ∀ σ ∈ σs, σ ≠ 0)
    (p q : Dict Key) (hp : p.keys.Nodup) (hq : q.keys.Nodup) (hk : ∀ k ∈ unionKeys p q, ∀ e ∈ k, 0 ≤ e) :
    Translated.compute_mmd Real.exp order (castD p) (castD q) par =
      match mmdData p q with
      | .ok a => .ok (quadForm (kernelOf (sigmaOf par)) a)
      | .error _ => .error .value := by
  cases hs : sigmaOf par with
  | num σ => rw [hs] at hpar; exact translated_mmd_single_eq order horder par σ hs hpar p q hp hq hk
  | seq σs => rw [hs] at hpar; exact translated_mmd_multi_eq order horder par σs hs hpar p q hp hq hk

/-- `mmd_symm` ON THE TRANSLATED CODE: exchanging target and measured distribution does not change what the regenerated `compute_mmd`
    does – the same value, or ValueError both ways – for every kernel parameter without zeros and every iteration order. -/
theorem translated_mmd_symm (order : List Key → List Key) (horder : ∀ l, (order l).Perm l)
    (par : OQ.Py.Dict (List Char) (NumOrSeq ℝ))
    (hpar : match sigmaOf par with | .num σ => σ ≠ 0 | .seq σs => ∀ σ ∈ σs, σ ≠ 0)
    (p q : Dict Key) (hp : p.keys.Nodup) (hq : q.keys.Nodup) (hk : ∀ k ∈ unionKeys p q, ∀ e ∈ k, 0 ≤ e) :
    Translated.compute_mmd Real.exp order (castD p) (castD q) par =
      Translated.compute_mmd Real.exp order (castD q) (castD p) par := by
  have hk' : ∀ k ∈ unionKeys q p, ∀ e ∈ k, 0 ≤ e := fun k h => hk k (by rw [mem_unionKeys] at h ⊢; exact h.symm)
  rw [mmdRes_eq (translated_mmd_eq order horder par hpar p q hp hq hk),
    mmdRes_eq (translated_mmd_eq order horder par hpar q p hq hp hk'), quadForm_rowsOf_comm _ p q hp hq]
  exact if_congr (hasCodes_comm p q) rfl rfl

/-- `mmd_self` ON THE TRANSLATED CODE: between a distribution and itself the regenerated `compute_mmd` returns 0 (or raises ValueError
    when an outcome has an entry ≥ 2 – the finding `mmd_nonbinary_witness`). -/
theorem translated_mmd_self (order : List Key → List Key) (horder : ∀ l, (order l).Perm l)
    (par : OQ.Py.Dict (List Char) (NumOrSeq ℝ))
    (hpar : match sigmaOf par with | .num σ => σ ≠ 0 | .seq σs => ∀ σ ∈ σs, σ ≠ 0)
    (p : Dict Key) (hp : p.keys.Nodup) (hk : ∀ k ∈ unionKeys p p, ∀ e ∈ k, 0 ≤ e) :
    Translated.compute_mmd Real.exp order (castD p) (castD p) par = .ok 0 ∨
      Translated.compute_mmd Real.exp order (castD p) (castD p) par = .error .value := by
  rw [mmdRes_eq (translated_mmd_eq order horder par hpar p p hp hp hk), quadForm_rowsOf_self]
  exact ite_eq_or_eq _ _ _

/-- … and it does return 0 on every bitstring distribution of width ≥ 1 -/
theorem translated_mmd_self_bits (order : List Key → List Key) (horder : ∀ l, (order l).Perm l)
    (par : OQ.Py.Dict (List Char) (NumOrSeq ℝ))
    (hpar : match sigmaOf par with | .num σ => σ ≠ 0 | .seq σs => ∀ σ ∈ σs, σ ≠ 0)
    (p : Dict Key) (hp : p.keys.Nodup) (hb : ∀ k ∈ p.keys, k ≠ [] ∧ ∀ e ∈ k, e = 0 ∨ e = 1) :
    Translated.compute_mmd Real.exp order (castD p) (castD p) par = .ok 0 := by
  have hk : ∀ k ∈ unionKeys p p, ∀ e ∈ k, 0 ≤ e := by
    intro k h e he
    have hkp : k ∈ p.keys := by rw [mem_unionKeys] at h; exact h.elim id id
    rcases (hb k hkp).2 e he with rfl | rfl <;> decide
  rw [mmdRes_eq (translated_mmd_eq order horder par hpar p p hp hp hk), quadForm_rowsOf_self, if_pos (hasCodes_of_bits p p hb hb)]

/-- the validation ON THE TRANSLATED `evaluate_distribution_distance`: two valid distributions of the same width that are both
    normalised or both not are handed to the distance function unchanged, with the keyword arguments, and its result is returned. -/
theorem translated_evaluate_valid {κ ρ : Type} (ext : Rat → Rat → Bool) (t m : Dict Key) (w : Nat) (ht : Valid t w) (hm : Valid m w)
    (hn : ext t.total 1 = ext m.total 1) (f : Dict Key → Dict Key → κ → Except Exc4 ρ) (kw : κ) :
    Translated.evaluate_distribution_distance ext (some t) (some m) f kw = f t m kw := by
  rw [translated_evaluate_distribution_distance_eq, evalDistance_valid _ t m w w ht hm, if_neg (fun h => h rfl),
    if_neg (fun h => h hn)]

/-- … an argument that is not a MeasurementOutcomeDistribution → TypeError (the distance function is not called) -/
theorem translated_evaluate_rejects_type {κ ρ : Type} (ext : Rat → Rat → Bool) (t m : Option (Dict Key)) (h : t = none ∨ m = none)
    (f : Dict Key → Dict Key → κ → Except Exc4 ρ) (kw : κ) :
    Translated.evaluate_distribution_distance ext t m f kw = .error .type := by
  rw [translated_evaluate_distribution_distance_eq]
  unfold evalDistance
  rcases h with rfl | rfl
  · cases m <;> rfl
  · cases t <;> rfl

/-- … different widths, or exactly one of the two normalised → RuntimeError (the distance function is not called) -/
theorem translated_evaluate_rejects {κ ρ : Type} (ext : Rat → Rat → Bool) (t m : Dict Key) (wt wm : Nat) (ht : Valid t wt)
    (hm : Valid m wm) (h : wt ≠ wm ∨ ext t.total 1 ≠ ext m.total 1) (f : Dict Key → Dict Key → κ → Except Exc4 ρ) (kw : κ) :
    Translated.evaluate_distribution_distance ext (some t) (some m) f kw = .error .runtime := by
  rw [translated_evaluate_distribution_distance_eq, evalDistance_valid _ t m wt wm ht hm]
  by_cases hw : wt = wm
  · rw [if_neg (not_not.2 hw), if_pos (h.resolve_left (not_not.2 hw))]
  · rw [if_pos hw]

/-! ## non-vacuity: the TRANSLATED definitions on concrete inputs.  At `ν = Rat` the externals `math.log` / `np.exp` are stand-ins
    (`x ↦ x − 1`, `x ↦ 1 + x`: the definitions are generic in them); the set order is the order of first occurrence. -/

-- −(1/2·log(max(1/4, 1)) + 1/2·log(max(1/4, 0))) with log := x − 1, on different supports
example : Translated.compute_clipped_negative_log_likelihood (ν := Rat) (fun x => x - 1) id
    [([0], 1/2), ([1], 1/2)] [([0], 1)] [(['e', 'p', 's', 'i', 'l', 'o', 'n'], 1/4)] = .ok (3/8) := by decide +kernel
-- epsilon = 0 and an outcome outside the measured support: `math.log(0)` raises ValueError
example : Translated.compute_clipped_negative_log_likelihood (ν := Rat) (fun x => x - 1) id
    [([0], 1/2), ([1], 1/2)] [([0], 1)] [(['e', 'p', 's', 'i', 'l', 'o', 'n'], 0)] = .error .value := by decide +kernel
example : Translated.compute_jensen_shannon_divergence (ν := Rat) (fun x => x - 1) id
    [([0], 1/2), ([1], 1/2)] [([0], 1)] [(['e', 'p', 's', 'i', 'l', 'o', 'n'], 1/4)] = .ok (7/16) := by decide +kernel
-- the kernels on codes [0, 3] with exp := 1 + x: entries 1 + (−γ·d²), γ = 1/(2σ)
example : Translated.compute_rbf_kernel (ν := Rat) (fun x => 1 + x) [0, 3] [0, 3] 2 = .ok [[1, -5/4], [-5/4, 1]] := by decide +kernel
example : Translated.compute_rbf_kernel (ν := Rat) (fun x => 1 + x) [0, 3] [0, 3] 0 = .error .zeroDiv := by decide +kernel
example : Translated.compute_multi_rbf_kernel (ν := Rat) (fun x => 1 + x) [0, 3] [0, 3] [2, 1] = .ok [[1, -19/8], [-19/8, 1]] := by
  decide +kernel
example : Translated.compute_multi_rbf_kernel (ν := Rat) (fun x => 1 + x) [0, 3] [0, 3] [2, 0] = .error .zeroDiv := by decide +kernel
-- MMD between distributions with different supports, default sigma = 1.0; a non-binary outcome; equal arguments
example : Translated.compute_mmd (ν := Rat) (fun x => 1 + x) id [([0, 1], 1)] [([1, 0], 1/2), ([1, 1], 1/2)] [] = .ok (9/4) := by
  decide +kernel
example : Translated.compute_mmd (ν := Rat) (fun x => 1 + x) id [([0, 1], 1)] [([1, 0], 1/2), ([1, 1], 1/2)]
    [(['s', 'i', 'g', 'm', 'a'], .seq [1, 2])] = .ok (27/16) := by decide +kernel
example : Translated.compute_mmd (ν := Rat) (fun x => 1 + x) id [([2], 1)] [([2], 1)] [] = .error .value := by decide +kernel
example : Translated.compute_mmd (ν := Rat) (fun x => 1 + x) id [([0, 1], 1/2), ([1, 1], 1/2)] [([0, 1], 1/2), ([1, 1], 1/2)] [] =
    .ok 0 := by decide +kernel
example : Translated.mod_get_number_of_subsystems (ν := Rat) [([0, 1, 1], 1)] = .ok 3 := by decide +kernel
example : Translated.mod_get_number_of_subsystems (ν := Rat) [] = .error .index := by decide +kernel
-- the validation: passes the two dictionaries and the keyword arguments on; TypeError; RuntimeError (widths; normalisation)
example : Translated.evaluate_distribution_distance (ν := Rat) ratIsClose (some [([0], 1)]) (some [([1], 1/2), ([0], 1/2)])
    (fun t m (kw : Int) => .ok (t.length + 10 * m.length + 100 * kw : Int)) 7 = .ok 721 := by decide +kernel
example : Translated.evaluate_distribution_distance (ν := Rat) ratIsClose none (some [([1], 1)])
    (fun _ _ (_ : Int) => (.ok 0 : Except Exc4 Int)) 7 = .error .type := by decide +kernel
example : Translated.evaluate_distribution_distance (ν := Rat) ratIsClose (some [([0], 1)]) (some [([1, 0], 1)])
    (fun _ _ (_ : Int) => (.ok 0 : Except Exc4 Int)) 7 = .error .runtime := by decide +kernel
example : Translated.evaluate_distribution_distance (ν := Rat) ratIsClose (some [([0], 1)]) (some [([1], 1/2)])
    (fun _ _ (_ : Int) => (.ok 0 : Except Exc4 Int)) 7 = .error .runtime := by decide +kernel
example : Translated.evaluate_distribution_distance (ν := Rat) ratIsClose (some [([0], 1)]) (some [([1], 1)])
    (fun _ _ (_ : Int) => (.error .zeroDiv : Except Exc4 Int)) 7 = .error .zeroDiv := by decide +kernel
-- the hypotheses of the ties are met: the defaults of the two parameter dictionaries, a permutation, dictionaries with the listed properties
example : sigmaOf [] = .num 1 := by simp [sigmaOf, dictGetD]
example : sigmaOf [(['s', 'i', 'g', 'm', 'a'], .seq [1, 2])] = .seq [1, 2] := by simp [sigmaOf, dictGetD]
example : 0 < epsOf [] := by rw [epsOf_nil]; positivity
example : ∀ l : List Key, (List.reverse l).Perm l := List.reverse_perm
example : (Dict.keys [([0, 1], (1 : Rat))]).Nodup ∧ ∀ k ∈ unionKeys [([0, 1], 1)] [([1, 0], 1/2), ([1, 1], 1/2)], ∀ e ∈ k, 0 ≤ e := by
  decide +kernel

end OQ.C17
