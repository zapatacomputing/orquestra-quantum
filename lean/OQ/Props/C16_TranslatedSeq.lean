/- C16 — PROPERTY THEOREMS (translation tie): `_generate_circuit_sequence` and the loop structure of `time_evolution`
   (`evolution.py`).

   `OQ.Generated.Translated.generate_circuit_sequence`, `…time_evolution` are REGENERATED from /repo's current Python source on
   every run (harness/translate_t3.py → OQ/Generated/TranslatedC16.lean).  Circuits (γ), operations (ω), Hamiltonians (η), terms
   (θ) and times (τ) are OPAQUE; `attr_operations`, `ext_Circuit` (`Circuit(list)`), `ext_Circuit0` (`Circuit()`), `ext_add`
   (`circuit + circuit`), `attr_terms`, `ext_div` (`time / n_steps`) and `ext_time_evolution_for_term` are parameters. -/
import OQ.Generated.TranslatedC16
import OQ.Props.C16
namespace OQ.C16
open OQ.Generated OQ.Pauli

/-- TRANSLATION TIE (`evolution.py:_generate_circuit_sequence`): the function regenerated from the current Python source (guard
    `position >= length` → ValueError; `Circuit(list(chain.from_iterable([(repeated if i != position else different).operations
    for i in range(length)])))`) is the model's `generateCircuitSequence` (`none` = raises), for every pair of circuits and all
    `length`, `position` ≥ 0 (circuits are read as their operation lists: `.operations` and `Circuit(…)` are the identity, as
    in the model, which has no register width here).  Negative positions: see `translated_sequence_negative_position`. -/
theorem translated_generate_circuit_sequence_eq {T : Type} (rep diff : Circ T) (len pos : Nat) :
    Translated.generate_circuit_sequence (fun c : Circ T => c) (fun ops => ops) rep diff (len : Int) (pos : Int)
      = (generateCircuitSequence rep diff len pos).toOption := by
  unfold Translated.generate_circuit_sequence generateCircuitSequence
  by_cases h : pos ≥ len
  · have : decide ((pos : Int) ≥ (len : Int)) = true := by simpa using h
    simp only [this, if_true, h]
    rfl
  · have : decide ((pos : Int) ≥ (len : Int)) = false := by simpa using h
    simp only [this, h, if_false, Bool.false_eq_true, Int.toNat_natCast, List.map_map, List.flatMap_def]
    simp only [Except.toOption]
    congr 3
    funext i
    simp only [Function.comp, Int.ofNat_eq_natCast, bne_iff_ne, ne_eq, Nat.cast_inj, ite_not]

section evo
variable {Q T : Type} [One Q] [Mul Q] [Div Q] [Neg Q] [NatCast Q] [DecidableEq Q]

/-- TRANSLATION TIE (`evolution.py:time_evolution`): the loop structure regenerated from the current Python source (`circuit =
    Circuit()`; `for _ in range(n_steps): for term in hamiltonian.terms: circuit += time_evolution_for_term(term, time / n_steps)`)
    is the model's `timeEvolution`, for every Hamiltonian all of whose terms `time_evolution_for_term` accepts (`hacc`: constant,
    or negligible imaginary part – otherwise the opaque call raises, which the translated subset does not express), every time
    and every `n_steps ≥ 0`.  `time_evolution_for_term` is the opaque external, instantiated by the model's `evoCirc`;
    `time / n_steps` is `(1/n)·time`; `circuit += c` rebinds (`Circuit` has no `__iadd__`, checked by the translator). -/
theorem translated_time_evolution_eq (alg : TimeAlg Q T) (negl : Q → Bool) (h : PSum (Q × Q)) (time : T) (n : Nat)
    (hacc : ∀ t ∈ h, acc negl t = true) :
    Translated.time_evolution (fun h : PSum (Q × Q) => h) (fun (t : T) (m : Int) => alg.smul (1 / ((m.toNat : Nat) : Q)) t)
        (evoCirc alg) ([] : Circ T) (fun a b => a ++ b) h time "Trotter".toList (n : Int)
      = (timeEvolution alg negl h time n).toOption := by
  rw [timeEvolution_eq, if_pos (Or.inr hacc)]
  unfold Translated.time_evolution
  have hm : ("Trotter".toList != ['T', 'r', 'o', 't', 't', 'e', 'r']) = false := by decide
  have hc : ∀ (s : Circ T) (l : List Int), l.flatMap (fun _ => s) = (List.replicate l.length s).flatten :=
    fun s l => flatMap_const _ s l fun _ _ => rfl
  simp only [hm, Bool.false_eq_true, if_false, Int.toNat_natCast, foldl_append_flatMap, hc,
    List.length_map, List.length_range, List.nil_append]
  rfl
end evo

/-- the guard of `time_evolution`: any `method` other than "Trotter" raises (the model has the Trotter method only) -/
theorem translated_time_evolution_method {η θ τ γ : Type} (terms : η → List θ) (dv : τ → Int → τ) (evo : θ → τ → γ) (c0 : γ)
    (add : γ → γ → γ) (h : η) (time : τ) (method : List Char) (n : Int) (hm : method ≠ "Trotter".toList) :
    Translated.time_evolution terms dv evo c0 add h time method n = none := by
  unfold Translated.time_evolution
  have : (method != ['T', 'r', 'o', 't', 't', 'e', 'r']) = true := by
    rw [bne_iff_ne]; exact hm
  simp only [this, if_true]

/-- `sequence_spec` on the translated `_generate_circuit_sequence`: rejected iff position ≥ length; otherwise `length` blocks, the
    one at `position` being the different circuit, all others the repeated one -/
theorem translated_sequence_spec {T : Type} (rep diff : Circ T) (len pos : Nat) :
    (len ≤ pos → Translated.generate_circuit_sequence (fun c : Circ T => c) (fun ops => ops) rep diff (len : Int) (pos : Int)
        = none) ∧
    (pos < len → Translated.generate_circuit_sequence (fun c : Circ T => c) (fun ops => ops) rep diff (len : Int) (pos : Int)
        = some ((List.replicate pos rep).flatten ++ diff ++ (List.replicate (len - pos - 1) rep).flatten)) := by
  rw [translated_generate_circuit_sequence_eq]
  exact ⟨fun h => by rw [(sequence_spec rep diff len pos).1 h]; rfl, fun h => by rw [(sequence_spec rep diff len pos).2 h]; rfl⟩

/-- outside the model's domain (the model's positions are naturals): a NEGATIVE `position` passes the guard and replaces no copy –
    the translated code returns `length` copies of the repeated circuit (callers only pass `range(n_steps)`) -/
theorem translated_sequence_negative_position {γ ω : Type} (ops : γ → List ω) (mk : List ω → γ) (rep diff : γ) (len : Nat)
    (pos : Int) (hp : pos < 0) :
    Translated.generate_circuit_sequence ops mk rep diff (len : Int) pos
      = some (mk (List.replicate len (ops rep)).flatten) := by
  unfold Translated.generate_circuit_sequence
  have h1 : decide (pos ≥ (len : Int)) = false := by
    rw [decide_eq_false_iff_not]; omega
  simp only [h1, Bool.false_eq_true, if_false, Int.toNat_natCast, List.map_map]
  congr 2
  rw [← List.flatMap_def, flatMap_const _ (ops rep), List.length_range]
  intro i _
  have : ((Int.ofNat i) != pos) = true := by
    rw [bne_iff_ne]; simp only [Int.ofNat_eq_natCast]; omega
  simp only [Function.comp, this, if_true]

section evo2
variable {Q T : Type} [One Q] [Mul Q] [Div Q] [Neg Q] [NatCast Q] [DecidableEq Q]

/-- "the circuit equals the product over the requested number of steps of the per-term circuits for time t/steps, taken in the
    order the terms are listed" – for the translated `time_evolution`: `n` repetitions of the concatenation, in list order, of the
    per-term circuits at time `(1/n)·t` -/
theorem translated_evolution_steps (alg : TimeAlg Q T) (negl : Q → Bool) (h : PSum (Q × Q)) (time : T) (n : Nat)
    (hacc : ∀ t ∈ h, acc negl t = true) :
    Translated.time_evolution (fun h : PSum (Q × Q) => h) (fun (t : T) (m : Int) => alg.smul (1 / ((m.toNat : Nat) : Q)) t)
        (evoCirc alg) ([] : Circ T) (fun a b => a ++ b) h time "Trotter".toList (n : Int)
      = some (List.replicate n (h.flatMap (fun t => evoCirc alg t (alg.smul (1 / (n : Q)) time)))).flatten := by
  rw [translated_time_evolution_eq alg negl h time n hacc, timeEvolution_eq, if_pos (Or.inr hacc)]
  rfl

end evo2

/-! non-vacuity: circuits as lists of numbers -/
example : Translated.generate_circuit_sequence (fun c : List Nat => c) (fun ops => ops) [1, 2] [9] 3 1
    = some [1, 2, 9, 1, 2] := by decide
example : Translated.generate_circuit_sequence (fun c : List Nat => c) (fun ops => ops) [1, 2] [9] 2 2 = none := by decide
example : Translated.generate_circuit_sequence (fun c : List Nat => c) (fun ops => ops) [1, 2] [9] 2 (-1)
    = some [1, 2, 1, 2] := by decide
example : Translated.time_evolution (fun h : List Nat => h) (fun (t : Int) n => Int.fdiv t n) (fun term t => [term, t.toNat])
    ([] : List Nat) (fun a b => a ++ b) [7, 8] 6 "Trotter".toList 2 = some [7, 3, 8, 3, 7, 3, 8, 3] := by decide
example : Translated.time_evolution (fun h : List Nat => h) (fun (t : Int) n => Int.fdiv t n) (fun term t => [term, t.toNat])
    ([] : List Nat) (fun a b => a ++ b) [7, 8] 6 "Suzuki".toList 2 = none := by decide
/-- the hypothesis `hacc` of the `time_evolution` tie at a Hamiltonian with an X⊗Y term and a constant term -/
example : ∀ t ∈ ([⟨[(0, .X), (2, .Y)], (3, 0)⟩, ⟨[], (1, 1)⟩] : PSum (Rat × Rat)), acc ratNegl t = true := by decide +kernel

end OQ.C16
