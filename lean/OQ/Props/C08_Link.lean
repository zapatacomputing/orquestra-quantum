/-
  C08 — LINKED PROPERTY THEOREMS: the circuit-level constructions, END TO END about the EXECUTABLE unitary.

  OQ/Props/C08.lean states inverse / controlled circuit / ancillas over the spec action `Uc` (ordered product of
  `opDen` = `Spec.lift`), under per-gate hypotheses (`Gate.Regular`: well-formed matrix of the declared size and a
  TRUTHFUL `is_hermitian` flag; unitarity of the gate matrices).  This file composes them with
    * OQ/Props/C01.lean  (`liftMatrix_eq_spec_lift`, `toUnitary_ordered_product`, `lifted_matrix_defined_iff`):
      the executable embedding is `Spec.lift`, `to_unitary()` is the ordered product, and it is defined exactly on
      the valid operations;
    * OQ/Props/C02.lean  (`builtin_dim`, `flag_hermitian`, `builtin_unitary`): sizes, self-adjoint flags and
      unitarity of the 27 built-in gates,
  into statements about `C08.unitary` – the matrix the model driver prints for `Circuit.to_unitary()` – read either as
  a `Fin (2^n)`-indexed matrix (`Mat.toM (2^n) (2^n) U`, entry `(i, j)` = `U.get i j`) or over bit assignments
  (`C01.toBV n U x y = U.get ((bvEquiv n).symm x) ((bvEquiv n).symm y)`, qubit 0 = most significant bit).

  Standing hypotheses that remain, and why they cannot go:
    `c.ops ≠ []`            F17: `to_unitary()` of the empty circuit raises (`C01.toUnitary_empty_none`), `Uc [] = 1`;
    `∀ o ∈ c.ops, o.qs ≠ []` an operation without qubits is outside the C08 model (`_lift_matrix` raises on it);
    `c.n = 0 → c.ops = []`  the invariant of the `Circuit` constructor (`C01.mkCircuit_wellFormed`);
    `Laws k`, `ExtLaws k x` the laws of the constants / of sympy's `exp`, `**` (assumed in C02 / C08 as well);
    `RegularB` / `UnitaryB`  the gate domain: built-in bases at real parameters under controlled / dagger /
                             exponential / INTEGER power (fractional powers: finding F16).
-/
import OQ.Lemmas.C08_Link
import OQ.Lemmas.C08_LinkExamples
set_option linter.unusedSectionVars false
namespace OQ.C08.Link
open Matrix OQ.Spec OQ.C08 OQ.C02 OQ.Generated
open Classical
variable {R : Type} [CommRing R] [StarRing R]

/-- C08 ∘ C01.  For every non-empty circuit whose operations each name a qubit – any gates, any width, any scalar
    ring – the EXECUTABLE `Circuit.to_unitary()` of the C08 model (`toOps` then `Lift.toUnitary`), viewed over bit
    assignments, IS the spec action `Uc` in which every theorem of OQ/Props/C08.lean is stated; error cases
    included (`none` on both sides together); a returned matrix is `2^n × 2^n`. -/
theorem unitary_exec_eq_spec (k : Scal R) (x : Ext R) (c : Circ (Gate R)) (hne : c.ops ≠ [])
    (hq : ∀ o ∈ c.ops, o.qs ≠ []) :
    (unitary k x c).map (C01.toBV c.n) = Uc k x c.n c.ops ∧
    ∀ U, unitary k x c = some U → U.r = 2 ^ c.n ∧ U.c = 2 ^ c.n :=
  unitary_eq_Uc k x c c.n rfl ⟨hne, hq⟩

/-- the two hypotheses of the bridge are necessary: the empty circuit has the identity as spec action but NO
    executable matrix (F17), and so does a circuit with an operation on no qubits -/
theorem unitary_exec_domain_sharp (k : Scal R) (x : Ext R) (n : Nat) :
    unitary k x (⟨[], n⟩ : Circ (Gate R)) = none ∧ Uc k x n ([] : List (GOp (Gate R))) = some 1 ∧
    unitary k x (⟨[⟨.base "g" (Mat.identity 1) 0 false, []⟩], n⟩ : Circ (Gate R)) = none :=
  ⟨rfl, rfl, rfl⟩

/-- C08 ∘ C02.  REMOVES the hypotheses of `Gate.Regular.base` (array well formed, size `2^num_qubits`, TRUTHFUL
    `is_hermitian` flag) for built-in bases: every gate built from `builtinGate` at real parameter values under
    controlled / dagger / exponential / integer power is regular – via `C02.builtin_dim`, `C02.flag_hermitian` and
    the agreement of the C08 model's flag / arity data with the generated gate table. -/
theorem builtin_gates_regular {k : Scal R} (hk : Laws k) (g : Gate R) (hg : RegularB k g) : Gate.Regular k g :=
  regularB_regular hk g hg

/-- the `num_qubits` / `is_hermitian` data hard-wired in OQ/Model/C08.lean (`builtinNq`, `builtinHerm`) agree with
    the gate table re-extracted from the Python module (the one the C02 theorems quantify over) -/
theorem builtin_flags_agree :
    ∀ row ∈ gateTable, builtinNq (Row.name row) = Row.numQubits row ∧
      builtinHerm (Row.name row) = Row.isHermitian row :=
  builtin_flags_table

/-- `dagger_rules_adjoint_partial` and `controlled_rules_block_partial` of OQ/Props/C08.lean WITHOUT the flag /
    size hypotheses, for gates over built-in bases: `.dagger` denotes the adjoint, `.controlled(1)` denotes
    `diag(1, M)`.  (Still no fractional powers: F16.) -/
theorem dagger_controlled_rules_builtin {k : Scal R} (hk : Laws k) (x : Ext R) (hx : Gate.ExtLaws k x)
    (g : Gate R) (hg : RegularB k g) :
    Gate.matrix k x (Gate.dagger g) = (Gate.matrix k x g).map (Gate.adj k) ∧
    Gate.matrix k x (Gate.controlled g 1) = (Gate.matrix k x g).map (Gate.ctrlMat (2 ^ Gate.nq g)) :=
  ⟨(dagger_rules_adjoint_partial k hk.cj x hx g (regularB_regular hk g hg)).1,
   (controlled_rules_block_partial k hk.cj x hx g (regularB_regular hk g hg)).1⟩

/-- C08 ∘ C02.  REMOVES the unitarity hypothesis `hu` of `inverse_appended_is_identity` for built-in bases under
    controlled / dagger: the gate's matrix exists for every external (sympy is not called), is `2^num_qubits`
    square and unitary on both sides (`C02.builtin_unitary` pushed through `diag(1, ·)` and `adjoint()`). -/
theorem builtin_gates_unitary {k : Scal R} (hk : Laws k) (x : Ext R) (g : Gate R) (hg : UnitaryB k g) :
    ∃ m, Gate.matrix k x g = some m ∧ IsUnitaryOf (2 ^ Gate.nq g) m := by
  induction hg with
  | base g hb =>
    obtain ⟨row, hrow, ps, m, hlen, hv, hm, hcan, rfl⟩ := isBuiltin_data k g hb
    obtain ⟨M, hM, hu⟩ := builtin_unitary hk row hrow ps hlen hv
    rw [hm] at hM; cases hM
    exact ⟨m, rfl, hu⟩
  | ctrl g c _ ih =>
    obtain ⟨m, hm, hu⟩ := ih
    refine ⟨Gate.ctrlMat (2 ^ (Gate.nq g + c) - 2 ^ Gate.nq g) m, by simp [Gate.matrix, hm], ?_⟩
    have := ctrlMat_unitary (2 ^ (Gate.nq g + c) - 2 ^ Gate.nq g) (2 ^ Gate.nq g) m hu
    rwa [Nat.sub_add_cancel (Gate.two_pow_le _ c)] at this
  | dag g _ ih =>
    obtain ⟨m, hm, hu⟩ := ih
    exact ⟨Gate.adj k m, by simp [Gate.matrix, hm], adj_unitary k hk.cj _ m hu⟩

/-! ## sentence 1 — inverse, executable -/

/-- (1) Sentence 1, END TO END: for every non-empty circuit of gates over built-in bases (self-adjoint, parametric,
    controlled, daggered, exponentiated, integer powers), every width, the matrix `to_unitary()` RETURNS for
    `circuit.inverse()` is the conjugate transpose of the matrix it returns for the circuit, as `2^n × 2^n`
    matrices; the inverse has a matrix iff the circuit has one; same width.
    Composes `inverse_unitary_partial` (C08) with the bridge (C01) and `builtin_gates_regular` (C02):
    removes the `Gate.Regular` hypothesis (truthful `is_hermitian` flag) and replaces the spec action by the executable matrix. -/
theorem inverse_unitary_exec {k : Scal R} (hk : Laws k) (x : Ext R) (hx : Gate.ExtLaws k x) (c : Circ (Gate R))
    (hne : c.ops ≠ []) (hq : ∀ o ∈ c.ops, o.qs ≠ []) (hwf : c.n = 0 → c.ops = [])
    (hc : ∀ o ∈ c.ops, RegularB k o.gate) :
    (inverse Gate.dagger c).n = c.n ∧
    (unitary k x (inverse Gate.dagger c)).map (Mat.toM (2 ^ c.n) (2 ^ c.n))
      = (unitary k x c).map (fun U => (Mat.toM (2 ^ c.n) (2 ^ c.n) U)ᴴ) ∧
    (∀ U, unitary k x (inverse Gate.dagger c) = some U → U.r = 2 ^ c.n ∧ U.c = 2 ^ c.n) ∧
    (∀ U, unitary k x c = some U → U.r = 2 ^ c.n ∧ U.c = 2 ^ c.n) := by
  have hn := (inverse_shape Gate.dagger c hwf).1
  have he : ExecOps c.ops := ⟨hne, hq⟩
  obtain ⟨b1, d1⟩ := unitary_eq_Uc k x _ c.n hn (he.inverse _)
  obtain ⟨b2, d2⟩ := unitary_eq_Uc k x c c.n rfl he
  have hsp := inverse_unitary_partial k hk.cj x hx c.n c (fun o ho => regularB_regular hk _ (hc o ho))
  rw [← b1, ← b2, Option.map_map] at hsp
  refine ⟨hn, map_toM (hsp.trans ?_), d1, d2⟩
  rw [Option.map_map]
  exact congrArg (Option.map · _) (funext (toBV_conjTranspose c.n))

/-- (1') the same over bit assignments, pointwise: entry `(a, b)` of the inverse's matrix is the conjugate of entry
    `(b, a)` of the circuit's -/
theorem inverse_unitary_exec_pointwise {k : Scal R} (hk : Laws k) (x : Ext R) (hx : Gate.ExtLaws k x)
    (c : Circ (Gate R)) (hne : c.ops ≠ []) (hq : ∀ o ∈ c.ops, o.qs ≠ []) (hwf : c.n = 0 → c.ops = [])
    (hc : ∀ o ∈ c.ops, RegularB k o.gate) (U : Mat R) (hU : unitary k x c = some U) :
    ∃ V, unitary k x (inverse Gate.dagger c) = some V ∧ V.r = 2 ^ c.n ∧ V.c = 2 ^ c.n ∧
      ∀ i j, i < 2 ^ c.n → j < 2 ^ c.n → V.get i j = star (U.get j i) := by
  obtain ⟨_, h, d1, _⟩ := inverse_unitary_exec hk x hx c hne hq hwf hc
  rw [hU] at h
  obtain ⟨V, hV, hVU⟩ := Option.map_eq_some_iff.mp h
  exact ⟨V, hV, (d1 V hV).1, (d1 V hV).2, fun i j hi hj => congrFun (congrFun hVU ⟨i, hi⟩) ⟨j, hj⟩⟩

/-- (2) Sentence 1, "appending the circuit's inverse gives the identity", END TO END for UNITARY BUILT-INS: for every
    non-empty circuit of built-in gates at real parameters under controlled / dagger that has a matrix at all (i.e. is
    well formed), `to_unitary()` of `c + c.inverse()` and of `c.inverse() + c` RETURNS exactly the `2^n × 2^n`
    identity matrix – for every external (sympy is never called on these gates).
    Composes `inverse_appended_is_identity` (C08) with the bridge (C01) and C02: removes BOTH its per-gate
    hypotheses (`.dagger` = adjoint, which needed the truthful flag; unitarity `hu` of every gate matrix). -/
theorem inverse_appended_is_identity_exec {k : Scal R} (hk : Laws k) (x : Ext R) (c : Circ (Gate R))
    (hne : c.ops ≠ []) (hq : ∀ o ∈ c.ops, o.qs ≠ []) (hwf : c.n = 0 → c.ops = [])
    (hc : ∀ o ∈ c.ops, UnitaryB k o.gate) (U : Mat R) (hU : unitary k x c = some U) :
    (unitary k x (appendCirc c (inverse Gate.dagger c))).map (Mat.toM (2 ^ c.n) (2 ^ c.n)) = some 1 ∧
    (unitary k x (appendCirc (inverse Gate.dagger c) c)).map (Mat.toM (2 ^ c.n) (2 ^ c.n)) = some 1 := by
  have he : ExecOps c.ops := ⟨hne, hq⟩
  have hi := he.inverse Gate.dagger
  have hn0 : c.n ≠ 0 := fun h0 => hne (hwf h0)
  have hn := (inverse_shape Gate.dagger c hwf).1
  obtain ⟨b, _⟩ := unitary_eq_Uc k x c c.n rfl he
  rw [hU] at b
  -- every gate matrix is unitary of the size its operation needs
  have hu : ∀ o ∈ c.ops, ∀ m, Gate.matrix k x o.gate = some m →
      (gateDen o.qs.length m)ᴴ * gateDen o.qs.length m = 1 := by
    intro o ho m hm
    obtain ⟨m1, hm1, hw⟩ := opWF_of_Uc k x c.n c.ops _ b.symm o ho
    obtain ⟨m2, hm2, hun⟩ := builtin_gates_unitary hk x o.gate (hc o ho)
    rw [hm] at hm1 hm2; cases hm1; cases hm2
    rw [hun.1.symm.trans hw.2.2.1] at hun
    exact gateDen_unitary _ m hun
  obtain ⟨s1, s2⟩ := inverse_appended_is_identity k hk.cj x c.n c
    (fun o ho => unitaryB_dagger_faithful hk x o.gate (hc o ho)) hu _ b.symm
  -- a circuit of the same width whose action is the identity returns the identity matrix
  have key : ∀ d : Circ (Gate R), d.n = c.n → ExecOps d.ops → Uc k x c.n d.ops = some 1 →
      (unitary k x d).map (Mat.toM (2 ^ c.n) (2 ^ c.n)) = some 1 := fun d hd hed h1 =>
    map_toM (((unitary_eq_Uc k x d c.n hd hed).1.trans h1).trans (congrArg some (reindex_one c.n).symm))
  exact ⟨key _ (by rw [appendCirc_n _ _ (by omega), hn, Nat.max_self]) (he.append hi.2) s1,
    key _ (by rw [appendCirc_n _ _ (by omega), hn, Nat.max_self]) (hi.append he.2) s2⟩

/-- Sentence 1, "inverting twice returns a circuit with the original action", END TO END: `to_unitary()` of
    `c.inverse().inverse()` returns the same `2^n × 2^n` matrix as for `c` (gates over built-in bases).
    Composes `inverse_inverse_partial` with the bridge and C02. -/
theorem inverse_inverse_exec {k : Scal R} (hk : Laws k) (x : Ext R) (hx : Gate.ExtLaws k x) (c : Circ (Gate R))
    (hne : c.ops ≠ []) (hq : ∀ o ∈ c.ops, o.qs ≠ []) (hwf : c.n = 0 → c.ops = [])
    (hc : ∀ o ∈ c.ops, RegularB k o.gate) :
    (unitary k x (inverse Gate.dagger (inverse Gate.dagger c))).map (Mat.toM (2 ^ c.n) (2 ^ c.n))
      = (unitary k x c).map (Mat.toM (2 ^ c.n) (2 ^ c.n)) := by
  have hn := (inverse_shape Gate.dagger c hwf).1
  have hn2 := (inverse_shape Gate.dagger (inverse Gate.dagger c) (fun h => absurd (hwf (hn ▸ h)) hne)).1
  have he : ExecOps c.ops := ⟨hne, hq⟩
  obtain ⟨b1, _⟩ := unitary_eq_Uc k x _ c.n (hn2.trans hn) ((he.inverse _).inverse _)
  obtain ⟨b2, _⟩ := unitary_eq_Uc k x c c.n rfl he
  have hsp := inverse_inverse_partial k hk.cj x hx c.n c (fun o ho => regularB_regular hk _ (hc o ho))
  rw [← b1, ← b2] at hsp
  exact map_toM (hsp.trans (Option.map_map _ _ _).symm)

/-! ## sentence 2 — controlled circuit, executable -/

/-- (3) Sentence 2, END TO END: let the controlled circuit `circuit.controlled(ci)` be `n + 1` qubits wide (its
    width is by operations: 1 + the largest index among `ci` and the shifted indices).  Then the matrix
    `to_unitary()` RETURNS for it is `|0⟩⟨0|_ci ⊗ 1 + |1⟩⟨1|_ci ⊗ U`, where `U` is the matrix `to_unitary()`
    returns for the original operations on the `n` remaining qubits (`⟨circ.ops, n⟩`; this is `circ` itself when
    `circ.n = n`) – error cases included, for gates over built-in bases, every control position `0..n`.
    Composes `controlled_circuit_partial` (C08) with the bridge (C01) and C02 (no `Regular` hypothesis). -/
theorem controlled_circuit_exec {k : Scal R} (hk : Laws k) (x : Ext R) (hx : Gate.ExtLaws k x) (n : Nat)
    (ci : Fin (n + 1)) (circ : Circ (Gate R)) (hne : circ.ops ≠ []) (hq : ∀ o ∈ circ.ops, o.qs ≠ [])
    (hc : ∀ o ∈ circ.ops, RegularB k o.gate)
    (hw : (controlledCirc (fun g => Gate.controlled g 1) ci.val circ).n = n + 1) :
    (unitary k x (controlledCirc (fun g => Gate.controlled g 1) ci.val circ)).map (C01.toBV (n + 1))
      = ((unitary k x ⟨circ.ops, n⟩).map (C01.toBV n)).map (ctrlAt (finSuccEquiv' ci).symm) ∧
    (∀ V, unitary k x (controlledCirc (fun g => Gate.controlled g 1) ci.val circ) = some V →
      V.r = 2 ^ (n + 1) ∧ V.c = 2 ^ (n + 1)) := by
  have he : ExecOps circ.ops := ⟨hne, hq⟩
  obtain ⟨b1, d1⟩ := unitary_eq_Uc k x _ (n + 1) hw (he.map _ (fun o _ => List.cons_ne_nil _ _))
  rw [b1, (unitary_eq_Uc k x (⟨circ.ops, n⟩ : Circ (Gate R)) n rfl he).1]
  exact ⟨controlled_circuit_partial k hk.cj x hx n ci circ (fun o ho => regularB_regular hk _ (hc o ho)), d1⟩

/-- (3') the pointwise form: if the original operations have the matrix `U` on `n` qubits, the controlled circuit
    has a `2^(n+1)`-square matrix `V` with, for bit assignments `a`, `b` of the `n + 1` qubits:
    `V[a, b] = 0` when the control bits differ; `δ(a, b)` on the other qubits when the control bit is 0;
    `U[a', b']` when it is 1, where `a' i = a (ci.succAbove i)` (original qubit `i` sits at `i` below the control
    and at `i + 1` from the control on). -/
theorem controlled_circuit_exec_pointwise {k : Scal R} (hk : Laws k) (x : Ext R) (hx : Gate.ExtLaws k x) (n : Nat)
    (ci : Fin (n + 1)) (circ : Circ (Gate R)) (hne : circ.ops ≠ []) (hq : ∀ o ∈ circ.ops, o.qs ≠ [])
    (hc : ∀ o ∈ circ.ops, RegularB k o.gate)
    (hw : (controlledCirc (fun g => Gate.controlled g 1) ci.val circ).n = n + 1)
    (U : Mat R) (hU : unitary k x ⟨circ.ops, n⟩ = some U) :
    ∃ V, unitary k x (controlledCirc (fun g => Gate.controlled g 1) ci.val circ) = some V ∧
      V.r = 2 ^ (n + 1) ∧ V.c = 2 ^ (n + 1) ∧
      (∀ a b : BV (Fin (n + 1)), C01.toBV (n + 1) V a b =
        if a ci = b ci then
          (if a ci = true then C01.toBV n U (fun i => a (ci.succAbove i)) (fun i => b (ci.succAbove i))
           else if (∀ i, a (ci.succAbove i) = b (ci.succAbove i)) then 1 else 0)
        else 0) ∧
      ∀ i : Fin n, (ci.succAbove i).val = if ci.val ≤ i.val then i.val + 1 else i.val := by
  obtain ⟨h, d⟩ := controlled_circuit_exec hk x hx n ci circ hne hq hc hw
  rw [hU] at h
  obtain ⟨V, hV, hVU⟩ := Option.map_eq_some_iff.mp h
  refine ⟨V, hV, (d V hV).1, (d V hV).2, fun a b => ?_, succAbove_val n ci⟩
  rw [hVU, (controlled_action_pointwise n ci _ a b).1, Matrix.one_apply]
  exact if_congr Iff.rfl (if_congr Iff.rfl rfl (if_congr funext_iff rfl rfl)) rfl

/-- (3'') the common case made hypothesis-free in the width: for a circuit whose width is the width by operations
    (the default of `Circuit(ops)`; no idle qubits above the largest index) and EVERY control position
    `0..circ.n`, the controlled circuit is exactly one qubit wider (`controlledCirc_width`) and its returned matrix is
    `|0⟩⟨0| ⊗ 1 + |1⟩⟨1| ⊗ U(circ)` with `U(circ)` the matrix `to_unitary()` returns for `circ` itself. -/
theorem controlled_circuit_exec_default_width {k : Scal R} (hk : Laws k) (x : Ext R) (hx : Gate.ExtLaws k x)
    (circ : Circ (Gate R)) (hne : circ.ops ≠ []) (hq : ∀ o ∈ circ.ops, o.qs ≠ [])
    (hc : ∀ o ∈ circ.ops, RegularB k o.gate) (hn : circ.n = sizeByOps circ.ops) (ci : Fin (circ.n + 1)) :
    (controlledCirc (fun g => Gate.controlled g 1) ci.val circ).n = circ.n + 1 ∧
    (unitary k x (controlledCirc (fun g => Gate.controlled g 1) ci.val circ)).map (C01.toBV (circ.n + 1))
      = ((unitary k x circ).map (C01.toBV circ.n)).map (ctrlAt (finSuccEquiv' ci).symm) ∧
    (∀ V, unitary k x (controlledCirc (fun g => Gate.controlled g 1) ci.val circ) = some V →
      V.r = 2 ^ (circ.n + 1) ∧ V.c = 2 ^ (circ.n + 1)) := by
  have hw := controlledCirc_width (fun g : Gate R => Gate.controlled g 1) ci.val circ hne hq hn (by omega)
  exact ⟨hw, controlled_circuit_exec hk x hx circ.n ci circ hne hq hc hw⟩

/-! ## sentence 3 — ancillas, executable -/

/-- (4) Sentence 3, `add_ancilla_register`, END TO END, for EVERY non-empty circuit with a matrix (any gates, no
    gate hypothesis at all): the matrix `to_unitary()` RETURNS for the extended circuit is `2^(n+k)` square and acts
    as the original matrix on the first `n` qubits and as the identity on the `k` ancillas – `U ⊗ 1` as `Spec.lift`
    along the inclusion, and pointwise: entry `(a, b)` is `U[a|₀..ₙ₋₁, b|₀..ₙ₋₁]` if `a`, `b` agree on the ancillas,
    else 0.  Composes `ancilla_action` / `ancilla_width` (C08) with the bridge (C01) twice. -/
theorem ancilla_action_exec (k : Scal R) (x : Ext R) (c : Circ (Gate R)) (j : Nat) (hne : c.ops ≠ [])
    (hq : ∀ o ∈ c.ops, o.qs ≠ []) (U : Mat R) (hU : unitary k x c = some U) :
    ∃ V, unitary k x (addAncilla iGate c j) = some V ∧ V.r = 2 ^ (c.n + j) ∧ V.c = 2 ^ (c.n + j) ∧
      C01.toBV (c.n + j) V = liftE (Fin.castAddEmb j) (C01.toBV c.n U) ∧
      ∀ a b : BV (Fin (c.n + j)), C01.toBV (c.n + j) V a b =
        if (∀ i : Fin (c.n + j), c.n ≤ i.val → a i = b i)
        then C01.toBV c.n U (fun i => a (Fin.castAdd j i)) (fun i => b (Fin.castAdd j i)) else 0 := by
  have he : ExecOps c.ops := ⟨hne, hq⟩
  obtain ⟨b, _⟩ := unitary_eq_Uc k x c c.n rfl he
  rw [hU] at b
  obtain ⟨s1, s2⟩ := ancilla_action k x c j _ b.symm
  obtain ⟨wn, wops⟩ := ancilla_width (iGate : Gate R) c j
  obtain ⟨e, d⟩ := unitary_eq_Uc k x _ (c.n + j) wn (wops ▸ he.append (fun o ho => by
    obtain ⟨i, _, rfl⟩ := List.mem_map.mp ho; exact List.cons_ne_nil _ _))
  obtain ⟨V, hV, hVU⟩ := Option.map_eq_some_iff.mp (e.trans s1)
  exact ⟨V, hV, (d V hV).1, (d V hV).2, hVU, fun a b => by rw [hVU]; exact s2 a b⟩

end OQ.C08.Link

/-! ## non-vacuity (data in OQ/Lemmas/C08_LinkExamples.lean): built-in gate objects over the driver's ring ℚ(ζ₈),
   circuits meeting every hypothesis, and exact evaluations of the executable model -/
namespace OQ.C08.LinkExamples
open OQ OQ.C08 OQ.C08.Link OQ.C02 OQ.Generated Matrix

example : builtinGate Scal.cyc8 "X" [] = some bX := rfl

example : builtinGate Scal.cyc8 "RX" [⟨Cyc8.ofRat (3/5), Cyc8.ofRat (4/5)⟩] = some bRX := rfl

/-- the hypotheses of (1), (3) are met by `cL` (with the external that knows `M ** 1`) -/
example := inverse_unitary_exec cyc8_laws xPow1 (xPow1_laws _) cL cL_ne cL_qs cL_wf cL_regularB

example : (controlledCirc (fun g => Gate.controlled g 1) 1 cL).n = 4 + 1 := by decide

example := controlled_circuit_exec cyc8_laws xPow1 (xPow1_laws _) 4 1 cL cL_ne cL_qs cL_regularB (by decide)

example (ci : Fin (cL.n + 1)) :=
  controlled_circuit_exec_default_width cyc8_laws xPow1 (xPow1_laws _) cL cL_ne cL_qs cL_regularB (by decide) ci

/-- the hypotheses of (2) and (4) are met by `c2` whenever it has a matrix (it has: it is well formed) -/
example (U : Mat Cyc8) (hU : unitary Scal.cyc8 xNone c2 = some U) :=
  inverse_appended_is_identity_exec cyc8_laws xNone c2 c2_ne c2_qs (by decide) c2_unitaryB U hU

example (U : Mat Cyc8) (hU : unitary Scal.cyc8 xNone c2 = some U) :=
  ancilla_action_exec Scal.cyc8 xNone c2 3 c2_ne c2_qs U hU

/-- EVALUATION of the executable model (exact arithmetic in ℚ(ζ₈)) on the one-qubit circuit `c1` = S, H: the matrices
    are really there, the inverse's matrix differs from the circuit's, and the conclusions of (1)–(4) hold on it -/
example : (unitary Scal.cyc8 xNone c1).isSome = true := by decide +kernel

example : (unitary Scal.cyc8 xNone c1).map Mat.toLists
    ≠ (unitary Scal.cyc8 xNone (inverse Gate.dagger c1)).map Mat.toLists := by decide +kernel

example : (unitary Scal.cyc8 xNone (inverse Gate.dagger c1)).map Mat.toLists
    = (unitary Scal.cyc8 xNone c1).map (fun U => U.adjoint.toLists) := by decide +kernel

example : (unitary Scal.cyc8 xNone (appendCirc c1 (inverse Gate.dagger c1))).map Mat.toLists
    = some (Mat.identity (R := Cyc8) 2).toLists := by decide +kernel

/-- ancilla: 4 × 4, and the entries between different ancilla values vanish (rows |01⟩, |11⟩ against column |00⟩) -/
example : (unitary Scal.cyc8 xNone (addAncilla iGate c1 1)).map (fun U => (U.r, U.get 1 0, U.get 3 0))
    = some (4, 0, 0) := by decide +kernel

/-- controlled at position 0: 4 × 4, identity block when the control is 0 -/
example : (unitary Scal.cyc8 xNone (controlledCirc (fun g => Gate.controlled g 1) 0 c1)).map
    (fun U => (U.r, U.get 0 0, U.get 1 0, U.get 2 0, U.get 0 1, U.get 1 1)) = some (4, 1, 0, 0, 0, 1) := by
  decide +kernel

end OQ.C08.LinkExamples
