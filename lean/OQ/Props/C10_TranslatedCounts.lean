/- C10 — PROPERTY THEOREMS (translation ties): the counting methods of `measurements/measurements.py`: `Measurements.__init__`,
   `get_counts`, `add_counts`, `from_counts`, `get_distribution`.  The definitions `OQ.Generated.Translated.*` are REGENERATED from
   /repo's current Python source on every run (harness/translate_t4.py → OQ/Generated/TranslatedC10.lean); an edit of a Python method
   changes its definition and the equalities below stop checking at build time, for every input.

   Reading of the translated definitions (harness/translate_t4.py's docstring has the details):
   * a METHOD is a function of the attribute it reads / writes: `self.bitstrings` (a list of int tuples, `List (List Int)`) is the
     parameter `self_bitstrings`; `add_counts` (which mutates `self.bitstrings` and returns None) returns the NEW `self.bitstrings`;
     `from_counts` returns the `bitstrings` of the object it builds; `get_distribution` returns the new object's `distribution_dict`.
   * a result `Except OQ.Py.Exc4 τ`: `.error c` = the Python call raises an exception of class `c` (ValueError of `int(bitvalue)`,
     KeyError of `counts[bitstring]`, ZeroDivisionError of `counts[b] / num_measurements`, RuntimeError of the constructor).  The ties
     show that KeyError and ZeroDivisionError never occur.
   * count dictionaries are insertion-ordered association lists `OQ.Py.Dict (List Char) Int` (bitstring ↦ Python int); where a theorem
     needs the list to be a Python dict it says that the keys are distinct.
   * `convert_tuples_to_bitstrings` / `tuple_to_bitstring` (utils.py) are regenerated under C10 as `c10_…` (the same text as under C04).
   * `get_distribution` divides two Python ints: the quotient is a value of the abstract numeric type (exact at `Rat`; FLOAT ROUNDING IS
     NOT MODELLED) and goes through the TRANSLATED C17 constructor `mod_init` (OQ/Generated/TranslatedC17.lean).
   The model (`OQ/Model/C10.lean`) speaks about shots as `List Bool`: the ties are stated through the embeddings `encT` (the tuple of
   0/1 ints) and `encS` (the bitstring), which cover every measurement of bits.  Tuples with other entries (`(12, 3)` and `(1, 23)` both
   give the key "123") and count keys with non-digit characters (ValueError) are outside the model; `translated_counts_sum` is proved
   directly on the translated code for ALL lists of int tuples.
   The functions written with numpy (`get_expectation_value_from_frequencies` and what it calls, `get_expectation_values`) are tied in
   OQ/Props/C10_TranslatedStats.lean. -/
import OQ.Lemmas.C10_TranslatedCounts
import OQ.Props.C10
import OQ.Props.C17_TranslatedDist
namespace OQ.C10
open OQ.Generated OQ.Py

/-- TRANSLATION TIE: `Measurements.__init__(bitstrings=None)` stores `[]` for None and the given list otherwise – all inputs. -/
theorem translated_measurements_init_eq (b : Option (List (List Int))) :
    Translated.measurements_init b = b.getD [] := by
  cases b <;> rfl

/-- TRANSLATION TIE (the C10 copy of utils' `tuple_to_bitstring`, which `get_counts` goes through): a tuple of bits becomes its
    bitstring – every bit shot. -/
theorem translated_c10_tuple_to_bitstring_eq (s : Shot) : Translated.c10_tuple_to_bitstring (encT s) = encS s := by
  unfold Translated.c10_tuple_to_bitstring encT encS
  rw [List.map_map]
  have : (fun (bit : Int) => strOfInt bit) ∘ (fun (b : Bool) => if b then (1 : Int) else 0)
      = (fun c => [c]) ∘ (fun (b : Bool) => if b then '1' else '0') := by
    funext b; cases b <;> rfl
  rw [this, ← List.map_map, join_nil_singletons]

/-- TRANSLATION TIE (the C10 copy of `convert_tuples_to_bitstrings`): the map of the former over the list – every list of bit shots. -/
theorem translated_c10_convert_tuples_to_bitstrings_eq (shots : List Shot) :
    Translated.c10_convert_tuples_to_bitstrings (shots.map encT) = shots.map encS := by
  unfold Translated.c10_convert_tuples_to_bitstrings
  simp [List.map_map, Function.comp_def, translated_c10_tuple_to_bitstring_eq]

/-- TRANSLATION TIE: `Measurements.get_counts` (`dict(Counter(convert_tuples_to_bitstrings(self.bitstrings)))`) regenerated from the
    current Python source IS the model's `getCounts` – for EVERY list of bit shots: same keys (as bitstrings) in the same order
    (first occurrence), same counts. -/
theorem translated_get_counts_eq (shots : List Shot) :
    Translated.measurements_get_counts (shots.map encT) = countsToPy (getCounts shots) := by
  unfold Translated.measurements_get_counts counterOfList getCounts
  rw [translated_c10_convert_tuples_to_bitstrings_eq]
  exact counterOfList_foldl shots []

/-- TRANSLATION TIE: `Measurements.add_counts` (the loop over `counts.keys()`, `int(bitvalue)` per character,
    `self.bitstrings += [tuple(measurement)] * counts[bitstring]`) IS the model's `addCounts` – for EVERY list of bit shots and EVERY
    Python dict of bitstring keys with int counts (zero and negative counts included: they add nothing): the new `self.bitstrings`.
    `counts[bitstring]` never raises KeyError, `int(bitvalue)` never ValueError (keys of '0'/'1'). -/
theorem translated_add_counts_eq (bs : List Shot) (counts : List (Shot × Int)) (hn : (counts.map (fun p => p.1)).Nodup) :
    Translated.measurements_add_counts (bs.map encT) (intCountsToPy counts) = .ok ((addCounts bs counts).map encT) := by
  unfold Translated.measurements_add_counts
  have hget : ∀ p ∈ counts, dictGetE (intCountsToPy counts) (encS p.1) = .ok p.2 := fun p hp =>
    dictGetE_of_mem _ (nodup_map_keys encS encS_injective _ counts hn) _ _ (List.mem_map.mpr ⟨p, hp, rfl⟩)
  have := foldlE_add_counts (intCountsToPy counts) counts bs hget
  simp only [List.flatten_replicate_singleton] at this ⊢
  rw [this]
  rfl

/-- TRANSLATION TIE: `Measurements.from_counts` (`cls()`, `add_counts`, return the object) IS the model's `fromCounts` – every Python
    dict of bitstring keys with int counts. -/
theorem translated_from_counts_eq (counts : List (Shot × Int)) (hn : (counts.map (fun p => p.1)).Nodup) :
    Translated.measurements_from_counts (intCountsToPy counts) = .ok ((fromCounts counts).map encT) := by
  unfold Translated.measurements_from_counts Translated.measurements_init
  have := translated_add_counts_eq [] counts hn
  simp only [List.map_nil] at this
  simp only [this, bind_ok]
  rfl

/-- TRANSLATION TIE: `Measurements.get_distribution` (`get_counts()`, `len(self.bitstrings)`, the loop
    `distribution[b] = counts[b] / num_measurements`, the constructor `MeasurementOutcomeDistribution(distribution)` = the translated
    C17 `__init__` with `normalize=True`) IS the model's `getDistribution` – for EVERY list of bit shots: the dictionary of counts over
    the number of shots (keys as int tuples) when the shots are non-empty and of one length, RuntimeError otherwise (no shots /
    different lengths), as the model says.  ASSUMED LAW of the external: `math.isclose(1, 1)` is true (`hext`); nothing else is assumed
    about `isclose`.  `counts[b]` never raises KeyError and the division never ZeroDivisionError. -/
theorem translated_get_distribution_eq (ext : Rat → Rat → Bool) (hext : ext 1 1 = true) (shots : List Shot) :
    Translated.measurements_get_distribution ext OQ.C17.floatMin (shots.map encT) = distResult (getDistribution (R := Rat) shots) := by
  unfold Translated.measurements_get_distribution
  rw [translated_get_counts_eq]
  simp only [List.length_map]
  obtain ⟨hnd, _⟩ := getCounts_inv shots
  by_cases hne : shots = []
  · -- no shots: the loop builds the empty dictionary, which the constructor refuses; both sides compute
    subst hne
    rfl
  · have hn0 : ((shots.length : Nat) : Int) ≠ 0 := by
      have : shots.length ≠ 0 := by simpa using hne
      exact_mod_cast this
    simp only [divIntE_rat _ _ hn0, bind_ok]
    have hkeys : (dictKeys (countsToPy (getCounts shots))).Nodup := nodup_map_keys encS encS_injective _ _ hnd
    rw [foldlE_dictSet_of_get (countsToPy (getCounts shots)) (fun c => ((c : Int) : Rat) / ((shots.length : Int) : Rat)) _ []
      (fun p hp => dictGetE_of_mem _ hkeys _ _ hp) hkeys]
    simp only [List.nil_append, bind_ok, dictStrKeys_dist, OQ.C17.translated_init_eq, Except.bind_ok']
    -- the C17 constructor on the distribution: distinct digit keys, total 1, validity = the model's test of the key lengths
    have hpre := OQ.C17.preprocess_distinct (fun k => OQ.C17.RawKey.str (OQ.C17.encDigits k)) (distD (shots.length : Int) (getCounts shots))
      (fun k hk => by
        simp only [OQ.C17.Dict.keys, distD, List.map_map, List.mem_map, Function.comp] at hk
        obtain ⟨p, _, rfl⟩ := hk
        exact OQ.C17.preprocessKey_encDigits _ (isDigits_encT p.1))
      (nodup_map_keys encT encT_injective _ _ hnd)
    simp only [OQ.C17.construct, hpre, OQ.C17.constructPre, distD_total shots hne, hext, if_true,
      isDistribution_distD shots hne, getDistribution, Int.cast_natCast, List.isEmpty_iff, List.map_eq_nil_iff,
      getCounts_ne_nil shots hne, if_false, List.map_map, Function.comp_def]
    cases sameLength ((getCounts shots).map (fun p => p.1)) <;>
      simp [OQ.C17.liftE, OQ.C17.toExc, distResult, toExc10, distD, Function.comp_def]

/-- `counts_sum` ON THE TRANSLATED METHOD, for ALL lists of int tuples (not only bits): the counts `get_counts()` returns sum to the
    number of measurements. -/
theorem translated_counts_sum (bitstrings : List (List Int)) :
    pyTotal (Translated.measurements_get_counts bitstrings) = bitstrings.length := by
  unfold Translated.measurements_get_counts
  rw [pyTotal_counterOfList]
  simp [Translated.c10_convert_tuples_to_bitstrings]

/-- `from_counts_of_get_counts` ON THE TRANSLATED METHODS: `from_counts(m.get_counts())` succeeds and holds exactly the shots of
    `m` (the same tuples with the same multiplicities). -/
theorem translated_from_counts_of_get_counts (shots : List Shot) :
    ∃ l, Translated.measurements_from_counts (Translated.measurements_get_counts (shots.map encT)) = .ok l ∧
      l.Perm (shots.map encT) := by
  have hk : ((castCounts (getCounts shots)).map (fun p => p.1)).Nodup := by
    rw [castCounts_keys]; exact (getCounts_inv shots).1
  refine ⟨_, by rw [translated_get_counts_eq, countsToPy_cast, translated_from_counts_eq _ hk], ?_⟩
  exact (from_counts_of_get_counts shots).map encT

/-- `get_counts_of_from_counts` ON THE TRANSLATED METHODS: for every histogram `c` (distinct bitstrings, positive counts),
    `from_counts(c)` succeeds and `get_counts()` of the result is `c`, key order included. -/
theorem translated_get_counts_of_from_counts (c : Counts) (hn : c.keys.Nodup) (hp : ∀ p ∈ c, 0 < p.2) :
    ∃ l, Translated.measurements_from_counts (countsToPy c) = .ok l ∧ Translated.measurements_get_counts l = countsToPy c := by
  have hk : ((castCounts c).map (fun p => p.1)).Nodup := by rw [castCounts_keys]; exact hn
  refine ⟨_, by rw [countsToPy_cast, translated_from_counts_eq _ hk], ?_⟩
  rw [translated_get_counts_eq, get_counts_of_from_counts c hn hp]

/-- `distribution_eq_counts_div` ON THE TRANSLATED METHODS: on a non-empty list of equal-length bit shots the regenerated
    `get_distribution` succeeds and its dictionary is the regenerated `get_counts()` with every key read as its tuple of digits and
    every count divided by the number of shots (same order). -/
theorem translated_distribution_eq_counts_div (ext : Rat → Rat → Bool) (hext : ext 1 1 = true) (shots : List Shot) (w : Nat)
    (hne : shots ≠ []) (hl : ∀ s ∈ shots, s.length = w) :
    Translated.measurements_get_distribution ext OQ.C17.floatMin (shots.map encT) =
      .ok ((Translated.measurements_get_counts (shots.map encT)).map
        (fun p => (p.1.map charDigit, ((p.2 : Int) : Rat) / ((shots.length : Nat) : Rat)))) := by
  rw [translated_get_distribution_eq ext hext, translated_get_counts_eq, distribution_eq_counts_div shots w hne hl]
  simp only [distResult, countsToPy, List.map_map, Function.comp_def, Int.cast_natCast]
  simp only [map_charDigit_encS]

/-- … and the reported probabilities sum to exactly 1 (so the constructor never renormalises). -/
theorem translated_distribution_sum_one (ext : Rat → Rat → Bool) (hext : ext 1 1 = true) (shots : List Shot) (w : Nat)
    (hne : shots ≠ []) (hl : ∀ s ∈ shots, s.length = w) (d : OQ.C17.Dict OQ.C17.Key)
    (h : Translated.measurements_get_distribution ext OQ.C17.floatMin (shots.map encT) = .ok d) : d.total = 1 := by
  rw [translated_get_distribution_eq ext hext, distribution_eq_counts_div shots w hne hl] at h
  simp only [distResult, Except.ok.injEq] at h
  subst h
  simp only [OQ.C17.Dict.total, OQ.C17.Dict.vals, List.map_map, Function.comp_def]
  exact sum_counts_div shots hne

/-! ## non-vacuity: the TRANSLATED definitions on concrete inputs -/

example : Translated.measurements_get_counts [[0, 1], [1, 1], [0, 1], [1, 0]] =
    [(['0', '1'], 2), (['1', '1'], 1), (['1', '0'], 1)] := by decide
example : Translated.measurements_add_counts [[1]] [(['0', '1'], 2), (['1'], 0), (['0'], -1), ([], 1)] =
    .ok [[1], [0, 1], [0, 1], []] := by decide
example : Translated.measurements_add_counts [] [(['0', 'a'], 1)] = .error .value := by decide
example : Translated.measurements_from_counts [(['1', '0'], 3)] = .ok [[1, 0], [1, 0], [1, 0]] := by decide
example : Translated.measurements_get_distribution ratIsClose OQ.C17.floatMin [[0, 1], [1, 1], [0, 1], [1, 0]] =
    .ok [([0, 1], 1/2), ([1, 1], 1/4), ([1, 0], 1/4)] := by decide +kernel
example : Translated.measurements_get_distribution ratIsClose OQ.C17.floatMin [] = .error .runtime := by decide +kernel
example : Translated.measurements_get_distribution ratIsClose OQ.C17.floatMin [[0, 1], [1]] = .error .runtime := by decide +kernel
example : ratIsClose 1 1 = true := by decide +kernel
example : [[false, true], [true, true]].map encT = [[0, 1], [1, 1]] := by decide

end OQ.C10
