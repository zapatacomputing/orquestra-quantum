/-
  C18 — PROPERTY THEOREMS: decomposing a circuit never changes what it does.
  Model: OQ/Model/C18.lean.  Helper lemmas: OQ/Lemmas/C18.lean, OQ/Lemmas/C18_Complex.lean, OQ/Lemmas/C18_Link.lean.

  Semantics.  "Gate matrix `M` on the qubit tuple `qs` of the register" is a `Placement` (Lemmas/C18): a family of
  maps `emb qs : Matrix (Fin 2^|qs|) … → Matrix (BV ι) (BV ι)` that is multiplicative and homogeneous.  Every
  placement of tuples through `OQ.Spec.lift` is one (`Placement.ofLift`), so each theorem below holds for the spec
  semantics with ANY choice of partition / index identification per tuple – all qubit placements.  A circuit acts
  as the product of its operations, first operation rightmost (`denote`).

  The full property is FALSE of the code as it exists (known finding F9): the rule for a CONTROLLED U3(θ,φ,λ)
  re-applies the controls to RZ(λ), RY(θ), RZ(φ) and so drops the factor e^{i(φ+λ)/2} on the controlled block
  only – a relative phase.  Hence:
    * `decompose_up_to_phase_partial` proves the property for every circuit whose controlled U3s have
      e^{i(φ+λ)/2} = 1 (no restriction on plain U3s, other gates, control counts, placements, rule lists);
    * `controlled_phase_necessary` proves that this condition cannot be dropped;
    * `cu3_relative_phase` is the concrete negative witness on the executable model.
-/
import OQ.Lemmas.C18_Link
import OQ.Props.C02
import Mathlib.Tactic.LinearCombination
set_option linter.unusedSectionVars false
namespace OQ.C18
open Matrix OQ.Spec

section Chaining
variable {Op : Type}

/-- "With an empty rule list the circuit is returned unchanged" – operation list. -/
theorem no_rules_id (ops : List Op) : decomposeOperations ([] : List (Rule Op)) ops = some ops :=
  decomposeOperations_nil ops

/-- "rules are applied in the order given to the output of the previous rule": decomposing with `r :: rs` is
    one full pass of `r` over the circuit followed by decomposing its output with `rs` (an exception anywhere
    makes both sides raise). -/
theorem rules_in_order (r : Rule Op) (rs : List (Rule Op)) (ops : List Op) :
    decomposeOperations (r :: rs) ops = (decomposeOperations [r] ops).bind (decomposeOperations rs) := by
  rw [decomposeOperations_cons, decomposeOperations_cons, Option.bind_assoc]
  exact (Option.bind_congr fun mid _ => by rw [decomposeOperations_nil, Option.bind_some]).symm

/-- the same for any split of the rule list: `rs₁ ++ rs₂` = all of `rs₁`, then all of `rs₂` on its output -/
theorem rules_append (rs₁ rs₂ : List (Rule Op)) (ops : List Op) :
    decomposeOperations (rs₁ ++ rs₂) ops = (decomposeOperations rs₁ ops).bind (decomposeOperations rs₂) := by
  induction rs₁ generalizing ops with
  | nil => rw [List.nil_append, decomposeOperations_nil, Option.bind_some]
  | cons r rs ih =>
    rw [List.cons_append, decomposeOperations_cons, decomposeOperations_cons, Option.bind_assoc]
    exact Option.bind_congr fun mid _ => ih mid

/-- one pass of a single rule replaces exactly the matching operations, in place -/
theorem single_rule_pass (r : Rule Op) (ops : List Op) :
    decomposeOperations [r] ops = flatMapM (applyRule r) ops := by
  rw [decomposeOperations_cons, funext (decomposeOperations_nil (Op := Op)), Option.bind_fun_some]

/-- "operations no rule applies to are kept unchanged": an operation on which every predicate is false
    decomposes to itself. -/
theorem unmatched_kept (rules : List (Rule Op)) (op : Op) (h : ∀ r ∈ rules, r.predicate op = some false) :
    decomposeOperation rules op = some [op] := by
  induction rules with
  | nil => rfl
  | cons r rs ih =>
    have hr : applyRule r op = some [op] := applyRule_eq_some.mpr (.inr ⟨h r List.mem_cons_self, rfl⟩)
    rw [decomposeOperation_cons, hr, Option.bind_some]
    unfold decomposeOperations
    rw [flatMapM_cons, ih fun r' hr' => h r' (List.mem_cons_of_mem _ hr')]
    rfl

/-- "… and in order": the output is the concatenation, in circuit order, of the outputs of the operations;
    an unmatched operation stays between what its neighbours became. -/
theorem kept_in_place (rules : List (Rule Op)) (pre post pre' post' : List Op) (op : Op)
    (h : ∀ r ∈ rules, r.predicate op = some false)
    (hpre : decomposeOperations rules pre = some pre') (hpost : decomposeOperations rules post = some post') :
    decomposeOperations rules (pre ++ op :: post) = some (pre' ++ op :: post') := by
  unfold decomposeOperations at *
  rw [flatMapM_append, hpre, flatMapM_cons, unmatched_kept rules op h, hpost]
  rfl

example : decomposeOperations ([] : List (Rule Nat)) [3, 1, 2] = some [3, 1, 2] := by decide
/-- two different toy rules in both orders give different results: the order matters and is the given one -/
example :
    let dbl : Rule Nat := ⟨fun n => some (n % 2 == 0), fun n => some [n / 2, n / 2]⟩
    let dec : Rule Nat := ⟨fun n => some (n > 2), fun n => some [n - 1, 1]⟩
    decomposeOperations [dbl, dec] [4, 3] = some [2, 2, 2, 1] ∧
    decomposeOperations [dec, dbl] [4, 3] = some [3, 1, 1, 1, 1] := by decide

/-- `unmatched_kept` / `kept_in_place` at work: 3 is odd and not > 5, its neighbours are rewritten -/
example :
    let dbl : Rule Nat := ⟨fun n => some (n % 2 == 0), fun n => some [n / 2, n / 2]⟩
    let big : Rule Nat := ⟨fun n => some (n > 5), fun n => some [n - 1, 1]⟩
    (∀ r ∈ [dbl, big], r.predicate 3 = some false) ∧
    decomposeOperations [dbl, big] ([8] ++ 3 :: [7]) = some ([4, 4] ++ 3 :: [6, 1]) := by decide
/-- `rules_append` with two non-empty halves -/
example :
    let dbl : Rule Nat := ⟨fun n => some (n % 2 == 0), fun n => some [n / 2, n / 2]⟩
    let dec : Rule Nat := ⟨fun n => some (n > 2), fun n => some [n - 1, 1]⟩
    decomposeOperations ([dbl, dec] ++ [dbl]) [4, 3] = some [1, 1, 1, 1, 1, 1, 1] := by decide

end Chaining

section U3Structure
variable {α R : Type}

/-- the rule matches exactly the gates named "U3" and `ControlledGate`s (any number of controls) whose wrapped
    gate is named "U3" (on a non-gate operation the predicate is `some false` by definition: `nongate_kept`) -/
theorem u3_predicate_iff (g : Gate α R) (qs : List Nat) :
    u3Predicate (.gate g qs) = some true ↔
      (∃ ps m, g = .mf "U3" ps m) ∨ (∃ ps m c, g = .controlled (.mf "U3" ps m) c) := by
  have hC : (("Control" : String) == "U3") = false := by decide
  cases g with
  | mf n ps m =>
    simp only [u3Predicate, Gate.name, Bool.or_false, Option.some.injEq, beq_iff_eq]
    constructor
    · intro h; exact Or.inl ⟨ps, m, by rw [h]⟩
    · rintro (⟨ps', m', h⟩ | ⟨_, _, _, h⟩)
      · injection h
      · cases h
  | controlled w c =>
    simp only [u3Predicate, Gate.name, hC, Bool.false_or, Option.some.injEq, beq_iff_eq]
    constructor
    · intro h
      cases w with
      | mf n ps m => simp only [Gate.name] at h; exact Or.inr ⟨ps, m, c, by rw [h]⟩
      | controlled w' c' => exact absurd h (by simp [Gate.name])
      | dagger w' => exact absurd h (dagger_name_ne _)
    · rintro (⟨_, _, h⟩ | ⟨ps', m', c', h⟩)
      · cases h
      · injection h with h1 h2; subst h1; rfl
  | dagger w =>
    simp only [u3Predicate, Gate.name, Bool.or_false, Option.some.injEq, beq_iff_eq]
    constructor
    · intro h; exact absurd h (dagger_name_ne _)
    · rintro (⟨_, _, h⟩ | ⟨_, _, _, h⟩) <;> cases h

/-- non-gate operations (`MultiPhaseOperation`, `ResetOperation`) are kept unchanged by any list of bundled rules -/
theorem nongate_kept (n : Nat) (t : String) (qs : List Nat) :
    decomposeOperation (List.replicate n (u3Rule : Rule (Operation α R))) (.other t qs) = some [.other t qs] := by
  apply unmatched_kept
  intro r hr
  rw [List.eq_of_mem_replicate hr]; rfl

/-- "every general single-qubit rotation gate … is replaced": a plain U3(θ,φ,λ) on any qubits becomes
    RZ(λ), RY(θ), RZ(φ) (circuit order) on the same qubits -/
theorem u3_replaced_plain (th ph la : α) (m : Option (Mat R)) (qs : List Nat) :
    decomposeOperation [u3Rule] (.gate (.mf "U3" [th, ph, la] m) qs) =
      some [.gate (rzGate la) qs, .gate (ryGate th) qs, .gate (rzGate ph) qs] :=
  rfl

/-- "… plain or controlled (any number of controls, any qubits)": a U3 with `c ≥ 1` controls becomes the three
    rotations with the same `c` controls re-applied, on the same qubits -/
theorem u3_replaced_controlled (th ph la : α) (m : Option (Mat R)) (c : Nat) (hc : 1 ≤ c) (qs : List Nat) :
    decomposeOperation [u3Rule] (.gate (.controlled (.mf "U3" [th, ph, la] m) c) qs) =
      some [.gate (.controlled (rzGate la) c) qs, .gate (.controlled (ryGate th) c) qs,
            .gate (.controlled (rzGate ph) c) qs] := by
  -- at `c = c' + 1` the check `c < 1` of `ControlledGate.__post_init__` computes, and so does the rest
  obtain ⟨c, rfl⟩ : ∃ c', c = c' + 1 := ⟨c - 1, by omega⟩
  rfl

example : decomposeOperation [u3Rule] (Operation.gate (Gate.mf "U3" [1, 2, 3] none : Gate Nat Nat) [5]) =
    some [.gate (rzGate 3) [5], .gate (ryGate 1) [5], .gate (rzGate 2) [5]] := u3_replaced_plain 1 2 3 none [5]
example : decomposeOperation [u3Rule]
      (Operation.gate (Gate.controlled (Gate.mf "U3" [1, 2, 3] none : Gate Nat Nat) 2) [4, 0, 7]) =
    some [.gate (.controlled (rzGate 3) 2) [4, 0, 7], .gate (.controlled (ryGate 1) 2) [4, 0, 7],
          .gate (.controlled (rzGate 2) 2) [4, 0, 7]] := u3_replaced_controlled 1 2 3 none 2 (by decide) [4, 0, 7]
/-- matched: U3 with three controls; not matched: the dagger of a U3, a U3 under two nested ControlledGates -/
example : u3Predicate (Operation.gate (Gate.controlled (Gate.mf "U3" [1, 2, 3] none : Gate Nat Nat) 3) [0, 1, 2, 3])
    = some true := by decide
example : u3Predicate (Operation.gate (Gate.dagger (Gate.mf "U3" [1, 2, 3] none : Gate Nat Nat)) [0]) = some false := by
  decide
example : u3Predicate (Operation.gate
    (Gate.controlled (Gate.controlled (Gate.mf "U3" [1, 2, 3] none : Gate Nat Nat) 1) 1) [0, 1, 2]) = some false := by
  decide

end U3Structure

section Width
variable {α R : Type}

/-- "With an empty rule list the circuit is returned unchanged" – circuit object, including its declared width.
    (`c.n = 0 → c.ops = []` holds of every `Circuit` the constructor can return.) -/
theorem no_rules_circuit_id (c : Circuit α R) (hc : c.n = 0 → c.ops = []) :
    decomposeCircuit [] c = some c := by
  obtain ⟨ops, n⟩ := c
  unfold decomposeCircuit
  rw [decomposeOperations_nil]
  cases n with
  | zero => obtain rfl : ops = [] := hc rfl; rfl
  | succ n => rfl

/-- the decomposed circuit keeps the width of the original (idle trailing qubits are not dropped) and holds
    the decomposed operation list -/
theorem width_kept (rules : List (Rule (Operation α R))) (c c' : Circuit α R) (hc : c.n ≠ 0)
    (h : decomposeCircuit rules c = some c') :
    c'.n = c.n ∧ decomposeOperations rules c.ops = some c'.ops := by
  unfold decomposeCircuit at h
  split at h
  · cases h
  · rename_i ops' hd
    rw [mkCircuit, if_pos hc] at h
    cases h
    exact ⟨rfl, hd⟩

example : decomposeCircuit [u3Rule]
    (⟨[.gate (.mf "X" [] none) [0], .other "reset" [1]], 3⟩ : Circuit Nat Nat) =
    some ⟨[.gate (.mf "X" [] none) [0], .other "reset" [1]], 3⟩ :=
  rfl

end Width

section Identity
variable {R : Type} [CommRing R]

/-- **U3(θ,φ,λ) = e^{i(φ+λ)/2} · RZ(φ) · RY(θ) · RZ(λ)** as an identity of the gate matrices of `OQ.Gates`, in every
    commutative ring with `i² = −1`, for φ and λ on the unit circle (`ehp a = cos a/2 + i sin a/2`). -/
theorem u3_plain (k : Scal R) (hi : k.i * k.i = -1) (th ph la : Ang R)
    (hph : ph.ch * ph.ch + ph.sh * ph.sh = 1) (hla : la.ch * la.ch + la.sh * la.sh = 1) :
    Mat.toM 2 2 (Gates.u3 k th ph la) =
      (ph.ehp k * la.ehp k) •
        (Mat.toM 2 2 (Gates.rz k ph) * Mat.toM 2 2 (Gates.ry th) * Mat.toM 2 2 (Gates.rz k la)) :=
  (C02.u3_product hi hph hla).symm

/-- the identity on the register, for any placement of the qubit through `OQ.Spec.lift` ("acts identically on
    every state" up to the scalar): lift is multiplicative and linear, so the scalar factors out -/
theorem u3_plain_lifted {κ μ ι : Type} [Fintype κ] [DecidableEq κ] [Fintype μ] [DecidableEq μ] [Fintype ι]
    [DecidableEq ι] (σ : κ ⊕ μ ≃ ι) (e : Fin 2 ≃ BV κ) (k : Scal R) (hi : k.i * k.i = -1) (th ph la : Ang R)
    (hph : ph.ch * ph.ch + ph.sh * ph.sh = 1) (hla : la.ch * la.ch + la.sh * la.sh = 1) :
    lift σ (Matrix.reindex e e (Mat.toM 2 2 (Gates.u3 k th ph la))) =
      (ph.ehp k * la.ehp k) •
        (lift σ (Matrix.reindex e e (Mat.toM 2 2 (Gates.rz k ph))) *
         lift σ (Matrix.reindex e e (Mat.toM 2 2 (Gates.ry th))) *
         lift σ (Matrix.reindex e e (Mat.toM 2 2 (Gates.rz k la)))) := by
  rw [u3_plain k hi th ph la hph hla]
  exact ((⟨κ, μ, σ, e⟩ : LiftData ι 1).emb_smul _ _).trans (by rw [LiftData.emb_mul, LiftData.emb_mul]; rfl)

/-- at real angles in ℂ the scalar is the complex phase e^{i(φ+λ)/2} -/
theorem u3_plain_complex (θ φ lam : ℝ) :
    Mat.toM 2 2 (Gates.u3 scalC (angOfReal θ) (angOfReal φ) (angOfReal lam)) =
      Complex.exp ((((φ + lam) / 2 : ℝ) : ℂ) * Complex.I) •
        (Mat.toM 2 2 (Gates.rz scalC (angOfReal φ)) * Mat.toM 2 2 (Gates.ry (angOfReal θ)) *
          Mat.toM 2 2 (Gates.rz scalC (angOfReal lam))) := by
  rw [← phase_ofReal]
  exact u3_plain scalC scalC_ii _ _ _ (realAng_ofReal φ).1 (realAng_ofReal lam).1

/-- the hypotheses of `u3_plain` at a non-trivial rational point: φ = 2·atan(4/3), λ = 2·atan(12/5) in ℂ -/
example : scalC.i * scalC.i = -1 ∧ a35.ch * a35.ch + a35.sh * a35.sh = 1 ∧ a513.ch * a513.ch + a513.sh * a513.sh = 1 :=
  ⟨scalC_ii, real_a35.1, real_a513.1⟩

end Identity

section Action
variable {R : Type} [CommRing R] [StarRing R] {ι : Type} [Fintype ι] [DecidableEq ι]

/-- **all rule lists**: if every rule of the list is sound on a class `Good` of operations (what it produces acts
    like the operation it replaces up to a unit-modulus scalar, and stays in `Good`), then decomposing any
    circuit of `Good` operations with the whole list – rules chained in order – yields a circuit with the same
    action up to ONE global phase.  (`D` = action of a single operation, arbitrary.) -/
theorem chain_sound {Op : Type} {n : Type} [Fintype n] [DecidableEq n] (D : Op → Option (Matrix n n R))
    (Good : Op → Prop) (rules : List (Rule Op)) (hr : ∀ r ∈ rules, r.Sound D Good) (ops out : List Op)
    (hg : ∀ op ∈ ops, Good op) (h : decomposeOperations rules ops = some out) (U : Matrix n n R)
    (hU : denoteBy D ops = some U) : ∃ U', denoteBy D out = some U' ∧ PhaseEq U U' :=
  ((phaseEq_rewrites D Good).decompose rules
    (fun r hr' op out hp hq hop =>
      let ⟨g, d⟩ := hr r hr' op (hop op (List.mem_singleton_self op)) hp out hq
      ⟨g, fun U hU => d U (by rwa [denoteBy_singleton] at hU)⟩) h hg).2 U hU

/-- **controlled U3, PARTIAL**: a U3(θ,φ,λ) with any number `c` of controls on any qubits, with
    e^{i(φ+λ)/2} = 1, acts EXACTLY as the three controlled rotations the rule produces.
    MISSING: e^{i(φ+λ)/2} ≠ 1, where the statement is false (`controlled_phase_necessary`). -/
theorem decompose_controlled_partial (E : Placement R ι) (k : Scal R) (hi : k.i * k.i = -1)
    (th ph la : Ang R) (hph : RealAng ph) (hla : RealAng la) (hone : ph.ehp k * la.ehp k = 1)
    (c : Nat) (qs : List Nat) (U : Matrix (BV ι) (BV ι) R)
    (hU : denote E k [.gate (.controlled (.mf "U3" [th, ph, la] none) c) qs] = some U) :
    denote E k [.gate (.controlled (rzGate la) c) qs, .gate (.controlled (ryGate th) c) qs,
                .gate (.controlled (rzGate ph) c) qs] = some U := by
  unfold denote at *
  rw [denoteBy_singleton] at hU
  obtain ⟨U', hU', rfl⟩ := denote_three E k (.controlled (rzGate la) c) (.controlled (ryGate th) c)
    (.controlled (rzGate ph) c) (ctrlMatrix c (Gates.u3 k th ph la)) (ctrlMatrix c (Gates.rz k la))
    (ctrlMatrix c (Gates.ry th)) (ctrlMatrix c (Gates.rz k ph)) (2 * 2 ^ c) hU (p := 1)
    ⟨rfl, rfl⟩ ⟨rfl, rfl, rfl⟩ ⟨rfl, rfl, rfl⟩ ⟨rfl, rfl, rfl⟩
    fun D hD => by rw [one_smul]; exact ctrl_u3_toM k hi th ph la hph.1 hla.1 hone c D hD
  rw [hU', one_smul]

/-- the bundled rule `U3GateToRotation` is sound, for every placement of qubit tuples, on the operations whose
    parameters are real angles, whose gates named "U3" are the built-in U3, and whose CONTROLLED U3s have
    e^{i(φ+λ)/2} = 1 (`U3Good`) -/
theorem u3_rule_sound (E : Placement R ι) (k : Scal R) (hi : k.i * k.i = -1) (hs : star k.i = -k.i) :
    (u3Rule : Rule (Operation (Ang R) R)).Sound (denoteOp E k) (U3Good k) := by
  intro op ⟨hreal, hbuiltin, hphase⟩ hpred out hprod
  cases op with
  | other t qs => cases hpred
  | gate g qs =>
    obtain ⟨th, ph, la, hps, hout⟩ := u3Production_eq_some hprod
    have hr : ∀ a ∈ [th, ph, la], RealAng a := hps ▸ hreal
    simp only [List.forall_mem_cons] at hr
    obtain ⟨hth, hph, hla, -⟩ := hr
    have hrz : ∀ a, RealAng a → _ := fun a ha => u3Good_rot k "RZ" a ha (by decide) qs
    have hry := u3Good_rot k "RY" th hth (by decide) qs
    rcases (u3_predicate_iff g qs).mp hpred with ⟨ps, m, rfl⟩ | ⟨ps, m, c, rfl⟩
    · obtain rfl : m = none := hbuiltin rfl
      obtain rfl : ps = [th, ph, la] := hps
      rcases hout with ⟨_, _, ⟨⟩, -⟩ | ⟨-, rfl⟩
      refine ⟨forall_mem_three (hrz la hla).1 hry.1 (hrz ph hph).1, fun U hU => ?_⟩
      obtain ⟨U', hU', rfl⟩ := u3_plain_sound E k th ph la (u3_plain k hi th ph la hph.1 hla.1) qs U hU
      exact ⟨U', hU', _, (realAng_phase k hi hs ph hph).mul (realAng_phase k hi hs la hla), rfl⟩
    · obtain rfl : m = none := hbuiltin rfl
      obtain rfl : ps = [th, ph, la] := hps
      rcases hout with ⟨_, _, ⟨⟩, -, rfl⟩ | ⟨⟨⟩, -⟩
      have hone := hphase rfl _ qs th ph la rfl rfl
      exact ⟨forall_mem_three ((hrz la hla).2 c) (hry.2 c) ((hrz ph hph).2 c),
        fun U hU => ⟨U, decompose_controlled_partial E k hi th ph la hph hla hone c qs U
          ((denoteBy_singleton _ _).trans hU), .refl U⟩⟩

/-- **Decomposing a circuit never changes what it does – PARTIAL.**
    For every register and placement of qubit tuples, every list of bundled rules (any length, including empty),
    every circuit (any gates, any number of plain or controlled U3s with any number of controls on any qubits,
    non-gate operations allowed in the operation list) with real angles: if the decomposition returns `out` and
    the circuit acts as `U`, then `out` acts as some `U'` with `U = p • U'` for ONE scalar `p` of modulus 1.
    MISSING for the full statement (and false of the code, see `controlled_phase_necessary`,
    `cu3_relative_phase`): controlled U3s with e^{i(φ+λ)/2} ≠ 1 – excluded by `hphase`.
    `hbuiltin` excludes custom gates that reuse the reserved name "U3". -/
theorem decompose_up_to_phase_partial (E : Placement R ι) (k : Scal R) (hi : k.i * k.i = -1)
    (hs : star k.i = -k.i) (rules : List (Rule (Operation (Ang R) R))) (hrules : ∀ r ∈ rules, r = u3Rule)
    (ops out : List (Operation (Ang R) R))
    (hreal : ∀ op ∈ ops, RealParams op) (hbuiltin : ∀ op ∈ ops, BuiltinU3 op)
    (hphase : ∀ op ∈ ops, CtrlPhaseTrivial k op)
    (h : decomposeOperations rules ops = some out) (U : Matrix (BV ι) (BV ι) R) (hU : denote E k ops = some U) :
    ∃ U', denote E k out = some U' ∧ PhaseEq U U' :=
  chain_sound (denoteOp E k) (U3Good k) rules
    (fun r hr => by rw [hrules r hr]; exact u3_rule_sound E k hi hs) ops out
    (fun op hop => ⟨hreal op hop, hbuiltin op hop, hphase op hop⟩) h U hU

/-- **circuits whose U3s are uncontrolled** (any number, any placement, among any other gates): the property
    holds in full – same action up to one global phase. -/
theorem decompose_plain_up_to_phase (E : Placement R ι) (k : Scal R) (hi : k.i * k.i = -1)
    (hs : star k.i = -k.i) (rules : List (Rule (Operation (Ang R) R))) (hrules : ∀ r ∈ rules, r = u3Rule)
    (ops out : List (Operation (Ang R) R))
    (hreal : ∀ op ∈ ops, RealParams op) (hbuiltin : ∀ op ∈ ops, BuiltinU3 op)
    (hplain : ∀ op ∈ ops, isCtrlU3 op = false)
    (h : decomposeOperations rules ops = some out) (U : Matrix (BV ι) (BV ι) R) (hU : denote E k ops = some U) :
    ∃ U', denote E k out = some U' ∧ PhaseEq U U' :=
  decompose_up_to_phase_partial E k hi hs rules hrules ops out hreal hbuiltin
    (fun op hop => ctrlPhaseTrivial_of_plain k (hplain op hop)) h U hU

omit [StarRing R] in
/-- **why the controlled case is only partial (F9)**: if the matrix of a U3(θ,φ,λ) with `c ≥ 1` controls is ANY
    scalar multiple of the product of the three controlled rotations the rule produces, then e^{i(φ+λ)/2} = 1.
    So for every controlled U3 with φ+λ ≢ 0 (mod 4π) the decomposed circuit differs from the original by a
    RELATIVE phase, in every commutative ring with i² = −1. -/
theorem controlled_phase_necessary (k : Scal R) (hi : k.i * k.i = -1) (th ph la : Ang R)
    (hth : th.ch * th.ch + th.sh * th.sh = 1) (hph : ph.ch * ph.ch + ph.sh * ph.sh = 1)
    (hla : la.ch * la.ch + la.sh * la.sh = 1) (c : Nat) (hc : 1 ≤ c) (p : R)
    (h : Mat.toM (2 * 2 ^ c) (2 * 2 ^ c) (ctrlMatrix c (Gates.u3 k th ph la)) =
      p • (Mat.toM (2 * 2 ^ c) (2 * 2 ^ c) (ctrlMatrix c (Gates.rz k ph)) *
           Mat.toM (2 * 2 ^ c) (2 * 2 ^ c) (ctrlMatrix c (Gates.ry th)) *
           Mat.toM (2 * 2 ^ c) (2 * 2 ^ c) (ctrlMatrix c (Gates.rz k la)))) :
    ph.ehp k * la.ehp k = 1 := by
  -- both sides are diag(1, ·) with a non-empty identity block: the 2 × 2 blocks are equal
  obtain ⟨o, e, ho, he⟩ := ctrlMatrix_block (R := R) c 2 _ rfl
  have hpos : 0 < o := by have := Nat.pow_le_pow_right (n := 2) (by decide) hc; omega
  rw [he _ rfl, he _ rfl, he _ rfl, he _ rfl, ← ctrlBlock_mul, ← ctrlBlock_mul] at h
  obtain ⟨-, hU⟩ := ctrlBlock_eq_smul e hpos h
  -- so U3 = e^{i(φ+λ)/2} • U3, by the identity of the plain gate; its first column is a unit vector up to units
  have hq := u3_plain k hi th ph la hph hla
  rw [← hU] at hq
  have e00 := congrFun (congrFun hq 0) 0
  have e10 := congrFun (congrFun hq 1) 0
  simp only [Gates.u3, C02.toM_m2, C02.eip_eq hi, Matrix.smul_apply, smul_eq_mul, Matrix.of_apply, Matrix.cons_val_zero,
    Matrix.cons_val_one] at e00 e10
  have h1 := C02.ehp_mul_ehm hi hph
  linear_combination (-(ph.ehp k * la.ehp k - 1)) * hth - th.ch * e00 - th.sh * ph.ehm k * ph.ehm k * e10 -
    (ph.ehp k * la.ehp k - 1) * th.sh * th.sh * (ph.ehp k * ph.ehm k + 1) * h1

end Action

section ComplexCorollary
variable {ι : Type} [Fintype ι] [DecidableEq ι]

/-- the circuit-level statement for real rotation angles in ℂ (uncontrolled U3s): the scalar is a complex number
    of modulus one, `p * conj p = 1`. -/
theorem decompose_plain_up_to_phase_complex (E : Placement ℂ ι) (n : Nat)
    (ops out : List (Operation (Ang ℂ) ℂ))
    (hreal : ∀ op ∈ ops, ∀ g qs, op = .gate g qs → ∀ a ∈ g.params, ∃ t : ℝ, a = angOfReal t)
    (hbuiltin : ∀ op ∈ ops, BuiltinU3 op) (hplain : ∀ op ∈ ops, isCtrlU3 op = false)
    (h : decomposeOperations (List.replicate n u3Rule) ops = some out) (U : Matrix (BV ι) (BV ι) ℂ)
    (hU : denote E scalC ops = some U) :
    ∃ (U' : Matrix (BV ι) (BV ι) ℂ) (p : ℂ), denote E scalC out = some U' ∧ p * star p = 1 ∧ U = p • U' := by
  obtain ⟨U', hU', p, hp, hpU⟩ := decompose_plain_up_to_phase E scalC scalC_ii scalC_star
    (List.replicate n u3Rule) (fun r hr => List.eq_of_mem_replicate hr) ops out
    (realParams_of (fun a ⟨t, ht⟩ => ht ▸ realAng_ofReal t) hreal) hbuiltin hplain h U hU
  exact ⟨U', p, hU', hp, hpU⟩

end ComplexCorollary

section FullStatement

/-- THE FULL-STRENGTH STATEMENT for controlled gates ("every general single-qubit rotation gate, plain or
    CONTROLLED (any number of controls) is replaced by a sequence that acts identically" up to one phase), at the
    level of gate matrices: for all real angles and every number `c ≥ 1` of controls the controlled U3 is a
    unit-modulus multiple of the product of the three controlled rotations the rule produces. -/
def ControlledRuleExact (R : Type) [CommRing R] [StarRing R] (k : Scal R) : Prop :=
  ∀ (th ph la : Ang R), RealAng th → RealAng ph → RealAng la → ∀ c : Nat, 1 ≤ c →
    ∃ p : R, IsPhase p ∧
      Mat.toM (2 * 2 ^ c) (2 * 2 ^ c) (ctrlMatrix c (Gates.u3 k th ph la)) =
        p • (Mat.toM (2 * 2 ^ c) (2 * 2 ^ c) (ctrlMatrix c (Gates.rz k ph)) *
             Mat.toM (2 * 2 ^ c) (2 * 2 ^ c) (ctrlMatrix c (Gates.ry th)) *
             Mat.toM (2 * 2 ^ c) (2 * 2 ^ c) (ctrlMatrix c (Gates.rz k la)))

/-- **F9: the full-strength statement is FALSE of the code** (over ℂ): CU3(0, π, 0) is a counterexample. -/
theorem controlled_rule_exact_false : ¬ ControlledRuleExact ℂ scalC := by
  intro h
  have r10 : RealAng (⟨1, 0⟩ : Ang ℂ) := by simpa using realAng_of_real 1 0 (by norm_num)
  have r01 : RealAng (⟨0, 1⟩ : Ang ℂ) := by simpa using realAng_of_real 0 1 (by norm_num)
  obtain ⟨p, _, hp⟩ := h ⟨1, 0⟩ ⟨0, 1⟩ ⟨1, 0⟩ r10 r01 r10 1 (le_refl 1)
  have := controlled_phase_necessary scalC scalC_ii ⟨1, 0⟩ ⟨0, 1⟩ ⟨1, 0⟩ r10.1 r01.1 r10.1 1 (le_refl 1) p hp
  simp only [Ang.ehp, scalC, mul_one, mul_zero, add_zero, zero_add] at this
  have him := congrArg Complex.im this
  simp at him

/-- the hypothesis of `controlled_phase_necessary` is satisfiable at a non-trivial point (two controls,
    φ = −λ = 2·atan(4/3), θ = 2·atan(12/5), p = 1) -/
example : ∃ p : ℂ,
    Mat.toM (2 * 2 ^ 2) (2 * 2 ^ 2) (ctrlMatrix 2 (Gates.u3 scalC a513 a35 a35n)) =
      p • (Mat.toM (2 * 2 ^ 2) (2 * 2 ^ 2) (ctrlMatrix 2 (Gates.rz scalC a35)) *
           Mat.toM (2 * 2 ^ 2) (2 * 2 ^ 2) (ctrlMatrix 2 (Gates.ry a513)) *
           Mat.toM (2 * 2 ^ 2) (2 * 2 ^ 2) (ctrlMatrix 2 (Gates.rz scalC a35n))) :=
  ⟨1, by rw [one_smul]; exact ctrl_u3_toM scalC scalC_ii a513 a35 a35n real_a35.1 real_a35n.1 phase_a35 2 _ rfl⟩

end FullStatement

section NonVacuity

/-- a 3-qubit register placed through `OQ.Spec.lift`; the circuit X(0); U3(θ,φ,λ)(0) with φ+λ ≠ 0;
    CU3(θ,φ,−φ)(0,1) at non-trivial rational points meets every hypothesis of `decompose_up_to_phase_partial`
    (with two rules), decomposes into 7 operations and has an action. -/
example : ∃ out U,
    (∀ op ∈ exOps, RealParams op) ∧ (∀ op ∈ exOps, BuiltinU3 op) ∧ (∀ op ∈ exOps, CtrlPhaseTrivial scalC op) ∧
    decomposeOperations [u3Rule, u3Rule] exOps = some out ∧ out.length = 7 ∧
    denote exPlacement scalC exOps = some U := by
  simp only [exOps, List.forall_mem_cons, List.not_mem_nil, false_imp_iff, implies_true, and_true, true_and,
    RealParams, Gate.params, BuiltinU3]
  refine ⟨_, _, ⟨⟨real_a513, real_a35, real_a513⟩, real_a513, real_a35, real_a35n⟩,
    ⟨nofun, nofun, fun _ g qs th ph la hg hps => ?_⟩, rfl, rfl, rfl⟩
  cases hg
  cases hps
  exact phase_a35

end NonVacuity

section Witness

/-- U3(0, π, 0) = Z with one control on qubits (0, 1): φ + λ = π -/
def cu3Witness : Circuit (Ang Cyc8) Cyc8 :=
  ⟨[.gate (.controlled (.mf "U3" [⟨1, 0⟩, ⟨0, 1⟩, ⟨1, 0⟩] none) 1) [0, 1]], 2⟩

/-- what the model (as the code) returns for it -/
def cu3WitnessOut : Circuit (Ang Cyc8) Cyc8 :=
  ⟨[.gate (.controlled (rzGate ⟨1, 0⟩) 1) [0, 1], .gate (.controlled (ryGate ⟨1, 0⟩) 1) [0, 1],
    .gate (.controlled (rzGate ⟨0, 1⟩) 1) [0, 1]], 2⟩

/-- **F9, negative witness**: the model reproduces the defect.  CU3(0,π,0) = diag(1,1,1,−1) decomposes into
    C-RZ(0), C-RY(0), C-RZ(π) whose product is diag(1,1,−i,i): the entries (0,0) agree (so a global phase would
    have to be 1) while the entries (3,3) are −1 and i. -/
theorem cu3_relative_phase :
    decomposeCircuit [u3Rule] cu3Witness = some cu3WitnessOut ∧
    ((circuitUnitary Scal.cyc8 cu3Witness).map (fun U => (U.get 0 0, U.get 3 3))
        = some ((1 : Cyc8), (-1 : Cyc8))) ∧
    ((circuitUnitary Scal.cyc8 cu3WitnessOut).map (fun U => (U.get 0 0, U.get 3 3))
        = some ((1 : Cyc8), Cyc8.I)) := by
  -- both circuits sit on the whole register: `to_unitary()` is the plain product of the 4 × 4 gate matrices
  refine ⟨rfl, ?_, ?_⟩
  · obtain ⟨U, hU, hget⟩ := Link.circuitUnitary_range Scal.cyc8 cu3Witness (by decide)
      (ctrlMatrix 1 (Gates.u3 Scal.cyc8 ⟨1, 0⟩ ⟨0, 1⟩ ⟨1, 0⟩)) [] rfl (by decide)
    rw [hU, Option.map_some, hget, hget]
    decide +kernel
  · obtain ⟨U, hU, hget⟩ := Link.circuitUnitary_range Scal.cyc8 cu3WitnessOut (by decide)
      (ctrlMatrix 1 (Gates.rz Scal.cyc8 ⟨0, 1⟩))
      [ctrlMatrix 1 (Gates.ry ⟨1, 0⟩), ctrlMatrix 1 (Gates.rz Scal.cyc8 ⟨1, 0⟩)] rfl (by decide)
    rw [hU, Option.map_some, hget, hget]
    decide +kernel

end Witness

end OQ.C18
