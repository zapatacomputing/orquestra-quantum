/- C09 — PROPERTY THEOREMS (translation ties): `utils.bin2dec` / `utils.dec2bin` (used by `get_pauliop_from_matrix`).
   The definitions `OQ.Generated.Translated.*` are REGENERATED from /repo's current Python source on every run
   (harness/translate.py → OQ/Generated/TranslatedC09.lean); an edit of the Python function changes the definition and
   these equalities stop checking at build time. -/
import OQ.Generated.TranslatedC09
import OQ.Lemmas.Translated
namespace OQ.C09
open OQ.Generated OQ.Py OQ.Tr

/-- TRANSLATION TIE: the loop of `bin2dec` (running power of two times the digits read from the END) regenerated from the
    current Python source computes the model's `bin2dec` (element 0 most significant), for EVERY list of digits. -/
theorem translated_bin2dec_eq (x : List Nat) :
    Translated.bin2dec (x.map Int.ofNat) = ((OQ.C09.bin2dec x : Nat) : Int) := by
  have h := fold_state (x.map Int.ofNat) x.length
  simp only [List.length_map] at h
  have h2 := congrArg Prod.fst h
  rw [littleEndianSum] at h2
  simp only at h2
  rw [← h2]
  unfold Translated.bin2dec
  simp only [Int.toNat_natCast, List.length_map]

/-- TRANSLATION TIE: `dec2bin(number, length)` regenerated from the current Python source (`bin`, slice, zero padding) is the
    model's `dec2bin` (digits most significant first, padded – never truncated – to `length`) whenever the `sys.exit` guard
    `2**length < number` does not fire. -/
theorem translated_dec2bin_eq (x len : Nat) (h : x ≤ 2 ^ len) :
    Translated.dec2bin (x : Int) (len : Int) = some ((OQ.C09.dec2bin x len).map Int.ofNat) := by
  -- `bin(x)[2:]`, read digit by digit, is the `bitLength x`-bit tuple of `x`
  have hdig : (OQ.Py.slice (OQ.Py.bin (x : Int)) 2 (((OQ.Py.bin (x : Int)).length : Nat) : Int)).map charDigit
      = (OQ.C04.bits (OQ.C09.bitLength x) x).map Int.ofNat := by
    rw [bin_ofNat, ← binDigits_eq_bits,
      ← map_charDigit_digitChar (binDigits x) fun d hd => Nat.lt_trans (binDigitsFuel_lt_two _ _ d hd) (by decide)]
    simp only [OQ.Py.slice, Int.toNat_natCast, List.take_length]; rfl
  unfold Translated.dec2bin
  rw [if_neg (by rw [Int.toNat_natCast, decide_eq_true_eq]; exact_mod_cast Nat.not_lt.2 h)]
  simp only [hdig, List.length_map, OQ.C04.bits_length, List.map_id', Nat.cast_lt, decide_eq_true_eq, dec2bin_eq_bits]
  split
  · rename_i hlt
    have hx : x < 2 ^ len := lt_of_lt_of_le (lt_two_pow_bitLength x) (Nat.pow_le_pow_right (by decide) hlt.le)
    -- the digits of `x` padded with zeros to `len ≥ 1` places are the `len`-bit tuple of `x`
    have hpad := OQ.C04.binDigitsFuel_pad len (by omega) x x hx le_rfl
    rw [← binDigitsFuel_eq, show binDigitsFuel x x = _ from binDigits_eq_bits x, OQ.C04.bits_length] at hpad
    rw [max_eq_left hlt.le, ← hpad, List.map_append, List.map_replicate, Int.toNat_sub]; rfl
  · rename_i hlt
    rw [max_eq_right (Nat.le_of_not_lt hlt)]

/-- END-TO-END ON THE CODE AS IT IS NOW: `bin2dec(dec2bin(x, length)) == x` for every `x ≤ 2**length`, and `dec2bin` returns at
    least `length` digits – the index arithmetic `f(j)` / `decode` of `get_pauliop_from_matrix` rests on exactly this. -/
theorem translated_bin2dec_dec2bin (x len : Nat) (h : x ≤ 2 ^ len) :
    ∃ l : List Nat, Translated.dec2bin (x : Int) (len : Int) = some (l.map Int.ofNat) ∧
      len ≤ l.length ∧ Translated.bin2dec (l.map Int.ofNat) = (x : Int) := by
  refine ⟨OQ.C09.dec2bin x len, translated_dec2bin_eq x len h, ?_, ?_⟩
  · rw [dec2bin_eq_bits, OQ.C04.bits_length]; exact le_max_left _ _
  · rw [translated_bin2dec_eq, bin2dec_dec2bin]

/-! non-vacuity -/
example : Translated.dec2bin 6 4 = some [0, 1, 1, 0] := by decide
example : Translated.dec2bin 17 4 = none := by decide
example : Translated.bin2dec [1, 1, 0] = 6 := by decide
end OQ.C09
