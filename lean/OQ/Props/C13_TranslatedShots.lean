/- C13 — PROPERTY THEOREMS (translation ties): `utils.scale_and_discretize` and
   `Measurements.get_measurements_representing_distribution`.  The definitions `OQ.Generated.Translated.*` are REGENERATED from /repo's
   current Python source on every run (harness/translate_t14.py → OQ/Generated/TranslatedC13.lean); an edit of a Python function changes
   its definition and the equalities below stop checking at build time.

   Reading of the translated definitions (harness/translate_t14.py / translate_t4.py have the details):
   * `Except.error c` = the Python call raises an exception of class `c` (`zeroDiv`, `index`, `value`, `runtime`, …); a failed `assert`
     is rendered as `runtime` (`Exc4` has no AssertionError; `scale_and_discretize` raises no RuntimeError of its own);
   * a Python float is a value of the abstract numeric type `ν` (here `ℚ`): FLOAT ROUNDING IS NOT MODELLED;
   * numpy / builtin float operations (`np.floor`, `np.argsort`, `round`, `int`, `%`) and the random stage
     (`sample_from_probability_distribution`, `_check_sample_elimination`) are PARAMETERS of the definitions; the laws assumed of them
     are hypotheses of the theorems and are named in each docstring;
   * outcomes are tuples of ints (`List Int`), dictionaries / Counters insertion-ordered association lists. -/
import OQ.Lemmas.C13_TranslatedShots
import OQ.Props.C13
namespace OQ.C13
open OQ.Py OQ.Generated

/-- TRANSLATION TIE: `utils.scale_and_discretize(values, total)` regenerated from the current Python source (harness/translate_t14.py →
    OQ/Generated/TranslatedC13.lean; `np.floor`, `np.argsort`, `round`, `int` are PARAMETERS of the definition) IS the model's
    `scaleAndDiscretize`, run with the order `np.argsort(remainders)[::-1]` – for EVERY list of exact values whose sum is not 0 and every
    int total (negative totals and negative values included).  In particular none of the loop's two index operations raises and the
    final `assert sum(result) == total` never fires (the result is `.ok …`).
    Externals as instantiated: `np.floor q = ⌊q⌋`; `round` / `int` are ANY functions that fix the integers (`round(k.0) = k`,
    `int(k.0) = k`: only ever applied to integral values here); `np.argsort` is ANY function whose answer on the remainders has one
    in-range index per value (law of argsort: a permutation of `range(len)`; which permutation – the tie order – is free).
    Excluded: `sum(values) == 0` (`ZeroDivisionError`: next theorem).  Float rounding is not modelled (`ν = ℚ`). -/
theorem translated_scale_and_discretize_eq (argsort : List Rat → List Int) (round toInt : Rat → Int)
    (hround : ∀ k : Int, round (k : Rat) = k) (hint : ∀ k : Int, toInt (k : Rat) = k)
    (values : List Rat) (total : Int) (hs : values.sum ≠ 0)
    (hrange : ∀ i ∈ argsort (shareRemainders values total), 0 ≤ i ∧ i < values.length)
    (hlen : (argsort (shareRemainders values total)).length = values.length) :
    Translated.scale_and_discretize npFloor argsort round toInt values total =
      .ok (scaleAndDiscretize values total (bumpOrder argsort values total)) := by
  have hne : values ≠ [] := by rintro rfl; simp at hs
  have hk : (total - (shareFloors values total).sum).toNat ≤ (argsort (shareRemainders values total)).reverse.length := by
    have := leftover_bounds values total hs hne
    rw [List.length_reverse, hlen]; omega
  have hr : ∀ i ∈ (argsort (shareRemainders values total)).reverse.take (total - (shareFloors values total).sum).toNat,
      0 ≤ i ∧ i < ((shareFloors values total).length : Int) := fun i hi => by
    rw [shareFloors_length]; exact hrange i (List.mem_reverse.mp (List.mem_of_mem_take hi))
  have hsum := scale_sum values total (bumpOrder argsort values total) hs hne (bumpOrder_lt argsort values total hrange)
    (by rw [bumpOrder_length, hlen])
  unfold Translated.scale_and_discretize
  simp only [sumNum_rat, rat_cast, divE_rat _ _ hs, bind_ok, rat_mul, rat_sub, rat_add]
  -- the floors, the remainders and the number of left-over units are the model's; the loop is its fold of `bumpAt`
  rw [show values.map (fun v => npFloor (v * ((total : Rat) / values.sum))) = castL (shareFloors values total) by
        rw [castL, shareFloors, List.map_map]; rfl,
      show values.map (fun v => v * ((total : Rat) / values.sum) - npFloor (v * ((total : Rat) / values.sum)))
        = shareRemainders values total from rfl,
      castL_sum, ← Int.cast_sub, hround, foldlE_range_index _ _ _ _ hk, foldlE_bump _ _ hr, List.map_take, bind_ok]
  change (mapE _ (castL (scaleAndDiscretize values total (bumpOrder argsort values total)))).bind _ = _
  -- `int()` gives the integers back, and the final `assert` holds by `scale_sum`
  rw [mapE_toInt_castL toInt hint, bind_ok, py_sum_eq, hsum, beq_self_eq_true, if_pos rfl]

/-- … and when the values sum to 0 the translated code raises `ZeroDivisionError` (Python floats / ints; with numpy scalars the
    quotient would be `inf`, which is outside the modelled domain). -/
theorem translated_scale_and_discretize_zero (floor : Rat → Rat) (argsort : List Rat → List Int) (round toInt : Rat → Int)
    (values : List Rat) (total : Int) (hs : values.sum = 0) :
    Translated.scale_and_discretize floor argsort round toInt values total = .error .zeroDiv := by
  unfold Translated.scale_and_discretize
  rw [sumNum_rat, hs]; rfl

/-- END-TO-END on the translated code ("`scale_and_discretize` returns integers that sum exactly to the total", `scale_sum`): under the
    hypotheses of the tie the regenerated `scale_and_discretize` returns a list of `len(values)` integers whose sum is `total`. -/
theorem translated_scale_sum (argsort : List Rat → List Int) (round toInt : Rat → Int)
    (hround : ∀ k : Int, round (k : Rat) = k) (hint : ∀ k : Int, toInt (k : Rat) = k)
    (values : List Rat) (total : Int) (hs : values.sum ≠ 0)
    (hrange : ∀ i ∈ argsort (shareRemainders values total), 0 ≤ i ∧ i < values.length)
    (hlen : (argsort (shareRemainders values total)).length = values.length) :
    ∃ r, Translated.scale_and_discretize npFloor argsort round toInt values total = .ok r ∧ r.sum = total ∧
      r.length = values.length := by
  have hne : values ≠ [] := by rintro rfl; simp at hs
  refine ⟨_, translated_scale_and_discretize_eq argsort round toInt hround hint values total hs hrange hlen, ?_, ?_⟩
  · exact scale_sum values total _ hs hne (bumpOrder_lt argsort values total hrange) (by rw [bumpOrder_length, hlen])
  · rw [scaleAndDiscretize, foldl_bump_length, shareFloors_length]

/-- END-TO-END on the translated code ("each within one of its share", `scale_within_one`): when `np.argsort` answers with a
    permutation (distinct indices), every returned integer is the floor of its proportional share `values[j] * total / sum(values)` or
    one more, hence differs from the share by at most 1. -/
theorem translated_scale_within_one (argsort : List Rat → List Int) (round toInt : Rat → Int)
    (hround : ∀ k : Int, round (k : Rat) = k) (hint : ∀ k : Int, toInt (k : Rat) = k)
    (values : List Rat) (total : Int) (hs : values.sum ≠ 0)
    (hrange : ∀ i ∈ argsort (shareRemainders values total), 0 ≤ i ∧ i < values.length)
    (hlen : (argsort (shareRemainders values total)).length = values.length)
    (hnodup : (argsort (shareRemainders values total)).Nodup)
    (j : Nat) (hj : j < values.length) :
    ∃ r, Translated.scale_and_discretize npFloor argsort round toInt values total = .ok r ∧
      (r.getD j 0 = ⌊values.getD j 0 * ((total : Rat) / values.sum)⌋ ∨
       r.getD j 0 = ⌊values.getD j 0 * ((total : Rat) / values.sum)⌋ + 1) ∧
      |((r.getD j 0 : Int) : Rat) - values.getD j 0 * ((total : Rat) / values.sum)| ≤ 1 := by
  exact ⟨_, translated_scale_and_discretize_eq argsort round toInt hround hint values total hs hrange hlen,
    scale_within_one values total _ (bumpOrder_nodup argsort values total hrange hnodup) j hj⟩

/-- TRANSLATION TIE: `Measurements.get_measurements_representing_distribution(distribution, number_of_samples)` regenerated from the
    current Python source – the rounding loop, the guard `len != number_of_samples`, the leftover-distribution comprehension handed to the
    constructor `MeasurementOutcomeDistribution(…, True)` (the TRANSLATED `mod_init` of C17), the top-up loop and the elimination double
    loop with `list.remove` – IS the model's `representing`:
      * when the rounded shots already number `n` the result is the rounding stage `roundedSamples`;
      * otherwise the constructor runs on the leftover weights `0.5 - |0.5 - (p·n) % 1|` (it may raise: the exception is the result),
        and with its dictionary `L` the result is `representing dist n extra`, `extra` being what the random stage handed over
        (`drawn`: the sampler's Counter when shots are added, `_check_sample_elimination`'s when shots are removed; a count `c ≤ 0` stands
        for no shot, as `[x] * c` and `range(c)` do).
    EVERY distribution dictionary (distinct keys – it is a dict), every int `n`, every `isclose` / `float_min` / `%`.
    Externals (parameters): `round` is instantiated with the exact half-to-even rounding; `sample_from_probability_distribution` and
    `_check_sample_elimination` are arbitrary functions returning dicts (distinct keys) – the latter with the law its docstring states:
    it only keeps outcomes that are present often enough in the shot list (otherwise `list.remove` would raise ValueError). -/
theorem translated_representing_eq (isclose : Rat → Rat → Bool) (fmin : Rat) (fmod : Rat → Rat → Rat)
    (sample : Dict Outcome Rat → Int → Dict Outcome Int)
    (elim : Dict Outcome Int → List Outcome → Dict Outcome Rat → Dict Outcome Int)
    (dist : Dict Outcome Rat) (n : Int)
    (hd : (dictKeys dist).Nodup)
    (hs : ∀ L k, (dictKeys (sample L k)).Nodup)
    (he : ∀ s b L, (dictKeys (elim s b L)).Nodup ∧ ∀ p ∈ elim s b L, p.2.toNat ≤ b.count p.1) :
    Translated.get_measurements_representing_distribution isclose fmin roundHalfEven fmod sample elim dist n =
      if ((roundedSamples dist n).length : Int) = n then .ok (roundedSamples dist n)
      else (Translated.mod_init isclose fmin (dictTupKeys (leftoverDict fmod dist n)) true).bind (fun L =>
        .ok (representing dist n (toExtra (drawn sample elim dist n L)))) := by
  unfold Translated.get_measurements_representing_distribution
  simp only [mapE_ok_id, bind_ok, rat_mul, rat_cast, rat_sub, rat_div, Translated.measurements_init, Int.cast_one, Int.cast_ofNat,
    List.flatten_replicate_singleton]
  rw [foldlE_keys dist hd, foldlE_pure, foldl_append_flatMap, bind_ok, List.nil_append,
    show dist.flatMap (fun p => List.replicate (roundHalfEven (p.2 * (n : Rat))).toNat p.1) = roundedSamples dist n from rfl]
  by_cases hlen : ((roundedSamples dist n).length : Int) = n
  · rw [if_pos hlen, if_neg (by simpa using hlen)]
  · rw [if_neg hlen, if_pos (by simpa using hlen), foldlE_keys dist hd, foldlE_pure, foldl_dictSet_fresh _ dist [] hd, bind_ok]
    change (Translated.mod_init isclose fmin (dictTupKeys (leftoverDict fmod dist n)) true).bind _ = _
    congr 1; funext L
    by_cases hpos : n - ((roundedSamples dist n).length : Int) > 0
    · -- shots are added: the sampler's draw, each outcome as often as drawn
      simp only [hpos, decide_true, if_true]
      rw [foldlE_keys _ (hs L _), foldlE_pure, foldl_append_flatMap, bind_ok, representing, if_neg hlen, if_pos (by omega),
        drawn, if_pos hpos, toExtra, List.flatMap_map]
    · -- shots are removed: the corrected draw, present often enough for every `remove` to succeed
      simp only [hpos, decide_false, Bool.false_eq_true, if_false]
      obtain ⟨e1, e2⟩ := he (sample L (absInt (n - ((roundedSamples dist n).length : Int)))) (roundedSamples dist n) L
      rw [foldlE_eliminate _ e1 _ e2, bind_ok, representing, if_neg hlen, if_neg (by omega), drawn, if_neg hpos]

/-- END-TO-END on the translated code ("exactly the requested number of shots", `representing_length`): whenever the regenerated
    function returns, it returns `n` shots – provided the random stage hands over exactly `|n − len|` draws (law of
    `np.random.choice(size=…)`, kept by `_check_sample_elimination`). -/
theorem translated_representing_length (isclose : Rat → Rat → Bool) (fmin : Rat) (fmod : Rat → Rat → Rat)
    (sample : Dict Outcome Rat → Int → Dict Outcome Int)
    (elim : Dict Outcome Int → List Outcome → Dict Outcome Rat → Dict Outcome Int)
    (dist : Dict Outcome Rat) (n : Int)
    (hd : (dictKeys dist).Nodup)
    (hs : ∀ L k, (dictKeys (sample L k)).Nodup)
    (he : ∀ s b L, (dictKeys (elim s b L)).Nodup ∧ ∀ p ∈ elim s b L, p.2.toNat ≤ b.count p.1)
    (hdraw : ∀ L, (extraTotal (toExtra (drawn sample elim dist n L)) : Int) = |n - (roundedSamples dist n).length|)
    (r : List Outcome)
    (h : Translated.get_measurements_representing_distribution isclose fmin roundHalfEven fmod sample elim dist n = .ok r) :
    (r.length : Int) = n := by
  rw [translated_representing_eq isclose fmin fmod sample elim dist n hd hs he] at h
  exact ok_of_ite_bind (fun (r : List Outcome) => (r.length : Int) = n) id (fun _ L =>
    have hx := toExtra_drawn sample elim dist n L hs he
    length_representing dist n _ (hdraw L) hx.1 hx.2) h

/-- END-TO-END on the translated code ("all on the support", `representing_support`): for `n > 0`, whenever the regenerated function
    returns, every returned shot is an outcome of positive probability – provided the random stage only draws outcomes of the support
    (law of `rng.choice`: never an outcome of weight 0). -/
theorem translated_representing_support (isclose : Rat → Rat → Bool) (fmin : Rat) (fmod : Rat → Rat → Rat)
    (sample : Dict Outcome Rat → Int → Dict Outcome Int)
    (elim : Dict Outcome Int → List Outcome → Dict Outcome Rat → Dict Outcome Int)
    (dist : Dict Outcome Rat) (n : Int) (hn : 0 < n)
    (hd : (dictKeys dist).Nodup)
    (hs : ∀ L k, (dictKeys (sample L k)).Nodup)
    (he : ∀ s b L, (dictKeys (elim s b L)).Nodup ∧ ∀ p ∈ elim s b L, p.2.toNat ≤ b.count p.1)
    (hsupp : ∀ L, ∀ p ∈ drawn sample elim dist n L, 0 < p.2 → ∃ q ∈ dist, q.1 = p.1 ∧ 0 < q.2)
    (r : List Outcome)
    (h : Translated.get_measurements_representing_distribution isclose fmin roundHalfEven fmod sample elim dist n = .ok r) :
    ∀ x ∈ r, ∃ q ∈ dist, q.1 = x ∧ 0 < q.2 := by
  rw [translated_representing_eq isclose fmin fmod sample elim dist n hd hs he] at h
  refine ok_of_ite_bind (fun (r : List Outcome) => ∀ x ∈ r, ∃ q ∈ dist, q.1 = x ∧ 0 < q.2) (fun _ => roundedSamples_support dist n hn)
    (fun _ L => ?_) h
  have hx := toExtra_drawn sample elim dist n L hs he
  refine support_representing dist n hn _ hx.1 hx.2 (fun p hp hpos => ?_)
  obtain ⟨q, hq, rfl⟩ := List.mem_map.mp hp
  exact hsupp L q hq (by simp only at hpos; omega)

/-! non-vacuity: the TRANSLATED definitions on concrete inputs (externals instantiated as in the ties) -/
example : Translated.scale_and_discretize npFloor (fun _ => [0, 1, 2]) roundHalfEven (fun q => q.floor) [1, 2, 4] 10 = .ok [1, 3, 6] := by
  decide +kernel
example : Translated.scale_and_discretize npFloor (fun _ => [2, 0, 1]) roundHalfEven (fun q => q.floor) [1/2, 1/2, 1/4] 7 = .ok [3, 3, 1] := by
  decide +kernel
example : Translated.scale_and_discretize npFloor (fun _ => [0, 1]) roundHalfEven (fun q => q.floor) [1, -1] 3 = .error .zeroDiv := by
  decide +kernel
-- an `argsort` that breaks its law (index out of range) makes the code raise IndexError
example : Translated.scale_and_discretize npFloor (fun _ => [0, 1, 5]) roundHalfEven (fun q => q.floor) [1, 2, 4] 10 = .error .index := by
  decide +kernel
/-- the hypotheses of `translated_scale_and_discretize_eq` are met by the first input -/
example : ([1, 2, 4] : List Rat).sum ≠ 0 ∧ (∀ i ∈ ([0, 1, 2] : List Int), 0 ≤ i ∧ i < (([1, 2, 4] : List Rat).length : Int)) := by
  refine ⟨by decide +kernel, by decide⟩
-- 3 shots from {0: 1/2, 1: 1/2}: rounding 3/2 half-to-even gives 2 + 2 = 4 shots, one is eliminated
example : Translated.get_measurements_representing_distribution ratIsClose (1 / (2 : Rat) ^ 1022) roundHalfEven
    (fun a b => a - b * ((a / b).floor : Rat)) (fun _ _ => [([1], 1)]) (fun s _ _ => s) [([0], 1/2), ([1], 1/2)] 3 =
    .ok [[0], [0], [1]] := by decide +kernel
-- 1 shot from the same distribution: rounding gives none (1/2 → 0), one is added
example : Translated.get_measurements_representing_distribution ratIsClose (1 / (2 : Rat) ^ 1022) roundHalfEven
    (fun a b => a - b * ((a / b).floor : Rat)) (fun _ _ => [([1], 1)]) (fun s _ _ => s) [([0], 1/2), ([1], 1/2)] 1 =
    .ok [[1]] := by decide +kernel
-- consistent frequencies: no random stage
example : Translated.get_measurements_representing_distribution ratIsClose (1 / (2 : Rat) ^ 1022) roundHalfEven
    (fun a b => a - b * ((a / b).floor : Rat)) (fun _ _ => []) (fun s _ _ => s) [([0, 1], 1/4), ([1, 1], 3/4)] 4 =
    .ok [[0, 1], [1, 1], [1, 1], [1, 1]] := by decide +kernel
-- an elimination Counter that breaks its law (outcome not present) makes `list.remove` raise ValueError
example : Translated.get_measurements_representing_distribution ratIsClose (1 / (2 : Rat) ^ 1022) roundHalfEven
    (fun a b => a - b * ((a / b).floor : Rat)) (fun _ _ => [([7], 1)]) (fun s _ _ => s) [([0], 1/2), ([1], 1/2)] 3 =
    .error .value := by decide +kernel

end OQ.C13
