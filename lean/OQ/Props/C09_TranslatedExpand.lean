/- C09 — PROPERTY THEOREMS (translation ties, work package T12): the helper functions NESTED in
   `operators/_utils.get_pauliop_from_matrix` — `decode`, `trace_product`, and inside it `f` (row of the non-zero element of a Pauli
   string in column j) and `nz` (its value) — regenerated on every run from the current Python source (each nested `def` with the
   variables it closes over, `n`, `label_vec`, `operator`, as leading parameters), equal the hand-written model
   `OQ.C09.decode` / `fIdx` / `nz` / `traceProduct`, the definitions `pauli_expansion_roundtrip_partial` is proved about.

   Scalars are opaque in the translated code: the literals `1.0`, `0.0`, `1j` and the operations `-x`, `x*y`, `x*int`, `x+y`, `x/int`
   are PARAMETERS.  The ties instantiate them in a commutative ring `R` with the constants of the model's `Scal R` record
   (`1`, `0`, `k.i`) and ring operations; `x / 2**n` is `x * halfPow k n` (the model's rendering of the division by `2**n`).
   Domain: `n ≥ 1` qubits (for the 1×1 matrix `get_pauliop_from_matrix` raises in `decode`: `pauli_expansion_fails_1x1`),
   column index `j < 2^n`, any label vector. -/
import OQ.Generated.TranslatedC09
import OQ.Lemmas.TranslatedT12
import OQ.Props.C09_Translated
import OQ.Lemmas.C09_Expand
namespace OQ.C09
open OQ OQ.Generated OQ.Py OQ.T12

private theorem getD_map_ofNat (l : List Nat) (i : Nat) : (l.map Int.ofNat).getD i 0 = ((l.getD i 0 : Nat) : Int) := by
  rw [List.getD_eq_getElem?_getD, List.getD_eq_getElem?_getD, List.getElem?_map]
  cases l[i]? <;> rfl

/-- TRANSLATION TIE: the nested `decode(bit_string)` regenerated from the current source is the model's `decode`: label `i` is
    the number read from the two bits `2i, 2i+1`; a bit string whose length is not `2n` raises.  Every `n`, every bit list. -/
theorem translated_pauli_decode_eq (n : Nat) (bits : List Nat) :
    Translated.pauli_decode (n : Int) (bits.map Int.ofNat) =
      if bits.length = 2 * n then some ((decode n bits).map Int.ofNat) else none := by
  have hg : (((bits.map Int.ofNat).length : Nat) : Int) = 2 * (n : Int) ↔ bits.length = 2 * n := by
    rw [List.length_map]; omega
  unfold Translated.pauli_decode
  simp only [bne_iff_ne, ne_eq, hg, ite_not]
  refine ite_congr rfl (fun h => congrArg some ?_) fun _ => rfl
  -- round `i` of the loop writes entry `i` only, and what it writes does not depend on the list
  have key := foldl_pointwise_eq_map (0 : Int)
    (fun (st : List Int) (i : Nat) => st.set (Int.toNat (i : Int))
      (Translated.bin2dec (OQ.Py.slice (bits.map Int.ofNat) ((2 : Int) * (i : Int)) ((2 : Int) * (i : Int) + 2))))
    (fun i _ => Translated.bin2dec (OQ.Py.slice (bits.map Int.ofNat) ((2 : Int) * (i : Int)) ((2 : Int) * (i : Int) + 2)))
    (by intro st i; simp)
    (by intro st i k hk; simp [List.getD_eq_getElem?_getD, Ne.symm hk])
    (by intro st i hi; simp [List.getD_eq_getElem?_getD, hi])
    (List.replicate (Int.toNat (n : Int)) (0 : Int))
  rw [List.length_replicate, Int.toNat_natCast] at key
  rw [foldl_range_int, Int.toNat_natCast, key, decode, List.map_map]
  refine List.map_congr_left fun i hi => ?_
  have hi' := List.mem_range.1 hi
  -- the slice `bit_string[2i : 2i+2]` is the two bits `2i`, `2i+1`
  rw [OQ.Py.slice, show ((2 : Int) * (i : Int) + 2).toNat = 2 * i + 2 by omega, show ((2 : Int) * (i : Int)).toNat = 2 * i by omega,
    ← List.map_take, ← List.map_drop, take_drop_two 0 bits (2 * i) (by omega), translated_bin2dec_eq]
  rfl

/-- TRANSLATION TIE: the nested `f(j)` regenerated from the current source is the model's `fIdx`: the binary digits of `j`
    (`dec2bin(j, n)`, itself translated) with the bit flipped at every position whose label is X (1) or Y (2), read back with
    `bin2dec`.  Domain: `n ≥ 1`, `j < 2^n` (the columns `trace_product` loops over), any label vector. -/
theorem translated_pauli_f_eq (n : Nat) (label : List Nat) (j : Nat) (hn : 1 ≤ n) (hj : j < 2 ^ n) :
    Translated.pauli_f (n : Int) (label.map Int.ofNat) (j : Int) = some ((fIdx n label j : Nat) : Int) := by
  unfold Translated.pauli_f
  rw [translated_dec2bin_eq j n (le_of_lt hj)]
  simp only
  rw [foldl_range_int]
  have hl : ((dec2bin j n).map Int.ofNat).length = n := by rw [List.length_map, dec2bin_length j n hn hj]
  have key := foldl_pointwise_eq_map (0 : Int)
    (fun (st : List Int) (i : Nat) =>
      if ([(1 : Int), (2 : Int)].contains ((label.map Int.ofNat).getD (Int.toNat (i : Int)) 0)) = true then
        st.set (Int.toNat (i : Int)) (if (st.getD (Int.toNat (i : Int)) 0 == 0) = true then (1 : Int) else (0 : Int))
      else st)
    (fun i v => if ([(1 : Int), (2 : Int)].contains ((label.map Int.ofNat).getD i 0)) = true then
        (if (v == 0) = true then (1 : Int) else (0 : Int)) else v)
    (by intro st i; split <;> simp)
    (by intro st i k hk; split <;> simp [List.getD_eq_getElem?_getD, Ne.symm hk])
    (by intro st i hi; simp only [Int.toNat_natCast]; split <;> simp [List.getD_eq_getElem?_getD, hi])
    ((dec2bin j n).map Int.ofNat)
  rw [hl] at key
  rw [key]
  have hmap : (List.range n).map (fun i =>
        if ([(1 : Int), (2 : Int)].contains ((label.map Int.ofNat).getD i 0)) = true then
          (if (((dec2bin j n).map Int.ofNat).getD i 0 == 0) = true then (1 : Int) else (0 : Int))
        else ((dec2bin j n).map Int.ofNat).getD i 0)
      = ((List.range n).map (fun idx =>
          let b := (dec2bin j n).getD idx 0
          if label.getD idx 0 = 1 ∨ label.getD idx 0 = 2 then (if b = 0 then 1 else 0) else b)).map Int.ofNat := by
    rw [List.map_map]
    apply List.map_congr_left
    intro i _
    have h2 : ∀ l : Nat, (l : Int) = 2 ↔ l = 2 := fun l => by omega
    simp only [getD_map_ofNat, Function.comp, List.contains_cons, List.contains_nil, Bool.or_false, Bool.or_eq_true, beq_iff_eq,
      h2, Nat.cast_eq_one, Nat.cast_eq_zero, Int.ofNat_eq_natCast, Nat.cast_ite, Nat.cast_one, Nat.cast_zero]
  rw [hmap, translated_bin2dec_eq]
  rfl

section Scalars
variable {R : Type} [CommRing R]

/-- `x * int` read in the ring -/
def mulInt (v : R) (z : Int) : R := v * (z : R)

/-- TRANSLATION TIE: the nested `nz(j)` regenerated from the current source is the model's `nz`: the product over the qubits of
    `i` / `-i` (label Y, bit 0 / 1) and `-1` (label Z, bit 1), starting from `1.0`.  Scalars: literals `1.0 := 1`, `1j := k.i`,
    ring operations.  Domain: `n ≥ 1`, `j < 2^n`, any label vector. -/
theorem translated_pauli_nz_eq (k : Scal R) (n : Nat) (label : List Nat) (j : Nat) (hn : 1 ≤ n) (hj : j < 2 ^ n) :
    Translated.pauli_nz (1 : R) k.i (fun x => -x) (fun x y => x * y) mulInt (n : Int) (label.map Int.ofNat) (j : Int)
      = some (nz k n label j) := by
  unfold Translated.pauli_nz
  rw [translated_dec2bin_eq j n (le_of_lt hj)]
  simp only
  rw [foldl_range_int]
  congr 1
  unfold nz
  apply foldl_range_congr
  intro v idx hidx
  have hb : (dec2bin j n).getD idx 0 < 2 := by
    rw [dec2bin_getD j n idx hn hj hidx]; exact mod_two_lt _
  simp only [Int.toNat_natCast, getD_map_ofNat, mulInt]
  generalize label.getD idx 0 = l at *
  generalize (dec2bin j n).getD idx 0 = b at *
  have hb' : b = 0 ∨ b = 1 := by omega
  by_cases h2 : l = 2
  · subst h2
    rcases hb' with rfl | rfl <;> simp
  · by_cases h3 : l = 3
    · subst h3
      rcases hb' with rfl | rfl <;> simp
    · have e2 : ((l : Int) == 2) = false := beq_false_of_ne (by omega)
      have e3 : ((l : Int) == 3) = false := beq_false_of_ne (by omega)
      simp [h2, h3, e2, e3]

theorem fIdx_lt (n : Nat) (label : List Nat) (j : Nat) (hn : 1 ≤ n) (hj : j < 2 ^ n) : fIdx n label j < 2 ^ n := by
  rw [fIdx_eq n label j hn hj]; exact partner_lt _ n j hj

private theorem toLists_getElem? (A : Mat R) (i : Nat) (hi : i < A.r) :
    A.toLists[i]? = some ((List.range A.c).map (fun c => A.get i c)) := by
  unfold Mat.toLists
  rw [List.getElem?_map, List.getElem?_range hi]
  rfl

/-- the division of `trace_product` by `2**n`, read as the model reads it (`halfPow k n` = (1/2)^n) -/
def divPow2 (k : Scal R) (x : R) (z : Int) : R := x * halfPow k (Nat.log2 z.toNat)

/-- TRANSLATION TIE: the nested `trace_product(label_vec)` regenerated from the current source — the loop over the columns `j` of
    `operator[j][f(j)] * nz(j)` (calling the translated `f` and `nz`), divided by `2**n` — is the model's `traceProduct`, for every
    `2^n × 2^n` matrix (given to the code as its list of rows), `n ≥ 1`, any label vector.  Scalars as in `translated_pauli_nz_eq`,
    `0.0 := 0`, `x / 2**n := x * (1/2)^n`. -/
theorem translated_pauli_trace_product_eq (k : Scal R) (n : Nat) (A : Mat R) (label : List Nat) (hn : 1 ≤ n)
    (hr : A.r = 2 ^ n) (hc : A.c = 2 ^ n) :
    Translated.pauli_trace_product (1 : R) k.i (fun x => -x) (fun x y => x * y) mulInt (0 : R) (fun x y => x + y) (divPow2 k)
        (n : Int) A.toLists (label.map Int.ofNat) = some (traceProduct k n A label) := by
  unfold Translated.pauli_trace_product
  have e : ((2 : Int) ^ (Int.toNat (n : Int))).toNat = 2 ^ n := by
    have : ((2 : Int) ^ (Int.toNat (n : Int))) = ((2 ^ n : Nat) : Int) := by push_cast; simp
    rw [this]; omega
  simp only [Int.sub_zero, e]
  rw [foldlOpt_eq_foldl _ (fun (tr : R) (j : Int) => tr + A.get j.toNat (fIdx n label j.toNat) * nz k n label j.toNat)]
  · simp only
    congr 1
    unfold traceProduct divPow2
    rw [e, Nat.log2_two_pow]
    congr 1
    unfold sumTo
    rw [List.foldl_map]
    apply congrArg (fun g => List.foldl g (0 : R) (List.range (2 ^ n)))
    funext acc j
    simp
  · intro st x hx
    obtain ⟨j, hjm, rfl⟩ := List.mem_map.1 hx
    have hj : j < 2 ^ n := List.mem_range.1 hjm
    have hx0 : (0 : Int) + Int.ofNat j = (j : Int) := by simp
    simp only [hx0, Int.toNat_natCast]
    rw [toLists_getElem? A j (by omega), translated_pauli_f_eq n label j hn hj, translated_pauli_nz_eq k n label j hn hj]
    simp only [Int.toNat_natCast]
    have hf := fIdx_lt n label j hn hj
    rw [List.getElem?_map, List.getElem?_range (by omega)]
    rfl

/-- END-TO-END (the trace formula of the expansion, `Lemmas/C09_Expand.traceProduct_eq`, on the TRANSLATED `trace_product`): what the
    code computes for a label vector is `2^{-n} · Σ_j A[j, partner(j)] · entry(j)` — the trace `tr(A·P)/2^n` with the Pauli string `P`
    of the label, the coefficient `pauli_expansion_roundtrip_partial` sums up. -/
theorem translated_trace_product_is_trace (k : Scal R) (n : Nat) (A : Mat R) (label : List Nat) (hn : 1 ≤ n)
    (hr : A.r = 2 ^ n) (hc : A.c = 2 ^ n) :
    Translated.pauli_trace_product (1 : R) k.i (fun x => -x) (fun x y => x * y) mulInt (0 : R) (fun x y => x + y) (divPow2 k)
        (n : Int) A.toLists (label.map Int.ofNat)
      = some (TP k n A.get (fun q => letterOf (label.getD q 0)) * k.half ^ n) := by
  rw [translated_pauli_trace_product_eq k n A label hn hr hc, traceProduct_eq k n A label hn]

end Scalars

/-! ### Non-vacuity: the TRANSLATED definitions on concrete inputs -/
example : Translated.pauli_decode 2 [0, 1, 1, 1] = some [1, 3] := by decide
example : Translated.pauli_decode 2 [0, 1, 1] = none := by decide
example : Translated.pauli_decode 0 [0] = none := by decide
-- label (X, Z) on two qubits: column 0 = |00⟩ has its non-zero element in row |10⟩ = 2
example : Translated.pauli_f 2 [1, 3] 0 = some 2 := by decide
example : Translated.pauli_f 2 [0, 2] 3 = some 2 := by decide
-- label (Y, Z), column 3 = |11⟩: (-i)·(-1) = i, over ℤ[i] as pairs
example : Translated.pauli_nz ((1, 0) : Int × Int) (0, 1) (fun x => (-x.1, -x.2))
    (fun x y => (x.1 * y.1 - x.2 * y.2, x.1 * y.2 + x.2 * y.1)) (fun x z => (x.1 * z, x.2 * z)) 2 [2, 3] 3 = some (0, 1) := by decide
-- operator = diag(1, -1), label Z: tr(Z·Z) = 2; the division is kept symbolic, `x / z` rendered as `1000·x + z`, so `2 / 2**1` reads 2002
example : Translated.pauli_trace_product (1 : Int) 0 (fun x => -x) (fun x y => x * y) (fun x z => x * z) 0 (fun x y => x + y)
    (fun x z => x * 1000 + z) 1 [[1, 0], [0, -1]] [3] = some 2002 := by decide
end OQ.C09
