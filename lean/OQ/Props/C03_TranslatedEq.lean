/- C03 — TRANSLATION TIES (translator package T19): equality / hashing of Pauli operators and the run-time dispatch of `+ - *`.

   (1) Definitions of `OQ/Generated/TranslatedC03.lean` (T7): `PauliTerm.__add__(other)` / `PauliSum.__add__(other)` /
       `PauliSum.__mul__(other)` with the `isinstance` dispatch on a value of ANY kind, `__sub__`, `__rsub__`,
       `PauliTerm.is_ising`, `PauliSum.qubits`, `PauliSum.n_qubits`.
   (2) Definitions of `OQ/Generated/TranslatedC03Eq.lean` (regenerated on every run by harness/translate_t19.py through
       harness/tables_t19e.py, in T7's namespace and over T7's objects `PTerm R` / `PSum R`): `PauliTerm.__hash__`,
       `PauliSum.__eq__(PauliSum)`, `PauliSum.__hash__`, `PauliSum.constant_term`.
       Python's SET OF HASHABLE OBJECTS is rendered explicitly (prelude `setOfHashables` / `setEqHashables`, compared with CPython on
       every run): an object is the same element as a stored one iff the hashes are equal AND `existing == new`; `a == b` on sets is
       "same size and every element of `a` found in `b`".
       Externals (parameters; bundled here as `HashExt R H`): `isinstance(c, complex)`, `c.real`, `c.imag`, `round`, and
       `hash((int, int, frozenset))` with values in an arbitrary type `H`; `hash(tuple_of_hashes)` for `PauliSum.__hash__`.
       ASSUMED LAW `HashLaw ih e` (hypothesis of the ties of `__eq__`): on the tuples `__hash__` builds (frozenset of the items of a
       dict) `hash` collides exactly where the `hash(int)` of the int components (`ih`, arbitrary; CPython: the identity below 2^61 - 1
       except `hash(-1) = -2`) and the frozensets agree – i.e. CPython's tuple hash is treated as collision-free on component hashes.
       The model's parameter `hk` is then `hkOf ih e`: `(ih (round(re·HASH_PRECISION)), ih (round(im·HASH_PRECISION)))`.
   NOT translated: `PauliSum.is_ising` (caches its result in an attribute of `self`), `PauliSum.__eq__` with a term / number operand.
   MODEL: `Run.hk` (the driver's `hk`) applies CPython's `hash(int)` (`hash(-1) = -2`) to the rounded parts (see the negative witness
   at the end).
   DOMAIN: as in `C03_TranslatedPauli.lean` (object states whose `_ops` is a dict: `OpsWF` / `SumWF` / `ValWF`). -/
import OQ.Lemmas.C03_TranslatedT19
namespace OQ.C03
open OQ.Pauli OQ.Py OQ.Generated Matrix

set_option linter.unusedSectionVars false
set_option linter.unusedVariables false

variable {R : Type} [CommRing R] {H : Type} [DecidableEq H]

/-- TRANSLATION TIE `PauliTerm.__add__(other)` with the run-time `isinstance` dispatch (PauliSum → `other + self`, PauliTerm →
    `PauliSum([self, other]).simplify()`, number → `self + PauliTerm("I0", other)`): the model's `addV (.term t)` for every value of
    every kind; nothing is raised. -/
theorem translated_term_add_val_eq (k : Scal R) (x : TranslatedPauli.Ext R) (t : Term R) (wt : OpsWF t.ops) (v : Val R)
    (wv : ValWF v) (s : PSum R) (h : addV (neglOf x) (.term t) v = .ok (.sum s)) :
    TranslatedPauli.term_add_val k x (ofTerm t) (ofVal v) = .ok (ofSum s) := by
  cases v with
  | num c =>
    cases h
    exact (translated_term_add_eq k x t t c wt wt).2.1
  | term u =>
    cases h
    exact (translated_term_add_eq k x t u 0 wt wv).1
  | sum s' =>
    cases h
    exact (translated_sum_add_eq k x s' t 0 wv wt).1

/-- TRANSLATION TIE `PauliSum.__add__(other)` with the dispatch (term / number wrapped into a one-term sum, then copies of all terms
    and `simplify`): the model's `addV (.sum s)` for every value. -/
theorem translated_sum_add_val_eq (k : Scal R) (x : TranslatedPauli.Ext R) (s : PSum R) (hs : SumWF s) (v : Val R)
    (wv : ValWF v) (r : PSum R) (h : addV (neglOf x) (.sum s) v = .ok (.sum r)) :
    TranslatedPauli.sum_add_val k x (ofSum s) (ofVal v) = .ok (ofSum r) := by
  cases v with
  | num c =>
    cases h
    exact (translated_sum_add_eq k x s (constTerm c) c hs (constTerm_wf c)).2.2.1
  | term u =>
    cases h
    exact (translated_sum_add_eq k x s u 0 hs wv).1
  | sum s' =>
    cases h
    exact translated_sum_add_sum_eq k x s s' hs wv

/-- TRANSLATION TIE `PauliTerm.__sub__` / `PauliSum.__sub__` (`self + -1.0 * other`, the product dispatched through `__rmul__` of the
    other operand's class): the model's `subV` for every value of every kind. -/
theorem translated_sub_val_eq (k : Scal R) (x : TranslatedPauli.Ext R) (t : Term R) (wt : OpsWF t.ops) (s : PSum R) (hs : SumWF s)
    (v : Val R) (wv : ValWF v) (r : PSum R) :
    (subV (neglOf x) (.term t) v = .ok (.sum r) → TranslatedPauli.term_sub_val k x (ofTerm t) (ofVal v) = .ok (ofSum r)) ∧
    (subV (neglOf x) (.sum s) v = .ok (.sum r) → TranslatedPauli.sum_sub_val k x (ofSum s) (ofVal v) = .ok (ofSum r)) := by
  have hn := negV_wf x v wv
  have ht := translated_term_add_val_eq k x t wt _ hn r
  have hs' := translated_sum_add_val_eq k x s hs _ hn r
  cases v with
  | num c => exact ⟨ht, hs'⟩
  | term u =>
    simp only [TranslatedPauli.term_sub_val, TranslatedPauli.sum_sub_val, ofVal, (translated_term_mul_num_eq k x u (-1) wv).2.1,
      bind_ok]
    exact ⟨ht, hs'⟩
  | sum s' =>
    simp only [TranslatedPauli.term_sub_val, TranslatedPauli.sum_sub_val, ofVal, translated_sum_rmul_num_eq k x s' (-1) wv,
      bind_ok]
    exact ⟨ht, hs'⟩

/-- TRANSLATION TIE `PauliTerm.__rsub__` / `PauliSum.__rsub__` (`other + -1.0 * self` for a number on the left): the model's
    `subV (.num c)`. -/
theorem translated_rsub_num_eq (k : Scal R) (x : TranslatedPauli.Ext R) (t : Term R) (wt : OpsWF t.ops) (s : PSum R) (hs : SumWF s)
    (c : R) (r : PSum R) :
    (subV (neglOf x) (.num c) (.term t) = .ok (.sum r) → TranslatedPauli.term_rsub_num k x (ofTerm t) c = .ok (ofSum r)) ∧
    (subV (neglOf x) (.num c) (.sum s) = .ok (.sum r) → TranslatedPauli.sum_rsub_num k x (ofSum s) c = .ok (ofSum r)) := by
  constructor
  · intro h
    cases h
    unfold TranslatedPauli.term_rsub_num
    rw [(translated_term_mul_num_eq k x t (-1) wt).2.1, bind_ok]
    exact (translated_term_add_eq k x (scaleTerm t (-1)) t c wt wt).2.2
  · intro h
    cases h
    unfold TranslatedPauli.sum_rsub_num
    rw [translated_sum_rmul_num_eq k x s (-1) hs, bind_ok]
    exact (translated_sum_add_eq k x (rmulS (neglOf x) s (-1)) t c (negV_wf x (.sum s) hs) wt).2.2.2

/-- TRANSLATION TIE `PauliSum.__mul__(other)` with the dispatch (`other.terms`, or `[PauliTerm.identity() * other]`): the model's
    `mulV (.sum s)` for every value, with the dict order as iteration order of `set`s of qubits (`hid`). -/
theorem translated_sum_mul_val_eq (k : Scal R) (x : TranslatedPauli.Ext R) (hid : ∀ l, x.set_iter l = l) (s : PSum R) (hs : SumWF s)
    (v : Val R) (wv : ValWF v) (r : PSum R) (h : mulV k (neglOf x) (.sum s) v = .ok (.sum r)) :
    TranslatedPauli.sum_mul_val k x (ofSum s) (ofVal v) = .ok (ofSum r) := by
  have hX : mulTermX k x = mulTerm k := mulTermOrd_iter_id k x.set_iter hid
  cases v with
  | num c =>
    cases h
    exact mulSX_eq_mulS k x hid s _ ▸ (translated_sum_mul_other_eq k x s (constTerm 0) c hs (constTerm_wf 0)).2.1
  | term u =>
    cases h
    exact hX ▸ mulSX_eq_mulS k x hid s _ ▸ (translated_sum_mul_other_eq k x s u 0 hs wv).1
  | sum s' =>
    cases h
    exact mulSX_eq_mulS k x hid s s' ▸ translated_sum_mul_sum_eq k x s s' hs

/-- TRANSLATION TIE `PauliTerm.is_ising` (`set(self._ops.values()) == {"Z"} or self.is_constant`): true iff every stored letter is Z
    (in particular for the constant term), for every term. -/
theorem translated_term_is_ising_eq (k : Scal R) (x : TranslatedPauli.Ext R) (t : Term R) :
    TranslatedPauli.term_is_ising k x (ofTerm t) = t.ops.all (fun p => p.2 == P.Z) := by
  unfold TranslatedPauli.term_is_ising
  rw [(translated_is_constant_eq k x t []).1, setEq_single]
  simp only [ofTerm_ops, up, dictValues, List.map_map, List.all_map, List.isEmpty_map]
  cases t.ops with
  | nil => rfl
  | cons a rest =>
    simp only [List.isEmpty_cons, Bool.not_false, Bool.and_true, Bool.or_false]
    rfl

/-- TRANSLATION TIE `PauliSum.qubits` (`set(chain.from_iterable([term.qubits for term in self.terms]))`): a qubit is an element iff some
    term stores an operator on it, for every sum. -/
theorem translated_sum_qubits_eq (k : Scal R) (x : TranslatedPauli.Ext R) (s : PSum R) (q : Nat) :
    q ∈ TranslatedPauli.sum_qubits k x (ofSum s) ↔ ∃ t ∈ s, ∃ p ∈ t.ops, p.1 = q := by
  unfold TranslatedPauli.sum_qubits TranslatedPauli.term_qubits
  rw [mem_setOfList]
  simp only [ofSum, List.map_map, Function.comp_def, ofTerm_ops, setOfList_keys, List.mem_flatten, List.mem_map]
  constructor
  · rintro ⟨l, ⟨t, ht, rfl⟩, hq⟩
    exact ⟨t, ht, ((keys_spec t.ops).2 q).mp hq⟩
  · rintro ⟨t, ht, hp⟩
    exact ⟨keys t.ops, ⟨t, ht, rfl⟩, ((keys_spec t.ops).2 q).mpr hp⟩

/-- TRANSLATION TIE `PauliSum.n_qubits` (`0 if self.is_constant else max(self.qubits) + 1`) = the model's `PSum.nQubits` (the width
    every `denote` of C03 / C09 is taken at), for every sum; the `max` of an empty set (ValueError) is never reached. -/
theorem translated_sum_n_qubits_eq (k : Scal R) (x : TranslatedPauli.Ext R) (s : PSum R) :
    TranslatedPauli.sum_n_qubits k x (ofSum s) = .ok (PSum.nQubits s) := by
  have hq := translated_sum_qubits_eq k x s
  refine nQubits_tie _ _ _ ?_ fun m => ?_
  · rw [(translated_is_constant_eq k x ⟨[], 0⟩ s).2.1, Bool.or_eq_true, List.isEmpty_iff, List.all_eq_true]
    refine ⟨fun h q hm => ?_, fun h => .inr fun t ht => List.isEmpty_iff.mpr (List.eq_nil_iff_forall_not_mem.mpr fun p hp =>
      h p.1 ((hq p.1).mpr ⟨t, ht, p, hp, rfl⟩))⟩
    obtain ⟨t, ht, p, hp, _⟩ := (hq q).mp hm
    rcases h with rfl | h
    · cases ht
    · rw [List.isEmpty_iff.mp (h t ht)] at hp; cases hp
  · rw [psum_nQubits_le]
    exact ⟨fun h q hm => by obtain ⟨t, ht, p, hp, rfl⟩ := (hq q).mp hm; exact h t ht p hp,
      fun h t ht p hp => h p.1 ((hq p.1).mpr ⟨t, ht, p, hp, rfl⟩)⟩

/-- TRANSLATION TIE `PauliSum.constant_term` (`sum` of the coefficients of the constant terms, starting from the int 0): the sum of
    the coefficients of the terms without operators, for every sum. -/
theorem translated_constant_term_eq (k : Scal R) (x : TranslatedPauli.Ext R) (s : PSum R) :
    TranslatedPauli.sum_constant_term k x (ofSum s) = ((s.filter (fun t => t.ops.isEmpty)).map (fun t => t.coeff)).sum := by
  unfold TranslatedPauli.sum_constant_term
  have h0 : (TranslatedPauli.intTo (0 : Int) : R) = 0 := rfl
  have hf : (ofSum s).filter (fun term => TranslatedPauli.term_is_constant k x term) = ofSum (s.filter (fun t => t.ops.isEmpty)) := by
    unfold ofSum
    rw [List.filter_map]
    congr 1
    apply List.filter_congr
    intro t _
    exact (translated_is_constant_eq k x t []).1
  rw [hf, h0]
  unfold ofSum
  rw [List.map_map]
  have : ((fun (term : TranslatedPauli.PTerm R) => term.coefficient) ∘ ofTerm) = fun t : Term R => t.coeff := by funext t; rfl
  rw [this, List.sum_eq_foldl]

/-- TRANSLATION TIE `PauliTerm.__hash__`: two terms (with dicts as `_ops`) have the same hash iff the model's hashed coefficient parts
    `hkOf` agree and the `operations` are equal as frozensets – under the hash law. -/
theorem translated_term_hash_eq_iff (k : Scal R) (x : TranslatedPauli.Ext R) (ih : Int → Int) (e : HashExt R H) (hl : HashLaw ih e)
    (a b : Term R) (wa : OpsWF a.ops) (wb : OpsWF b.ops) :
    TranslatedPauli.term_hash k x e.real e.imag e.is_complex e.round e.hash (ofTerm a)
        = TranslatedPauli.term_hash k x e.real e.imag e.is_complex e.round e.hash (ofTerm b)
      ↔ hkOf ih e a.coeff = hkOf ih e b.coeff ∧ opsEq a.ops b.ops = true :=
  term_hash_eq_iff k x ih e hl a b wa wb

/-- TRANSLATION TIE `set(terms)` through `__hash__` and `PauliTerm.__eq__`: Python's set of the term objects is the model's `mkSet`
    (same elements, same order of insertion). -/
theorem translated_set_of_terms_eq (k : Scal R) (x : TranslatedPauli.Ext R) (ih : Int → Int) (e : HashExt R H) (hl : HashLaw ih e)
    (s : PSum R) (ws : SumWF s) :
    setOfHashables (TranslatedPauli.term_hash k x e.real e.imag e.is_complex e.round e.hash) (TranslatedPauli.term_eq_term k x) (ofSum s)
      = ofSum (mkSet x.allclose (hkOf ih e) s) := by
  unfold setOfHashables mkSet
  exact insNew_map _ ofTerm _ (fun t => OpsWF t.ops) (fun acc t wacc wt => by
    rw [List.any_map]
    exact any_congr_mem _ _ _ fun a ha => sameElem_eq k x ih e hl a t (wacc a ha) wt) s [] ws nofun

/-- **TRANSLATION TIE `PauliSum.__eq__(PauliSum)` = the model's `eqSum`** (type validation, length test, then
    `set(self.terms) == set(other.terms)` through `__hash__` and `PauliTerm.__eq__`), for ALL sums of terms whose `_ops` are dicts, every
    `np.allclose` and every hash obeying the law; `close := x.allclose`, `hk := hkOf ih e`. -/
theorem translated_sum_eq_sum_eq (k : Scal R) (x : TranslatedPauli.Ext R) (ih : Int → Int) (e : HashExt R H) (hl : HashLaw ih e)
    (s1 s2 : PSum R) (w1 : SumWF s1) (w2 : SumWF s2) :
    TranslatedPauli.sum_eq_sum k x e.real e.imag e.is_complex e.round e.hash (ofSum s1) (ofSum s2)
      = eqSum x.allclose (hkOf ih e) s1 s2 := by
  unfold TranslatedPauli.sum_eq_sum eqSum
  simp only [(translated_is_constant_eq k x ⟨[], 0⟩ s1).2.2, (translated_is_constant_eq k x ⟨[], 0⟩ s2).2.2]
  have hlen : ((s1.length : Int) != (s2.length : Int)) = (s1.length != s2.length) := by simp [bne]
  rw [hlen]
  by_cases h : (s1.length != s2.length) = true
  · simp only [h, if_true]
  · simp only [h, if_false, Bool.false_eq_true]
    rw [translated_set_of_terms_eq k x ih e hl s1 w1, translated_set_of_terms_eq k x ih e hl s2 w2]
    unfold setEqHashables
    simp only [ofSum, List.length_map, List.all_map, List.any_map]
    congr 1
    apply all_congr_mem
    intro t ht
    simp only [Function.comp]
    apply any_congr_mem
    intro e' he'
    exact sameElem_eq k x ih e hl e' t (w2 e' (mkSet_subset _ _ s2 e' he')) (w1 t (mkSet_subset _ _ s1 t ht))

/-- END-TO-END (`eqSum_iff` / the sum–sum case of `eq_iff` ON THE TRANSLATED `__eq__`): under the model's hypotheses (exact
    coefficient comparison, `i² = -1`, no 2-torsion, simplified sums – what `simplify` returns) and ANY hash obeying the law, the
    translated `PauliSum.__eq__` answers True iff the two sums denote the same matrix, regardless of term order. -/
theorem translated_sum_eq_iff (k : Scal R) (hi : k.i * k.i = -1) (h2 : ∀ y : R, 2 * y = 0 → y = 0) (x : TranslatedPauli.Ext R)
    (hclose : ∀ a b, x.allclose a b = true ↔ a = b) (ih : Int → Int) (e : HashExt R H) (hl : HashLaw ih e) (n : Nat)
    (s1 s2 : PSum R) (hs1 : Simplified n s1) (hs2 : Simplified n s2) :
    TranslatedPauli.sum_eq_sum k x e.real e.imag e.is_complex e.round e.hash (ofSum s1) (ofSum s2) = true
      ↔ MS k n s1 = MS k n s2 := by
  rw [translated_sum_eq_sum_eq k x ih e hl s1 s2 (fun t ht => (hs1.1 t ht).1) (fun t ht => (hs2.1 t ht).1)]
  exact eqSum_iff k hi h2 x.allclose hclose (hkOf ih e) n s1 s2 hs1 hs2

/-- TRANSLATION TIE `PauliSum.__hash__`: the hash of the tuple of the term hashes IN LIST ORDER (so it depends on the order of the
    terms, which `__eq__` ignores: see the negative witness below). -/
theorem translated_sum_hash_eq (k : Scal R) (x : TranslatedPauli.Ext R) (e : HashExt R H) (hashTuple : List H → H) (s : PSum R) :
    TranslatedPauli.sum_hash k x e.real e.imag e.is_complex e.round e.hash hashTuple (ofSum s)
      = hashTuple (s.map (fun t => TranslatedPauli.term_hash k x e.real e.imag e.is_complex e.round e.hash (ofTerm t))) := by
  simp [TranslatedPauli.sum_hash, ofSum, List.map_map, Function.comp_def]

/-- the hash law is satisfiable, for every `hash(int)` behaviour (non-vacuity of the hypothesis `HashLaw`) -/
theorem hashLaw_witness (ih : Int → Int) : ∃ e : HashExt R (Int × Int × (Nat → Option TranslatedPauli.Letter)),
    HashLaw ih e :=
  ⟨witnessHash ih, witnessHash_law ih⟩

/-! ## non-vacuity: the TRANSLATED definitions on concrete inputs (R := ℤ, exact `allclose`, `round` / `hash` as simple stand-ins) -/

section examples
/-- externals over ℤ: exact comparison; a "hash" that sees only the qubits of the frozenset -/
def kZ : Scal Int := ⟨0, 0, 0, 0, id⟩
def xZ : TranslatedPauli.Ext Int := ⟨fun a b => a == b, fun a b => a == b, fun _ _ => none, fun a b => a == b, id⟩
def hZ (t : Int × Int × FrozenItems Nat TranslatedPauli.Letter) : List Nat := t.2.2.map (·.1)

-- a two-term sum and its reordering (dicts rebuilt in another order): `==` is True …
example : TranslatedPauli.sum_eq_sum kZ xZ id (fun _ => 0) (fun _ => false) (fun _ => 0) (fun t => (hZ t).foldl (· + ·) 0)
    [⟨[(0, some P.X)], 1⟩, ⟨[(1, some P.Z), (2, some P.Y)], 2⟩] [⟨[(2, some P.Y), (1, some P.Z)], 2⟩, ⟨[(0, some P.X)], 1⟩] = true := by
  decide
-- … a changed coefficient, a duplicate instead of a second term, different lengths: False
example : TranslatedPauli.sum_eq_sum kZ xZ id (fun _ => 0) (fun _ => false) (fun _ => 0) (fun t => (hZ t).foldl (· + ·) 0)
    [⟨[(0, some P.X)], 1⟩, ⟨[(1, some P.Z)], 2⟩] [⟨[(1, some P.Z)], 3⟩, ⟨[(0, some P.X)], 1⟩] = false := by decide
example : TranslatedPauli.sum_eq_sum kZ xZ id (fun _ => 0) (fun _ => false) (fun _ => 0) (fun t => (hZ t).foldl (· + ·) 0)
    [⟨[(0, some P.X)], 1⟩, ⟨[(1, some P.Z)], 2⟩] [⟨[(0, some P.X)], 1⟩, ⟨[(0, some P.X)], 1⟩] = false := by decide
example : TranslatedPauli.sum_eq_sum kZ xZ id (fun _ => 0) (fun _ => false) (fun _ => 0) (fun t => (hZ t).foldl (· + ·) 0)
    [⟨[(0, some P.X)], 1⟩] [] = false := by decide
-- equal terms with different hashes are different set elements (why the hash matters): here the "hash" is the list of the letters
example : TranslatedPauli.sum_eq_sum kZ xZ id (fun _ => 0) (fun _ => false) (fun _ => 0) (fun t => t.2.2.map (·.2))
    [⟨[(0, some P.X)], 0⟩] [⟨[(0, some P.Y)], 0⟩] = false
    ∧ TranslatedPauli.term_eq_term kZ xZ ⟨[(0, some P.X)], 0⟩ ⟨[(0, some P.Y)], 0⟩ = true := by decide
example : TranslatedPauli.sum_n_qubits kZ xZ [⟨[(0, some P.X)], 1⟩, ⟨[(5, some P.Z), (2, some P.Y)], 2⟩] = .ok 6
    ∧ TranslatedPauli.sum_n_qubits kZ xZ [⟨[], 1⟩] = .ok 0 := by decide
example : TranslatedPauli.sum_constant_term kZ xZ [⟨[], 2⟩, ⟨[(0, some P.X)], 5⟩, ⟨[], 3⟩] = 5 := by decide
example : TranslatedPauli.term_is_ising kZ xZ ⟨[(0, some P.Z), (3, some P.Z)], 1⟩ = true
    ∧ TranslatedPauli.term_is_ising kZ xZ ⟨[(0, some P.Z), (3, some P.X)], 1⟩ = false
    ∧ TranslatedPauli.term_is_ising kZ xZ ⟨[], 1⟩ = true := by decide
example : TranslatedPauli.term_sub_val kZ xZ ⟨[(0, some P.X)], 5⟩ (.num 2) = .ok [⟨[(0, some P.X)], 5⟩, ⟨[], -2⟩] := rfl
example : TranslatedPauli.sum_rsub_num kZ xZ [⟨[(0, some P.X)], 5⟩] 2 = .ok [⟨[(0, some P.X)], -5⟩, ⟨[], 2⟩] := rfl
example : ValWF (.sum ([⟨[(0, .X)], 1⟩] : PSum Int)) := by
  intro t ht; simp only [List.mem_singleton] at ht; subst ht; unfold OpsWF; decide

/-- NEGATIVE WITNESS (outside the sentences of C03): `PauliSum.__hash__` hashes the tuple of
    the terms in LIST order while `PauliSum.__eq__` ignores the order – two sums that compare equal have different hashes (here with
    "hash of a tuple" = the tuple itself), so Python's contract `a == b ⇒ hash(a) == hash(b)` does not hold for sums. -/
example :
    let s1 : TranslatedPauli.PSum Int := [⟨[(0, some P.X)], 1⟩, ⟨[(1, some P.Z)], 2⟩]
    let s2 : TranslatedPauli.PSum Int := [⟨[(1, some P.Z)], 2⟩, ⟨[(0, some P.X)], 1⟩]
    TranslatedPauli.sum_eq_sum kZ xZ id (fun _ => 0) (fun _ => false) (fun _ => 0) hZ s1 s2 = true
    ∧ TranslatedPauli.sum_hash kZ xZ id (fun _ => 0) (fun _ => false) (fun _ => 0) hZ List.flatten s1 = [0, 1]
    ∧ TranslatedPauli.sum_hash kZ xZ id (fun _ => 0) (fun _ => false) (fun _ => 0) hZ List.flatten s2 = [1, 0] := by decide

/-- NEGATIVE WITNESS (the mirror image of finding eq-hash-rounding-boundary): with
    the library's tolerances and CPython's `hash(-1) = -2`, two one-term sums whose coefficients are 2·10⁻⁹ apart around −1.5·10⁻⁶
    round to −1 and −2, land in the SAME bucket and compare EQUAL, while their positive counterparts (1 and 2) compare unequal. -/
example :
    let c1 : Cyc8 := Cyc8.ofRat (-1499 / 10 ^ 9)
    let c2 : Cyc8 := Cyc8.ofRat (-1501 / 10 ^ 9)
    Run.hk c1 = (-2, 0) ∧ Run.hk c2 = (-2, 0) ∧ eqSum Run.close Run.hk [⟨[(0, .X)], c1⟩] [⟨[(0, .X)], c2⟩] = true := by decide +kernel
end examples

end OQ.C03
