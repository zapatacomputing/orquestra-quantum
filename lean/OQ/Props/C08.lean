/-
  C08 — PROPERTY THEOREMS: circuit-level constructions (inverse, controlled circuit, gate layers, ancillas).
  Model: OQ/Model/C08.lean.  Helper lemmas: OQ/Lemmas/C08_Gate.lean (gate level), C08_Spec.lean (spec level),
  C08.lean (circuit level).

  Semantics.  `Uc k x n ops : Option (Matrix (BV (Fin n)) (BV (Fin n)) R)` is the action of the operation list
  `ops` on an `n`-qubit register: the product, first operation rightmost, of `opDen n M qs` – the gate matrix
  `M` of the model (`Gate.matrix`) placed on the qubits `qs`, the identity elsewhere, stated pointwise in the
  `lift_apply` form and proved equal to the shared `Spec.lift` (`opDen_is_spec_lift`).  `none` = some operation is
  ill formed on `n` qubits (repeated / out-of-range qubit, matrix of the wrong size) or sympy raised.
  The scalar ring is any commutative star ring; `k.cj = star` is the law of the constant record.
-/
import OQ.Lemmas.C08
import Mathlib.LinearAlgebra.Matrix.NonsingularInverse
import OQ.Lemmas.C08_Examples
set_option linter.unusedSectionVars false
namespace OQ.C08
open Matrix OQ.Spec
open Classical
variable {R : Type} [CommRing R] [StarRing R]

/-- "gate M on qubits qs of an n-qubit register" used in every statement below is `OQ.Spec.lift` of the gate's
    own matrix (over the bit assignments of its own register, qubit 0 most significant) along the listed qubits -/
theorem opDen_is_spec_lift (n : Nat) (m : Mat R) (qs : List Nat) (hnd : qs.Nodup) (hq : ∀ q ∈ qs, q < n) :
    opDen n m qs = lift (sigmaOf (embOf n qs hnd hq)) (gateDen qs.length m) :=
  opDen_eq_lift n m qs hnd hq

/-! ## sentence 1 — inverse -/

/-- Sentence 1, "the inverse's matrix is the conjugate transpose of the circuit's", for EVERY circuit, register
    width and scalar ring, under the per-gate hypothesis that `.dagger` denotes the adjoint
    (discharged for all regular gates by `dagger_rules_adjoint_partial`).  Error cases included: the inverse has
    an action iff the circuit has one. -/
theorem inverse_unitary (k : Scal R) (hk : k.cj = star) (x : Ext R) (n : Nat) (c : Circ (Gate R))
    (h : ∀ o ∈ c.ops, Gate.matrix k x (Gate.dagger o.gate) = (Gate.matrix k x o.gate).map (Gate.adj k)) :
    Uc k x n (inverse Gate.dagger c).ops = (Uc k x n c.ops).map conjTranspose := by
  obtain ⟨ops, _⟩ := c
  simp only [inverse, mkCirc_ops] at h ⊢
  induction ops with
  | nil => simp [Uc]
  | cons o rest ih =>
    obtain ⟨ho, hrest⟩ := List.forall_mem_cons.mp h
    rw [List.reverse_cons, List.map_append, Uc_append, ih hrest, List.map_singleton, Uc_singleton, Uc_cons,
      opDen?_map k x (Gate.adj k) conjTranspose ho (fun m _ => opWF_adj k n m o.qs)
        (fun m _ _ => opDen_adj k hk n m o.qs)]
    exact (Option.map_map₂_antidistrib Matrix.conjTranspose_mul).symm

/-- The per-gate dagger rules (`_gates.py:225` ff.): on every regular gate – built-in or custom base gates with a
    truthful `is_hermitian` flag, under any nesting of controlled / dagger / exponential / INTEGER power –
    `.dagger` denotes the adjoint matrix, keeps `num_qubits`, and yields a regular gate again.
    PARTIAL: fractional exponents under `Power` are excluded (finding F16, owned by C07: `Power.dagger` is the
    power of the dagger, which is not the adjoint of a fractional power; see the negative witness below).
    Assumes the laws `ExtLaws` of sympy's `exp` / `**`. -/
theorem dagger_rules_adjoint_partial (k : Scal R) (hk : k.cj = star) (x : Ext R) (hx : Gate.ExtLaws k x)
    (g : Gate R) (hg : Gate.Regular k g) :
    Gate.matrix k x (Gate.dagger g) = (Gate.matrix k x g).map (Gate.adj k) ∧
    Gate.nq (Gate.dagger g) = Gate.nq g ∧ Gate.Regular k (Gate.dagger g) :=
  ⟨Gate.dagger_faithful k hk x hx g hg, Gate.nq_dagger g, Gate.regular_dagger k g hg⟩

/-- Sentence 1 for circuits of regular gates (self-adjoint, parametric, wrapped, custom), every width.
    PARTIAL only in the gate domain (no fractional powers, F16). -/
theorem inverse_unitary_partial (k : Scal R) (hk : k.cj = star) (x : Ext R) (hx : Gate.ExtLaws k x) (n : Nat)
    (c : Circ (Gate R)) (hc : ∀ o ∈ c.ops, Gate.Regular k o.gate) :
    Uc k x n (inverse Gate.dagger c).ops = (Uc k x n c.ops).map conjTranspose :=
  inverse_unitary k hk x n c (fun o ho => Gate.dagger_faithful k hk x hx o.gate (hc o ho))

/-- `Circuit.inverse` keeps the register width and reverses the operations, each on its original qubits -/
theorem inverse_shape {G : Type} (dg : G → G) (c : Circ G) (hc : c.n = 0 → c.ops = []) :
    (inverse dg c).n = c.n ∧
    (inverse dg c).ops = c.ops.reverse.map (fun o => ⟨dg o.gate, o.qs⟩) := by
  refine ⟨?_, rfl⟩
  unfold inverse mkCirc
  by_cases h : c.n = 0
  · simp [h, hc h, sizeByOps]
  · simp [h]

/-- Sentence 1, "appending the circuit's inverse gives the identity on the whole register": for a circuit of
    unitary gates whose daggers denote adjoints, `c + c.inverse()` (and `c.inverse() + c`) act as the identity.
    (For non-unitary custom matrices the product is `Uᴴ U`, which is why unitarity of the gates is assumed.) -/
theorem inverse_appended_is_identity (k : Scal R) (hk : k.cj = star) (x : Ext R) (n : Nat) (c : Circ (Gate R))
    (h : ∀ o ∈ c.ops, Gate.matrix k x (Gate.dagger o.gate) = (Gate.matrix k x o.gate).map (Gate.adj k))
    (hu : ∀ o ∈ c.ops, ∀ m, Gate.matrix k x o.gate = some m →
      (gateDen o.qs.length m)ᴴ * gateDen o.qs.length m = 1)
    (U : Matrix (BV (Fin n)) (BV (Fin n)) R) (hU : Uc k x n c.ops = some U) :
    Uc k x n (appendCirc c (inverse Gate.dagger c)).ops = some 1 ∧
    Uc k x n (appendCirc (inverse Gate.dagger c) c).ops = some 1 := by
  have hinv := inverse_unitary k hk x n c h
  have huu := Uc_unitary k x n c.ops hu U hU
  rw [hU] at hinv
  simp only [appendCirc, mkCirc_ops, Uc_append, hinv, hU]
  exact ⟨congrArg some huu, congrArg some (_root_.mul_eq_one_comm.mp huu)⟩

/-- Sentence 1, "inverting twice returns a circuit with the original action" (hypotheses: the dagger rule is
    faithful on every gate of the circuit and on its dagger; both hold for regular gates) -/
theorem inverse_inverse (k : Scal R) (hk : k.cj = star) (x : Ext R) (n : Nat) (c : Circ (Gate R))
    (h : ∀ o ∈ c.ops, Gate.matrix k x (Gate.dagger o.gate) = (Gate.matrix k x o.gate).map (Gate.adj k))
    (h' : ∀ o ∈ c.ops, Gate.matrix k x (Gate.dagger (Gate.dagger o.gate))
        = (Gate.matrix k x (Gate.dagger o.gate)).map (Gate.adj k)) :
    Uc k x n (inverse Gate.dagger (inverse Gate.dagger c)).ops = Uc k x n c.ops := by
  rw [inverse_unitary k hk x n _ (List.forall_mem_map.mpr fun o ho => h' o (List.mem_reverse.mp ho)),
    inverse_unitary k hk x n c h, Option.map_map]
  cases Uc k x n c.ops with
  | none => rfl
  | some U => simp

/-- … in particular for every circuit of regular gates -/
theorem inverse_inverse_partial (k : Scal R) (hk : k.cj = star) (x : Ext R) (hx : Gate.ExtLaws k x) (n : Nat)
    (c : Circ (Gate R)) (hc : ∀ o ∈ c.ops, Gate.Regular k o.gate) :
    Uc k x n (inverse Gate.dagger (inverse Gate.dagger c)).ops = Uc k x n c.ops :=
  inverse_inverse k hk x n c
    (fun o ho => Gate.dagger_faithful k hk x hx o.gate (hc o ho))
    (fun o ho => Gate.dagger_faithful k hk x hx _ (Gate.regular_dagger k o.gate (hc o ho)))

/-! ## sentence 2 — controlled circuit -/

/-- the meaning of `ctrlAt` at control position `c` of an `(n+1)`-qubit register: zero between different control
    values, the IDENTITY when the control qubit is 0, and `A` on the remaining qubits – original qubit `i` sits at
    `c.succAbove i`, i.e. `i` below `c` and `i + 1` at or above `c` – when it is 1 -/
theorem controlled_action_pointwise (n : Nat) (c : Fin (n + 1)) (A : Matrix (BV (Fin n)) (BV (Fin n)) R)
    (x y : BV (Fin (n + 1))) :
    ctrlAt (finSuccEquiv' c).symm A x y =
      (if x c = y c then
        (if x c = true then A (fun i => x (c.succAbove i)) (fun i => y (c.succAbove i))
         else (1 : Matrix (BV (Fin n)) (BV (Fin n)) R) (fun i => x (c.succAbove i)) (fun i => y (c.succAbove i)))
      else 0) ∧
    ∀ i : Fin n, (c.succAbove i).val = if c.val ≤ i.val then i.val + 1 else i.val :=
  ⟨ctrlAt_apply _ A x y, succAbove_val n c⟩

/-- Sentence 2 for EVERY circuit, width `n` and control position `c ≤ n`: the controlled circuit acts as
    `|0⟩⟨0|_c ⊗ 1 + |1⟩⟨1|_c ⊗ U(circuit)` (`ctrlAt`, read pointwise in `controlled_action_pointwise`), under the
    per-gate hypotheses that `.controlled(1)` denotes `diag(1, M)` and matrices have the declared size
    (discharged for regular gates by `controlled_rules_block_partial`).  Error cases included. -/
theorem controlled_circuit (k : Scal R) (x : Ext R) (n : Nat) (c : Fin (n + 1)) (circ : Circ (Gate R))
    (h : ∀ o ∈ circ.ops, Gate.matrix k x (Gate.controlled o.gate 1)
        = (Gate.matrix k x o.gate).map (Gate.ctrlMat (2 ^ Gate.nq o.gate)))
    (hdim : ∀ o ∈ circ.ops, ∀ m, Gate.matrix k x o.gate = some m →
        m.r = 2 ^ Gate.nq o.gate ∧ m.c = 2 ^ Gate.nq o.gate) :
    Uc k x (n + 1) (controlledCirc (fun g => Gate.controlled g 1) c.val circ).ops
      = (Uc k x n circ.ops).map (ctrlAt (finSuccEquiv' c).symm) := by
  simp only [controlledCirc, mkCirc_ops]
  exact Uc_map_hom k x _ (ctrlAt_one _) (fun a b => (ctrlAt_mul _ a b).symm) _ circ.ops (fun o ho =>
    opDen?_map k x _ _ (h o ho) (fun m hm => opWF_ctrl n c m o.qs _ (hdim o ho m hm).1 (hdim o ho m hm).2)
      (fun m hm hw => by rw [(hdim o ho m hm).1.symm.trans hw.2.2.1]; exact opDen_ctrl n c m o.qs hw))

/-- The per-gate `.controlled(1)` rules: on every regular gate the result has one more qubit, is regular, and its
    matrix is `diag(1, M)` (control first).  PARTIAL: no fractional powers (through `Dagger.controlled` /
    `Power.controlled` the F16 defect of `Power.dagger` reaches controlled gates as well). -/
theorem controlled_rules_block_partial (k : Scal R) (hk : k.cj = star) (x : Ext R) (hx : Gate.ExtLaws k x)
    (g : Gate R) (hg : Gate.Regular k g) :
    Gate.matrix k x (Gate.controlled g 1) = (Gate.matrix k x g).map (Gate.ctrlMat (2 ^ Gate.nq g)) ∧
    Gate.nq (Gate.controlled g 1) = Gate.nq g + 1 ∧ Gate.Regular k (Gate.controlled g 1) :=
  ⟨Gate.ctrl_faithful k hk x hx g hg, Gate.nq_controlled g 1, Gate.regular_controlled k g 1 hg⟩

/-- Sentence 2 for circuits of regular gates, all widths, all control positions `0..n` -/
theorem controlled_circuit_partial (k : Scal R) (hk : k.cj = star) (x : Ext R) (hx : Gate.ExtLaws k x)
    (n : Nat) (c : Fin (n + 1)) (circ : Circ (Gate R)) (hc : ∀ o ∈ circ.ops, Gate.Regular k o.gate) :
    Uc k x (n + 1) (controlledCirc (fun g => Gate.controlled g 1) c.val circ).ops
      = (Uc k x n circ.ops).map (ctrlAt (finSuccEquiv' c).symm) :=
  controlled_circuit k x n c circ
    (fun o ho => Gate.ctrl_faithful k hk x hx o.gate (hc o ho))
    (fun o ho m hm => (Gate.regular_dims k x hx o.gate (hc o ho) m hm).2)

/-- `ctrlAt` composes like the circuit it controls: controlling a product is the product of the controlled
    factors and controlling the identity is the identity (so the statement above is stable under `+`) -/
theorem controlled_is_multiplicative (n : Nat) (c : Fin (n + 1)) (A B : Matrix (BV (Fin n)) (BV (Fin n)) R) :
    ctrlAt (finSuccEquiv' c).symm A * ctrlAt (finSuccEquiv' c).symm B = ctrlAt (finSuccEquiv' c).symm (A * B) ∧
    ctrlAt (finSuccEquiv' c).symm (1 : Matrix (BV (Fin n)) (BV (Fin n)) R) = 1 :=
  ⟨ctrlAt_mul _ A B, ctrlAt_one _⟩

/-- shape of `Circuit.controlled(ci)`: one operation per original operation, in order, with the control index
    first and every original index `i` replaced by `i + 1` if `i ≥ ci`, else kept -/
theorem controlled_shape {G : Type} (ctl : G → G) (ci : Nat) (c : Circ G) :
    (controlledCirc ctl ci c).ops = c.ops.map (fun o => ⟨ctl o.gate, ci :: o.qs.map (shiftIdx ci)⟩) ∧
    (∀ i, shiftIdx ci i = if ci ≤ i then i + 1 else i) ∧
    (controlledCirc ctl ci c).n = sizeByOps (controlledCirc ctl ci c).ops :=
  ⟨rfl, fun _ => rfl, by simp [controlledCirc, mkCirc]⟩

/-! ## sentence 3 — layers, applying a gate to a collection of qubits, ancillas -/

section builders
variable {G P : Type}

/-- `apply_gate_to_qubits` with parameter rows.  `order` is the iteration order of `set(qubit_indices)`; its law
    (CPython): it lists every listed qubit exactly once.  Then: the call succeeds iff there is one row per distinct
    qubit; the existing operations stay in place as a prefix; exactly one new single-qubit gate per distinct listed
    qubit (and none elsewhere); the i-th new gate is built from the i-th row (each row used once, in order);
    the width grows just enough to contain the new gates. -/
theorem applyGate_count (c : Circ G) (qs order : List Nat) (factory : P → G) (fixed : G) (ps : List P)
    (hnd : order.Nodup) (hmem : ∀ q, q ∈ order ↔ q ∈ qs) (hlen : ps.length = order.length) :
    ∃ c', applyGateToQubits c order factory fixed (some ps) = .ok c' ∧
      (∃ new, c'.ops = c.ops ++ new ∧
        new.length = qs.dedup.length ∧
        new.map (fun o => o.gate) = ps.map factory ∧
        new.map (fun o => o.qs) = order.map (fun q => [q]) ∧
        (∀ q, (new.filter (fun o => o.qs = [q])).length = if q ∈ qs then 1 else 0)) ∧
      c.n ≤ c'.n ∧ (∀ q ∈ qs, q < c'.n) := by
  have hfst : (order.zip ps).map Prod.fst = order := List.map_fst_zip (by omega)
  have hsnd : (order.zip ps).map Prod.snd = ps := List.map_snd_zip (by omega)
  have hw := foldl_max_ge order c.n
  refine ⟨_, if_neg (not_not.mpr hlen), ?_⟩
  rw [foldl_appendOp_single (fun qp => factory qp.2) Prod.fst, hfst]
  have hqs : ((order.zip ps).map (fun qp => (⟨factory qp.2, [qp.1]⟩ : GOp G))).map (fun o => o.qs)
      = order.map (fun q => [q]) := by
    rw [List.map_map, ← hfst, List.map_map, hfst]; rfl
  refine ⟨⟨_, rfl, ?_, ?_, hqs, fun q => ?_⟩, hw.1, fun q hq => hw.2 q ((hmem q).mpr hq)⟩
  · rw [List.length_map, List.length_zip, hlen, Nat.min_self, enum_length qs order hnd hmem]
  · rw [List.map_map, ← hsnd, List.map_map, hsnd]; rfl
  · rw [← enum_count qs order hnd hmem q, ← List.countP_eq_length_filter, List.countP_map, List.count_eq_countP]
    conv_rhs => rw [← hfst, List.countP_map]
    congr 1; funext a; simp [beq_eq_decide]

/-- `apply_gate_to_qubits` rejects (AssertionError) a parameter array whose number of rows differs from the number
    of distinct qubits -/
theorem applyGate_rejects (c : Circ G) (order : List Nat) (factory : P → G) (fixed : G) (ps : List P)
    (hlen : ps.length ≠ order.length) :
    applyGateToQubits c order factory fixed (some ps) = .error .assertion :=
  if_pos hlen

/-- `apply_gate_to_qubits` without parameters (`parameters=None`, a fixed gate): always succeeds, existing operations
    stay in place, exactly one copy of the gate on each distinct listed qubit -/
theorem applyGate_count_fixed (c : Circ G) (qs order : List Nat) (factory : P → G) (fixed : G)
    (hnd : order.Nodup) (hmem : ∀ q, q ∈ order ↔ q ∈ qs) :
    ∃ c', applyGateToQubits c order factory fixed none = .ok c' ∧
      c'.ops = c.ops ++ order.map (fun q => ⟨fixed, [q]⟩) ∧
      order.length = qs.dedup.length ∧
      (∀ q, order.count q = if q ∈ qs then 1 else 0) ∧
      c.n ≤ c'.n ∧ (∀ q ∈ qs, q < c'.n) := by
  have hw := foldl_max_ge order c.n
  refine ⟨_, rfl, ?_⟩
  rw [foldl_appendOp_single (fun _ => fixed) (fun q => q), List.map_id']
  exact ⟨rfl, enum_length qs order hnd hmem, enum_count qs order hnd hmem, hw.1,
    fun q hq => hw.2 q ((hmem q).mpr hq)⟩

/-- `create_layer_of_gates(n, factory, rows)`: under the CPython law that `set(range(n))` iterates in ascending
    order, the layer consists of exactly `n` single-qubit gates, the i-th one built from the i-th row and placed on
    qubit `i` (so exactly one gate on each qubit `0..n−1`), and the circuit is `n` qubits wide -/
theorem layer_rows (n : Nat) (factory : P → G) (fixed : G) (ps : List P) (hlen : ps.length = n) :
    ∃ c', createLayer (List.range n) factory fixed (some ps) = .ok c' ∧
      c'.ops.length = n ∧
      (∀ i (hi : i < n) (h' : i < c'.ops.length), c'.ops[i] = ⟨factory (ps[i]'(by omega)), [i]⟩) ∧
      c'.n = n := by
  have hfst : ((List.range n).zip ps).map Prod.fst = List.range n :=
    List.map_fst_zip (by rw [hlen, List.length_range])
  refine ⟨_, if_neg (not_not.mpr (by rw [hlen, List.length_range])), ?_⟩
  rw [foldl_appendOp_single (fun qp => factory qp.2) Prod.fst, hfst]
  exact ⟨by simp [mkCirc, hlen], fun i hi h' => by simp [mkCirc], foldl_max_range_zero n⟩

/-- the same for a fixed (parameter-free) gate: one copy on each qubit `0..n−1`, in this order -/
theorem layer_fixed (n : Nat) (factory : P → G) (fixed : G) :
    ∃ c', createLayer (List.range n) factory fixed none = .ok c' ∧
      c'.ops = (List.range n).map (fun i => ⟨fixed, [i]⟩) ∧ c'.n = n := by
  refine ⟨_, rfl, ?_⟩
  rw [foldl_appendOp_single (fun _ => fixed) (fun q => q), List.map_id']
  exact ⟨rfl, foldl_max_range_zero n⟩

/-- `add_ancilla_register(circuit, k)`: the circuit is widened by EXACTLY `k` qubits, the existing operations stay in
    place, and the new operations are identity gates on the `k` new indices -/
theorem ancilla_width (iG : G) (c : Circ G) (k : Nat) :
    (addAncilla iG c k).n = c.n + k ∧
    (addAncilla iG c k).ops = c.ops ++ (List.range k).map (fun i => ⟨iG, [c.n + i]⟩) := by
  unfold addAncilla
  rw [foldl_appendOp_single (fun _ => iG) (fun i => c.n + i)]
  exact ⟨foldl_max_range c.n k, rfl⟩

end builders

/-- `add_ancilla_register` does not change the action on the original qubits: if the circuit acts as `U` on its
    `c.n` qubits, the extended circuit acts on `c.n + k` qubits as `U` on the first `c.n` qubits and as the identity
    on the ancillas (`U ⊗ 1`, as `Spec.lift` along the inclusion; pointwise form in the second clause) -/
theorem ancilla_action (k : Scal R) (x : Ext R) (c : Circ (Gate R)) (j : Nat)
    (U : Matrix (BV (Fin c.n)) (BV (Fin c.n)) R) (hU : Uc k x c.n c.ops = some U) :
    Uc k x (c.n + j) (addAncilla iGate c j).ops = some (liftE (Fin.castAddEmb j) U) ∧
    ∀ a b : BV (Fin (c.n + j)), liftE (Fin.castAddEmb j) U a b =
      if (∀ i : Fin (c.n + j), c.n ≤ i.val → a i = b i)
      then U (fun i => a (Fin.castAdd j i)) (fun i => b (Fin.castAdd j i)) else 0 := by
  constructor
  · rw [(ancilla_width iGate c j).2, Uc_append, Uc_widen k x c.n j c.ops U hU,
      Uc_identities k x (c.n + j) (c.n + ·) _ (fun i hi => Nat.add_lt_add_left (List.mem_range.mp hi) _)]
    exact congrArg some (Matrix.one_mul _)
  · intro a b
    rw [liftE_apply]
    simp only [range_castAdd, not_lt]
    congr

/-! ## non-vacuity (data in OQ/Lemmas/C08_Examples.lean): the example circuit `cEx` is
   X on 2, c-S† on (3,0), CNOT^1 on (1,3), exp S on 0; all its gates are regular (`cEx_regular`) -/
section examples
example : cEx.n = 4 := by decide
example : (inverse Gate.dagger cEx).ops.map (fun o => o.qs) = [[0], [1, 3], [3, 0], [2]] := by decide
example : (controlledCirc (fun g => Gate.controlled g 1) 1 cEx).ops.map (fun o => o.qs)
    = [[1, 3], [1, 4, 0], [1, 2, 4], [1, 0]] := by decide
example : (controlledCirc (fun g => Gate.controlled g 1) 1 cEx).n = 5 := by decide

/-- the dagger rules on the example: c-S† ↦ c-S, X ↦ X -/
example : Gate.dagger (Gate.ctrl (Gate.dag gS) 1) = Gate.ctrl gS 1 := rfl
example : Gate.dagger gX = gX := rfl
/-- the controlled rules merge controls and re-associate: (c-S†).controlled(1) = cc-S†, (CNOT^1).controlled(1) = c-(CNOT^1)... -/
example : Gate.controlled (Gate.ctrl (Gate.dag gS) 1) 1 = Gate.ctrl (Gate.dag gS) 2 := rfl
example : Gate.controlled (Gate.pow gCN 1) 1 = Gate.ctrl (Gate.pow gCN 1) 1 := rfl
example : Gate.controlled (Gate.dag gS) 1 = Gate.ctrl (Gate.dag gS) 1 := rfl

/-- NEGATIVE WITNESS (F16, known finding owned by C07): with sympy's value of `X ** 0.5` (the SX matrix,
    `(1±i)/2` entries – here scaled by 2 to stay in ℤ[i]: any non-Hermitian value does), the dagger of the
    fractional power of the self-adjoint `X` is the SAME gate, whose matrix is not the adjoint.
    So `dagger_rules_adjoint_partial` cannot be extended to fractional exponents. -/
example : ∃ x : Ext GaussianInt,
    Gate.dagger (Gate.pow gX (1/2)) = Gate.pow gX (1/2) ∧
    (Gate.matrix kG x (Gate.dagger (Gate.pow gX (1/2)))).map (fun m => m.get 0 1)
      ≠ ((Gate.matrix kG x (Gate.pow gX (1/2))).map (Gate.adj kG)).map (fun m => m.get 0 1) := by
  refine ⟨⟨fun _ => none, fun _ _ => some (Gates.m2 ⟨1, 1⟩ ⟨1, -1⟩ ⟨1, -1⟩ ⟨1, 1⟩)⟩, rfl, ?_⟩
  decide +kernel

example : Uc kG x1 4 (inverse Gate.dagger cEx).ops = (Uc kG x1 4 cEx.ops).map conjTranspose :=
  inverse_unitary_partial kG rfl x1 x1_laws 4 cEx cEx_regular
example (c : Fin 5) : Uc kG x1 5 (controlledCirc (fun g => Gate.controlled g 1) c.val cEx).ops
    = (Uc kG x1 4 cEx.ops).map (ctrlAt (finSuccEquiv' c).symm) :=
  controlled_circuit_partial kG rfl x1 x1_laws 4 c cEx cEx_regular

/-- builders on an unordered collection with duplicates: qubits 5,1,8,1,5 → set order 8,1,5 (what CPython gives),
    three rows, an existing operation stays in front -/
example : ([8, 1, 5] : List Nat).Nodup ∧ ∀ q, q ∈ ([8, 1, 5] : List Nat) ↔ q ∈ ([5, 1, 8, 1, 5] : List Nat) :=
  ⟨by decide, by intro q; simp only [List.mem_cons, List.not_mem_nil, or_false]; omega⟩

example : (applyGateToQubits (mkCirc [⟨"H", [0]⟩] 0) [8, 1, 5] (fun p : List Nat => s!"U3{p}") "X"
      (some [[1, 2, 3], [4, 5, 6], [7, 8, 9]])).toOption.map (fun c => (c.ops.map (fun o => (o.gate, o.qs)), c.n))
    = some ([("H", [0]), ("U3[1, 2, 3]", [8]), ("U3[4, 5, 6]", [1]), ("U3[7, 8, 9]", [5])], 9) := by decide

example : (applyGateToQubits (mkCirc [⟨"H", [0]⟩] 0) [8, 1, 5] (fun p : List Nat => s!"U3{p}") "X"
      (some [[1, 2, 3], [4, 5, 6]])).toOption.isNone = true := by decide

example : (createLayer (List.range 3) (fun p : List Nat => s!"RX{p}") "X" (some [[7], [8], [9]])).toOption.map
      (fun c => (c.ops.map (fun o => (o.gate, o.qs)), c.n))
    = some ([("RX[7]", [0]), ("RX[8]", [1]), ("RX[9]", [2])], 3) := by decide

example : ((addAncilla "I" (mkCirc [⟨"CNOT", [2, 0]⟩] 4) 2).ops.map (fun o => (o.gate, o.qs)),
      (addAncilla "I" (mkCirc [⟨"CNOT", [2, 0]⟩] 4) 2).n)
    = ([("CNOT", [2, 0]), ("I", [4]), ("I", [5])], 6) := by decide
example : (addAncilla "I" (mkCirc [⟨"CNOT", [2, 0]⟩] 0) 0).n = 3 := by decide
end examples

end OQ.C08
