/-
  C14 — PROPERTY THEOREMS: runners validate requests, deliver enough shots and count their work.
  Model: OQ/Model/C14.lean (`Leaf` = a base-class runner or simulator, `Runner` = a leaf under any
  number of `MeasurementTrackingBackend` wrappers, `step` = one call, `runAll` = a call history).
  Vocabulary and helper lemmas: OQ/Lemmas/C14.lean.
  Every theorem is for ALL values of the externals `ext` (what the abstract `_run_and_measure`
  returns / raises and what `rng.choice` draws, as functions of the invocation index), all runner
  chains and all states; history theorems are by induction over arbitrary call lists.
-/
import OQ.Lemmas.C14
namespace OQ.C14

/-! ### sentence 1: invalid requests are rejected before anything is executed -/

/-- A non-positive sample count (single, batch – also over an empty batch – or distribution call), a
    per-circuit list of the wrong length or one containing a non-positive entry is answered with
    `ValueError` and the WHOLE state – every counter of every runner in the chain, every tracker file,
    and the number of external invocations made (nothing was executed) – is exactly what it was. -/
theorem reject_before_execute (ext : Ext) (r : Runner) (call : Call) (h : call.badArgs) :
    step ext r call = (r, .error .value) :=
  step_of_leaf_refuses ext r call _ (Leaf.step_reject ext _ call h)

/-- a runner that cannot compute exact distributions (its base-class runner is not a simulator)
    rejects `n_samples = None` the same way, nothing executed, nothing changed -/
theorem reject_missing_sample_count (ext : Ext) (r : Runner) (c : Circ) (h : r.leafOf.kind = .base) :
    step ext r (.dist c none) = (r, .error .value) := by
  refine step_of_leaf_refuses ext r _ _ ?_
  generalize r.leafOf = l at h ⊢
  obtain ⟨kind, k, calls⟩ := l
  subst h
  rfl

/-- "unchanged by a rejected call": the counters of every runner of the chain and the files of every
    tracker are the same after a rejected call. -/
theorem rejected_unchanged (ext : Ext) (r : Runner) (call : Call) (h : call.badArgs) :
    (step ext r call).1.counters = r.counters ∧ (step ext r call).1.files = r.files := by
  rw [reject_before_execute ext r call h]; exact ⟨rfl, rfl⟩

/-! ### sentence 3: the counters -/

/-- The counters never decrease: along any call history (valid and invalid calls of all three kinds
    interleaved arbitrarily, failures included) the runner chain keeps its shape and every counter
    of every runner in it is, after any longer history, at least what it was after a shorter one. -/
theorem counters_monotone (ext : Ext) (r : Runner) (before after : List Call) :
    (runAll ext r before).1.Grows (runAll ext r (before ++ after)).1 := by
  rw [runAll_append]; exact runAll_grows ext _ after

/-- A direct `BaseCircuitRunner` subclass: a successful call adds exactly the number of circuits of
    the call to both counters. -/
theorem base_increment_exact (ext : Ext) (l : Leaf) (hk : l.kind = .base) (call : Call) (r' : Runner) (res : Res)
    (h : step ext (.leaf l) call = (r', res)) (hok : ∀ e, res ≠ .error e) :
    r'.own.nCircuits = l.k.nCircuits + call.circuits.length ∧
    r'.own.nJobs = l.k.nJobs + call.circuits.length := by
  obtain ⟨rfl, hkk⟩ := leaf_step_ok ext l call r' res h hok
  rw [Runner.own, hkk, hk, Counters.plus_base]
  exact ⟨rfl, rfl⟩

/-- A simulator: a successful call adds, for every circuit of the call, one job per maximal run of
    natively-supported / not-supported operations and one circuit per natively supported run
    (`groupby` keys of the `is_natively_supported` flags). -/
theorem sim_increment_exact (ext : Ext) (l : Leaf) (a : Bool) (hk : l.kind = .sim a) (call : Call)
    (r' : Runner) (res : Res)
    (h : step ext (.leaf l) call = (r', res)) (hok : ∀ e, res ≠ .error e) :
    r'.own.nCircuits = l.k.nCircuits + (call.circuits.map (segCircuits a)).sum ∧
    r'.own.nJobs = l.k.nJobs + (call.circuits.map (segJobs a)).sum := by
  obtain ⟨rfl, hkk⟩ := leaf_step_ok ext l call r' res h hok
  rw [Runner.own, hkk, hk]
  exact ⟨rfl, rfl⟩

/-- A call that fails (for any reason: rejected, the external raised, a circuit had free symbols) has
    counted exactly the work of the circuits of an initial part of the call – those actually run
    before the failure; for a rejected call that part is empty (`reject_before_execute`). -/
theorem failed_call_counts_what_ran (ext : Ext) (l : Leaf) (call : Call) (r' : Runner) (e : Err)
    (h : step ext (.leaf l) call = (r', .error e)) :
    ∃ done, done <+: call.circuits ∧
      r'.own.nCircuits = l.k.nCircuits + (done.map (workC l.kind)).sum ∧
      r'.own.nJobs = l.k.nJobs + (done.map (workJ l.kind)).sum := by
  obtain ⟨done, hp, _, hkk, _⟩ := Leaf.step_spec ext l call
  obtain ⟨rfl, _⟩ := Prod.mk.inj ((step_leaf ext l call).symm.trans h)
  exact ⟨done, hp, congrArg Counters.nCircuits hkk, congrArg Counters.nJobs hkk⟩

/-- The tracker's own counters: +1/+1 for a successful single call, +len(circuits)/+1 for a
    successful batch call, nothing for a distribution call and nothing for any failed call. -/
theorem tracker_increment_exact (ext : Ext) (inner : Runner) (bits : Bool) (k : Counters) (raw file : List Record)
    (call : Call) (r' : Runner) (res : Res) (h : step ext (.tracker inner bits k raw file) call = (r', res)) :
    r'.own.nCircuits = k.nCircuits + (trackerWork call res).1 ∧
    r'.own.nJobs = k.nJobs + (trackerWork call res).2 := by
  obtain ⟨rfl, rfl⟩ := Prod.mk.inj ((step_tracker ext inner bits k raw file call).symm.trans h)
  exact ⟨rfl, rfl⟩

/-! ### sentence 2: what a successful call returns -/

/-- A successful single call was made with a positive count and returns what the external
    invocation for that circuit and count produced. -/
theorem single_result_is_execution (ext : Ext) (r r' : Runner) (c : Circ) (n : Int) (m : List Shot)
    (h : step ext r (.run c n) = (r', .meas m)) :
    0 < n ∧ Produced ext r.leafOf.kind r.leafOf.calls c n m :=
  Leaf.step_meas ((step_leafOf ext r _).symm.trans (congrArg Prod.snd h))

/-- A successful batch call passed validation, returns ONE RESULT PER CIRCUIT, IN ORDER: the i-th
    result is what the i-th external invocation, made for the i-th circuit with the i-th sample count,
    produced (`InOrder`). -/
theorem batch_results_in_order (ext : Ext) (r r' : Runner) (cs : List Circ) (ns : NSpec) (ms : List (List Shot))
    (h : step ext r (.batch cs ns) = (r', .batch ms)) :
    ValidBatch cs ns ∧ ms.length = cs.length ∧
    InOrder ext r.leafOf.kind r.leafOf.calls (cs.zip (samplesPerCircuit cs ns)) ms := by
  obtain ⟨hv, io⟩ := Leaf.step_batch ((step_leafOf ext r _).symm.trans (congrArg Prod.snd h))
  exact ⟨hv, by rw [io.length, List.length_zip, hv.1, Nat.min_self], io⟩

/-- A successful distribution call with a sample count is the empirical distribution (relative
    frequencies `count / number of shots`) of what the external invocation for that circuit and a
    POSITIVE count produced; without a count it is the exact distribution of the circuit, which only
    a simulator provides and only for a circuit without free symbols. -/
theorem distribution_result_is_execution (ext : Ext) (r r' : Runner) (c : Circ) (n : Option Int) (d : DistVal)
    (h : step ext r (.dist c n) = (r', .distr d)) :
    (∃ n' m, n = some n' ∧ 0 < n' ∧ Produced ext r.leafOf.kind r.leafOf.calls c n' m ∧
        d = .empirical (empirical m)) ∨
    (∃ a, n = none ∧ r.leafOf.kind = .sim a ∧ c.symbolic = false ∧ d = .exact c) :=
  Leaf.step_distr ((step_leafOf ext r _).symm.trans (congrArg Prod.snd h))

/-- Shape of a single result: at least the requested number of shots, each bitstring as long as the
    circuit's register (for every register width, the zero-qubit circuit included) – given the law of
    the abstract `_run_and_measure` (`ExecLaw`) and of `rng.choice` (`DrawLaw`). -/
theorem single_result_shape (ext : Ext) (he : ExecLaw ext) (hd : DrawLaw ext)
    (r r' : Runner) (c : Circ) (n : Int) (m : List Shot)
    (h : step ext r (.run c n) = (r', .meas m)) : ShotsOK c n m := by
  obtain ⟨hn, hp⟩ := single_result_is_execution ext r r' c n m h
  exact hp.shape hn he hd

/-- Shape of a batch result: one result per circuit and the i-th result has at least the i-th
    requested number of shots, each as long as the i-th circuit's register (same laws, all widths). -/
theorem batch_results_shape (ext : Ext) (he : ExecLaw ext) (hd : DrawLaw ext)
    (r r' : Runner) (cs : List Circ) (ns : NSpec) (ms : List (List Shot))
    (h : step ext r (.batch cs ns) = (r', .batch ms)) :
    ms.length = cs.length ∧
    List.Forall₂ (fun p m => ShotsOK p.1 p.2 m) (cs.zip (samplesPerCircuit cs ns)) ms := by
  obtain ⟨_, hl, io⟩ := batch_results_in_order ext r r' cs ns ms h
  exact ⟨hl, io.shape he hd⟩

/-! ### sentence 4: the measurement-tracking wrapper -/

/-- The tracker returns exactly what the wrapped runner returns for the same call – result or
    exception – and the wrapped runner ends in exactly the state the call would have put it in. -/
theorem tracker_passthrough (ext : Ext) (inner : Runner) (bits : Bool) (k : Counters) (raw file : List Record)
    (call : Call) :
    (step ext (.tracker inner bits k raw file) call).2 = (step ext inner call).2 ∧
    (step ext (.tracker inner bits k raw file) call).1.inner? = some (step ext inner call).1 := by
  rw [step_tracker]; exact ⟨rfl, rfl⟩

/-- After a successful single call the file holds exactly one record and it matches the call and the
    returned measurements: same circuit, a histogram that counts every returned bitstring exactly as
    often as it was returned, `number_of_shots` = number of returned shots, `number_of_gates` =
    number of operations, the bitstrings themselves if recording them was requested. -/
theorem tracker_record_single (ext : Ext) (inner : Runner) (bits : Bool) (k : Counters) (file : List Record)
    (c : Circ) (n : Int) (r' : Runner) (m : List Shot)
    (h : step ext (.tracker inner bits k [] file) (.run c n) = (r', .meas m)) :
    r'.raw = [] ∧ ∃ rec, r'.file = [rec] ∧ rec.Matches bits c m := by
  obtain ⟨rfl, hm⟩ := Prod.mk.inj ((step_tracker ext inner bits k [] file _).symm.trans h)
  simp only [hm]
  exact ⟨rfl, _, rfl, mkMeasRecord_matches bits c m⟩

/-- After a successful batch call the file holds one record per circuit, in order, the i-th matching
    the i-th circuit and the i-th returned measurements. -/
theorem tracker_record_batch (ext : Ext) (inner : Runner) (bits : Bool) (k : Counters) (file : List Record)
    (cs : List Circ) (ns : NSpec) (r' : Runner) (ms : List (List Shot))
    (h : step ext (.tracker inner bits k [] file) (.batch cs ns) = (r', .batch ms)) :
    r'.raw = [] ∧ ms.length = cs.length ∧
    List.Forall₂ (fun p rec => Record.Matches bits p.1 p.2 rec) (cs.zip ms) r'.file := by
  obtain ⟨rfl, hm⟩ := Prod.mk.inj ((step_tracker ext inner bits k [] file _).symm.trans h)
  simp only [hm]
  exact ⟨rfl, (batch_results_in_order ext inner _ cs ns ms (Prod.ext rfl hm)).2.1, forall₂_map_mk bits _⟩

/-- After a successful distribution call the file holds exactly one record: the circuit, the returned
    distribution, the number of operations and the REQUESTED sample count (`None` included). -/
theorem tracker_record_distribution (ext : Ext) (inner : Runner) (bits : Bool) (k : Counters) (file : List Record)
    (c : Circ) (n : Option Int) (r' : Runner) (d : DistVal)
    (h : step ext (.tracker inner bits k [] file) (.dist c n) = (r', .distr d)) :
    r'.raw = [] ∧ r'.file = [Record.dist c d c.ops.length n] := by
  obtain ⟨rfl, hm⟩ := Prod.mk.inj ((step_tracker ext inner bits k [] file _).symm.trans h)
  simp only [hm]
  exact ⟨rfl, rfl⟩

/-- A failed call (rejected or failed inside the wrapped runner) writes nothing: file and pending raw
    data are untouched. -/
theorem tracker_failed_call_writes_nothing (ext : Ext) (inner : Runner) (bits : Bool) (k : Counters)
    (raw file : List Record) (call : Call) (r' : Runner) (e : Err)
    (h : step ext (.tracker inner bits k raw file) call = (r', .error e)) :
    r'.raw = raw ∧ r'.file = file := by
  obtain ⟨rfl, hm⟩ := Prod.mk.inj ((step_tracker ext inner bits k raw file call).symm.trans h)
  simp only [hm]
  exact ⟨rfl, rfl⟩

/-- Invariant over histories: starting from freshly constructed runners, after ANY call history the
    pending `raw_data` of every tracker in the chain is empty – so the hypothesis `raw = []` of the
    three record theorems holds in every reachable state and the file always holds exactly the
    records of the last successful call. -/
theorem tracker_raw_data_flushed (ext : Ext) (r : Runner) (hfresh : r.fresh = true) (calls : List Call) :
    (runAll ext r calls).1.Clean :=
  runAll_clean ext r calls (Runner.fresh_clean r hfresh)

/-! ### non-vacuity and negative witnesses (concrete externals `exT` meeting both laws; circuits:
`cH` two gates on three qubits (one idle), `cMP` gate / non-gate / gate / non-gate / non-gate on two
qubits, `cEmpty` no qubits and no operations, `cSym` a circuit with a free symbol) -/

example : ExecLaw exT := exT_execLaw
example : DrawLaw exT := exT_drawLaw
-- a per-circuit list with a non-positive entry is rejected, nothing changes
example : step exT base0 (.batch [cH, cMP] (.many [3, 0])) = (base0, .error .value) := by decide
-- an empty batch with the scalar count 0 is rejected too (fixed in /repo 8d91e2e), the empty list of counts is fine
example : (Call.batch [] (.one 0)).badArgs ∧ step exT base0 (.batch [] (.one 0)) = (base0, .error .value) :=
  ⟨by simp [Call.badArgs], by decide⟩
example : step exT base0 (.batch [] (.many [])) = (base0, .batch []) := by decide
-- default simulator on gate/non-gate/gate/non-gate/non-gate: 4 segments = 4 jobs, 2 native = 2 circuits
example : (step exT sim0 (.run cMP 4)).1 = .leaf ⟨.sim false, ⟨2, 4⟩, 1⟩ := by decide
-- SymbolicSimulator (everything native): one segment
example : (step exT symb0 (.run cMP 4)).1 = .leaf ⟨.sim true, ⟨1, 1⟩, 1⟩ := by decide
-- a simulator on the zero-width circuit returns empty tuples (fixed in /repo 6292974; `format(0,"00b")`
-- itself still prints one digit) and counts no job: there is no segment
example : (step exT symb0 (.run cEmpty 3)) = (.leaf ⟨.sim true, ⟨0, 0⟩, 1⟩, .meas [[], [], []]) := by decide
example : formatBin 0 0 = [0] ∧ outcomeTuple 0 0 = [] := by decide
-- idle qubit: tuples as long as the register
example : (step exT symb0 (.run cH 2)).2 = .meas [[0,0,0], [0,0,0]] := by decide
example : (step exT (.leaf ⟨.sim true, ⟨0, 0⟩, 5⟩) (.run cH 2)).2 = .meas [[1,0,1], [1,0,1]] := by decide
-- a batch failing at its second circuit has counted exactly the first (failed_call_counts_what_ran)
example : step exT base0 (.batch [cH, cSym, cMP] (.one 2)) = (.leaf ⟨.base, ⟨1, 1⟩, 2⟩, .error .value) := by decide
-- a history on a tracker mixing a rejected single call, an accepted batch call and a rejected distribution
-- call: counters 2/1, inner 2/2, the file holds the two records of the batch
example : (runAll exT (.tracker symb0 true ⟨0,0⟩ [] []) [.run cH 0, .batch [cH, cMP] (.many [1, 2]), .dist cH (some (-1))]).1
    = .tracker (.leaf ⟨.sim true, ⟨2, 2⟩, 2⟩) true ⟨2, 1⟩ []
        [.meas cH [([0,0,0], 1)] 2 1 (some [[0,0,0]]), .meas cMP [([0,1], 2)] 5 2 (some [[0,1],[0,1]])] := by decide
-- distribution record: requested count, empirical distribution of the returned shots
example : (step exT (.tracker base0 false ⟨0,0⟩ [] []) (.dist cH (some 2))).1.file
    = [.dist cH (.empirical [([0,0,0], 1)]) 2 (some 2)] := by decide +kernel

end OQ.C14
