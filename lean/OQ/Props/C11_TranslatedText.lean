/-
  C11 — TRANSLATION TIE (work package T19): the TEXT round trip of Pauli operators, on the translated code.

  `OQ/Generated/TranslatedC11Text.lean` is regenerated on every run from the CURRENT source of `PauliTerm.__getitem__`, the string branch
  of `PauliTerm.__init__`, `PauliTerm.__repr__`, `PauliSum.__len__`, `PauliSum.__repr__`, the string branch of `PauliSum.__init__`
  (operators/_pauli_operators.py) by harness/translate_t19.py; T9's `OQ/Generated/TranslatedC11.lean` holds the parser chain they call.
  An object of the classes is the structure of the attributes `__init__` assigns (`PyTerm`: `_ops : Dict[int, str]`, `coefficient`;
  `PySum`: `terms`; the attribute list is read from the source).  A `str` is a `List Char`; a function that may raise returns
  `Except OQ.Py.Exc τ` (the model writes `none` for `ValueError`: `liftO`).

  Externals (parameters of the translated definitions):
    * `ext_complex`  – `complex(text)`, instantiated by the model's `readC` (`readNum readC`; `none` = ValueError);
    * `ext_str_Num`  – `str(number)` inside the f-string of `__repr__` (CPython's `repr` of int / float / complex), the model's `showC`.
      A Python number is T9's `OQ.Py.Num`: its exact value and whether it is a `complex` (an int and a float of equal value are NOT
      distinguished, so `showC` gives them one text: the self-check skips cases that hold both).
  Assumed laws (hypotheses, exactly those of `Props/C11.lean` plus one): `CoefLaw showC readC val c` (the text of a coefficient is read
  back by `complex` as its value, has no `*` / blank, `+` only inside brackets, and is bracketed when real and imaginary part are both
  non-zero) and `readC "I0" = none` (`complex("I0")` raises ValueError – `PauliSum.__repr__` builds the zero term as `PauliTerm("I0", 0)`
  at RUN time, so printing the empty sum parses the text "I0").
  Prelude (compared with CPython on every run): `str.strip()` (`stripWs`), `re.split(r"\+(?![^(]*\))", s)` (`reSplitPlus`), the
  T9 string functions, `str(int)`, `"sep".join`, `dict(pairs)`, `d.get(k, default)`, `k in d`.  DOMAIN of the string functions: ASCII.
  Not modelled: `warnings.warn` in `__getitem__`.

  White space: `isWhite` (what `str.strip()` removes) contains U+001C–U+001F, for which `str.isspace()` is true (the tie of
  `PauliSum.__init__` does not hold without them); the driver's `complex` reader skips C's `isspace` only (`isCSpace`), which excludes them.
-/
import OQ.Lemmas.C11_TranslatedT19
namespace OQ.C11
open OQ.Py OQ.Generated

/-- **`_parse_operators_and_coefficient` (translated) = `parseOpsAndCoef`**, for EVERY string and every behaviour
    `readC` of `complex(text)`: `re.split(r"\ *\*\ *", term_str.strip(" "))` is "split at `*`, strip every part of blanks"; the first
    part is the coefficient when `_parse_complex` accepts it (only `ValueError` is caught; `parts[0]` cannot raise `IndexError` because a
    split is never empty); bare `I` factors are dropped; every other factor must parse; `dict(pairs)` over `int` keys / `str` letters is
    the model's `dictOf` over `Nat` / `Pauli`; a repeated qubit index is `ValueError`.  The result is the model's, with the coefficient
    as a Python `complex` and every operator as `(int index, upper-case letter)` (`convRes`). -/
theorem translated_parse_operators_and_coefficient_eq (readC : List Char → Option (Rat × Rat)) (s : List Char) :
    Translated.parse_operators_and_coefficient (readNum readC) s = liftO ((parseOpsAndCoef readC s).map convRes) := by
  unfold Translated.parse_operators_and_coefficient parseOpsAndCoef
  simp only [reSplitStar_strip, filter_bne_I, List.map_id', mapExc_parse_operator]
  generalize hp : (splitStar (stripBy isSpace s)).map (stripBy isSpace) = parts
  cases parts with
  | nil => exact absurd (List.map_eq_nil_iff.mp hp) (splitStar_ne_nil _)
  | cons p0 rest =>
    have hi : indexExc (p0 :: rest) 0 = .ok p0 := rfl
    have hs : sliceFrom (p0 :: rest) 1 = rest := rfl
    simp only [hi, hs, Except.ok_bind, translated_parse_complex_eq]
    cases hc : parseComplex readC p0 with
    | none => exact parse_tail none none rfl _
    | some c => exact parse_tail (some (Num.cplx c.1 c.2)) (some c) rfl _

/-- **`PauliTerm.__getitem__` (translated)** is `self._ops.get(i, "I")`, for every object and every index (the warning for an absent
    index is not modelled). -/
theorem translated_term_getitem_eq (t : Translated.PyTerm) (i : Int) :
    Translated.term_getitem t i = dictGetD t._ops i ['I'] := by
  unfold Translated.term_getitem
  split <;> rfl

/-- on a term whose `_ops` is a dict (distinct qubit indices: `pyOf t` of a model term with distinct keys) `self[q]` is the letter
    stored for `q`. -/
theorem translated_term_getitem_stored (t : Term Num) (h : (t.ops.map (fun p => p.1)).Nodup) (q : Nat) (p : Pauli)
    (hm : (q, p) ∈ t.ops) : Translated.term_getitem (pyOf t) (q : Int) = [pauliChar p] := by
  rw [translated_term_getitem_eq]; exact dictGetD_convPair t.ops h q p hm

/-- **`PauliTerm.__repr__` (translated) = `reprTerm`**, for every `str(number)` behaviour `showC` and every term whose `_ops` is a
    dict (distinct qubit indices – every Python dict; no hypothesis on the letters or the coefficient): the factors `f"{self[index]}{index}"`
    in insertion order joined by `*`, a bare `I` for a constant term, after `str(coefficient)` and `*`. -/
theorem translated_term_repr_eq (showC : Num → List Char) (t : Term Num) (h : (t.ops.map (fun p => p.1)).Nodup) :
    Translated.term_repr showC (pyOf t) = reprTerm showC t := by
  have hstrs : (dictKeys (pyOf t)._ops).map (fun index => Translated.term_getitem (pyOf t) index ++ strOfInt index)
      = reprOps t.ops := by
    unfold dictKeys reprOps pyOf
    simp only [List.map_map]
    refine List.map_congr_left fun a ha => ?_
    have := translated_term_getitem_stored t h a.1 a.2 ha
    unfold pyOf at this
    simp only [Function.comp, convPair, this, strOfInt_nat]
    rfl
  unfold Translated.term_repr
  simp only [hstrs, join_eq_joinWith, length_beq_zero]
  rw [reprTerm_eq, termStrs]
  cases reprOps t.ops <;> simp [pyOf]

/-- **`PauliSum.__len__` (translated)** is the number of terms. -/
theorem translated_sum_len_eq (ts : List Translated.PyTerm) : Translated.sum_len ⟨ts⟩ = (ts.length : Int) := rfl

/-- **`PauliTerm(text, coefficient)` (translated string branch of `__init__`)** in terms of the model's `parseOpsAndCoef`, for EVERY
    string, every optional second coefficient and every `complex` behaviour: `ValueError` where the parser fails or a coefficient is
    given twice; otherwise the object `pyOfParsed`: identities dropped from the parsed dict (the index / letter checks of `__init__`
    cannot fail on what the parser returned), the coefficient found in the text (a `complex`), else the argument, else `1.0`. -/
theorem translated_term_init_str_eq (readC : List Char → Option (Rat × Rat)) (s : List Char) (co : Option Num) :
    Translated.term_init_str (readNum readC) s co
      = liftO ((parseOpsAndCoef readC s).bind (fun r => if r.1.isSome && co.isSome then none else some (pyOfParsed r co))) := by
  unfold Translated.term_init_str
  rw [translated_parse_operators_and_coefficient_eq]
  cases hp : parseOpsAndCoef readC s with
  | none => rfl
  | some r =>
    obtain ⟨coef, ops⟩ := r
    have hk := parseOpsAndCoef_keys readC s coef ops hp
    simp only [Option.map_some, liftO, Except.ok_bind, convRes, Option.bind_some, keys_nonneg, values_allowed, init_ops ops hk]
    cases coef <;> cases co <;> rfl

/-- **`PauliTerm(text)` (translated) = `parseTerm`**: the translated constructor and the model accept the same strings (every
    exception of the translated code is the `ValueError` the model calls `none`) and return the same operations and the same
    coefficient value (`viewPy` / `viewT`: `_ops` as (int, letter) pairs, the coefficient as (re, im)). -/
theorem translated_term_init_str_parseTerm (readC : List Char → Option (Rat × Rat)) (s : List Char) :
    ((Translated.term_init_str (readNum readC) s none).toOption).map viewPy = (parseTerm readC s).map viewT := by
  rw [translated_term_init_str_eq, bind_pyOfParsed_none, parseTerm]
  cases parseOpsAndCoef readC s with
  | none => rfl
  | some r => simp only [liftO, Except.toOption, Option.map_some, view_parsed]

/-- **`PauliSum.__repr__` (translated) = `reprSum`** with the int `0` of `PauliTerm("I0", 0)` as the zero coefficient, for every sum of
    terms whose `_ops` are dicts, under the law `complex("I0")` raises ValueError (the zero term is built by the string constructor at
    run time; without that law the translated function could fail or print another term).  `" + ".join` of the printed terms, or the
    printed zero term for the empty sum; never raises on this domain. -/
theorem translated_sum_repr_eq (showC : Num → List Char) (readC : List Char → Option (Rat × Rat))
    (hI0 : readC "I0".toList = none) (s : PSum Num) (hs : ∀ t ∈ s, (t.ops.map (fun p => p.1)).Nodup) :
    Translated.sum_repr (readNum readC) showC ⟨s.map pyOf⟩ = .ok (reprSum showC (Num.real 0) s) := by
  unfold Translated.sum_repr Translated.sum_len reprSum
  rw [length_beq_zero, List.isEmpty_map]
  split
  · have h0 : Translated.term_init_str (readNum readC) ['I', '0'] (some (Num.real 0)) = .ok (pyOf ⟨[], Num.real 0⟩) := by
      rw [translated_term_init_str_eq, show parseOpsAndCoef readC ['I', '0'] = _ from parse_I0 hI0]
      rfl
    rw [Int.cast_zero, h0]
    exact congrArg Except.ok (translated_term_repr_eq showC ⟨[], Num.real 0⟩ List.nodup_nil)
  · rw [join_eq_joinWith, List.map_map]
    exact congrArg (fun l => Except.ok (joinWith _ l))
      (List.map_congr_left fun a ha => translated_term_repr_eq showC a (hs a ha))

/-- **`PauliSum(text)` (translated string branch of `__init__`)**, for EVERY string: the pieces of
    `re.split(r"\+(?![^(]*\))", text)` (= the model's `splitPlus`), each stripped of whitespace (`str.strip()` = `stripBy isWhite`),
    each through the term constructor; the first failing piece raises `ValueError`; the `isinstance` re-check cannot fail. -/
theorem translated_sum_init_str_eq (readC : List Char → Option (Rat × Rat)) (s : List Char) :
    Translated.sum_init_str (readNum readC) s
      = liftO ((((splitPlus s).map (stripBy isWhite)).mapM
          (fun piece => (parseOpsAndCoef readC piece).map (fun r => pyOfParsed r none))).map Translated.PySum.mk) := by
  unfold Translated.sum_init_str
  have hf : (fun (s : List Char) => Except.bind (Translated.term_init_str (readNum readC) (stripWs s) none) (fun r1 => Except.ok r1))
      = fun s => liftO ((parseOpsAndCoef readC (stripBy isWhite s)).map (fun r => pyOfParsed r none)) := by
    funext p
    rw [Except.bind_ok', translated_term_init_str_eq, bind_pyOfParsed_none, stripWs_eq]
  rw [hf, reSplitPlus_eq,
    mapExc_comp (fun p => liftO ((parseOpsAndCoef readC p).map (fun r => pyOfParsed r none))) (stripBy isWhite), mapExc_liftO]
  cases ((splitPlus s).map (stripBy isWhite)).mapM (fun piece => (parseOpsAndCoef readC piece).map (fun r => pyOfParsed r none)) with
  | none => rfl
  | some ts => simp [liftO, Except.bind]

/-- **`PauliSum(text)` (translated) = `parseSum`**: same accepted strings, same terms in the same order (operations and coefficient
    values). -/
theorem translated_sum_init_str_parseSum (readC : List Char → Option (Rat × Rat)) (s : List Char) :
    ((Translated.sum_init_str (readNum readC) s).toOption).map (fun ps => ps.terms.map viewPy)
      = (parseSum readC s).map (List.map viewT) := by
  have hT : parseTerm readC = fun x => (parseOpsAndCoef readC x).map
      (fun r => (⟨r.2.filter (fun p => p.2 ≠ Pauli.I), r.1.getD (1, 0)⟩ : Term (Rat × Rat))) := by
    funext x; unfold parseTerm; cases parseOpsAndCoef readC x <;> rfl
  rw [translated_sum_init_str_eq, parseSum, hT, mapM_optionMap, mapM_optionMap]
  cases ((splitPlus s).map (stripBy isWhite)).mapM (parseOpsAndCoef readC) with
  | none => rfl
  | some rs => simp [liftO, Except.toOption, view_parsed]

/-- END-TO-END (`parse_repr_term` ON THE TRANSLATED CODE): for every well-formed term and every coefficient obeying the text law,
    the translated `PauliTerm.__init__` applied to the text the translated `PauliTerm.__repr__` prints is accepted and returns the same
    `_ops` (same qubits, same letters, same order) with the coefficient `complex(str(c))`, whose value is the value of `c`. -/
theorem translated_parse_repr_term (showC : Num → List Char) (readC : List Char → Option (Rat × Rat)) (val : Num → Rat × Rat)
    (t : Term Num) (ht : t.WF) (hl : CoefLaw showC readC val t.coef) :
    Translated.term_init_str (readNum readC) (Translated.term_repr showC (pyOf t)) none = .ok (parsedPy val t) := by
  rw [translated_term_repr_eq showC t ht.1, translated_term_init_str_eq, bind_pyOfParsed_none, parsed_reprTerm t ht hl]
  rfl

/-- END-TO-END (`parse_repr_sum` ON THE TRANSLATED CODE): `PauliSum(str(s))` through the translated printer and the translated
    constructor returns the terms of `s` one for one (the `+` inside a bracketed complex coefficient never cuts a term); the empty sum
    prints as the zero constant and is read back as the single constant term with coefficient zero.  Hypotheses: the model's
    (`WF`, `CoefLaw` for every coefficient and for the int 0) and `complex("I0")` raises. -/
theorem translated_parse_repr_sum (showC : Num → List Char) (readC : List Char → Option (Rat × Rat)) (val : Num → Rat × Rat)
    (hI0 : readC "I0".toList = none) (s : PSum Num) (hs : ∀ t ∈ s, t.WF)
    (hl : ∀ t ∈ s, CoefLaw showC readC val t.coef) (hz : CoefLaw showC readC val (Num.real 0)) :
    (Translated.sum_repr (readNum readC) showC ⟨s.map pyOf⟩).bind (Translated.sum_init_str (readNum readC))
      = .ok ⟨(if s.isEmpty then [⟨[], Num.real 0⟩] else s).map (parsedPy val)⟩ := by
  rw [translated_sum_repr_eq showC readC hI0 s (fun t ht => (hs t ht).1), Except.ok_bind, translated_sum_init_str_eq,
    parse_reprSum (fun piece => (parseOpsAndCoef readC piece).map (fun r => pyOfParsed r none)) (parsedPy val) (Num.real 0) s
      hs hl hz fun t => parsed_reprTerm t]
  rfl

/-! ## non-vacuity: the TRANSLATED definitions on concrete inputs -/

/-- `str(number)` as Python prints the numbers used below (a finite table standing for `repr`) -/
def demoShow (z : Num) : List Char :=
  if z = .cplx 1 2 then "(1+2j)".toList else if z = .real (-1/2) then "-0.5".toList
  else if z = .real (1/1000000000000) then "1e-12".toList else if z = .real 0 then "0".toList else "?".toList

example : demoRead "I0".toList = none := by decide
example : CoefLaw demoShow demoRead (fun z => (z.re, z.im)) (.cplx 1 2) := ⟨by decide +kernel, by decide +kernel, fun _ _ => by decide +kernel⟩
example : CoefLaw demoShow demoRead (fun z => (z.re, z.im)) (.real 0) := ⟨by decide +kernel, by decide +kernel, fun h => absurd rfl h⟩
example : Translated.term_getitem ⟨[(0, "Z".toList), (12, "X".toList)], .real 1⟩ 12 = "X".toList := by decide
example : Translated.term_getitem ⟨[(0, "Z".toList), (12, "X".toList)], .real 1⟩ 5 = "I".toList := by decide
example : Translated.term_repr demoShow (pyOf ⟨[(0, .Z), (12, .X)], .cplx 1 2⟩) = "(1+2j)*Z0*X12".toList := by decide +kernel
example : Translated.term_repr demoShow (pyOf ⟨[], .real (-1/2)⟩) = "-0.5*I".toList := by decide +kernel
example : Translated.sum_repr (readNum demoRead) demoShow ⟨[pyOf ⟨[(0, .Z), (12, .X)], .cplx 1 2⟩, pyOf ⟨[], .real (-1/2)⟩,
    pyOf ⟨[(3, .Y)], .real (1/1000000000000)⟩]⟩ = .ok "(1+2j)*Z0*X12 + -0.5*I + 1e-12*Y3".toList := by decide +kernel
example : Translated.sum_repr (readNum demoRead) demoShow ⟨[]⟩ = .ok "0*I".toList := by decide +kernel
example : Translated.term_init_str (readNum demoRead) "(1+2j) * z0*X12*I".toList none
    = .ok ⟨[(0, "Z".toList), (12, "X".toList)], .cplx 1 2⟩ := by decide +kernel
example : Translated.term_init_str (readNum demoRead) "I0".toList (some (.real 0)) = .ok ⟨[], .real 0⟩ := by decide +kernel
example : Translated.term_init_str (readNum demoRead) "Y3".toList none = .ok ⟨[(3, "Y".toList)], .real 1⟩ := by decide +kernel
example : Translated.term_init_str (readNum demoRead) "-0.5*Z1".toList (some (.real 2)) = .error .ValueError := by decide +kernel
example : Translated.term_init_str (readNum demoRead) "Z0*X0".toList none = .error .ValueError := by decide +kernel
example : Translated.sum_init_str (readNum demoRead) "(1+2j)*Z0*X12 + -0.5*I +\n1e-12*Y3 ".toList
    = .ok ⟨[⟨[(0, "Z".toList), (12, "X".toList)], .cplx 1 2⟩, ⟨[], .cplx (-1/2) 0⟩, ⟨[(3, "Y".toList)], .cplx (1/1000000000000) 0⟩]⟩ := by
  decide +kernel
example : Translated.sum_init_str (readNum demoRead) "Z0 + ".toList = .error .ValueError := by decide +kernel
-- the round trip itself, computed: printed by the translated `__repr__`, read by the translated `__init__`
example : (Translated.sum_repr (readNum demoRead) demoShow ⟨[pyOf ⟨[(0, .Z), (12, .X)], .cplx 1 2⟩, pyOf ⟨[], .real (-1/2)⟩]⟩).bind
    (Translated.sum_init_str (readNum demoRead)) = .ok ⟨[⟨[(0, "Z".toList), (12, "X".toList)], .cplx 1 2⟩, ⟨[], .cplx (-1/2) 0⟩]⟩ := by
  decide +kernel
example : (Translated.sum_repr (readNum demoRead) demoShow ⟨[]⟩).bind (Translated.sum_init_str (readNum demoRead))
    = .ok ⟨[⟨[], .cplx 0 0⟩]⟩ := by decide +kernel
-- the four separator controls are stripped like blanks by `str.strip()`, not skipped by `complex`
example : isWhite (Char.ofNat 28) = true ∧ isCSpace (Char.ofNat 28) = false := by decide

end OQ.C11
