/-
  C09 — PROPERTY THEOREMS: operator ↔ matrix conversions agree with the operator's definition.
  Model: OQ/Model/C09.lean.  Helper lemmas: OQ/Lemmas/C09_{Entries,Sparse,Dropped,Algebra,Ops,Simplified,Expand,Hermitian}.lean.

  Conventions.  `R` is any commutative ring with a star operation; `k : Scal R` carries the constants
  with the laws `k.i * k.i = -1`, `k.cj = star`, `star k.i = -k.i` (and `2 * k.half = 1` for the Pauli
  expansion).  `PSum.denote k n s` (OQ/Model/Pauli.lean) is the tensor-product definition: the sum over
  the terms of `coeff · σ_{q=0} ⊗ σ_{q=1} ⊗ … ⊗ σ_{q=n-1}`, qubit 0 the leftmost Kronecker factor.
  Matrices are compared as Mathlib matrices through `Mat.toM (2^n) (2^n)`.
  `SumWF s`: the qubit indices inside each term are distinct (a `PauliTerm` stores them in a dict).
  `NeglExact tol`: the tolerance predicate `np.isclose(x, 0)` of `simplify` only drops exact zeros –
  true of exact arithmetic; in doubles `simplify` drops every component of modulus ≤ 1e-8, so the
  operator-valued conversions (`hermitian_conjugated`, `reverse_qubit_order`,
  `get_pauliop_from_matrix`, all of which go through `+=`) agree up to such components.
-/
import OQ.Lemmas.C09_Hermitian
import Mathlib.LinearAlgebra.Matrix.ConjTranspose
import Mathlib.Data.Matrix.Mul
import Mathlib.NumberTheory.Zsqrtd.GaussianInt
import Mathlib.Data.Complex.Basic

set_option linter.unusedSectionVars false
namespace OQ.C09
open OQ OQ.Pauli Matrix

variable {R : Type} [CommRing R] [StarRing R] [DecidableEq R]

/-- the tolerance of `simplify` only drops exact zeros -/
def NeglExact (tol : Tol R) : Prop := ∀ x, tol.negl x = true → x = 0

/-- the bit-reversal permutation on matrix indices -/
def bitrevFin (n : Nat) (i : Fin (2 ^ n)) : Fin (2 ^ n) := ⟨bitrev n i, bitrev_lt n i⟩

/-- the state vector of a list of amplitudes -/
def stateVec (d : Nat) (ψ : List R) : Fin d → R := fun i => ψ.getD i 0

/-- Sentence 1: for every Pauli sum (any terms: gaps, constants, complex coefficients, zero and
    repeated terms, the empty sum) and every register width `n ≥` the operator's width, the matrix
    assembled by `get_sparse_operator` (Kronecker chain with identity blocks, COO triplets with the
    swapped `nonzero()` indices, duplicate summation) is the tensor-product definition on `n` qubits. -/
theorem sparse_eq_denote (k : Scal R) (hi : k.i * k.i = -1) (s : PSum R) (hwf : SumWF s) (n : Nat)
    (hn : PSum.nQubits s ≤ n) :
    ∃ M, getSparseOperator k s n = some M ∧ M.r = 2 ^ n ∧ M.c = 2 ^ n ∧
      Mat.toM (2 ^ n) (2 ^ n) M = Mat.toM (2 ^ n) (2 ^ n) (PSum.denote k n s) := by
  obtain ⟨M, h1, h2⟩ := getSparseOperator_spec k hi s hwf n hn
  exact ⟨M, h1, h2.1, h2.2.1, h2.toM.trans (toM_denote k n s).symm⟩

/-- Sentence 1, default width: `get_sparse_operator(op)` uses the operator's own width. -/
theorem sparse_default_eq_denote (k : Scal R) (hi : k.i * k.i = -1) (s : PSum R) (hwf : SumWF s) :
    ∃ M, getSparseOperatorDefault k s = some M ∧
      Mat.toM (2 ^ PSum.nQubits s) (2 ^ PSum.nQubits s) M
        = Mat.toM (2 ^ PSum.nQubits s) (2 ^ PSum.nQubits s) (PSum.denote k (PSum.nQubits s) s) := by
  obtain ⟨M, h1, _, _, h4⟩ := sparse_eq_denote k hi s hwf (PSum.nQubits s) (le_refl _)
  exact ⟨M, h1, h4⟩

/-- Sentence 1 for a single `PauliTerm` (`term.terms = [term]`): the matrix is `coeff · string`. -/
theorem sparse_term_eq_denote (k : Scal R) (hi : k.i * k.i = -1) (t : Term R) (hwf : TermWF t) (n : Nat)
    (hn : t.nQubits ≤ n) :
    ∃ M, getSparseOperator k [t] n = some M ∧
      Mat.toM (2 ^ n) (2 ^ n) M = Mat.toM (2 ^ n) (2 ^ n) (t.denote k n) := by
  obtain ⟨M, h1, _, _, h4⟩ := sparse_eq_denote k hi [t] (sumWF_singleton.2 hwf) n (by rwa [nQubits_singleton])
  exact ⟨M, h1, h4.trans (toM_termDenote k n t).symm⟩

/-- Sentence 1, "including the zero operator": the empty sum gives the zero matrix at every width. -/
theorem sparse_zero_operator (k : Scal R) (n : Nat) :
    ∃ M, getSparseOperator k ([] : PSum R) n = some M ∧ Mat.toM (2 ^ n) (2 ^ n) M = 0 := by
  refine ⟨_, rfl, ?_⟩
  funext i j
  simp only [Mat.toM, Matrix.zero_apply]
  exact Mat.get_ofFn _ _ _ _ _ i.2 j.2

/-- The width guard: `get_sparse_operator` raises `ValueError` exactly when `n <` the operator's width. -/
theorem sparse_rejects_iff (k : Scal R) (s : PSum R) (n : Nat) :
    getSparseOperator k s n = none ↔ n < PSum.nQubits s := getSparseOperator_none k s n

/-- What "qubit 0 as the leftmost factor" means entry by entry: entry `(i, j)` of the definition is
    `Σ_terms coeff · Π_q σ_q[bit_q i][bit_q j]` where `bit_q x = x / 2^(n-1-q) % 2`, i.e. qubit 0 is
    the most significant bit of the basis index. -/
theorem denote_entry_msb (k : Scal R) (n : Nat) (s : PSum R) (i j : Fin (2 ^ n)) :
    Mat.toM (2 ^ n) (2 ^ n) (PSum.denote k n s) i j
      = (s.map (fun t => t.coeff * ((List.range n).map (fun q =>
          pe k (t.opAt q) (i / 2 ^ (n - 1 - q) % 2) (j / 2 ^ (n - 1 - q) % 2))).prod)).sum := by
  rw [toM_denote, Matrix.of_apply, dEntry]
  exact congrArg List.sum (List.map_congr_left fun t _ => by rw [strEntry_prod])

/-- Sentence 2a: `hermitian_conjugated` of a `PauliSum` denotes the conjugate-transposed matrix
    (on every register width `n`). -/
theorem conj_denote (k : Scal R) (hcj : k.cj = star) (hsi : star k.i = -k.i) (tol : Tol R) (hnegl : NeglExact tol)
    (s : PSum R) (hwf : SumWF s) (n : Nat) :
    Mat.toM (2 ^ n) (2 ^ n) (PSum.denote k n (hermitianConjugated k tol s))
      = (Mat.toM (2 ^ n) (2 ^ n) (PSum.denote k n s))ᴴ := by
  rw [toM_denote, toM_denote]
  funext i j
  exact hc_spec k hcj hsi tol hnegl n s hwf i j

/-- Sentence 2a for a single `PauliTerm`: conjugating the coefficient conjugate-transposes the matrix. -/
theorem conj_term_denote (k : Scal R) (hcj : k.cj = star) (hsi : star k.i = -k.i) (t : Term R) (n : Nat) :
    Mat.toM (2 ^ n) (2 ^ n) ((hermitianConjugatedTerm k t).denote k n)
      = (Mat.toM (2 ^ n) (2 ^ n) (t.denote k n))ᴴ := by
  rw [toM_termDenote, toM_termDenote, toM_denote, toM_denote]
  funext i j
  exact map_hc_dEntry k hcj hsi n [t] i j

/-- `bitrev n` really reverses the `n` bits: bit `q` of the image is bit `n-1-q` of the argument. -/
theorem bitrev_reverses_bits (n i q : Nat) (hq : q < n) : bitrev n i / 2 ^ q % 2 = i / 2 ^ (n - 1 - q) % 2 := by
  induction n generalizing i q with
  | zero => omega
  | succ n ih =>
    rw [bitrev]
    rcases Nat.lt_succ_iff_lt_or_eq.1 hq with hq' | rfl
    · -- the top bit sits above position `q`: it contributes an even multiple of `2^q`
      obtain ⟨d, rfl⟩ : ∃ d, n = q + (d + 1) := ⟨n - q - 1, by omega⟩
      rw [show i % 2 * 2 ^ (q + (d + 1)) = 2 ^ q * (2 * (i % 2 * 2 ^ d)) by rw [pow_add, pow_succ]; ring,
        Nat.mul_add_div (Nat.pos_of_ne_zero (by positivity)), Nat.mul_add_mod, ih (i / 2) q hq', div_two_div_pow]
      congr 3; omega
    · rw [mul_pow_add_div q _ _ (mod_two_lt _) (bitrev_lt q _), Nat.add_sub_cancel, Nat.sub_self, pow_zero,
        Nat.div_one]

/-- Sentence 4b: for `n ≥` width, `reverse_qubit_order(op, n)` denotes the matrix conjugated by the
    bit-reversal permutation of the basis indices. -/
theorem reverse_eq_bitreversal_conj (k : Scal R) (tol : Tol R) (hnegl : NeglExact tol) (s : PSum R)
    (hwf : SumWF s) (n : Nat) (hn : PSum.nQubits s ≤ n) :
    ∃ s', reverseQubitOrder tol s n = some s' ∧
      Mat.toM (2 ^ n) (2 ^ n) (PSum.denote k n s')
        = (Mat.toM (2 ^ n) (2 ^ n) (PSum.denote k n s)).submatrix (bitrevFin n) (bitrevFin n) := by
  obtain ⟨s', h1, _, _, h4⟩ := reverse_spec k tol hnegl n s hwf hn
  refine ⟨s', h1, ?_⟩
  rw [toM_denote, toM_denote]
  funext i j
  exact h4 i j i.2 j.2

/-- Sentence 4a: reversing twice is the identity on the denoted operator (any sum, `n ≥` width). -/
theorem reverse_reverse (k : Scal R) (tol : Tol R) (hnegl : NeglExact tol) (s : PSum R)
    (hwf : SumWF s) (n : Nat) (hn : PSum.nQubits s ≤ n) :
    ∃ s' s'', reverseQubitOrder tol s n = some s' ∧ reverseQubitOrder tol s' n = some s'' ∧
      Mat.toM (2 ^ n) (2 ^ n) (PSum.denote k n s'') = Mat.toM (2 ^ n) (2 ^ n) (PSum.denote k n s) := by
  obtain ⟨s', h1, hwf', hn', h4⟩ := reverse_spec k tol hnegl n s hwf hn
  obtain ⟨s'', h1', _, _, h4'⟩ := reverse_spec k tol hnegl n s' hwf' hn'
  refine ⟨s', s'', h1, h1', ?_⟩
  rw [toM_denote, toM_denote]
  funext i j
  exact (h4' i j i.2 j.2).trans (by
    rw [h4 _ _ (bitrev_lt n i) (bitrev_lt n j), bitrev_invol n i i.2, bitrev_invol n j j.2]; rfl)

/-- The width guard of `reverse_qubit_order`: `ValueError` exactly when `n <` width. -/
theorem reverse_rejects_iff (tol : Tol R) (s : PSum R) (n : Nat) :
    reverseQubitOrder tol s n = none ↔ n < PSum.nQubits s := by
  unfold reverseQubitOrder
  by_cases h : n < PSum.nQubits s <;> simp [h]

/-- Sentence 5 for `expectation(operator, state)` itself: `dot(conj(state), operator * state)` is the
    quadratic form of the state with the given matrix. -/
theorem expectation_eq (k : Scal R) (hcj : k.cj = star) (M : Mat R) (ψ : List R) (d : Nat) (hd : ψ.length = d) :
    expectation k M ψ = star (stateVec d ψ) ⬝ᵥ (Mat.toM d d M) *ᵥ (stateVec d ψ) := by
  unfold expectation
  rw [hd, sumTo_eq, Finset.sum_range]
  simp only [dotProduct, Matrix.mulVec, Pi.star_apply, stateVec, hcj]
  apply Finset.sum_congr rfl
  intro i _
  rw [sumTo_eq, Finset.sum_range]
  rfl

/-- Sentence 5: for a state with `2^n` amplitudes and an operator of width `≤ n`,
    `get_expectation_value(op, ψ)` is the quadratic form `ψᴴ · A · ψ` with `A` the operator's matrix
    on `n` qubits.  (Holds for every amplitude vector, normalised or not.) -/
theorem expectation_quadratic_form (k : Scal R) (hi : k.i * k.i = -1) (hcj : k.cj = star) (tol : Tol R)
    (s : PSum R) (hwf : SumWF s) (n : Nat) (ψ : List R) (hψ : ψ.length = 2 ^ n) (hn : PSum.nQubits s ≤ n) :
    getExpectationValue k tol s ψ false
      = some (star (stateVec (2 ^ n) ψ) ⬝ᵥ (Mat.toM (2 ^ n) (2 ^ n) (PSum.denote k n s)) *ᵥ (stateVec (2 ^ n) ψ)) := by
  obtain ⟨M, h1, _, _, h4⟩ := sparse_eq_denote k hi s hwf n hn
  unfold getExpectationValue
  simp only [hψ, Nat.log2_two_pow, Bool.false_eq_true, if_false, h1]
  rw [expectation_eq k hcj M ψ (2 ^ n) hψ, h4]

/-- Sentence 5 with `reverse_operator=True`: the quadratic form with the bit-reversed matrix. -/
theorem expectation_quadratic_form_reversed (k : Scal R) (hi : k.i * k.i = -1) (hcj : k.cj = star) (tol : Tol R)
    (hnegl : NeglExact tol) (s : PSum R) (hwf : SumWF s) (n : Nat) (ψ : List R) (hψ : ψ.length = 2 ^ n)
    (hn : PSum.nQubits s ≤ n) :
    getExpectationValue k tol s ψ true
      = some (star (stateVec (2 ^ n) ψ) ⬝ᵥ
          ((Mat.toM (2 ^ n) (2 ^ n) (PSum.denote k n s)).submatrix (bitrevFin n) (bitrevFin n)) *ᵥ
          (stateVec (2 ^ n) ψ)) := by
  obtain ⟨s', hr1, hwf', hn', _⟩ := reverse_spec k tol hnegl n s hwf hn
  obtain ⟨s'', hr2, hr3⟩ := reverse_eq_bitreversal_conj k tol hnegl s hwf n hn
  obtain rfl : s' = s'' := Option.some.inj (hr1.symm.trans hr2)
  obtain ⟨M, h1, _, _, h4⟩ := sparse_eq_denote k hi s' hwf' n hn'
  unfold getExpectationValue
  simp only [hψ, Nat.log2_two_pow, if_true, hr1, h1]
  rw [expectation_eq k hcj M ψ (2 ^ n) hψ, h4, hr3]

/-- `get_expectation_value` raises `ValueError` when the operator is wider than the state. -/
theorem expectation_rejects (k : Scal R) (tol : Tol R) (s : PSum R) (n : Nat) (ψ : List R)
    (hψ : ψ.length = 2 ^ n) (hn : n < PSum.nQubits s) (rev : Bool) :
    getExpectationValue k tol s ψ rev = none := by
  unfold getExpectationValue
  simp only [hψ, Nat.log2_two_pow]
  cases rev
  · simp only [Bool.false_eq_true, if_false, (sparse_rejects_iff k s n).2 hn]
  · simp only [if_true, (reverse_rejects_iff tol s n).2 hn]

/-- Sentence 4a at the level of the DATA: on a simplified sum (`Simplified`: pairwise different
    operation sets, no negligible coefficient – what `simplify` returns; any tolerance) reversing twice
    returns the very same list of terms. -/
theorem reverse_reverse_simplified (tol : Tol R) (s : PSum R) (hs : Simplified tol s) (n : Nat)
    (hn : PSum.nQubits s ≤ n) :
    ∃ s', reverseQubitOrder tol s n = some s' ∧ reverseQubitOrder tol s' n = some s := by
  refine ⟨_, reverse_simplified tol n s hs hn, ?_⟩
  rw [reverse_simplified tol n _ (simplified_map_reverse tol n s hs ((sum_nQubits_le s n).1 hn))
    (nQubits_map_reverse n s hn), map_reverse_map_reverse n s hn]

/-- The mechanism "hermitian_conjugated conjugates coefficients", on the operator data: on a simplified
    sum (exact comparisons) the result is the same list of terms with every coefficient conjugated. -/
theorem conj_simplified_data (k : Scal R) (hcj : k.cj = star) (tol : Tol R) (hex : TolExact tol) (s : PSum R)
    (hs : Simplified tol s) :
    hermitianConjugated k tol s = s.map (fun t => ⟨t.ops, star t.coeff⟩) := by
  rw [hc_simplified k hcj tol hex s hs]
  apply List.map_congr_left
  intro t _
  simp only [hermitianConjugatedTerm, hcj]

/-- Sentence 2b: for a simplified operator (`Simplified`, well formed) on `n ≥ width` qubits, with the
    float comparisons instantiated exactly (`TolExact`: `isclose(x,0) ↔ x = 0`, `allclose(a,b) ↔ a = b`,
    equal rounded hash key ↔ equal), `is_hermitian(op)` is `True` exactly when the operator's matrix
    equals its conjugate transpose.  (The `←` direction is the linear independence of distinct Pauli
    strings, proved through trace orthogonality; it needs `2` invertible: `2 * k.half = 1`.) -/
theorem isHermitian_iff (k : Scal R) (hi : k.i * k.i = -1) (hcj : k.cj = star) (hsi : star k.i = -k.i)
    (hh : 2 * k.half = 1) (tol : Tol R) (hex : TolExact tol) (s : PSum R) (hwf : SumWF s)
    (hs : Simplified tol s) (n : Nat) (hn : PSum.nQubits s ≤ n) :
    isHermitian k tol s = true ↔
      Mat.toM (2 ^ n) (2 ^ n) (PSum.denote k n s) = (Mat.toM (2 ^ n) (2 ^ n) (PSum.denote k n s))ᴴ := by
  rw [isHermitian_iff_real k hcj tol hex s hwf hs, real_iff_hermitian_matrix k hi hcj hsi hh n s hwf hs.1 hn,
    toM_denote_hermitian_iff]

/-- Sentence 2b for a single `PauliTerm` (any coefficient, also 0): `is_hermitian(term)` is `True`
    exactly when `coeff · string` equals its conjugate transpose. -/
theorem isHermitianTerm_iff (k : Scal R) (hi : k.i * k.i = -1) (hcj : k.cj = star) (hsi : star k.i = -k.i)
    (hh : 2 * k.half = 1) (tol : Tol R) (hex : TolExact tol) (t : Term R) (hwf : TermWF t) (n : Nat)
    (hn : t.nQubits ≤ n) :
    isHermitianTerm k tol t = true ↔
      Mat.toM (2 ^ n) (2 ^ n) (t.denote k n) = (Mat.toM (2 ^ n) (2 ^ n) (t.denote k n))ᴴ := by
  rw [toM_termDenote, toM_denote_hermitian_iff, ← real_iff_hermitian_matrix k hi hcj hsi hh n [t] (sumWF_singleton.2 hwf)
    (List.pairwise_singleton _ _) (by rwa [nQubits_singleton]), List.forall_mem_singleton]
  unfold isHermitianTerm termEq
  simp only [hermitianConjugatedTerm, hcj, sameOps_refl, Bool.or_true, Bool.and_true]
  rw [hex.close]; exact eq_comm

/-- Sentence 3, PARTIAL: for every `2^n × 2^n` matrix with `n ≥ 1`, `get_pauliop_from_matrix` succeeds,
    the resulting sum denotes the matrix, fits in `n` qubits, and converting it back with
    `get_sparse_operator(·, n)` reproduces the matrix.  Missing: `n = 0` (a 1×1 matrix), where the real
    code raises – see `pauli_expansion_fails_1x1`; that input class is the known finding
    `from-matrix-1x1`.  (Needs `2 * k.half = 1` for the division by `2^n`, and `NeglExact`.) -/
theorem pauli_expansion_roundtrip_partial (k : Scal R) (hi : k.i * k.i = -1) (hh : 2 * k.half = 1)
    (tol : Tol R) (hnegl : NeglExact tol) (A : Mat R) (n : Nat) (hn : 1 ≤ n) (hr : A.r = 2 ^ n) (hc : A.c = 2 ^ n) :
    ∃ s, getPauliopFromMatrix k tol A = .ok s ∧
      Mat.toM (2 ^ n) (2 ^ n) (PSum.denote k n s) = Mat.toM (2 ^ n) (2 ^ n) A ∧
      ∃ M, getSparseOperator k s n = some M ∧ Mat.toM (2 ^ n) (2 ^ n) M = Mat.toM (2 ^ n) (2 ^ n) A := by
  obtain ⟨s, h1, hwf, hw, he⟩ := fromMatrix_spec k hi hh tol hnegl A n hn hr hc
  have hden : Mat.toM (2 ^ n) (2 ^ n) (PSum.denote k n s) = Mat.toM (2 ^ n) (2 ^ n) A := by
    rw [toM_denote]; funext i j; exact he i j i.2 j.2
  obtain ⟨M, hM, _, _, hM2⟩ := sparse_eq_denote k hi s hwf n hw
  exact ⟨s, h1, hden, M, hM, hM2.trans hden⟩

/-- Negative witness for Sentence 3 at `n = 0`: on every 1×1 matrix the model – like the code –
    raises (`dec2bin(0, 0) = [0]` has length 1, `decode` demands length `2n = 0`). -/
theorem pauli_expansion_fails_1x1 (k : Scal R) (tol : Tol R) (A : Mat R) (hr : A.r = 1) (hc : A.c = 1) :
    getPauliopFromMatrix k tol A = .error .decodeLength := by
  have hlog : Nat.log2 1 = 0 := by decide
  have hany : (List.range (4 ^ 0)).any (fun i => (dec2bin i (2 * 0)).length != 2 * 0) = true := by decide
  unfold getPauliopFromMatrix
  rw [hr, hc]
  simp only [hlog]
  rw [if_neg (by decide), if_neg (by simp), if_neg (by simp), if_pos hany]

/-- The shape guards of `get_pauliop_from_matrix`: a non-square matrix and a square matrix whose size
    is not a power of two are rejected. -/
theorem pauli_expansion_rejects (k : Scal R) (tol : Tol R) (A : Mat R) (h0 : A.r ≠ 0) :
    (A.r ≠ A.c → getPauliopFromMatrix k tol A = .error .notSquare) ∧
    (A.r = A.c → 2 ^ Nat.log2 A.r ≠ A.r → getPauliopFromMatrix k tol A = .error .notPow2) := by
  constructor
  · intro h; unfold getPauliopFromMatrix; rw [if_neg h0, if_pos h]
  · intro h h2; unfold getPauliopFromMatrix; rw [if_neg h0, if_neg (by simpa using h), if_pos h2]

/-- For an ARBITRARY tolerance predicate `negl` (e.g. the real `|x| ≤ 1e-8`): `simplify` changes the
    denoted matrix exactly by the merged terms it discards (`dropped tol s`), and every discarded term
    has a negligible coefficient.  (`NeglExact` in the theorems above is the case where this correction
    vanishes; every `+=` in `hermitian_conjugated`, `reverse_qubit_order`, `get_pauliop_from_matrix`
    is one such step.) -/
theorem simplify_denote_upto_negl (k : Scal R) (tol : Tol R) (s : PSum R) (hwf : SumWF s) (n : Nat) :
    Mat.toM (2 ^ n) (2 ^ n) (PSum.denote k n (simplify tol s))
        + Mat.toM (2 ^ n) (2 ^ n) (PSum.denote k n (dropped tol s))
      = Mat.toM (2 ^ n) (2 ^ n) (PSum.denote k n s)
    ∧ ∀ t ∈ dropped tol s, tol.negl t.coeff = true := by
  refine ⟨?_, dropped_negl tol s⟩
  rw [toM_denote, toM_denote, toM_denote]
  funext i j
  exact simplify_split_dEntry k n tol s hwf i j

/-! ### non-vacuity: concrete inputs meeting the hypotheses -/

/-- constants over the Gaussian integers (no `1/2` there: used for the statements that do not need it) -/
def kG : Scal GaussianInt := ⟨⟨0, 1⟩, 0, 0, 0, star⟩
/-- constants over ℂ -/
noncomputable def kC : Scal ℂ := ⟨Complex.I, 0, 0, 1 / 2, star⟩

example : kG.i * kG.i = -1 ∧ kG.cj = star ∧ star kG.i = -kG.i := ⟨by decide, rfl, by decide⟩
example : kC.i * kC.i = -1 ∧ kC.cj = star ∧ star kC.i = -kC.i ∧ 2 * kC.half = 1 :=
  ⟨by simp [kC], rfl, by simp [kC], by norm_num [kC]⟩
example : NeglExact (Tol.exact : Tol ℂ) := fun x hx => by simpa [Tol.exact] using hx
example : TolExact (Tol.exact : Tol ℂ) := tolExact_exact

/-- a sum with a Y, a gap (qubits 0 and 2, stored in descending order), a complex coefficient, a
    constant, a zero term and a repeated operation set, on 4 > 3 = width qubits -/
def sG : PSum GaussianInt :=
  [⟨[(2, .X), (0, .Y)], ⟨1, 2⟩⟩, ⟨[], ⟨-3, 0⟩⟩, ⟨[(1, .Z)], 0⟩, ⟨[(0, .Y), (2, .X)], ⟨0, 1⟩⟩]

example : SumWF sG := by
  intro t ht
  simp only [sG, List.mem_cons, List.mem_nil_iff, or_false] at ht
  rcases ht with rfl | rfl | rfl | rfl <;> (unfold TermWF; decide)
example : PSum.nQubits sG = 3 ∧ PSum.nQubits sG ≤ 4 := by decide
example : ¬ Simplified Tol.exact sG := by
  intro h; have := h.1; revert this; decide

/-- a simplified sum -/
def sS : PSum GaussianInt := [⟨[(2, .X), (0, .Y)], ⟨1, 2⟩⟩, ⟨[], ⟨-3, 0⟩⟩, ⟨[(1, .Z)], ⟨0, 1⟩⟩]
example : Simplified Tol.exact sS := by
  constructor
  · decide
  · intro t ht
    simp only [sS, List.mem_cons, List.mem_nil_iff, or_false] at ht
    rcases ht with rfl | rfl | rfl <;> decide

/-- `sparse_eq_denote` instantiated at the concrete inputs -/
example := sparse_eq_denote kG (by decide) sG
  (by intro t ht
      simp only [sG, List.mem_cons, List.mem_nil_iff, or_false] at ht
      rcases ht with rfl | rfl | rfl | rfl <;> (unfold TermWF; decide)) 4 (by decide)
example : bitrev 3 1 = 4 ∧ bitrev 3 6 = 3 ∧ bitrev 4 3 = 12 := by decide
example : (Mat.ofFn 2 2 (fun i j => (i + 2 * j : ℂ))).r = 2 ^ 1 ∧ 1 ≤ 1 := ⟨rfl, le_refl _⟩
example : ([1 / 2, Complex.I / 2, -1 / 2, 1 / 2] : List ℂ).length = 2 ^ 2 := rfl

end OQ.C09
