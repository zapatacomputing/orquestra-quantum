/-
  C13 — PROPERTY THEOREMS: splitting, batching and recombining shots never loses or invents a shot.
  Model: OQ/Model/C13.lean.  Helper lemmas: OQ/Lemmas/C13.lean.
-/
import OQ.Lemmas.C13
import OQ.Generated.TranslatedC13
namespace OQ.C13

/-- the expanded sample counts of one circuit sum exactly to the requested count -/
theorem expand_sum (n m : Int) (hn : 0 < n) (hm : 0 < m) : (expandSampleSize n m).1.sum = n := by
  rw [expandSampleSize_eq n m hm]
  have hq : ((n / m).toNat : Int) = n / m := Int.toNat_of_nonneg (Int.ediv_nonneg hn.le hm.le)
  have h1 := Int.ediv_mul_add_emod n m
  simp only [List.sum_append, List.sum_replicate, nsmul_eq_mul, hq]
  split
  · rw [List.sum_nil]; omega
  · rw [List.sum_singleton]; omega

/-- every expanded count lies between 1 and the maximum -/
theorem expand_bounds (n m : Int) (hn : 0 < n) (hm : 0 < m) :
    ∀ x ∈ (expandSampleSize n m).1, 1 ≤ x ∧ x ≤ m := by
  rw [expandSampleSize_eq n m hm]
  intro x hx
  rcases List.mem_append.mp hx with hx | hx
  · rw [List.eq_of_mem_replicate hx]; omega
  · have h2 := Int.emod_nonneg n hm.ne'
    have h3 := Int.emod_lt_of_pos n hm
    split at hx
    · cases hx
    · rw [List.mem_singleton.mp hx]; omega

/-- the multiplicity is the number of copies, and there is at least one copy -/
theorem expand_length (n m : Int) (hn : 0 < n) (hm : 0 < m) :
    ((expandSampleSize n m).1.length : Int) = (expandSampleSize n m).2 ∧ 1 ≤ (expandSampleSize n m).2 := by
  rw [expandSampleSize_eq n m hm]
  by_cases h : n % m = 0
  · have := Int.ediv_pos_of_pos_of_dvd hn hm.le (Int.dvd_of_emod_eq_zero h)
    simp only [h, if_true, List.append_nil, List.length_replicate]
    omega
  · have := Int.ediv_nonneg hn.le hm.le
    simp only [h, if_false, List.length_append, List.length_replicate, List.length_singleton]
    omega

/-- regrouping a concatenation by the group lengths returns the groups -/
theorem regroup_flatten {α : Type} (gs : List (List α)) :
    regroup gs.flatten (gs.map List.length) = gs := by
  induction gs with
  | nil => rfl
  | cons g gs ih => rw [List.flatten_cons, List.map_cons, regroup_append, ih]

/-- combining with the returned multiplicities gives back the requested per-circuit totals,
    in the original circuit order -/
theorem expand_combine_totals (ns : List Int) (m : Int) (hm : 0 < m) (hns : ∀ n ∈ ns, 0 < n)
    {α : Type} (cs : List α) :
    let r := expandSampleSizes cs ns m
    (regroup r.2.1 (r.2.2.map Int.toNat)).map List.sum = ns := by
  induction ns with
  | nil => simp [expandSampleSizes, regroup]
  | cons n ns ih =>
    have hn : 0 < n := hns n List.mem_cons_self
    have ih' := ih (fun x hx => hns x (List.mem_cons_of_mem _ hx))
    simp only [expandSampleSizes, List.map_cons, List.flatMap_cons] at ih' ⊢
    have hl := (expand_length n m hn hm).1
    have : ((expandSampleSize n m).2).toNat = (expandSampleSize n m).1.length := by omega
    rw [this, regroup_append]
    simp only [List.map_cons, expand_sum n m hn hm]
    congr 1

/-- the duplicated circuits appear grouped, in the original order -/
theorem expand_order {α : Type} (cs : List α) (ns : List Int) (m : Int) :
    (expandSampleSizes cs ns m).1 =
      (cs.zip ((expandSampleSizes cs ns m).2.2)).flatMap (fun p => List.replicate p.2.toNat p.1) := rfl

/-- combine_bitstrings keeps every shot: the i-th result is the concatenation of the i-th group -/
theorem combine_bitstrings_groups {α : Type} (gs : List (List (List α))) :
    combineBitstrings gs.flatten (gs.map List.length) = some (gs.map List.flatten) := by
  unfold combineBitstrings
  rw [if_neg (not_not.mpr List.length_flatten), regroup_flatten]

/-- merging two count dictionaries adds the totals -/
theorem combineTwo_total (a b : Counts) : (combineTwo a b).total = a.total + b.total :=
  foldl_add_hom (β := String × Nat) Counts.total (fun acc p => Counts.bump acc p.1 p.2) (fun p => p.2)
    (fun c p => bump_total c p.1 p.2) b a

/-- `split_into_batches` is rejected exactly on mismatched lengths or a non-positive maximum -/
theorem batches_reject_iff {α : Type} (cs : List α) (ns : List Int) (mb : Int) :
    splitIntoBatches cs ns mb = none ↔ (cs.length ≠ ns.length ∨ mb ≤ 0) := by
  unfold splitIntoBatches
  by_cases h1 : cs.length ≠ ns.length <;> by_cases h2 : mb ≤ 0 <;> simp [h1, h2]

/-- accepted: the batches are the circuit chunks paired with the maxima of the sample chunks,
    and both chunkings have the same shape -/
theorem batches_accept {α : Type} (cs : List α) (ns : List Int) (mb : Int)
    (h1 : cs.length = ns.length) (h2 : 0 < mb) :
    splitIntoBatches cs ns mb =
      some ((chunks mb.toNat cs.length cs).zip ((chunks mb.toNat ns.length ns).map listMax)) ∧
    (chunks mb.toNat cs.length cs).map List.length = (chunks mb.toNat ns.length ns).map List.length := by
  unfold splitIntoBatches
  refine ⟨by simp [h1, not_le.mpr h2], ?_⟩
  rw [← h1]; exact chunks_length_eq _ (by omega) _ _ (le_refl _) _ h1

/-- the batches cover every circuit exactly once, in order -/
theorem batches_cover {α : Type} (cs : List α) (mb : Int) (h2 : 0 < mb) :
    (chunks mb.toNat cs.length cs).flatten = cs :=
  chunks_flatten _ (by omega) _ _ (le_refl _)

/-- every batch is non-empty and never exceeds the maximum batch size -/
theorem batches_size {α : Type} (cs : List α) (mb : Int) (h2 : 0 < mb) :
    ∀ c ∈ chunks mb.toNat cs.length cs, 1 ≤ c.length ∧ (c.length : Int) ≤ mb := by
  intro c hc
  have := chunks_bounds mb.toNat (by omega) cs.length cs (le_refl _) c hc
  omega

/-- a batch requests at least as many samples as each of its circuits asked for -/
theorem batches_samples_ge (ns : List Int) (mb : Int) :
    ∀ c ∈ chunks mb.toNat ns.length ns, ∀ x ∈ c, x ≤ listMax c :=
  fun c _ => listMax_ge c

/-- `scale_and_discretize` returns integers that sum exactly to the total – for every tie order
    (`order` is any list of in-range indices long enough, e.g. a permutation; distinctness is not needed here). -/
theorem scale_sum (values : List Rat) (total : Int) (order : List Nat)
    (hs : values.sum ≠ 0) (hne : values ≠ [])
    (hrange : ∀ i ∈ order, i < values.length) (hlen : values.length ≤ order.length) :
    (scaleAndDiscretize values total order).sum = total := by
  have hb := leftover_bounds values total hs hne
  simp only [scaleAndDiscretize]
  rw [foldl_bump_sum _ _ (fun i hi => by rw [shareFloors_length]; exact hrange i (List.mem_of_mem_take hi)),
    List.length_take]
  omega

/-- … and each returned integer is the floor of its proportional share or one more, hence
    within one of the share. -/
theorem scale_within_one (values : List Rat) (total : Int) (order : List Nat) (hn : order.Nodup)
    (j : Nat) (hj : j < values.length) :
    let share := values.getD j 0 * ((total : Rat) / values.sum)
    let r := (scaleAndDiscretize values total order).getD j 0
    (r = ⌊share⌋ ∨ r = ⌊share⌋ + 1) ∧ |(r : Rat) - share| ≤ 1 := by
  intro share r
  have hr : r = ⌊share⌋ + ((order.take (total - (shareFloors values total).sum).toNat).count j : Int) := by
    simp only [r, scaleAndDiscretize]
    rw [foldl_bump_getD _ _ j (by rw [shareFloors_length]; exact hj), shareFloors_getD values total j hj]
  -- a position occurs at most once among the distinct indices that receive a unit
  have hc := (hn.sublist (List.take_sublist (total - (shareFloors values total).sum).toNat order)).count (a := j)
  rw [hr]
  split at hc
  · rw [hc]; exact ⟨Or.inr rfl, abs_floor_add_sub_le share (Or.inr rfl)⟩
  · rw [hc]; exact ⟨Or.inl (add_zero _), abs_floor_add_sub_le share (Or.inl rfl)⟩

/-- `get_measurements_representing_distribution` returns exactly the requested number of shots:
    whatever the rounding stage produced and whatever the random stage drew, provided the random
    stage drew exactly `|n − len|` outcomes (law of `np.random.choice(size=…)`) and, when
    eliminating, only outcomes that are present often enough (what `_check_sample_elimination`
    establishes). -/
theorem representing_length {α : Type} [DecidableEq α] (dist : List (α × Rat)) (n : Int)
    (extra : List (α × Nat))
    (hdraw : (extraTotal extra : Int) = |n - (roundedSamples dist n).length|)
    (hk : (extra.map (fun p => p.1)).Nodup)
    (hpresent : (n < (roundedSamples dist n).length) → ∀ p ∈ extra, p.2 ≤ (roundedSamples dist n).count p.1) :
    ((representing dist n extra).length : Int) = n :=
  length_representing dist n extra hdraw hk hpresent

/-- all returned shots lie on outcomes of positive probability (the support), provided the
    random stage only draws outcomes of the support (law of `rng.choice`: never an outcome
    of weight 0; the leftover weight of a probability-0 outcome is 0). -/
theorem representing_support {α : Type} [DecidableEq α] (dist : List (α × Rat)) (n : Int) (hn : 0 < n)
    (extra : List (α × Nat))
    (hk : (extra.map (fun p => p.1)).Nodup)
    (hpresent : (n < (roundedSamples dist n).length) → ∀ p ∈ extra, p.2 ≤ (roundedSamples dist n).count p.1)
    (hsupp : ∀ p ∈ extra, 0 < p.2 → ∃ q ∈ dist, q.1 = p.1 ∧ 0 < q.2) :
    ∀ x ∈ representing dist n extra, ∃ q ∈ dist, q.1 = x ∧ 0 < q.2 :=
  support_representing dist n hn extra hk hpresent hsupp

/-- TRANSLATION TIE: the Lean definition regenerated on every run from the CURRENT Python source of
    `_expand_sample_size` (harness/translate.py → OQ/Generated/TranslatedC13.lean) is the hand-written model,
    for a positive maximum (where Python's floor division / modulo are Lean's `/` and `%`).  An edit of the
    Python function changes the generated definition and this theorem stops checking. -/
theorem translated_expand_sample_size_eq (n m : Int) (hm : 0 < m) :
    OQ.Generated.Translated.expand_sample_size n m = expandSampleSize n m := by
  simp only [OQ.Generated.Translated.expand_sample_size, expandSampleSize, Int.fdiv_eq_ediv_of_nonneg _ hm.le,
    Int.fmod_eq_emod_of_nonneg _ hm.le, List.flatten_replicate_singleton, beq_iff_eq]
  split <;> rfl

/-- TRANSLATION TIE: `expand_sample_sizes` (its three comprehensions, the `zip`, the nested `for _ in range(multi)`)
    regenerated from the current Python source is the model's `expandSampleSizes`, for every list of opaque circuits, every
    list of counts and every positive maximum – so `expand_sum`, `expand_bounds` and `expand_combine_totals` speak about
    what the code says now. -/
theorem translated_expand_sample_sizes_eq {α : Type} (cs : List α) (ns : List Int) (m : Int) (hm : 0 < m) :
    OQ.Generated.Translated.expand_sample_sizes cs ns m = expandSampleSizes cs ns m := by
  unfold OQ.Generated.Translated.expand_sample_sizes expandSampleSizes
  simp only [translated_expand_sample_size_eq _ _ hm, List.map_id', List.map_const', List.length_map, List.length_range]

/-! non-vacuity: concrete inputs meeting the hypotheses -/
example : expandSampleSize 7 3 = ([3, 3, 1], 3) := by decide
example : (expandSampleSizes ["a", "b"] [7, 6] 3).2.1 = [3, 3, 1, 3, 3] := by decide
example : splitIntoBatches ["a","b","c"] [5, 9, 2] 2 = some [(["a","b"], 9), (["c"], 2)] := by decide
example : scaleAndDiscretize [1, 2, 4] 10 [2, 1, 0] = [1, 3, 6] := by decide +kernel
example : representing [("0", 1/2), ("1", 1/2)] 3 [("0", 1)] = ["0", "1", "1"] := by decide +kernel
example : representing [("0", 1/2), ("1", 1/2)] 1 [("1", 1)] = ["1"] := by decide +kernel

end OQ.C13
