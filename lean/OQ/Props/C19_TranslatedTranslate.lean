/- C19 — PROPERTY THEOREMS (translation ties): `translate_expression` / `translate_tuple` (`circuits/symbolic/translations.py`) and
   `reduction` (`expressions.py`).
   `OQ.Generated.Translated.translate_expression` is REGENERATED from /repo's current source on every run: the `.register`
   decorations of the `@singledispatch` family and the class annotations of its overloads are read from the module, the family
   becomes one function by pattern matching on the inductive `Translated.Expression` (constructors = the registered classes
   `Number`, `Symbol`, `FunctionCall`; NamedTuple fields read from `expressions.py`), the dialect is the generated record
   `Translated.ExpressionDialect` of callables.  Exceptions are values (`OQ.Py.Exc`).  An edit of an overload, a removed / added /
   re-registered overload or a changed record changes the generated definition and the equalities below stop checking.
   Strings: the translator renders a Python `str` as `List Char`, the model uses `String`; `String.ofList` / `toList` convert. -/
import OQ.Generated.TranslatedC19
import OQ.Props.C19
namespace OQ.C19
open OQ.Generated OQ.Py

/-- the model's errors as the Python exception classes they stand for -/
def Err.toExc : Err → Exc
  | .notimpl => .NotImplementedError
  | .value => .ValueError
  | .type => .TypeError
  | .fuel => .OutOfFuel

def liftE {α : Type} : Except Err α → Except Exc α
  | .ok a => .ok a
  | .error e => .error e.toExc

/-- a dialect of the model as a record of callables of the translated code (`known_functions` seen through `in` / `[]`) -/
def Dialect.toPy {α : Type} (D : Dialect α) : Translated.ExpressionDialect NNum α :=
  { symbol_factory := fun s => D.symbol (String.ofList s),
    number_factory := D.number,
    known_functions := fun name => (D.known (String.ofList name)).map (fun f vs => liftE (f vs)) }

mutual
/-- a tree of the translated type as the model's neutral tree -/
def toNExpr : Translated.Expression NNum → NExpr
  | .Number n => .num n
  | .Symbol name => .sym (String.ofList name)
  | .FunctionCall name args => .call (String.ofList name) (toNExprs args)
def toNExprs : List (Translated.Expression NNum) → List NExpr
  | [] => []
  | a :: as => toNExpr a :: toNExprs as
end

mutual
/-- the model's neutral tree as a tree of the translated type -/
def ofNExpr : NExpr → Translated.Expression NNum
  | .num n => .Number n
  | .sym s => .Symbol s.toList
  | .call name args => .FunctionCall name.toList (ofNExprs args)
def ofNExprs : List NExpr → List (Translated.Expression NNum)
  | [] => []
  | a :: as => ofNExpr a :: ofNExprs as
end

mutual
/-- the two conversions are inverse to each other on the model's trees (so the ties below cover every tree of the model) -/
theorem toNExpr_ofNExpr : ∀ t : NExpr, toNExpr (ofNExpr t) = t
  | .num n => rfl
  | .sym s => by rw [ofNExpr, toNExpr, String.ofList_toList]
  | .call name args => by rw [ofNExpr, toNExpr, String.ofList_toList, toNExprs_ofNExprs args]
theorem toNExprs_ofNExprs : ∀ ts : List NExpr, toNExprs (ofNExprs ts) = ts
  | [] => rfl
  | a :: as => by rw [ofNExprs, toNExprs, toNExpr_ofNExpr a, toNExprs_ofNExprs as]
end

mutual
/-- the two halves of the mutual block are restated, with their docstrings, as `translated_translate_expression_eq` and
    `translated_translate_tuple_eq` below -/
theorem translate_expression_tie {α : Type} (D : Dialect α) :
    ∀ e : Translated.Expression NNum, Translated.translate_expression e D.toPy = liftE (translate D (toNExpr e))
  | .Number n => rfl
  | .Symbol s => rfl
  | .FunctionCall name args => by
    rw [Translated.translate_expression, translate_tuple_tie D args, toNExpr, translate]
    cases hk : D.known (String.ofList name) with
    | none => simp only [Dialect.toPy, hk]; rfl
    | some f => simp only [Dialect.toPy, hk]; cases translateTuple D (toNExprs args) <;> rfl
theorem translate_tuple_tie {α : Type} (D : Dialect α) :
    ∀ es : List (Translated.Expression NNum),
      Translated.translate_tuple es D.toPy = liftE (translateTuple D (toNExprs es))
  | [] => rfl
  | a :: as => by
    rw [Translated.translate_tuple, translate_expression_tie D a, translate_tuple_tie D as, toNExprs, translateTuple]
    cases translate D (toNExpr a) with
    | error e => rfl
    | ok v => cases translateTuple D (toNExprs as) <;> rfl
end

/-- TRANSLATION TIE: the `@singledispatch` family `translate_expression` (overloads `translate_number`, `translate_symbol`,
    `translate_function_call`) regenerated from the current source is the model's `translate` – for EVERY tree of the
    translated type and EVERY dialect of the model (symbol / number factories and the table of callables arbitrary; a callable
    may return or raise any of the model's errors), result and exception class alike: a function name missing from the dialect
    is a ValueError raised before the arguments are translated, the arguments are translated left to right with the SAME
    dialect, the first exception wins, the callable is applied to the translated arguments in order.
    Not covered: dialect callables raising exception classes outside the model's `Err` (they would be passed through). -/
theorem translated_translate_expression_eq {α : Type} (D : Dialect α) (e : Translated.Expression NNum) :
    Translated.translate_expression e D.toPy = liftE (translate D (toNExpr e)) :=
  translate_expression_tie D e

/-- TRANSLATION TIE: `translate_tuple` regenerated from the current source is the model's `translateTuple`. -/
theorem translated_translate_tuple_eq {α : Type} (D : Dialect α) (es : List (Translated.Expression NNum)) :
    Translated.translate_tuple es D.toPy = liftE (translateTuple D (toNExprs es)) :=
  translate_tuple_tie D es

/-- the same tie read from the model's side: every neutral tree of the model is (the image of) a tree of the translated type,
    so the regenerated `translate_expression` computes the model's `translate` on ALL trees of the model. -/
theorem translated_translate_expression_of_model {α : Type} (D : Dialect α) (t : NExpr) :
    Translated.translate_expression (ofNExpr t) D.toPy = liftE (translate D t) := by
  rw [translated_translate_expression_eq, toNExpr_ofNExpr]

/-- TRANSLATION TIE: `reduction(operator)(*args)` (= `functools.reduce(operator, args)`) regenerated from the current source is the
    model's `reduceE`: a left fold, TypeError on no argument. -/
theorem translated_reduction_eq {β : Type} (op : β → β → β) (args : List β) :
    Translated.reduction op args = liftE (reduceE op args) := by
  unfold Translated.reduction
  cases args <;> rfl

/-- END-TO-END ON THE CODE AS IT IS NOW (sentence 1 of the property): for every expression of the supported grammar the tree
    `expression_from_sympy` produces (model `fromSympy`) is translated BY THE REGENERATED `translate_expression`, with
    `SYMPY_DIALECT` over any field, to the value of the original expression. -/
theorem translated_translate_fromSympy_eval {V : Type} [Field V] (S : Sem V)
    (hinv : ∀ v, S.pw v ((-1 : ℚ) : V) = v⁻¹) (hsqrt : ∀ v, S.sq v = S.pw v ((1/2 : ℚ) : V))
    (e : SExpr) (h : supported e = true) :
    ∃ t, fromSympy e = .ok t ∧
      Translated.translate_expression (ofNExpr t) (sympyDialect (fieldOps S)).toPy = .ok (evalS S e) := by
  obtain ⟨t, hf, ht⟩ := pipeline_eq_ok.mp (translate_fromSympy_eval S hinv hsqrt e h)
  exact ⟨t, hf, by rw [translated_translate_expression_of_model, ht]; rfl⟩

/-- END-TO-END (sentence 2, the part `translate_expression` is responsible for): the regenerated code refuses a function name
    outside the dialect table with a ValueError, whatever the arguments are – for every dialect. -/
theorem translated_unknown_function_value {α : Type} (D : Dialect α) (name : List Char)
    (args : List (Translated.Expression NNum)) (h : D.known (String.ofList name) = none) :
    Translated.translate_expression (.FunctionCall name args) D.toPy = .error .ValueError := by
  rw [translated_translate_expression_eq, toNExpr, unknown_function_value D _ _ h]; rfl

/-! non-vacuity: the TRANSLATED family on concrete trees, with a stand-in dialect built directly as a record of callables -/
private def dia : Translated.ExpressionDialect Int (List Char) :=
  { symbol_factory := fun s => s, number_factory := fun n => OQ.Py.strOfInt n,
    known_functions := fun name =>
      if name = "cat".toList then some (fun vs => .ok vs.flatten)
      else if name = "one".toList then some (fun vs => match vs with | [a] => .ok a | _ => .error .TypeError)
      else none }
example : Translated.translate_expression
    (.FunctionCall "cat".toList [.Symbol "x".toList, .Number 12, .FunctionCall "one".toList [.Symbol "y".toList]]) dia
    = .ok "x12y".toList := by decide +kernel
example : Translated.translate_expression (.FunctionCall "nope".toList [.FunctionCall "one".toList []]) dia
    = .error .ValueError := by decide +kernel
example : Translated.translate_expression (.FunctionCall "cat".toList [.FunctionCall "one".toList [], .FunctionCall "nope".toList []]) dia
    = .error .TypeError := by decide +kernel
example : Translated.translate_tuple [.Number 1, .Symbol "a".toList] dia = .ok ["1".toList, "a".toList] := by decide +kernel
example : Translated.reduction (fun (a b : Int) => 2 * a - b) [5, 1, 2] = .ok 16 := by decide +kernel
example : Translated.reduction (fun (a b : Int) => 2 * a - b) [] = .error .TypeError := by decide +kernel

end OQ.C19
