/-
  C16_Link — COMPOSED THEOREMS: the statements of OQ/Props/C16.lean about the spec semantics, transported to the
  EXECUTABLE unitary (`OQ.C16.unitary` = `Lift.toUnitary` of the circuit's operations, what the driver prints) and to
  the EXECUTABLE Pauli denotation (`Pauli.Term.denote` / `Pauli.stringMatrix`, Kronecker definition, qubit 0 leftmost).

  What is composed.
    * OQ/Props/C16.lean proves `term_evolution`, `evolution_product_order`, `exp_pauli`, `term_evolution_exp`,
      `evolution_product_exp`, `derivative_correct` for `circSem` (products of `gateOn M qs = Spec.lift (qs | rest) M`)
      and for the spec-level Pauli string `pauliString k pa = ⊗_p σ(pa p)` on the bit-assignment basis.
    * OQ/Props/C01.lean proves that the executable `Lift.liftMatrix` / `toUnitary` ARE `Spec.lift` / the ordered
      product (`lifted_matrix_spec`, `opSem_pointwise`, `toUnitary_ordered_product`) — under the hypothesis
      `∀ o ∈ gs, OpValid n o` (distinct indices inside the register, matrix of the right arity).
    * OQ/Lemmas/C09_Entries.lean, C09_Ops.lean (the lemmas behind C09's `denote_entry_msb`, shared with C03's
      `denote`) give the entries of the executable `stringMatrix` / `Term.denote`, qubit 0 = most significant bit.
  Here: the two spec semantics coincide (`gate_semantics_agree`, `spec_semantics_agree`), every operation of the
  circuits of `time_evolution_for_term` / `time_evolution` / `time_evolution_derivatives` is `OpValid`
  (`*_accepted`: the hypothesis of C01's theorems is DISCHARGED, it is not assumed), the spec Pauli string is the
  re-indexed executable Kronecker matrix (`pauliString_eq_exec`), hence the end-to-end statements
  `term_evolution_exec`, `evolution_product_exec`, `term_evolution_exp_exec`, `evolution_product_exp_exec`,
  `derivative_correct_exec` about `unitary` and `Term.denote`, with NO hypothesis on a register or on a semantics:
  the only hypotheses left are on the INPUT (distinct qubit indices inside a term — a `PauliTerm` stores them in a
  dict —, all indices `< n`, the function returned a circuit) and, over a general ring, the laws of the constants.

  Conventions.  `n` / `N` is the width of the register the unitary is taken on (any width containing the qubits).
  `Mat.toM (2^n) (2^n) U i j = U.get i j`: the executable matrix read as a Mathlib matrix over `Fin (2^n)`;
  `C01.toBV n U`: the same re-indexed by bit assignments (qubit 0 = most significant bit).
  `Term.denote k n ⟨ops, 1⟩` is the executable denotation of the Pauli string `ops` (coefficient 1).
-/
import OQ.Lemmas.C16_Link
set_option linter.unusedSectionVars false
namespace OQ.C16.Link
open Matrix OQ OQ.Spec OQ.Pauli OQ.Lift

section ring
variable {R : Type} [CommRing R] [StarRing R] {T : Type}
variable {Q : Type} [One Q] [Mul Q] [Div Q] [Neg Q] [NatCast Q] [DecidableEq Q]

/-- one gate: C01's specification of a valid gate operation (`opSem` = `Spec.lift` along `sigmaOf`, what
    `C01.lifted_matrix_spec` proves `GateOperation.lifted_matrix` equals) IS C16's `gateOn` (`Spec.lift` along the
    subtype partition, the semantics all of OQ/Props/C16.lean is stated in), for every naming `e` of the register's
    qubits that sends the code's index `q < n` to qubit `q`. -/
theorem gate_semantics_agree (n : Nat) (o : Lift.Op R) (h : C01.OpValid n o) (e : ℕ → Fin n)
    (he : ∀ q, q < n → (e q).val = q) : C01.opSem n o = gateOn o.m (o.qs.map e) :=
  opSem_eq_gateOn n o h e he

/-- whole circuits: C01's `circSem` of the executable operation list (`toOps`: gate matrix + indices) of a model
    circuit is C16's `circSem` of the model circuit.  `GOpOK n o`: distinct indices `< n`, as many as the gate's
    arity (1 for H, RX, RZ and their daggers, 2 for CNOT). -/
theorem spec_semantics_agree (k : Scal R) (ang : T → Ang R) (n : Nat) (e : ℕ → Fin n)
    (he : ∀ q, q < n → (e q).val = q) (c : Circ T) (hok : ∀ o ∈ c, GOpOK n o) :
    C01.circSem n ((toOps k ang c).map C01.Oper.gate) = circSem k ang e c :=
  circSem_link k ang n e he c hok

/-- EXECUTABLE = SPEC (removes the gap between `circSem`, in which every theorem of OQ/Props/C16.lean is stated, and
    `unitary`, which the driver runs): for every model circuit of accepted operations the executable unitary exists,
    is `2^n × 2^n`, and re-indexed by bit assignments it is `circSem`.  Composition of
    `C01.toUnitary_ordered_product` (whose hypothesis `OpValid` follows from `GOpOK`) with `spec_semantics_agree`;
    the shared `Lift.toUnitary` agrees with C01's `toUnitary` on well-shaped operations, and the empty circuit is the
    identity by the model's own convention. -/
theorem exec_unitary_eq_spec (k : Scal R) (ang : T → Ang R) (n : Nat) (e : ℕ → Fin n)
    (he : ∀ q, q < n → (e q).val = q) (c : Circ T) (hok : ∀ o ∈ c, GOpOK n o) :
    ∃ U, unitary k ang n c = some U ∧ U.r = 2 ^ n ∧ U.c = 2 ^ n ∧ C01.toBV n U = circSem k ang e c :=
  unitary_spec k ang n e he c hok

/-- DISCHARGES `h : ∀ o ∈ gs, OpValid n o` of `C01.toUnitary_ordered_product` / `C01.applyAll_eq_toUnitary_mulVec`
    for the circuit of `time_evolution_for_term`: on every register containing the term's (distinct) qubits, every
    operation is one the library accepts – one index for H / RX / RZ / daggers, two DISTINCT indices for each CNOT of
    the ladder, matrices of the right arity. -/
theorem term_circuit_accepted (k : Scal R) (ang : T → Ang R) (alg : TimeAlg Q T) (negl : Q → Bool)
    (t : Term (Q × Q)) (hnd : (t.ops.map (·.1)).Nodup) (n : Nat) (hlt : ∀ q ∈ t.ops.map (·.1), q < n)
    (time : T) (c : Circ T) (hc : evolutionForTerm alg negl t time = .ok c) :
    ∀ o ∈ toOps k ang c, C01.OpValid n o := by
  rw [evolutionForTerm_eq, guard_eq_ok] at hc
  obtain ⟨_, rfl⟩ := hc
  exact toOps_valid k ang n _ (evoCirc_ok alg t time hnd n hlt)

/-- the same for the circuit of `time_evolution` (any number of steps ≥ 1, any number of terms). -/
theorem evolution_circuit_accepted (k : Scal R) (ang : T → Ang R) (alg : TimeAlg Q T) (negl : Q → Bool)
    (h : PSum (Q × Q)) (hnd : ∀ t ∈ h, (t.ops.map (·.1)).Nodup) (N : Nat)
    (hlt : ∀ t ∈ h, ∀ q ∈ t.ops.map (·.1), q < N)
    (time : T) (n : ℕ) (hn : 1 ≤ n) (c : Circ T) (hc : timeEvolution alg negl h time n = .ok c) :
    ∀ o ∈ toOps k ang c, C01.OpValid N o := by
  rw [timeEvolution_eq, guard_eq_ok] at hc
  obtain ⟨_, rfl⟩ := hc
  exact toOps_valid k ang N _ (replicate_ok N _ (flatMap_evo_ok alg h _ hnd N hlt) n)

/-- … and for every derivative circuit returned by `time_evolution_derivatives`. -/
theorem derivative_circuits_accepted (k : Scal R) (ang : T → Ang R) (alg : TimeAlg Q T) (negl : Q → Bool)
    (h : PSum (Q × Q)) (hnd : ∀ t ∈ h, (t.ops.map (·.1)).Nodup) (N : Nat)
    (hlt : ∀ t ∈ h, ∀ q ∈ t.ops.map (·.1), q < N)
    (time : T) (n : ℕ) (hn : 1 ≤ n) (l : List (Q × Circ T)) (hl : derivatives alg negl h time n = .ok l) :
    ∀ x ∈ l, ∀ o ∈ toOps k ang x.2, C01.OpValid N o := by
  rw [derivatives_eq alg negl h time n hn, guard_eq_ok] at hl
  obtain ⟨_, rfl⟩ := hl
  exact fun x hx => toOps_valid k ang N _ (derivList_ok alg h time n hnd N hlt x hx)

/-- (4) BRIDGE LEMMA.  The spec-level Pauli string of OQ/Props/C16.lean, `pauliString k pa = ⊗_p σ(pa p)` on the
    bit-assignment basis of the register `Fin n`, IS the executable `Pauli.stringMatrix k n at_`
    (`σ_{at 0} ⊗ … ⊗ σ_{at (n−1)}` by `Mat.kron`, qubit 0 leftmost) re-indexed by `toBV` (qubit 0 = most significant
    bit) — for every width and every string.  Uses `C09.stringMatrix_spec`, `C09.strEntry_prod` (the lemmas behind
    `C09.denote_entry_msb`) for the executable side. -/
theorem pauliString_eq_exec (k : Scal R) (n : Nat) (at_ : ℕ → Option P) :
    pauliString k (fun p : Fin n => at_ p.val) = C01.toBV n (stringMatrix k n at_) :=
  pauliString_eq_toBV k n at_

/-- the same for the executable denotation of a whole term (C03's / C09's `Term.denote`, coefficient included):
    `denote` re-indexed is coefficient • (spec Pauli string of the term's letters). -/
theorem term_denote_eq_spec (k : Scal R) (n : Nat) (t : Term R) :
    C01.toBV n (t.denote k n) = t.coeff • pauliString k (fun p : Fin n => t.opAt p.val) := by
  rw [pauliString_eq_toBV k n t.opAt]
  ext x y
  rw [Matrix.smul_apply, C01.toBV_apply, C01.toBV_apply,
    (C09.termDenote_spec k n t).2.2 _ _ (Fin.isLt _) (Fin.isLt _),
    (C09.stringMatrix_spec k t.opAt n).2.2 _ _ (Fin.isLt _) (Fin.isLt _), smul_eq_mul]

/-- (1) `term_evolution_exec`.  For EVERY Pauli term (any weight, letters, insertion order) with distinct qubit
    indices and an accepted coefficient, on EVERY register width `n` containing its qubits: the EXECUTABLE unitary of
    the circuit `time_evolution_for_term` returns exists, is `2^n × 2^n`, and ENTRYWISE equals
        cos(tc)·1 − i·sin(tc)·P,   P = the executable `Pauli` denotation of the string (`Term.denote`, coefficient 1),
    (cos tc, sin tc) the half-angle point of the central angle θ = 2·t·c the code computes.
    Removes from `C16.term_evolution` the abstract register (`rg`, `rg.Covers t`) and both spec objects (`circSem`,
    `pauliString`); removes from `C01.toUnitary_ordered_product` the hypothesis `OpValid`. -/
theorem term_evolution_exec (k : Scal R) (hk : ScalLaws k) (alg : TimeAlg Q T) (negl : Q → Bool) (ang : T → Ang R)
    (hpi : ang (alg.smul (1 / ((2 : Nat) : Q)) alg.pi) = ⟨k.r, k.r⟩)
    (t : Term (Q × Q)) (hnd : (t.ops.map (·.1)).Nodup) (hne : t.ops ≠ [])
    (n : Nat) (hlt : ∀ q ∈ t.ops.map (·.1), q < n)
    (time : T) (c : Circ T) (hc : evolutionForTerm alg negl t time = .ok c) :
    ∃ U, unitary k ang n c = some U ∧ U.r = 2 ^ n ∧ U.c = 2 ^ n ∧
      ∀ i j, i < 2 ^ n → j < 2 ^ n →
        U.get i j
          = (ang (alg.smul t.coeff.1 (alg.smul ((2 : Nat) : Q) time))).ch * (if i = j then 1 else 0)
            - (k.i * (ang (alg.smul t.coeff.1 (alg.smul ((2 : Nat) : Q) time))).sh)
                * (Term.denote k n (⟨t.ops, 1⟩ : Term R)).get i j := by
  rw [evolutionForTerm_eq, guard_eq_ok] at hc
  obtain ⟨_, rfl⟩ := hc
  obtain ⟨U, hU, hr, hcc, hs⟩ := exec_term k hk alg ang hpi t hnd n hlt time
  refine ⟨U, hU, hr, hcc, fun i j hi hj => ?_⟩
  have := congrFun (congrFun hs ⟨i, hi⟩) ⟨j, hj⟩
  rw [factorM, if_neg hne] at this
  simpa only [Mat.toM, Matrix.sub_apply, Matrix.smul_apply, Matrix.one_apply, Fin.mk.injEq, smul_eq_mul] using this

/-- (1) in the ring the driver computes in: `R = ℚ(ζ₈)`, `k = Scal.cyc8`, the model's `ratAlg` (times a·τ + b·π),
    `ratNegl`, and the driver's angle interpretation `driverAng base θ = (evalAng base θ).getD Ang.zero`
    (`base` = half-angle point of τ).  The laws `ScalLaws Scal.cyc8` and `ang(π/2) = (1/√2, 1/√2)` are PROVED
    (`scalLaws_cyc8`, `driverAng_half_pi`), so the statement is literally about the matrix `unitaryOf` of
    OQ/Driver/C16.lean returns (when it returns: it refuses angles `evalAng` cannot evaluate). -/
theorem term_evolution_exec_driver (base : Ang Cyc8) (t : Term (Rat × Rat))
    (hnd : (t.ops.map (·.1)).Nodup) (hne : t.ops ≠ []) (n : Nat) (hlt : ∀ q ∈ t.ops.map (·.1), q < n)
    (time : Rat × Rat) (c : Circ (Rat × Rat)) (hc : evolutionForTerm ratAlg ratNegl t time = .ok c) :
    ∃ U, unitary Scal.cyc8 (fun θ => (evalAng base θ).getD Ang.zero) n c = some U ∧ U.r = 2 ^ n ∧ U.c = 2 ^ n ∧
      ∀ i j, i < 2 ^ n → j < 2 ^ n →
        U.get i j
          = (driverAng base (ratAlg.smul t.coeff.1 (ratAlg.smul ((2 : Nat) : Rat) time))).ch * (if i = j then 1 else 0)
            - (Cyc8.I * (driverAng base (ratAlg.smul t.coeff.1 (ratAlg.smul ((2 : Nat) : Rat) time))).sh)
                * (Term.denote Scal.cyc8 n (⟨t.ops, 1⟩ : Term Cyc8)).get i j :=
  term_evolution_exec Scal.cyc8 scalLaws_cyc8 ratAlg ratNegl (driverAng base) (driverAng_half_pi base)
    t hnd hne n hlt time c hc

/-- (2) `evolution_product_exec`.  For EVERY Hamiltonian (terms with distinct qubit indices), EVERY number of steps
    n ≥ 1 and EVERY register width `N` containing its qubits (`N = 0` included: then every term is constant and the
    circuit is empty): the EXECUTABLE unitary of the circuit `time_evolution` returns exists and equals
        ( ∏_k  [cos((t/n)c_k)·1 − i·sin((t/n)c_k)·P_k] )ⁿ ,
    the product over the terms in the LISTED order (first term rightmost), `P_k` the executable `Pauli` denotation of
    the k-th string, constant terms contributing the identity.  Removes from `C16.evolution_product_order` /
    `C16.term_evolution` the register, `circSem`, `pauliString`, and the existential over per-term circuits. -/
theorem evolution_product_exec (k : Scal R) (hk : ScalLaws k) (alg : TimeAlg Q T) (negl : Q → Bool) (ang : T → Ang R)
    (hpi : ang (alg.smul (1 / ((2 : Nat) : Q)) alg.pi) = ⟨k.r, k.r⟩)
    (h : PSum (Q × Q)) (hnd : ∀ t ∈ h, (t.ops.map (·.1)).Nodup)
    (N : Nat) (hlt : ∀ t ∈ h, ∀ q ∈ t.ops.map (·.1), q < N)
    (time : T) (n : ℕ) (hn : 1 ≤ n) (c : Circ T) (hc : timeEvolution alg negl h time n = .ok c) :
    ∃ U, unitary k ang N c = some U ∧ U.r = 2 ^ N ∧ U.c = 2 ^ N ∧
      Mat.toM (2 ^ N) (2 ^ N) U = (((h.map (fun t => if t.ops = [] then (1 : Matrix (Fin (2 ^ N)) (Fin (2 ^ N)) R) else
          (ang (alg.smul t.coeff.1 (alg.smul ((2 : Nat) : Q) (alg.smul (1 / (n : Q)) time)))).ch
              • (1 : Matrix (Fin (2 ^ N)) (Fin (2 ^ N)) R)
            - (k.i * (ang (alg.smul t.coeff.1 (alg.smul ((2 : Nat) : Q) (alg.smul (1 / (n : Q)) time)))).sh)
              • Mat.toM (2 ^ N) (2 ^ N) (Term.denote k N (⟨t.ops, 1⟩ : Term R)))).reverse).prod) ^ n := by
  rw [timeEvolution_eq, guard_eq_ok] at hc
  obtain ⟨_, rfl⟩ := hc
  exact exec_steps k hk alg ang hpi h hnd N hlt _ n

end ring

section complex
open Complex

/-- `exp_pauli` for the EXECUTABLE denotation: exp(−iθP) = cos θ·1 − i·sin θ·P for the executable Kronecker matrix
    `P` of every Pauli string on every width and every real θ (`C16.exp_pauli` + the bridge (4); `exp` commutes with
    re-indexing). -/
theorem exp_pauli_exec (n : Nat) (ops : List (Nat × P)) (θ : ℝ) :
    NormedSpace.exp ((-(I * θ)) • Mat.toM (2 ^ n) (2 ^ n) (Term.denote Scal.complex n (⟨ops, 1⟩ : Term ℂ)))
      = (Real.cos θ : ℂ) • (1 : Matrix (Fin (2 ^ n)) (Fin (2 ^ n)) ℂ)
        - (I * Real.sin θ) • Mat.toM (2 ^ n) (2 ^ n) (Term.denote Scal.complex n (⟨ops, 1⟩ : Term ℂ)) := by
  have h := exp_pauli (fun p : Fin n => Term.opAt (⟨ops, 1⟩ : Term ℂ) p.val) θ
  rw [pauliString_eq_toBV] at h
  rw [toM_denote_one]
  apply (Matrix.reindex (C01.bvEquiv n) (C01.bvEquiv n)).injective
  rw [← exp_reindex]
  refine h.trans ?_
  simp only [Matrix.reindex_apply, Matrix.submatrix_sub, Matrix.submatrix_smul, Pi.sub_apply, Pi.smul_apply,
    Matrix.submatrix_one_equiv]
  rfl

/-- (3) `term_evolution_exp_exec`: "for any Pauli term P with real coefficient c and any time t the evolution
    circuit's matrix equals exp(−i t c P) exactly" — for the EXECUTABLE unitary and `P` the EXECUTABLE denotation of
    the string, on every register width containing the term's qubits (model at Q = T = ℝ, gate angles interpreted by
    the real cosine and sine).  Removes the register and both spec objects from `C16.term_evolution_exp`. -/
theorem term_evolution_exp_exec [DecidableEq ℝ] (negl : ℝ → Bool) (t : Term (ℝ × ℝ))
    (hnd : (t.ops.map (·.1)).Nodup) (hne : t.ops ≠ []) (n : Nat) (hlt : ∀ q ∈ t.ops.map (·.1), q < n)
    (time : ℝ) (c : Circ ℝ) (hc : evolutionForTerm realAlg negl t time = .ok c) :
    ∃ U, unitary Scal.complex angReal n c = some U ∧ U.r = 2 ^ n ∧ U.c = 2 ^ n ∧
      Mat.toM (2 ^ n) (2 ^ n) U
        = NormedSpace.exp ((-(I * ((time * t.coeff.1 : ℝ) : ℂ)))
            • Mat.toM (2 ^ n) (2 ^ n) (Term.denote Scal.complex n (⟨t.ops, 1⟩ : Term ℂ))) := by
  rw [evolutionForTerm_eq, guard_eq_ok] at hc
  obtain ⟨_, rfl⟩ := hc
  obtain ⟨U, hU, hr, hcc, hs⟩ := exec_term Scal.complex scalLaws_complex realAlg angReal angReal_half_pi t hnd n hlt time
  refine ⟨U, hU, hr, hcc, ?_⟩
  rw [hs, factorM, if_neg hne, exp_pauli_exec]
  simp only [angReal, central_half, Scal.complex]

/-- (3) for the sum: the EXECUTABLE unitary of `time_evolution(h, t, n_steps = n)` is (∏_k exp(−i (t/n) c_k P_k))ⁿ,
    the product in the listed order (first term rightmost), `P_k` the executable denotation of the k-th string;
    constant terms contribute the identity.  Every width `N` containing the qubits, `N = 0` included. -/
theorem evolution_product_exp_exec [DecidableEq ℝ] (negl : ℝ → Bool) (h : PSum (ℝ × ℝ))
    (hnd : ∀ t ∈ h, (t.ops.map (·.1)).Nodup) (N : Nat) (hlt : ∀ t ∈ h, ∀ q ∈ t.ops.map (·.1), q < N)
    (time : ℝ) (n : ℕ) (hn : 1 ≤ n) (c : Circ ℝ) (hc : timeEvolution realAlg negl h time n = .ok c) :
    ∃ U, unitary Scal.complex angReal N c = some U ∧ U.r = 2 ^ N ∧ U.c = 2 ^ N ∧
      Mat.toM (2 ^ N) (2 ^ N) U
        = (((h.map (fun t => if t.ops = [] then (1 : Matrix (Fin (2 ^ N)) (Fin (2 ^ N)) ℂ) else
            NormedSpace.exp ((-(I * (((1 / (n : ℝ)) * time * t.coeff.1 : ℝ) : ℂ)))
              • Mat.toM (2 ^ N) (2 ^ N) (Term.denote Scal.complex N (⟨t.ops, 1⟩ : Term ℂ))))).reverse).prod) ^ n := by
  obtain ⟨U, hU, hr, hcc, hs⟩ := evolution_product_exec Scal.complex scalLaws_complex realAlg negl angReal
    angReal_half_pi h hnd N hlt time n hn c hc
  refine ⟨U, hU, hr, hcc, hs.trans ?_⟩
  congr 3
  refine List.map_congr_left fun t _ => ?_
  by_cases h0 : t.ops = []
  · rw [if_pos h0, if_pos h0]
  · rw [if_neg h0, if_neg h0, exp_pauli_exec]
    simp only [angReal, central_half, Scal.complex]
    rfl

/-- `derivative_correct` END TO END.  Whenever `time_evolution_derivatives` returns `l` (factors and circuits) and the
    evolution circuit with the same number of steps exists at that time, on EVERY register width `N` containing the
    Hamiltonian's qubits (`N = 0` included), for EVERY matrix `O` and vector `ψ` over the basis indices `Fin (2^N)`:
      * at every time `s` the evolution circuit exists and has an executable unitary `Us s`;
      * every derivative circuit has an executable unitary (`Ul`: the factors paired with those unitaries, in order);
      * d/ds ⟨Us(s)ψ| O |Us(s)ψ⟩ at s = time  =  Σ_{(f, V) ∈ Ul} f · ⟨Vψ| O |Vψ⟩   (Mathlib `HasDerivAt`).
    Removes from `C16.derivative_correct` the register and `circSem` (both sides are now matrices `unitary` computes);
    the hypothesis `OpValid` of C01 is discharged by `derivative_circuits_accepted`. -/
theorem derivative_correct_exec [DecidableEq ℝ] (negl : ℝ → Bool) (h : PSum (ℝ × ℝ))
    (hnd : ∀ t ∈ h, (t.ops.map (·.1)).Nodup) (N : Nat) (hlt : ∀ t ∈ h, ∀ q ∈ t.ops.map (·.1), q < N)
    (time : ℝ) (n : ℕ) (hn : 1 ≤ n) (C0 : Circ ℝ) (hev : timeEvolution realAlg negl h time n = .ok C0)
    (l : List (ℝ × Circ ℝ)) (hl : derivatives realAlg negl h time n = .ok l)
    (O : Matrix (Fin (2 ^ N)) (Fin (2 ^ N)) ℂ) (ψ : Fin (2 ^ N) → ℂ) :
    ∃ (Us : ℝ → Mat ℂ) (Ul : List (ℝ × Mat ℂ)),
      (∀ s, ∃ C, timeEvolution realAlg negl h s n = .ok C ∧ unitary Scal.complex angReal N C = some (Us s)) ∧
      List.Forall₂ (fun x y => y.1 = x.1 ∧ unitary Scal.complex angReal N x.2 = some y.2) l Ul ∧
      HasDerivAt (fun s => star (Mat.toM (2 ^ N) (2 ^ N) (Us s) *ᵥ ψ) ⬝ᵥ (O *ᵥ (Mat.toM (2 ^ N) (2 ^ N) (Us s) *ᵥ ψ)))
        ((Ul.map (fun y => (y.1 : ℂ) *
            (star (Mat.toM (2 ^ N) (2 ^ N) y.2 *ᵥ ψ) ⬝ᵥ (O *ᵥ (Mat.toM (2 ^ N) (2 ^ N) y.2 *ᵥ ψ))))).sum)
        time := by
  rw [timeEvolution_eq, guard_eq_ok] at hev
  have hacc : ∀ t ∈ h, acc negl t = true := hev.1.resolve_left (by omega)
  rw [derivatives_eq realAlg negl h time n hn, guard_eq_ok] at hl
  obtain ⟨_, rfl⟩ := hl
  have hevs : ∀ s, timeEvolution realAlg negl h s n = .ok (evoC h n s) := fun s => by
    rw [timeEvolution_eq, if_pos (Or.inr hacc)]
  have hokC : ∀ s, ∀ o ∈ evoC h n s, GOpOK N o := fun s => replicate_ok N _ (flatMap_evo_ok realAlg h _ hnd N hlt) n
  have hokL := derivList_ok realAlg h time n hnd N hlt
  rcases N with _ | N
  · -- no qubit: every circuit is empty, both sides are constant, and the factors cancel
    refine ⟨fun _ => Mat.identity (2 ^ 0), (derivL h n time).map fun x => (x.1, Mat.identity (2 ^ 0)),
      fun s => ⟨_, hevs s, by rw [eq_nil_of_ok_zero _ (hokC s)]; rfl⟩,
      List.forall₂_map_right_iff.mpr (List.forall₂_same.mpr fun x hx =>
        ⟨rfl, by rw [eq_nil_of_ok_zero _ (hokL x hx)]; rfl⟩), ?_⟩
    rw [List.map_map]
    simp only [Function.comp_def]
    rw [List.sum_map_mul_right, derivL_factor_sum, zero_mul]
    exact hasDerivAt_const time _
  · -- the executable unitary of a circuit, chosen once for all circuits
    let ex : Circ ℝ → Mat ℂ := fun c => (unitary Scal.complex angReal (N + 1) c).getD (Mat.identity 0)
    have hex : ∀ c : Circ ℝ, (∀ o ∈ c, GOpOK (N + 1) o) → unitary Scal.complex angReal (N + 1) c = some (ex c) ∧
        C01.toBV (N + 1) (ex c) = circSem Scal.complex angReal (Register.fin N).e c := by
      intro c hok
      obtain ⟨U, hU, _, _, hs⟩ := exec_spec Scal.complex angReal N c hok
      simp only [ex, hU, Option.getD_some]
      exact ⟨trivial, hs⟩
    have hg : Good (Register.fin N) h := fun t ht => ⟨Register.fin_covers N t fun q hq => Nat.le_of_lt_succ (hlt t ht q hq), hnd t ht⟩
    have hder := derivative_sem (Register.fin N) h hg time n hn
      (Matrix.reindex (C01.bvEquiv (N + 1)) (C01.bvEquiv (N + 1)) O) (ψ ∘ (C01.bvEquiv (N + 1)).symm)
    refine ⟨fun s => ex (evoC h n s), (derivL h n time).map fun x => (x.1, ex x.2),
      fun s => ⟨_, hevs s, (hex _ (hokC s)).1⟩,
      List.forall₂_map_right_iff.mpr (List.forall₂_same.mpr fun x hx => ⟨rfl, (hex _ (hokL x hx)).1⟩), ?_⟩
    have hf : (fun s => star (Mat.toM (2 ^ (N + 1)) (2 ^ (N + 1)) (ex (evoC h n s)) *ᵥ ψ) ⬝ᵥ
          (O *ᵥ (Mat.toM (2 ^ (N + 1)) (2 ^ (N + 1)) (ex (evoC h n s)) *ᵥ ψ)))
        = fun s => expect (Matrix.reindex (C01.bvEquiv (N + 1)) (C01.bvEquiv (N + 1)) O) (Wt (Register.fin N) n h s)
            (ψ ∘ (C01.bvEquiv (N + 1)).symm) := by
      funext s
      rw [← timeEvolution_sem (Register.fin N) n h hg s, ← (hex _ (hokC s)).2, expect_toBV]
    rw [hf, List.map_map]
    convert hder using 2
    refine List.map_congr_left fun x hx => ?_
    show _ * _ = _ * _
    rw [← (hex _ (hokL x hx)).2, expect_toBV]

end complex

/-- the input hypotheses of (1) on Y₂·X₀ (unsorted insertion order, a gap): distinct qubits, non-constant, inside a
    3-qubit register; the circuit is returned (see OQ/Props/C16.lean for the circuit itself) -/
example : ((([(2, .Y), (0, .X)] : List (ℕ × P))).map (·.1)).Nodup ∧ ([(2, .Y), (0, .X)] : List (ℕ × P)) ≠ [] ∧
    (∀ q ∈ (([(2, .Y), (0, .X)] : List (ℕ × P))).map (·.1), q < 3) ∧
    (evolutionForTerm ratAlg ratNegl ⟨[(2, .Y), (0, .X)], (1/2, 0)⟩ (1, 0)).toOption.isSome = true :=
  ⟨by decide, by decide, by decide, by decide +kernel⟩
/-- every operation of that circuit satisfies `GOpOK 3` (the CNOT is on the distinct indices 0, 2) -/
example : ∀ o ∈ ([⟨.H, [0]⟩, ⟨.RX (0, 1/2), [2]⟩, ⟨.CNOT, [0, 2]⟩, ⟨.RZ (1, 0), [2]⟩, ⟨.CNOT, [0, 2]⟩,
    ⟨.RXdg (0, 1/2), [2]⟩, ⟨.H, [0]⟩] : Circ (Rat × Rat)), GOpOK 3 o :=
  (by decide +kernel : evoCirc ratAlg ⟨[(2, .Y), (0, .X)], (1/2, 0)⟩ (1, 0) =
      [⟨.H, [0]⟩, ⟨.RX (0, 1/2), [2]⟩, ⟨.CNOT, [0, 2]⟩, ⟨.RZ (1, 0), [2]⟩, ⟨.CNOT, [0, 2]⟩, ⟨.RXdg (0, 1/2), [2]⟩, ⟨.H, [0]⟩]) ▸
    evoCirc_ok ratAlg ⟨[(2, .Y), (0, .X)], (1/2, 0)⟩ (1, 0) (by decide) 3 (by decide)
/-- the constants of the driver's ring satisfy the laws, and its angle interpretation sends π/2 to (1/√2, 1/√2) -/
example (base : Ang Cyc8) : ScalLaws Scal.cyc8 ∧
    driverAng base (ratAlg.smul (1 / ((2 : ℕ) : ℚ)) ratAlg.pi) = ⟨Scal.cyc8.r, Scal.cyc8.r⟩ :=
  ⟨scalLaws_cyc8, driverAng_half_pi base⟩
/-- (1) evaluated: X₀·Y₁ with coefficient 1/2 at time τ, τ/2 ↦ (3/5, 4/5), on 2 qubits.  The executable unitary has
    entry (0,3) = −i·sin·(−i) = −4/5 and entry (0,0) = cos = 3/5; the executable denotation has entry (0,3) = −i. -/
example : (unitary Scal.cyc8 (driverAng ⟨Cyc8.ofRat (3/5), Cyc8.ofRat (4/5)⟩) 2
      [⟨.H, [0]⟩, ⟨.RX (0, 1/2), [1]⟩, ⟨.CNOT, [0, 1]⟩, ⟨.RZ (1, 0), [1]⟩, ⟨.CNOT, [0, 1]⟩,
       ⟨.RXdg (0, 1/2), [1]⟩, ⟨.H, [0]⟩]).map (fun U => (U.get 0 0, U.get 0 3, U.get 1 2, U.get 0 1))
    = some (Cyc8.ofRat (3/5), Cyc8.ofRat (-4/5), Cyc8.ofRat (4/5), 0) := by decide +kernel
example : ((Term.denote Scal.cyc8 2 (⟨[(0, .X), (1, .Y)], 1⟩ : Term Cyc8)).get 0 3,
      (Term.denote Scal.cyc8 2 (⟨[(0, .X), (1, .Y)], 1⟩ : Term Cyc8)).get 1 2,
      (Term.denote Scal.cyc8 2 (⟨[(0, .X), (1, .Y)], 1⟩ : Term Cyc8)).get 0 0)
    = (-Cyc8.I, Cyc8.I, 0) := by decide +kernel
example : evolutionForTerm ratAlg ratNegl ⟨[(0, .X), (1, .Y)], (1/2, 0)⟩ (1, 0) = .ok
    [⟨.H, [0]⟩, ⟨.RX (0, 1/2), [1]⟩, ⟨.CNOT, [0, 1]⟩, ⟨.RZ (1, 0), [1]⟩, ⟨.CNOT, [0, 1]⟩,
     ⟨.RXdg (0, 1/2), [1]⟩, ⟨.H, [0]⟩] := by decide +kernel
/-- the hypotheses of (2), (3) and `derivative_correct_exec` are met over ℝ by X₀Y₁ + ½·Z₁ + 0·Z₀ with two steps on
    the 2-qubit register (and on any wider one), at every time -/
example [DecidableEq ℝ] (time : ℝ) :
    (∃ l, derivatives realAlg (fun _ => true)
        [⟨[(0, .X), (1, .Y)], (1, 0)⟩, ⟨[(1, .Z)], (1/2, 0)⟩, ⟨[(0, .Z)], (0, 0)⟩] time 2 = .ok l) ∧
    (∃ C0, timeEvolution realAlg (fun _ => true)
        [⟨[(0, .X), (1, .Y)], (1, 0)⟩, ⟨[(1, .Z)], (1/2, 0)⟩, ⟨[(0, .Z)], (0, 0)⟩] time 2 = .ok C0) ∧
    (∀ t ∈ ([⟨[(0, .X), (1, .Y)], (1, 0)⟩, ⟨[(1, .Z)], (1/2, 0)⟩, ⟨[(0, .Z)], (0, 0)⟩] : PSum (ℝ × ℝ)),
      (t.ops.map (·.1)).Nodup ∧ ∀ q ∈ t.ops.map (·.1), q < 2) := by
  refine ⟨?_, ?_, ?_⟩
  · exact (derivatives_defined realAlg (fun _ => true) _ time 2 (by norm_num)).1 (fun t _ => by simp [acc])
  · exact ⟨_, by rw [timeEvolution_eq, if_pos (Or.inr fun t _ => by simp [acc])]⟩
  · intro t ht
    simp only [List.mem_cons, List.not_mem_nil, or_false] at ht
    rcases ht with rfl | rfl | rfl <;> exact ⟨by decide, by decide⟩

end OQ.C16.Link
