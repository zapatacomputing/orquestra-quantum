/-
  C10 — PROPERTY THEOREMS: statistics computed from measurements are the exact sample statistics.
  Model: OQ/Model/C10.lean.  Specification vocabulary and helper lemmas: OQ/Lemmas/C10.lean
    bitAt s q          the measured bit of qubit q in shot s
    zval A s : ℤ       the ±1 eigenvalue of the Z-string on the qubits A for shot s  (∏ (1 − 2·bit))
    evenParity A s     the shot has an even number of 1s on A
    mean f shots       (Σ_{s ∈ shots} f s) / #shots        (shots is the list WITH repetitions)
    meanZ A shots      mean (zval A ·) shots
    corrSpec shots ti tj   mean of (cᵢ·zval Aᵢ s)·(cⱼ·zval Aⱼ s)
  The theorems about counts hold for every shot list; those about the distribution, expectation values and
  parities for every list of shots of one length `w` and every operator whose qubits lie inside the width (any
  number of terms, overlapping / repeated / constant supports), with coefficients in an arbitrary field `R` of
  characteristic 0 (ℚ for the driver, ℝ for "any real coefficients").  `t.qubits.Nodup` is the invariant of
  `PauliTerm.qubits` being a set.
-/
import OQ.Lemmas.C10
import Mathlib.Algebra.Field.Rat
import Mathlib.Algebra.Ring.Rat
namespace OQ.C10

/-- "Counts sum to the number of shots." -/
theorem counts_sum (shots : List Shot) : (getCounts shots).total = shots.length :=
  getCounts_total shots

/-- `get_counts` is the histogram of the shots: the count of every bitstring is its multiplicity, every
    key occurs once (it is a dictionary), is a measured bitstring, and has a positive count. -/
theorem counts_are_multiplicities (shots : List Shot) :
    (∀ k, (getCounts shots).get k = shots.count k) ∧ (getCounts shots).keys.Nodup ∧
    (∀ p ∈ getCounts shots, 0 < p.2 ∧ p.1 ∈ shots ∧ p.2 = shots.count p.1) := by
  obtain ⟨h1, h2⟩ := getCounts_inv shots
  refine ⟨getCounts_get shots, h1, fun p hp =>
    ⟨h2 p hp, (mem_keys_getCounts shots p.1).mp (List.mem_map_of_mem (f := fun q => q.1) hp), ?_⟩⟩
  rw [← getCounts_get, get_of_mem _ h1 p hp]

/-- "Building from counts and reading counts back are inverse", direction 1: `from_counts(m.get_counts())`
    holds exactly the shots of `m` (as a multiset: the same bitstrings with the same multiplicities). -/
theorem from_counts_of_get_counts (shots : List Shot) :
    (fromCounts (castCounts (getCounts shots))).Perm shots := by
  rw [fromCounts_cast]; exact expand_getCounts_perm shots

/-- direction 2: `from_counts(c).get_counts() = c` for every histogram `c` (distinct keys, positive
    counts), including the key order. -/
theorem get_counts_of_from_counts (c : Counts) (hn : c.keys.Nodup) (hp : ∀ p ∈ c, 0 < p.2) :
    getCounts (fromCounts (castCounts c)) = c := by
  rw [fromCounts_cast]; exact getCounts_expand c hn hp

/-- `add_counts` appends exactly the shots of the histogram: afterwards the count of every bitstring is
    its previous count plus its value in the added histogram. -/
theorem add_counts_counts (bitstrings : List Shot) (c : Counts) (hn : c.keys.Nodup) (k : Shot) :
    addCounts bitstrings (castCounts c) = bitstrings ++ fromCounts (castCounts c) ∧
    (getCounts (addCounts bitstrings (castCounts c))).get k = (getCounts bitstrings).get k + c.get k := by
  have h : addCounts bitstrings (castCounts c) = bitstrings ++ fromCounts (castCounts c) := by
    rw [fromCounts, addCounts_eq, addCounts_eq, List.nil_append]
  refine ⟨h, ?_⟩
  rw [h, getCounts_get, getCounts_get, List.count_append, fromCounts_cast, count_expand_eq_get c hn]

/-- "The empirical distribution is the counts divided by the number of shots": on a non-empty list of
    equal-length shots `get_distribution` succeeds and its dictionary is `get_counts()` with every count
    divided by the number of shots (same keys, same order). -/
theorem distribution_eq_counts_div {R : Type} [Field R] (shots : List Shot) (w : Nat)
    (hne : shots ≠ []) (hl : ∀ s ∈ shots, s.length = w) :
    getDistribution (R := R) shots =
      .ok ((getCounts shots).map (fun p => (p.1, ((p.2 : Nat) : R) / ((shots.length : Nat) : R)))) := by
  simp only [getDistribution, Int.cast_natCast, List.isEmpty_iff, List.map_eq_nil_iff, getCounts_ne_nil shots hne,
    if_false, List.map_map, Function.comp_def, sameLength_of _ w (getCounts_key_length shots w hl), Bool.not_true,
    Bool.false_eq_true]

/-- … hence every reported probability is the multiplicity of its bitstring over the number of shots,
    and the probabilities sum to exactly 1 (so `MeasurementOutcomeDistribution` never renormalises). -/
theorem distribution_entries {R : Type} [Field R] [CharZero R] (shots : List Shot) (w : Nat)
    (hne : shots ≠ []) (hl : ∀ s ∈ shots, s.length = w) (d : List (Shot × R))
    (h : getDistribution (R := R) shots = .ok d) :
    (∀ e ∈ d, e.2 = ((shots.count e.1 : Nat) : R) / ((shots.length : Nat) : R)) ∧
    (d.map (fun e => e.2)).sum = 1 := by
  rw [distribution_eq_counts_div shots w hne hl] at h
  have hd := (Except.ok.inj h).symm
  subst hd
  constructor
  · intro e he
    obtain ⟨p, hp, rfl⟩ := List.mem_map.mp he
    show ((p.2 : Nat) : R) / _ = ((shots.count p.1 : Nat) : R) / _
    rw [((counts_are_multiplicities shots).2.2 p hp).2.2]
  · rw [List.map_map]
    exact sum_counts_div shots hne

/-- `check_parity_of_vector`: entry 1 exactly for the rows with an even number of 1s on the marked
    qubits, 0 for the others (rows of equal width, marked qubits inside the width, repetitions allowed). -/
theorem check_parity_of_vector_spec (rows : List Shot) (marked : List Nat) (w : Nat)
    (h : ∀ r ∈ rows, r.length = w) (hm : ∀ q ∈ marked, q < w) :
    checkParityOfVector rows marked = .ok (rows.map (fun r => if evenParity marked r then 1 else 0)) := by
  rw [checkParity_eq rows marked w h, if_pos (Or.inr hm)]

/-- `get_expectation_value_from_frequencies` on any frequency dictionary with keys of one positive width
    and a positive total is the frequency-weighted mean of the ±1 eigenvalue.
    PARTIAL: width 0 (keys `""`) is excluded – there the code raises ValueError (see `width0_raises`). -/
theorem frequencies_expectation_eq_weighted_mean_partial {R : Type} [Field R] (marked : List Nat)
    (freq : Counts) (w : Nat) (hne : freq ≠ []) (hw : 0 < w) (hk : ∀ p ∈ freq, p.1.length = w)
    (hm : ∀ q ∈ marked, q < w) (ht : freq.total ≠ 0) :
    expectationFromFrequencies (R := R) marked freq =
      .ok ((((freq.map (fun p => ((p.2 : Nat) : Int) * zval marked p.1)).sum : Int) : R) /
            ((freq.total : Nat) : R)) := by
  rw [expectation_eq marked freq w hk, if_neg hne, if_neg hw.ne', if_pos hm, if_neg ht]

/-! ### expectation values, correlations, covariances

  Stated for WHATEVER `get_expectation_values` reports (`= .ok ev`) on a non-empty list of equal-length
  shots and an operator whose qubits lie inside the width; that something IS reported is
  `expectation_values_reported_partial` below. -/

/-- "The reported expectation value of each term is its coefficient times the sample mean of the term's
    ±1 eigenvalue over the shots." -/
theorem value_eq_mean {R : Type} [Field R] [CharZero R] (shots : List Shot) (terms : List (Term R))
    (bessel : Bool) (w : Nat) (ev : ExpectationValues R)
    (hne : shots ≠ []) (hl : ∀ s ∈ shots, s.length = w)
    (hq : ∀ t ∈ terms, ∀ q ∈ t.qubits, q < w) (hn : ∀ t ∈ terms, t.qubits.Nodup)
    (h : getExpectationValues shots terms bessel = .ok ev) :
    ev.values = terms.map (fun t => t.coeff * mean (fun s => ((zval t.qubits s : Int) : R)) shots) := by
  rw [getEV_spec shots terms bessel w ev hne hl hq hn h]; rfl

/-- "A constant term contributes exactly its coefficient." -/
theorem constant_term_value {R : Type} [Field R] [CharZero R] (shots : List Shot) (terms : List (Term R))
    (bessel : Bool) (w : Nat) (ev : ExpectationValues R)
    (hne : shots ≠ []) (hl : ∀ s ∈ shots, s.length = w)
    (hq : ∀ t ∈ terms, ∀ q ∈ t.qubits, q < w) (hn : ∀ t ∈ terms, t.qubits.Nodup)
    (h : getExpectationValues shots terms bessel = .ok ev)
    (i : Nat) (hi : i < terms.length) (hc : terms[i].qubits = []) :
    ev.values[i]? = some terms[i].coeff := by
  rw [value_eq_mean shots terms bessel w ev hne hl hq hn h, List.getElem?_map,
    List.getElem?_eq_getElem hi, Option.map_some, hc,
    show mean (fun s => ((zval [] s : Int) : R)) shots = 1 from meanZ_nil shots hne, mul_one]

/-- "The reported correlations are the sample means of products of two terms' values" – every entry
    `[i][j]`, diagonal included, for overlapping, repeated and constant supports alike. -/
theorem correlation_eq_mean_product {R : Type} [Field R] [CharZero R] (shots : List Shot)
    (terms : List (Term R)) (bessel : Bool) (w : Nat) (ev : ExpectationValues R)
    (hne : shots ≠ []) (hl : ∀ s ∈ shots, s.length = w)
    (hq : ∀ t ∈ terms, ∀ q ∈ t.qubits, q < w) (hn : ∀ t ∈ terms, t.qubits.Nodup)
    (h : getExpectationValues shots terms bessel = .ok ev) :
    ev.correlations = terms.map (fun ti => terms.map (fun tj =>
      mean (fun s => (ti.coeff * ((zval ti.qubits s : Int) : R)) * (tj.coeff * ((zval tj.qubits s : Int) : R))) shots)) := by
  rw [getEV_spec shots terms bessel w ev hne hl hq hn h]; rfl

/-- the mechanism behind the correlations: the eigenvalue on the symmetric difference of two supports
    is the product of the two eigenvalues (`Z_A · Z_B = Z_{A △ B}`), for every shot. -/
theorem symmetric_difference_eigenvalue (a b : List Nat) (ha : a.Nodup) (hb : b.Nodup) (s : Shot) :
    zval (symmDiff a b) s = zval a s * zval b s :=
  zval_symmDiff a b ha hb s

/-- "The estimator covariances are (correlation minus product of means) divided by the number of shots,
    or by one less with Bessel's correction" – entrywise, in terms of the reported correlations and
    values; with Bessel's correction at least two shots are needed for the quotient to exist. -/
theorem covariance_formula {R : Type} [Field R] [CharZero R] (shots : List Shot)
    (terms : List (Term R)) (bessel : Bool) (w : Nat) (ev : ExpectationValues R)
    (hne : shots ≠ []) (hl : ∀ s ∈ shots, s.length = w)
    (hq : ∀ t ∈ terms, ∀ q ∈ t.qubits, q < w) (hn : ∀ t ∈ terms, t.qubits.Nodup)
    (h : getExpectationValues shots terms bessel = .ok ev) (hb : bessel = true → 2 ≤ shots.length) :
    ev.covariances = terms.map (fun ti => terms.map (fun tj =>
      some ((corrSpec shots ti tj - (ti.coeff * meanZ ti.qubits shots) * (tj.coeff * meanZ tj.qubits shots)) /
        (if bessel then ((shots.length : Nat) : R) - 1 else ((shots.length : Nat) : R))))) := by
  rw [getEV_spec shots terms bessel w ev hne hl hq hn h]
  simp only [evSpec, divOrNan_bessel _ _ _ (List.length_pos_iff.mpr hne).ne' hb]

/-- On a non-empty list of shots of one POSITIVE width, every Ising operator whose qubits lie inside the
    width gets a report (no exception), namely the record of sample statistics.
    PARTIAL: width 0 is excluded.  There (`Measurements([(), ()])`, operator necessarily constant) the
    property demands the coefficient but the code raises ValueError from `reshape(-1, 0)`; the model
    reproduces this (`width0_raises`). -/
theorem expectation_values_reported_partial {R : Type} [Field R] [CharZero R] (shots : List Shot)
    (terms : List (Term R)) (bessel : Bool) (w : Nat) (hne : shots ≠ []) (hw : 0 < w)
    (hl : ∀ s ∈ shots, s.length = w) (hI : ∀ t ∈ terms, t.isIsing = true)
    (hq : ∀ t ∈ terms, ∀ q ∈ t.qubits, q < w) (hn : ∀ t ∈ terms, t.qubits.Nodup) :
    getExpectationValues shots terms bessel = .ok (evSpec shots terms bessel) := by
  rw [getEV_eq shots terms bessel w hl hq, evRaw_eq shots terms bessel hne hn, if_pos (List.all_eq_true.mpr hI),
    if_pos (Or.inr ⟨hne, hw.ne'⟩)]

/-- negative witness: zero-width shots and any non-empty Ising operator raise ValueError -/
theorem width0_raises {R : Type} [Field R] (shots : List Shot) (t : Term R) (ts : List (Term R))
    (bessel : Bool) (hne : shots ≠ []) (hl : ∀ s ∈ shots, s.length = 0)
    (hI : ∀ u ∈ t :: ts, u.isIsing = true) :
    getExpectationValues shots (t :: ts) bessel = .error .value := by
  simp only [getExpectationValues, List.all_eq_true.mpr hI, Bool.not_true, Bool.false_eq_true, if_false, mapE,
    termValue, expectation_getCounts_eq _ shots 0 hl, if_neg hne, if_true]

/-- an operator containing X or Y is rejected with TypeError by both entry points -/
theorem non_ising_rejected {R : Type} [Field R] (shots : List Shot) (terms : List (Term R)) (bessel : Bool)
    (h : ¬ (terms.all Term.isIsing = true)) :
    getExpectationValues shots terms bessel = .error .type ∧ getParities shots terms = .error .type :=
  ⟨getEV_not_ising shots terms bessel h, getParities_not_ising shots terms h⟩

/-- "Parity tallies equal the numbers of shots with even and odd parity on each term's qubits":
    whatever `get_parities_from_measurements` reports on equal-length shots (ANY number of shots, any
    width) is, per term, (number of shots with even parity, number with odd parity); the two add up to
    the number of shots. -/
theorem parity_tallies {R : Type} (shots : List Shot) (terms : List (Term R)) (w : Nat) (p : Parities)
    (hl : ∀ s ∈ shots, s.length = w) (hq : ∀ t ∈ terms, ∀ q ∈ t.qubits, q < w)
    (h : getParities shots terms = .ok p) :
    p.values = terms.map (fun t => (shots.countP (evenParity t.qubits),
                                    shots.countP (fun s => !evenParity t.qubits s))) ∧
    ∀ v ∈ p.values, v.1 + v.2 = shots.length := by
  rw [getParities_spec shots terms w p hl hq h]
  refine ⟨rfl, ?_⟩
  intro v hv
  obtain ⟨t, _, rfl⟩ := List.mem_map.mp hv
  have := List.length_eq_countP_add_countP (evenParity t.qubits) (l := shots)
  simp only [Bool.not_eq_true, Bool.decide_eq_false] at this
  exact this.symm

/-- … and per ordered pair of terms (i, j) – i = j included – the tallies are the numbers of shots on
    which the two terms' parities agree (the product term has even parity) and disagree (odd). -/
theorem parity_pair_tallies {R : Type} (shots : List Shot) (terms : List (Term R)) (w : Nat) (p : Parities)
    (hl : ∀ s ∈ shots, s.length = w) (hq : ∀ t ∈ terms, ∀ q ∈ t.qubits, q < w)
    (h : getParities shots terms = .ok p) :
    p.correlations = terms.map (fun t1 => terms.map (fun t2 =>
      (shots.countP (fun s => evenParity t1.qubits s == evenParity t2.qubits s),
       shots.countP (fun s => evenParity t1.qubits s != evenParity t2.qubits s)))) := by
  rw [getParities_spec shots terms w p hl hq h]; rfl

/-- the parities of two terms agree on a shot exactly when the product term (supported on the symmetric
    difference) has even parity on it -/
theorem pair_parity_is_product_parity (a b : List Nat) (ha : a.Nodup) (hb : b.Nodup) (s : Shot) :
    evenParity (symmDiff a b) s = (evenParity a s == evenParity b s) := by
  have h := zval_symmDiff a b ha hb s
  rw [zval_eq_ite, zval_eq_ite, zval_eq_ite] at h
  revert h
  cases evenParity (symmDiff a b) s <;> cases evenParity a s <;> cases evenParity b s <;> decide

/-- On a NON-EMPTY list of equal-length shots (any width, 0 included) every Ising operator whose qubits
    lie inside the width gets its tallies (no exception).
    PARTIAL: the empty shot list is excluded unless every term is constant.  With no shots every tally
    should be 0, but `np.array([])` is 1-dimensional and the code raises IndexError as soon as a term
    has a qubit; the model reproduces this (`zero_shots_parities_raise`). -/
theorem parities_reported_partial {R : Type} (shots : List Shot) (terms : List (Term R)) (w : Nat)
    (hl : ∀ s ∈ shots, s.length = w) (hI : ∀ t ∈ terms, t.isIsing = true)
    (hq : ∀ t ∈ terms, ∀ q ∈ t.qubits, q < w) (hne : shots ≠ [] ∨ ∀ t ∈ terms, t.qubits = []) :
    getParities shots terms = .ok (paritySpec shots terms) :=
  getParities_ok shots terms w hl hI hq hne

/-- negative witness: with no shots nothing is reported unless every term is constant -/
theorem zero_shots_parities_raise {R : Type} (terms : List (Term R)) (p : Parities)
    (h : getParities [] terms = .ok p) : ∀ t ∈ terms, t.qubits = [] :=
  getParities_nil_inv terms p h

/-! ### non-vacuity: concrete, non-trivial inputs (overlapping, repeated and constant terms, repeated
    shots) meeting the hypotheses; the values are what the compiled driver prints. -/

def exShots : List Shot := [[false, true], [true, true], [false, true], [true, false]]
def exTerms : List (Term Rat) :=
  [⟨2, [(0, .Z)]⟩, ⟨1/2, [(0, .Z), (1, .Z)]⟩, ⟨3, []⟩, ⟨2, [(0, .Z)]⟩]

example : (getCounts exShots, (getCounts exShots).total) =
    ([([false, true], 2), ([true, true], 1), ([true, false], 1)], 4) := by decide
example : fromCounts (castCounts (getCounts exShots)) =
    [[false, true], [false, true], [true, true], [true, false]] := by decide
example : fromCounts [([false, true], 2), ([true], 0), ([false], -1)] = [[false, true], [false, true]] := by decide
example : (match getDistribution (R := Rat) exShots with | .ok d => d | .error _ => []) =
    [([false, true], 1/2), ([true, true], 1/4), ([true, false], 1/4)] := by decide +kernel
example : (match getExpectationValues exShots exTerms false with | .ok e => e.values | .error _ => []) =
    [0, -1/4, 3, 0] := by decide +kernel
example : (match getExpectationValues exShots exTerms false with | .ok e => e.correlations | .error _ => []) =
    [[4, -1/2, 0, 4], [-1/2, 1/4, -3/4, -1/2], [0, -3/4, 9, 0], [4, -1/2, 0, 4]] := by decide +kernel
example : (match getExpectationValues exShots exTerms true with | .ok e => e.covariances | .error _ => []) =
    [[some (4/3), some (-1/6), some 0, some (4/3)], [some (-1/6), some (1/16), some 0, some (-1/6)],
     [some 0, some 0, some 0, some 0], [some (4/3), some (-1/6), some 0, some (4/3)]] := by decide +kernel
example : (match getParities exShots exTerms with | .ok p => p.values | .error _ => []) =
    [(2, 2), (1, 3), (4, 0), (2, 2)] := by decide
example : (match getExpectationValues (R := Rat) [[], []] [⟨3, []⟩] false with
    | .ok _ => none | .error e => some e) = some Err.value := by decide +kernel
example : (match getParities (R := Rat) [] [⟨1, [(0, .Z)]⟩] with
    | .ok _ => none | .error e => some e) = some Err.index := by decide
/-- the hypotheses of the theorems are met by this input, at `R = ℚ` with Mathlib's field structure on
    the very operations the driver executes -/
example : getExpectationValues exShots exTerms true = .ok (evSpec exShots exTerms true) :=
  expectation_values_reported_partial exShots exTerms true 2 (by decide) (by decide) (by decide)
    (by decide) (by decide) (by decide)
example : getParities exShots exTerms = .ok (paritySpec exShots exTerms) :=
  parities_reported_partial exShots exTerms 2 (by decide) (by decide) (by decide) (Or.inl (by decide))

end OQ.C10
