/-
  C19 — PROPERTY THEOREMS: translating symbolic expressions preserves their value; constructs outside the
  supported set are refused; the natural sort keys order embedded integers numerically.
  Model: OQ/Model/C19.lean.  Helper lemmas: OQ/Lemmas/C19.lean.

  Reading guide.  `SExpr` is what the dispatcher of `expression_from_sympy` sees (`type(e)`, `e.args`);
  `fromSympy` is that function, `translate` is `translate_expression`, `sympyDialect` is `SYMPY_DIALECT`
  over an arbitrary carrier `V` of the operations it names; `pipeline o e` is the whole round trip.
  `evalS S e` is the number the sympy expression `e` denotes in a field `V` under the interpretation `S`
  (`S.rho` = the assignment of the symbols, `S.pw` = `**`, `S.sq` = `sqrt`, `S.app` = function application,
  `S.iu` = the imaginary unit), and `fieldOps S` interprets the dialect's callables the same way.
  Two facts about sympy enter as hypotheses: `1/y` is `y ** (-1)` (`hinv`) and `sqrt(y)` is `y ** (1/2)` (`hsqrt`).
-/
import OQ.Lemmas.C19_Complex
namespace OQ.C19
variable {V : Type} [Field V]

/-- **Sentence 1** (value preservation) for the converter run with ANY negation that satisfies the stated laws (value
    negation, no growth, closure of the grammar) and any sufficient fuel: it does not depend on how sympy happens to print
    `expr * (-1)`.  A leaf is converted and translated directly; at a branch the subexpressions are smaller and supported,
    so they convert and translate to their values, and the table entry of the branch's key combines these to the value. -/
theorem translate_fromSympy_eval_any_negation (S : Sem V) (neg : SExpr → SExpr)
    (hl : NegLaw neg) (hv : NegVal neg S)
    (hinv : ∀ v, S.pw v ((-1 : ℚ) : V) = v⁻¹) (hsqrt : ∀ v, S.sq v = S.pw v ((1/2 : ℚ) : V))
    (fuel : Nat) (e : SExpr) (h : supported e = true) (hf : e.size < fuel) :
    ∃ t, fromF neg fuel e = .ok t ∧ translate (sympyDialect (fieldOps S)) t = .ok (evalS S e) := by
  induction fuel generalizing e with
  | zero => omega
  | succ f ih =>
    rcases fromF_succ_cases neg e with ⟨r, hleaf, hr⟩ | ⟨n, ks, hb, hr⟩ <;> rw [hr f]
    · exact hleaf.sound S h
    · obtain ⟨F, hF, hval⟩ := hb.value S hv hinv hsqrt h
      choose! τ hτ hτ' using fun k hk => ih k ((hb.down hl k hk).2.1 h) (by have := (hb.down hl k hk).1; omega)
      exact ⟨.call n (ks.map τ), by rw [mapE_ok_of _ τ ks hτ]; rfl, translate_call_eq_ok.mpr
        ⟨F, _, hF, (mapE_map _ τ ks).trans (mapE_ok_of _ _ ks hτ'), hval⟩⟩

/-- **Sentence 1** (value preservation), at full strength: for EVERY expression of the supported grammar
    (symbols, integers, floats, rationals, `I`, Python numbers, sums, products – hence differences and
    quotients as sympy stores them –, powers, roots, cos/sin/exp/tan; any depth, any operand order) and
    EVERY assignment `S.rho` of its symbols, the round trip
    `translate_expression(expression_from_sympy(e), SYMPY_DIALECT)` succeeds and denotes the same number.
    The four special cases (subtraction, division, reciprocal, sqrt) are covered whenever they fire. -/
theorem translate_fromSympy_eval (S : Sem V)
    (hinv : ∀ v, S.pw v ((-1 : ℚ) : V) = v⁻¹) (hsqrt : ∀ v, S.sq v = S.pw v ((1/2 : ℚ) : V))
    (e : SExpr) (h : supported e = true) :
    pipeline (fieldOps S) e = .ok (evalS S e) :=
  pipeline_eq_ok.mpr
    (translate_fromSympy_eval_any_negation S negMul negMul_law (negMul_val S) hinv hsqrt _ e h (Nat.lt_succ_self _))

/-- Sentence 1 in the intended interpretation: over ℂ with the principal-branch power `a ^ b`
    (`sqrt a = a ^ (1/2)`, `1/a = a ^ (-1)` are then theorems of Mathlib, not hypotheses), for every
    assignment `rho` and every interpretation of the elementary functions, the round trip of a supported
    expression evaluates to the same complex number. -/
theorem translate_fromSympy_eval_complex (rho : String → ℂ) (app : Bool → String → List ℂ → ℂ)
    (ext : String → ℂ) (e : SExpr) (h : supported e = true) :
    pipeline (fieldOps (complexSem rho app ext)) e = .ok (evalS (complexSem rho app ext) e) :=
  translate_fromSympy_eval _ (complexSem_laws rho app ext).1 (complexSem_laws rho app ext).2 e h

/-- the errors of the model are Python's: the recursion fuel of the model is never exhausted, so every
    refusal below is a `NotImplementedError`, `ValueError` or `TypeError` of the real code path -/
theorem fromSympy_total (e : SExpr) : fromSympy e ≠ .error .fuel :=
  fromF_no_fuel negMul negMul_law (e.size + 1) e (by omega)

/-- **Sentence 2** (refusal), PARTIAL.  An expression containing a construct outside the supported set
    (a node type the dispatcher does not know – `pi`, `E`, `zoo`, matrices, derivatives, strings … –, a
    function other than cos/sin/exp/tan, a wrong number of arguments, an empty sum or product) is refused
    with an error: the round trip produces no translation at all.
    MISSING (and false of the code, see the negative witnesses below): (i) an application of a function
    whose printed name is one of the arithmetic dialect keys add/mul/div/sub/pow/sqrt, or of an
    UNDEFINED function printing as cos/sin/exp/tan – e.g. `Function('add')(x, y)` – is NOT refused but
    translated to the operation of that name (the dispatcher only looks at `str(e.func)`); (ii) the sympy number
    objects `oo`, `-oo`, `nan` are handed through unchanged instead of being refused.
    `clean e` excludes exactly these two classes. -/
theorem unsupported_refused_partial (S : Sem V) (e : SExpr) (hu : supported e = false)
    (hc : clean e = true) : ∃ err, pipeline (fieldOps S) e = .error err := by
  cases hp : pipeline (fieldOps S) e with
  | error err => exact ⟨err, rfl⟩
  | ok v =>
    obtain ⟨t, hf, ht⟩ := pipeline_eq_ok.mp hp
    rw [fromF_ok_supported (fieldOps S) negMul negMul_law _ e t v hf ht hc] at hu
    cases hu

/-- consequence of both sentences: whenever the round trip yields a translation of an expression free of
    the two excluded classes, that translation has the value of the original – nothing is ever
    "translated to something else" -/
theorem pipeline_ok_value (S : Sem V)
    (hinv : ∀ v, S.pw v ((-1 : ℚ) : V) = v⁻¹) (hsqrt : ∀ v, S.sq v = S.pw v ((1/2 : ℚ) : V))
    (e : SExpr) (hc : clean e = true) (v : V) (h : pipeline (fieldOps S) e = .ok v) :
    v = evalS S e := by
  obtain ⟨t, hf, ht⟩ := pipeline_eq_ok.mp h
  have hs := fromF_ok_supported (fieldOps S) negMul negMul_law _ e t v hf ht hc
  exact Except.ok.inj (h.symm.trans (translate_fromSympy_eval S hinv hsqrt e hs))

/-- a node the dispatcher does not know is refused by `expression_from_sympy` itself, with
    NotImplementedError: stated for such a node at the root; for one anywhere inside an expression
    `unsupported_refused_partial` gives the refusal, without naming the error -/
theorem unknown_node_notimpl (tag : String) : fromSympy (.other tag) = .error .notimpl := rfl

/-- a function name outside the dialect table is refused by `translate_expression` with a ValueError
    before its arguments are even looked at – for EVERY dialect, not only the sympy one -/
theorem unknown_function_value {α : Type} (D : Dialect α) (name : String) (args : List NExpr)
    (h : D.known name = none) : translate D (.call name args) = .error .value := by
  rw [translate, h]

/-- **Sentence 3** (natural order), at full strength: two names that differ only in one embedded digit
    group – `pfx ++ d₁ ++ sfx` and `pfx ++ d₂ ++ sfx`, the group maximal (pfx does not end and sfx does
    not start with a digit), any prefix and suffix (which may contain further digit groups), any digit
    strings (leading zeros allowed) – have keys that compare exactly as the integers the groups denote. -/
theorem naturalKey_numeric (pfx sfx d₁ d₂ : List Char)
    (hp : NoTrailingDigit pfx) (hs : NoLeadingDigit sfx)
    (h₁ : d₁ ≠ []) (h₁' : ∀ c ∈ d₁, isDig c = true) (h₂ : d₂ ≠ []) (h₂' : ∀ c ∈ d₂, isDig c = true) :
    cmpKey (naturalKey (pfx ++ d₁ ++ sfx)) (naturalKey (pfx ++ d₂ ++ sfx)) =
      some (compare (valDigits d₁) (valDigits d₂)) := by
  rw [naturalKey_append_digits pfx sfx d₁ hp hs h₁ h₁', naturalKey_append_digits pfx sfx d₂ hp hs h₂ h₂',
    cmpKey_append_left, cmpKey_num]

/-- … in the form of the property text: with the decimal numerals of `m` and `n` embedded,
    the first name sorts strictly before the second iff `m < n` (beta_2 before beta_10) -/
theorem naturalKey_numeric_decimal (pfx sfx : List Char) (m n : Nat)
    (hp : NoTrailingDigit pfx) (hs : NoLeadingDigit sfx) :
    cmpKey (naturalKey (pfx ++ decimal m ++ sfx)) (naturalKey (pfx ++ decimal n ++ sfx)) = some .lt
      ↔ m < n := by
  obtain ⟨v1, d1, n1⟩ := decimal_spec m
  obtain ⟨v2, d2, n2⟩ := decimal_spec n
  rw [naturalKey_numeric pfx sfx _ _ hp hs n1 d1 n2 d2, v1, v2]
  simp [Nat.compare_eq_lt]

/-- the keys never raise: every natural key (and every reversed key) has the shape
    text, (number, text)*, so Python's list comparison only ever compares str with str and int with
    int – the keys define an order on ALL names -/
theorem naturalKey_comparable (a b : List Char) :
    cmpKey (naturalKey a) (naturalKey b) ≠ none ∧
    cmpKey (naturalKeyRevlex a) (naturalKeyRevlex b) ≠ none :=
  ⟨cmpKey_shape _ _ (naturalKey_shape a) (naturalKey_shape b),
   cmpKey_shape _ _ (oddShape_reverse _ (naturalKey_shape a)) (oddShape_reverse _ (naturalKey_shape b))⟩

/-- `natural_key_revlex`: for names `stem ++ number` the reversed key orders by the number first and by
    the stem only among equal numbers (beta_1 < theta_1 < beta_2 < theta_2) -/
theorem naturalKeyRevlex_order (a b d₁ d₂ : List Char)
    (ha : ∀ c ∈ a, isDig c = false) (hb : ∀ c ∈ b, isDig c = false)
    (h₁ : d₁ ≠ []) (h₁' : ∀ c ∈ d₁, isDig c = true) (h₂ : d₂ ≠ []) (h₂' : ∀ c ∈ d₂, isDig c = true) :
    cmpKey (naturalKeyRevlex (a ++ d₁)) (naturalKeyRevlex (b ++ d₂)) =
      some (if valDigits d₁ = valDigits d₂ then cmpChars a b else compare (valDigits d₁) (valDigits d₂)) := by
  unfold naturalKeyRevlex
  rw [naturalKey_stem a d₁ ha h₁ h₁', naturalKey_stem b d₂ hb h₂ h₂']
  by_cases hv : valDigits d₁ = valDigits d₂
  · by_cases hab : a = b
    · subst hab; simp [cmpKey, hv, cmpChars_refl]
    · simp [cmpKey, cmpItem, hv, hab]
  · simp [cmpKey, cmpItem, hv]

/-! ### non-vacuity and negative witnesses (concrete inputs, evaluated by the kernel) -/

private def x : SExpr := .symbol "x"
private def y : SExpr := .symbol "y"

-- x - y*z, 1/(x+y), sqrt(x), cos(x/y): supported, and the special cases fire
example : supported (.add [x, .mul [.integer (-1), y, .symbol "z"]]) = true := by decide +kernel
example : fromSympy (.add [x, .mul [.integer (-1), y, .symbol "z"]]) =
    .ok (.call "sub" [.sym "x", .call "mul" [.sym "y", .sym "z"]]) := rfl
example : fromSympy (.mul [x, .pow y (.integer (-1))]) = .ok (.call "div" [.sym "x", .sym "y"]) := rfl
example : fromSympy (.pow (.add [x, y]) (.float (-1))) =
    .ok (.call "div" [.num (.int 1), .call "add" [.sym "x", .sym "y"]]) := rfl
example : fromSympy (.pow x (.rational (1/2))) = .ok (.call "sqrt" [.sym "x"]) := by
  have h : isHalf (.rational (1/2)) = true ∧ isNegOne (.rational (1/2)) = false := by decide +kernel
  simp only [fromSympy, fromF, x, h.1, h.2]
  simp [call1, SExpr.size, fromF]
example : fromSympy (.add [y, .mul [.float (-1), x]]) =
    .ok (.call "sub" [.sym "y", .call "mul" [.num (.flt 1), .sym "x"]]) := rfl
example : supported (.func false "cos" [.mul [x, .pow y (.integer (-1))]]) = true := by decide +kernel
example : pipeline natOps (.add [x, .mul [.integer (-1), .integer 2]]) = .ok 3 := rfl
-- the hypotheses hinv / hsqrt are satisfiable (ℚ with a power that knows the two exponents)
example : ∃ S : Sem ℚ, (∀ v, S.pw v ((-1 : ℚ) : ℚ) = v⁻¹) ∧ (∀ v, S.sq v = S.pw v ((1/2 : ℚ) : ℚ)) :=
  ⟨{ iu := 0, pw := fun v e => if e = -1 then v⁻¹ else 0,
     sq := fun v => if ((1/2 : ℚ) : ℚ) = -1 then v⁻¹ else 0, app := fun _ _ _ => 0,
     ext := fun _ => 0, rho := fun _ => 0 }, by intro v; simp, by intro v; rfl⟩
-- refusals, one per error class: NotImplementedError, ValueError, TypeError
example : supported (.add [x, .other "Pi"]) = false ∧ clean (.add [x, .other "Pi"]) = true := by decide +kernel
example : pipeline natOps (.add [x, .other "Pi"]) = .error .notimpl := rfl
example : pipeline natOps (.func false "sinh" [x]) = .error .value := rfl
example : pipeline natOps (.func false "cos" [x, y]) = .error .type := rfl
-- NEGATIVE WITNESSES for the missing part of sentence 2 (the model reproduces the code):
-- the undefined function add(x, y) is outside the supported set, yet it is translated to x + y …
example : supported (.func true "add" [x, y]) = false ∧ pipeline natOps (.func true "add" [x, y]) = .ok 10 :=
  ⟨by decide +kernel, rfl⟩
-- … likewise an undefined function that prints as "cos" is translated to the genuine cosine …
example : supported (.func true "cos" [x]) = false ∧
    fromSympy (.func true "cos" [x]) = fromSympy (.func false "cos" [x]) := ⟨by decide +kernel, rfl⟩
-- … and `oo` is handed through as a "number"
example : supported (.numOther "oo") = false ∧ fromSympy (.numOther "oo") = .ok (.num (.ext "oo")) :=
  ⟨by decide +kernel, rfl⟩

example : naturalKey "beta_10".toList = [.s "beta_".toList, .n 10, .s []] := by decide +kernel
example : cmpKey (naturalKey "beta_2".toList) (naturalKey "beta_10".toList) = some .lt := by decide +kernel
example : cmpKey (naturalKey "beta_10".toList) (naturalKey "theta_1".toList) = some .lt := by decide +kernel
example : decimal 10 = "10".toList ∧ decimal 0 = "0".toList ∧ decimal 2024 = "2024".toList := by decide +kernel
example : NoTrailingDigit "beta_".toList ∧ NoLeadingDigit ([] : List Char) := by
  constructor <;> intro c h <;> simp at h; subst h; decide
example : cmpKey (naturalKeyRevlex "theta_1".toList) (naturalKeyRevlex "beta_2".toList) = some .lt := by decide +kernel

end OQ.C19
