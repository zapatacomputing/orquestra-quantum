/-
  C02 / T10 — TRANSLATION TIE for the built-in gate matrices.
  `harness/translate_t10.py` re-reads `circuits/_matrices.py` with `ast` on every run and regenerates
  `OQ/Generated/TranslatedC02.lean`: one definition `tr_<f>_matrix (S : Scal R) (a … : Ang R) : Mat R` per factory (a mechanical rendering of
  the sympy expression: literals, `cos/sin(p/2)` → half-angle components, `exp(±i p[/2])`, `cos/sin(p)` → expressions DERIVED from the
  half-angle point, `1/sqrt(2)`, `2**(-0.5)` → `S.r`, `/2` → `S.half`, `exp(1j*pi/4)` → `S.z`, matrix product, scalar·matrix,
  `sympy.simplify(M)` → M), and `tr_builtinMatrix` (which factory each gate of `_builtin_gates.py` is bound to, read off the live objects).

  This file proves, for EVERY commutative ring and ALL parameter values,
    * `translated_<f>_matrix_eq` (27):  regenerated definition = hand-written model `Gates.<f>` (the object every other theorem of C02 and
      the models of C07 C08 C16 C18 and the driver of C01 speak about).  26 of them need NO law at all; `u3` – whose source is the PRODUCT
      rz(φ)·ry(θ)·rz(λ)/exp(−i(φ+λ)/2) passed through `sympy.simplify` – needs i² = −1 and the circle law of φ and λ: the soundness of
      `simplify` is not assumed, the closed form of the model is PROVED equal to the product the code writes down;
    * `translated_builtinMatrix_eq`: the gate-name → factory binding of the code = the model's `Gates.builtinMatrix` on every table row;
    * END-TO-END: unitarity, the self-adjoint flag, the group law, the fixed relations and `Delay = 1` restated ON THE TRANSLATED matrices –
      a flipped sign / swapped entry / exchanged factory in the Python source changes a generated definition and breaks a theorem here at
      build time, for all angles.
  Domain: all of it (the factories never raise on numbers / symbols; a wrong NUMBER of parameters is the TypeError of `gateMatrix`, outside
  `tr_builtinMatrix`'s `some` branch: `translated_builtinMatrix_arity`).
-/
import OQ.Lemmas.C02_TranslatedMatrices
import OQ.Props.C02


namespace OQ.C02
open OQ OQ.Mat Matrix OQ.Generated OQ.Generated.TranslatedMatrices

section ties
variable {R : Type} [CommRing R]

/-- ties `_matrices.x_matrix` (regenerated `tr_x_matrix`) to the model `Gates.x` -/
theorem translated_x_matrix_eq (k : Scal R) : tr_x_matrix k = Gates.x (R := R) := rfl

/-- ties `_matrices.y_matrix` (regenerated `tr_y_matrix`) to the model `Gates.y` -/
theorem translated_y_matrix_eq (k : Scal R) : tr_y_matrix k = Gates.y k := rfl

/-- ties `_matrices.z_matrix` (regenerated `tr_z_matrix`) to the model `Gates.z` -/
theorem translated_z_matrix_eq (k : Scal R) : tr_z_matrix k = Gates.z (R := R) := rfl

/-- ties `_matrices.h_matrix` (regenerated `tr_h_matrix`) to the model `Gates.h` -/
theorem translated_h_matrix_eq (k : Scal R) : tr_h_matrix k = Gates.h k := by
  simp only [tr_h_matrix, Gates.h, Gates.m2, one_mul, neg_mul]

/-- ties `_matrices.i_matrix` (regenerated `tr_i_matrix`) to the model `Gates.i` -/
theorem translated_i_matrix_eq (k : Scal R) : tr_i_matrix k = Gates.i (R := R) := rfl

/-- ties `_matrices.s_matrix` (regenerated `tr_s_matrix`) to the model `Gates.s` -/
theorem translated_s_matrix_eq (k : Scal R) : tr_s_matrix k = Gates.s k := rfl

/-- ties `_matrices.t_matrix` (regenerated `tr_t_matrix`) to the model `Gates.t` -/
theorem translated_t_matrix_eq (k : Scal R) : tr_t_matrix k = Gates.t k := rfl

/-- ties `_matrices.sx_matrix` (regenerated `tr_sx_matrix`) to the model `Gates.sx` -/
theorem translated_sx_matrix_eq (k : Scal R) : tr_sx_matrix k = Gates.sx k := rfl

/-- ties `_matrices.rx_matrix` (regenerated `tr_rx_matrix`) to the model `Gates.rx` -/
theorem translated_rx_matrix_eq (k : Scal R) (a : Ang R) : tr_rx_matrix k a = Gates.rx k a := by
  simp only [tr_rx_matrix, Gates.rx, Gates.m2, neg_mul]

/-- ties `_matrices.ry_matrix` (regenerated `tr_ry_matrix`) to the model `Gates.ry` -/
theorem translated_ry_matrix_eq (k : Scal R) (a : Ang R) : tr_ry_matrix k a = Gates.ry a := by
  simp only [tr_ry_matrix, Gates.ry, Gates.m2, one_mul, neg_mul]

/-- ties `_matrices.rz_matrix` (regenerated `tr_rz_matrix`) to the model `Gates.rz` -/
theorem translated_rz_matrix_eq (k : Scal R) (a : Ang R) : tr_rz_matrix k a = Gates.rz k a := rfl

/-- ties `_matrices.rh_matrix` (regenerated `tr_rh_matrix`) to the model `Gates.rh` -/
theorem translated_rh_matrix_eq (k : Scal R) (a : Ang R) : tr_rh_matrix k a = Gates.rh k a := by
  refine eq_of_toM 2 2 (isOfFn_smul _ _) (isOfFn_ofLists _) rfl rfl rfl rfl ?_
  simp only [tr_rh_matrix, Gates.rh, Ang.ehp, ← Gates.m2.eq_1, toM_smul_any, toM_m2, Matrix.smul_of, Matrix.smul_cons, Matrix.smul_empty,
    smul_eq_mul, neg_mul]

/-- ties `_matrices.phase_matrix` (regenerated `tr_phase_matrix`) to the model `Gates.phase` -/
theorem translated_phase_matrix_eq (k : Scal R) (a : Ang R) : tr_phase_matrix k a = Gates.phase k a := rfl

/-- ties `_matrices.u3_matrix` = `sympy.simplify(rz(φ)·ry(θ)·rz(λ) / exp(-0.5j(φ+λ)))` – rendered as the PRODUCT it is, `simplify` as the
    identity, the division as multiplication by `exp(+i(φ+λ)/2)` – to the model's closed form `Gates.u3`
    `[[cos θ/2, −e^{iλ} sin θ/2], [e^{iφ} sin θ/2, e^{i(φ+λ)} cos θ/2]]`.  Domain: every commutative ring with i² = −1, every θ, every
    φ, λ on the circle (c² + s² = 1; for real angles always true: `real_angle_meaning`).  Hypotheses: `hii`, `hph`, `hla` (the closed form is
    what simplify needs cos² + sin² = 1 for; without them the two sides differ, e.g. at φ = (2, 0)). -/
theorem translated_u3_matrix_eq {k : Scal R} (hii : k.i * k.i = -1) {th ph la : Ang R}
    (hph : ph.ch * ph.ch + ph.sh * ph.sh = 1) (hla : la.ch * la.ch + la.sh * la.sh = 1) :
    tr_u3_matrix k th ph la = Gates.u3 k th ph la := by
  simp only [tr_u3_matrix]
  refine eq_of_toM 2 2 (isOfFn_smul _ _) (isOfFn_ofLists _) rfl rfl rfl rfl ?_
  rw [toM_smul_any, toM_mul _ _ 2 2 2 rfl rfl rfl rfl, toM_mul _ _ 2 2 2 rfl rfl rfl rfl, translated_rz_matrix_eq,
    translated_ry_matrix_eq, translated_rz_matrix_eq, ehp_add hii]
  exact u3_product hii hph hla

/-- ties `_matrices.gpi_matrix` (regenerated `tr_gpi_matrix`) to the model `Gates.gpi` -/
theorem translated_gpi_matrix_eq (k : Scal R) (a : Ang R) : tr_gpi_matrix k a = Gates.gpi k a := rfl

/-- ties `_matrices.gpi2_matrix` (regenerated `tr_gpi2_matrix`) to the model `Gates.gpi2` -/
theorem translated_gpi2_matrix_eq (k : Scal R) (a : Ang R) : tr_gpi2_matrix k a = Gates.gpi2 k a := by
  refine eq_of_toM 2 2 (isOfFn_smul _ _) (isOfFn_ofLists _) rfl rfl rfl rfl ?_
  simp only [tr_gpi2_matrix, Gates.gpi2, ← Gates.m2.eq_1, toM_smul_any, toM_m2, Matrix.smul_of, Matrix.smul_cons, Matrix.smul_empty,
    smul_eq_mul, neg_mul, mul_one]

/-- ties `_matrices.cnot_matrix` (regenerated `tr_cnot_matrix`) to the model `Gates.cnot` -/
theorem translated_cnot_matrix_eq (k : Scal R) : tr_cnot_matrix k = Gates.cnot (R := R) := rfl

/-- ties `_matrices.cz_matrix` (regenerated `tr_cz_matrix`) to the model `Gates.cz` -/
theorem translated_cz_matrix_eq (k : Scal R) : tr_cz_matrix k = Gates.cz (R := R) := rfl

/-- ties `_matrices.swap_matrix` (regenerated `tr_swap_matrix`) to the model `Gates.swap` -/
theorem translated_swap_matrix_eq (k : Scal R) : tr_swap_matrix k = Gates.swap (R := R) := rfl

/-- ties `_matrices.iswap_matrix` (regenerated `tr_iswap_matrix`) to the model `Gates.iswap` -/
theorem translated_iswap_matrix_eq (k : Scal R) : tr_iswap_matrix k = Gates.iswap k := rfl

/-- ties `_matrices.cphase_matrix` (regenerated `tr_cphase_matrix`) to the model `Gates.cphase` -/
theorem translated_cphase_matrix_eq (k : Scal R) (a : Ang R) : tr_cphase_matrix k a = Gates.cphase k a := rfl

/-- ties `_matrices.xx_matrix` (regenerated `tr_xx_matrix`) to the model `Gates.xx` -/
theorem translated_xx_matrix_eq (k : Scal R) (a : Ang R) : tr_xx_matrix k a = Gates.xx k a := by
  simp only [tr_xx_matrix, Gates.xx, Gates.m4, neg_mul]

/-- ties `_matrices.yy_matrix` (regenerated `tr_yy_matrix`) to the model `Gates.yy` -/
theorem translated_yy_matrix_eq (k : Scal R) (a : Ang R) : tr_yy_matrix k a = Gates.yy k a := by
  simp only [tr_yy_matrix, Gates.yy, Gates.m4, neg_mul]

/-- ties `_matrices.zz_matrix` (regenerated `tr_zz_matrix`) to the model `Gates.zz` -/
theorem translated_zz_matrix_eq (k : Scal R) (a : Ang R) : tr_zz_matrix k a = Gates.zz k a := rfl

/-- ties `_matrices.xy_matrix` (regenerated `tr_xy_matrix`) to the model `Gates.xy` -/
theorem translated_xy_matrix_eq (k : Scal R) (a : Ang R) : tr_xy_matrix k a = Gates.xy k a := rfl

/-- ties `_matrices.ms_matrix` (regenerated `tr_ms_matrix`) to the model `Gates.ms` -/
theorem translated_ms_matrix_eq (k : Scal R) (a b : Ang R) : tr_ms_matrix k a b = Gates.ms k a b := by
  refine eq_of_toM 4 4 (isOfFn_smul _ _) (isOfFn_ofLists _) rfl rfl rfl rfl ?_
  simp only [tr_ms_matrix, Gates.ms, ← Gates.m4.eq_1, toM_smul_any, toM_m4, Matrix.smul_of, Matrix.smul_cons, Matrix.smul_empty,
    smul_eq_mul, neg_mul, mul_one, mul_zero]

/-- ties `_matrices.delay_matrix` (regenerated `tr_delay_matrix`) to the model `Gates.delay` -/
theorem translated_delay_matrix_eq (k : Scal R) (a : Ang R) : tr_delay_matrix k a = Gates.delay (R := R) := rfl

/-- soundness of the translator's RULES (harness/translate_t10.py docstring): `M / sympy.exp(z)` is rendered as multiplication by the
    rendering of `exp(−z)` – the two renderings are inverse to each other on the circle, and the sum of two angle points on the circle
    is on the circle (so the rule applies to `exp(-0.5j*(phi+lambda_))`); `x / 2` ↦ `x * S.half` and `sympy.sqrt(2)` ↦ `(1+1) * S.r`,
    `x / sqrt(2)` ↦ `x * S.r` are division by 2 and by a square root of 2 under the laws `2·half = 1`, `2·r·r = 1` -/
theorem translator_rules_sound {k : Scal R} (hii : k.i * k.i = -1) (a b : Ang R)
    (ha : a.ch * a.ch + a.sh * a.sh = 1) (hb : b.ch * b.ch + b.sh * b.sh = 1) :
    a.ehp k * a.ehm k = 1 ∧ a.eip k * a.eim k = 1 ∧
    (Ang.add a b).ch * (Ang.add a b).ch + (Ang.add a b).sh * (Ang.add a b).sh = 1 ∧
    (Ang.neg a).ch * (Ang.neg a).ch + (Ang.neg a).sh * (Ang.neg a).sh = 1 ∧
    (2 * k.half = 1 → ∀ x : R, (1 + 1) * (x * k.half) = x) ∧
    (2 * k.r * k.r = 1 → ((1 + 1) * k.r) * ((1 + 1) * k.r) = 1 + 1 ∧ ∀ x : R, (x * k.r) * ((1 + 1) * k.r) = x) := by
  refine ⟨ehp_mul_ehm hii ha, eip_mul_eim hii ha, ?_, ?_, fun h x => ?_, fun h => ⟨?_, fun x => ?_⟩⟩
  · simp only [Ang.add]; linear_combination (b.ch * b.ch + b.sh * b.sh) * ha + hb
  · simp only [Ang.neg]; linear_combination ha
  · linear_combination x * h
  · linear_combination 2 * h
  · linear_combination x * h

/-- ties the BINDING gate name → matrix factory of `_builtin_gates.py` (regenerated `tr_builtinMatrix`, read off the live gate objects:
    `<gate>.matrix = matrix_factory(*params)`) to the model's `Gates.builtinMatrix`, for every row of the generated gate table and every
    parameter list of the row's arity whose points are on the circle (needed for U3 only), in every commutative ring with i² = −1 -/
theorem translated_builtinMatrix_eq {k : Scal R} (hii : k.i * k.i = -1) :
    ∀ row ∈ gateTable, ∀ ps : List (Ang R), ps.length = Row.numParams row →
      (∀ a ∈ ps, a.ch * a.ch + a.sh * a.sh = 1) →
      tr_builtinMatrix k (Row.name row) ps = Gates.builtinMatrix k (Row.name row) ps := by
  table_rows
  · exact forall_len0 fun _ => congrArg some (translated_x_matrix_eq k)
  · exact forall_len0 fun _ => congrArg some (translated_y_matrix_eq k)
  · exact forall_len0 fun _ => congrArg some (translated_z_matrix_eq k)
  · exact forall_len0 fun _ => congrArg some (translated_h_matrix_eq k)
  · exact forall_len0 fun _ => congrArg some (translated_i_matrix_eq k)
  · exact forall_len0 fun _ => congrArg some (translated_s_matrix_eq k)
  · exact forall_len0 fun _ => congrArg some (translated_sx_matrix_eq k)
  · exact forall_len0 fun _ => congrArg some (translated_t_matrix_eq k)
  · exact forall_len1 fun a _ => congrArg some (translated_rx_matrix_eq k a)
  · exact forall_len1 fun a _ => congrArg some (translated_ry_matrix_eq k a)
  · exact forall_len1 fun a _ => congrArg some (translated_rz_matrix_eq k a)
  · exact forall_len1 fun a _ => congrArg some (translated_rh_matrix_eq k a)
  · exact forall_len1 fun a _ => congrArg some (translated_phase_matrix_eq k a)
  · exact forall_len3 fun a b c hv => congrArg some (translated_u3_matrix_eq hii (hv b (by simp)) (hv c (by simp)))
  · exact forall_len1 fun a _ => congrArg some (translated_gpi_matrix_eq k a)
  · exact forall_len1 fun a _ => congrArg some (translated_gpi2_matrix_eq k a)
  · exact forall_len0 fun _ => congrArg some (translated_cnot_matrix_eq k)
  · exact forall_len0 fun _ => congrArg some (translated_cz_matrix_eq k)
  · exact forall_len0 fun _ => congrArg some (translated_swap_matrix_eq k)
  · exact forall_len0 fun _ => congrArg some (translated_iswap_matrix_eq k)
  · exact forall_len1 fun a _ => congrArg some (translated_cphase_matrix_eq k a)
  · exact forall_len1 fun a _ => congrArg some (translated_xx_matrix_eq k a)
  · exact forall_len1 fun a _ => congrArg some (translated_yy_matrix_eq k a)
  · exact forall_len1 fun a _ => congrArg some (translated_zz_matrix_eq k a)
  · exact forall_len1 fun a _ => congrArg some (translated_xy_matrix_eq k a)
  · exact forall_len2 fun a b _ => congrArg some (translated_ms_matrix_eq k a b)
  · exact forall_len1 fun a _ => congrArg some (translated_delay_matrix_eq k a)

/-- the translated binding answers exactly on the arity of the factory (a wrong number of parameters is Python's TypeError, the
    `.error .type` of `gateMatrix`): `none` for every row at every parameter list of another length, and for every unknown name -/
theorem translated_builtinMatrix_arity (k : Scal R) :
    (∀ row ∈ gateTable, ∀ ps : List (Ang R), ps.length ≠ Row.numParams row → tr_builtinMatrix k (Row.name row) ps = none) ∧
    (∀ name, name ∉ gateTable.map Row.name → ∀ ps : List (Ang R), tr_builtinMatrix k name ps = none) := by
  refine ⟨fun row hrow ps hne => ?_, fun name hn ps => ?_⟩
  · cases h : tr_builtinMatrix k (Row.name row) ps with
    | none => rfl
    | some M =>
      obtain ⟨row', hrow', he⟩ := List.mem_map.mp (tr_builtinMatrix_some h)
      have hl := lookup_row row' hrow'
      rw [show row'.1 = row.1 from (Prod.mk.inj he).1, lookup_row row hrow] at hl
      cases hl
      exact absurd (Prod.mk.inj he).2.symm hne
  · cases h : tr_builtinMatrix k name ps with
    | none => rfl
    | some M =>
      obtain ⟨row, hrow, he⟩ := List.mem_map.mp (tr_builtinMatrix_some h)
      exact absurd (List.mem_map.mpr ⟨row, hrow, (Prod.mk.inj he).1⟩) hn

end ties

variable {R : Type} [CommRing R] [StarRing R] {k : Scal R}

/-- END-TO-END `builtin_unitary` on the translated code: for every built-in gate of the live table, the matrix the TRANSLATED factory
    bound to it returns is a 2^n × 2^n unitary, at every list of valid angle points (all real parameter values: `translated_real_unitary`) -/
theorem translated_builtin_unitary (hk : Laws k) :
    ∀ row ∈ gateTable, ∀ ps : List (Ang R), ps.length = Row.numParams row → (∀ a ∈ ps, Valid a) →
      ∃ M, tr_builtinMatrix k (Row.name row) ps = some M ∧ IsUnitaryOf (2 ^ Row.numQubits row) M := by
  intro row hrow ps hl hv
  obtain ⟨M, hM, hU⟩ := builtin_unitary hk row hrow ps hl hv
  refine ⟨M, ?_, hU⟩
  rw [translated_builtinMatrix_eq hk.ii row hrow ps hl (fun a ha => (hv a ha).circle)]
  exact (gateMatrix_row k row hrow ps hl M).mp hM

/-- END-TO-END `flag_hermitian` on the translated code: the translated matrix of every gate FLAGGED self-adjoint in the live table equals
    its own conjugate transpose, at all valid angle points -/
theorem translated_flag_hermitian (hk : Laws k) :
    ∀ row ∈ gateTable, Row.isHermitian row = true →
      ∀ ps : List (Ang R), ps.length = Row.numParams row → (∀ a ∈ ps, Valid a) →
      ∃ M, tr_builtinMatrix k (Row.name row) ps = some M ∧ IsSelfAdjointOf (2 ^ Row.numQubits row) M := by
  intro row hrow hf ps hl hv
  obtain ⟨M, hM, hS⟩ := flag_hermitian hk row hrow hf ps hl hv
  refine ⟨M, ?_, hS⟩
  rw [translated_builtinMatrix_eq hk.ii row hrow ps hl (fun a ha => (hv a ha).circle)]
  exact (gateMatrix_row k row hrow ps hl M).mp hM

/-- END-TO-END at R = ℂ: the translated matrix of every built-in gate at every list of REAL parameter values (the angle point of θ is
    (cos θ/2, sin θ/2), so the renderings are the code's cos, sin, exp: `real_angle_meaning`) is unitary -/
theorem translated_real_unitary :
    ∀ row ∈ gateTable, ∀ θs : List ℝ, θs.length = Row.numParams row →
      ∃ M, tr_builtinMatrix kC (Row.name row) (θs.map angR) = some M ∧ IsUnitaryOf (2 ^ Row.numQubits row) M := by
  intro row hrow θs hl
  exact translated_builtin_unitary kC_laws row hrow _ (by simpa using hl) (valid_map_angR θs)

/-- END-TO-END for the values the self-check of the translator computes (R = ℚ(ζ₈), rational circle points): exactly unitary -/
theorem translated_driver_unitary :
    ∀ row ∈ gateTable, ∀ ps : List (Rat × Rat), ps.length = Row.numParams row →
      (∀ p ∈ ps, p.1 * p.1 + p.2 * p.2 = 1) →
      ∃ M, tr_builtinMatrix Scal.cyc8 (Row.name row) (ps.map fun p => ⟨Cyc8.ofRat p.1, Cyc8.ofRat p.2⟩) = some M ∧
        IsUnitaryOf (2 ^ Row.numQubits row) M := by
  intro row hrow ps hl hp
  exact translated_builtin_unitary cyc8_laws row hrow _ (by simpa using hl) (valid_map_ofRat ps hp)

omit [StarRing R] in
/-- END-TO-END `delay_identity`: the translated `delay_matrix` is the identity for EVERY duration, and it is what the gate "Delay" is bound to -/
theorem translated_delay_identity (k : Scal R) (d : Ang R) :
    tr_builtinMatrix k "Delay" [d] = some (tr_delay_matrix k d) ∧ toM 2 2 (tr_delay_matrix k d) = 1 := by
  refine ⟨rfl, ?_⟩
  rw [translated_delay_matrix_eq]
  exact (delay_identity k d).2

/-- END-TO-END `rot_mul`: the group law G(a)·G(b) = G(a+b) of the ten one-parameter families, on the translated factories, all angle points -/
theorem translated_rot_mul (hk : Laws k) (a b : Ang R) :
    toM 2 2 (tr_rx_matrix k a) * toM 2 2 (tr_rx_matrix k b) = toM 2 2 (tr_rx_matrix k (Ang.add a b)) ∧
    toM 2 2 (tr_ry_matrix k a) * toM 2 2 (tr_ry_matrix k b) = toM 2 2 (tr_ry_matrix k (Ang.add a b)) ∧
    toM 2 2 (tr_rz_matrix k a) * toM 2 2 (tr_rz_matrix k b) = toM 2 2 (tr_rz_matrix k (Ang.add a b)) ∧
    toM 2 2 (tr_rh_matrix k a) * toM 2 2 (tr_rh_matrix k b) = toM 2 2 (tr_rh_matrix k (Ang.add a b)) ∧
    toM 2 2 (tr_phase_matrix k a) * toM 2 2 (tr_phase_matrix k b) = toM 2 2 (tr_phase_matrix k (Ang.add a b)) ∧
    toM 4 4 (tr_cphase_matrix k a) * toM 4 4 (tr_cphase_matrix k b) = toM 4 4 (tr_cphase_matrix k (Ang.add a b)) ∧
    toM 4 4 (tr_xx_matrix k a) * toM 4 4 (tr_xx_matrix k b) = toM 4 4 (tr_xx_matrix k (Ang.add a b)) ∧
    toM 4 4 (tr_yy_matrix k a) * toM 4 4 (tr_yy_matrix k b) = toM 4 4 (tr_yy_matrix k (Ang.add a b)) ∧
    toM 4 4 (tr_zz_matrix k a) * toM 4 4 (tr_zz_matrix k b) = toM 4 4 (tr_zz_matrix k (Ang.add a b)) ∧
    toM 4 4 (tr_xy_matrix k a) * toM 4 4 (tr_xy_matrix k b) = toM 4 4 (tr_xy_matrix k (Ang.add a b)) := by
  simp only [translated_rx_matrix_eq, translated_ry_matrix_eq, translated_rz_matrix_eq, translated_rh_matrix_eq,
    translated_phase_matrix_eq, translated_cphase_matrix_eq, translated_xx_matrix_eq, translated_yy_matrix_eq,
    translated_zz_matrix_eq, translated_xy_matrix_eq]
  exact rot_mul hk a b

/-- END-TO-END fixed relations on the translated factories: S·S = Z, T·T = S, SX·SX = X, H·Z·H = X, and CNOT / CZ are the controlled X / Z -/
theorem translated_fixed_relations (hk : Laws k) :
    toM 2 2 (tr_s_matrix k) * toM 2 2 (tr_s_matrix k) = toM 2 2 (tr_z_matrix k) ∧
    toM 2 2 (tr_t_matrix k) * toM 2 2 (tr_t_matrix k) = toM 2 2 (tr_s_matrix k) ∧
    toM 2 2 (tr_sx_matrix k) * toM 2 2 (tr_sx_matrix k) = toM 2 2 (tr_x_matrix k) ∧
    toM 2 2 (tr_h_matrix k) * toM 2 2 (tr_z_matrix k) * toM 2 2 (tr_h_matrix k) = toM 2 2 (tr_x_matrix k) ∧
    toM 4 4 (tr_cnot_matrix k) = controlled1 (toM 2 2 (tr_x_matrix k)) ∧
    toM 4 4 (tr_cz_matrix k) = controlled1 (toM 2 2 (tr_z_matrix k)) := by
  simp only [translated_s_matrix_eq, translated_t_matrix_eq, translated_sx_matrix_eq, translated_h_matrix_eq,
    translated_z_matrix_eq, translated_x_matrix_eq, translated_cnot_matrix_eq, translated_cz_matrix_eq]
  exact ⟨s_mul_s hk, t_mul_t hk, sx_mul_sx hk, h_z_h hk, cnot_cz_controlled.1, cnot_cz_controlled.2⟩

/-! ## non-vacuity: the translated definitions compute, on concrete points, what the model computes – and are not trivial -/

/-- the hypotheses of the u3 tie are satisfiable (and satisfied by every real angle) -/
example (θ : ℝ) : (angR θ).ch * (angR θ).ch + (angR θ).sh * (angR θ).sh = 1 := (angR_valid θ).circle
example : kC.i * kC.i = -1 := kC_laws.ii
/-- the translated U3 (a product of three translated matrices and a phase) at three different rational circle points, evaluated exactly
    in ℚ(ζ₈), IS the closed form – and is not the identity -/
example : (tr_u3_matrix Scal.cyc8 ⟨Cyc8.ofRat (3/5), Cyc8.ofRat (4/5)⟩ ⟨Cyc8.ofRat (5/13), Cyc8.ofRat (12/13)⟩
            ⟨Cyc8.ofRat (8/17), Cyc8.ofRat (15/17)⟩).toLists =
          (Gates.u3 Scal.cyc8 ⟨Cyc8.ofRat (3/5), Cyc8.ofRat (4/5)⟩ ⟨Cyc8.ofRat (5/13), Cyc8.ofRat (12/13)⟩
            ⟨Cyc8.ofRat (8/17), Cyc8.ofRat (15/17)⟩).toLists := by decide +kernel
example : (tr_u3_matrix Scal.cyc8 ⟨Cyc8.ofRat (3/5), Cyc8.ofRat (4/5)⟩ ⟨Cyc8.ofRat (5/13), Cyc8.ofRat (12/13)⟩
            ⟨Cyc8.ofRat (8/17), Cyc8.ofRat (15/17)⟩).toLists ≠ (Gates.i (R := Cyc8)).toLists := by decide +kernel
/-- OFF the circle the product form and the closed form differ (the hypotheses of `translated_u3_matrix_eq` are needed) -/
example : (tr_u3_matrix Scal.cyc8 ⟨1, 0⟩ ⟨2, 0⟩ ⟨1, 0⟩).toLists ≠ (Gates.u3 Scal.cyc8 ⟨1, 0⟩ ⟨2, 0⟩ ⟨1, 0⟩).toLists := by
  decide +kernel
/-- translated MS at two rational points: exactly unitary (executable adjoint and product), not diagonal -/
example : (((tr_ms_matrix Scal.cyc8 ⟨Cyc8.ofRat (3/5), Cyc8.ofRat (4/5)⟩ ⟨Cyc8.ofRat (5/13), Cyc8.ofRat (12/13)⟩).adjoint).mul
            (tr_ms_matrix Scal.cyc8 ⟨Cyc8.ofRat (3/5), Cyc8.ofRat (4/5)⟩ ⟨Cyc8.ofRat (5/13), Cyc8.ofRat (12/13)⟩)).toLists =
          (Mat.identity (R := Cyc8) 4).toLists := by decide +kernel
example : (tr_ms_matrix Scal.cyc8 ⟨Cyc8.ofRat (3/5), Cyc8.ofRat (4/5)⟩ ⟨Cyc8.ofRat (5/13), Cyc8.ofRat (12/13)⟩).get 0 3 ≠ 0 := by
  decide +kernel
/-- the binding is total on the table rows and rejects a wrong arity / an unknown name -/
example : (tr_builtinMatrix Scal.cyc8 "RH" [⟨Cyc8.ofRat (3/5), Cyc8.ofRat (4/5)⟩]).isSome = true ∧
          (tr_builtinMatrix Scal.cyc8 "RH" []).isSome = false ∧ (tr_builtinMatrix Scal.cyc8 "FOO" []).isSome = false := by
  decide +kernel
/-- H as translated (`float(1/np.sqrt(2))` ↦ `1 * S.r`) squares to the identity in ℚ(ζ₈) -/
example : ((tr_h_matrix Scal.cyc8).mul (tr_h_matrix Scal.cyc8)).toLists = (Mat.identity (R := Cyc8) 2).toLists := by decide +kernel

end OQ.C02
