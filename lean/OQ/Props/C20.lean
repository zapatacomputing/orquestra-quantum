/-
  C20 — PROPERTY THEOREMS: value-returning operations never modify their arguments.
  Model: OQ/Model/C20.lean (object store + every listed operation as `valueOf` / `effects` / `step`).

  What is proved is the frame condition OF THE MODEL, for every store, every call and every history.
  That the model's `effects` are the writes the Python code performs is the job of the correspondence
  run (deep snapshots of every live object before/after each real call); see harness/props/c20.py.
-/
import OQ.Lemmas.C20
namespace OQ.C20

/-- "…all leave every argument, including the receiver, … identical": one call never writes an existing
    cell – the store before the call is a PREFIX of the store after it.  Holds for every listed operation
    (composing, binding, inverting, controlling a circuit; adding, multiplying, powering, simplifying,
    conjugating an operator; counts / distribution / representing measurements; constructing and
    marginalising distributions; wavefunction construction, bind, probabilities; every report),
    for arbitrary (even ill-typed or dangling) arguments, and whether the call succeeds or raises. -/
theorem frame_step (h : Heap) (c : Call) : h <+: (step h c).1 := by
  unfold step
  split
  · exact List.prefix_rfl
  · exact effects_frame _ _ _

/-- "observably identical to its state before the call": whatever could be observed of ANY object of the
    store before the call (receiver, arguments, every other shared object, followed through all fields)
    is observed unchanged after it. -/
theorem observe_step (h : Heap) (c : Call) {r : Ref} {o : Obs} (ho : view? h r = some o) :
    view? (step h c).1 r = some o :=
  view?_mono (frame_step h c) ho

/-- a call that raises leaves the store as it was -/
theorem error_leaves_store (h : Heap) (c : Call) (e : Err) (he : (step h c).2.out = .err e) :
    (step h c).1 = h := by
  unfold step at he ⊢
  split
  · rfl
  · rename_i v hv; simp only [hv] at he; cases he

/-- reports (counts, probabilities, and every report whose numbers are not modelled: `to_unitary`,
    `to_dict`, `str`, expectation values, parities, distances, saving) do not even allocate -/
theorem report_leaves_store (h : Heap) (kind : String) (args : List Ref) (m w : Ref) :
    (step h (.report kind args)).1 = h ∧ (step h (.measCounts m)).1 = h ∧ (step h (.wfProbs w)).1 = h := by
  refine ⟨?_, ?_, ?_⟩ <;> (unfold step; split <;> rfl)

/-- Quantifier "all sequences of such calls on shared objects": a whole history only extends the store. -/
theorem frame_history (h : Heap) (cs : List Call) : h <+: (run h cs).1 := by
  induction cs generalizing h with
  | nil => exact List.prefix_rfl
  | cons c cs ih => exact (frame_step h c).trans (ih _)

/-- … and every observation that could be made before the history can be made, unchanged, after it
    (this covers objects created in the middle of the history as well: apply it to the tail). -/
theorem observe_history (h : Heap) (cs : List Call) {r : Ref} {o : Obs} (ho : view? h r = some o) :
    view? (run h cs).1 r = some o :=
  view?_mono (frame_history h cs) ho

/-- the outcome of a call is a function of the observations of its arguments -/
theorem outcome_is_function_of_observations (h : Heap) (c : Call) :
    (step h c).2.out = valueOf c (argViews h c) := by
  unfold step
  split <;> simp only [*]

/-- "Calling the same operation twice on the same arguments therefore gives equal results" – also with an
    arbitrary history of listed calls in between (`cs = []` is the plain twice-in-a-row case).  The arguments
    must exist (be observable) at the first call. -/
theorem idempotent_result (h : Heap) (c : Call) (cs : List Call)
    (hobs : ∀ r ∈ c.refs, (view? h r).isSome) :
    (step (run (step h c).1 cs).1 c).2.out = (step h c).2.out := by
  rw [outcome_is_function_of_observations, outcome_is_function_of_observations]
  have hp : h <+: (run (step h c).1 cs).1 := (frame_step h c).trans (frame_history _ cs)
  -- an argument that could be observed at the first call is observed unchanged at the second
  refine congrArg (valueOf c) (List.map_congr_left fun r hr => ?_)
  obtain ⟨o, hv⟩ := Option.isSome_iff_exists.1 (hobs r hr)
  rw [hv]; exact view?_mono hp hv

/-- "…every operation that returns a new object": when a call succeeds with an object, the reference it
    returns denotes, in the store after the call, exactly the announced value (so equal outcomes of two
    calls are equal OBJECTS as far as any observation goes). -/
theorem result_denotes (h : Heap) (c : Call) (o : Obs) (ho : (step h c).2.out = .ok (.obj o)) :
    ∃ r, (step h c).2.ref = some r ∧ view? (step h c).1 r = some o := by
  rw [outcome_is_function_of_observations] at ho
  unfold step
  simp only [ho]
  exact effects_denotes rfl ho

/-- sentence 1 (circuits), spelled out: every circuit operation preserves every observation -/
theorem circuits_are_values (h : Heap) (a b l : Ref) (op : GOp) (m : List (String × Rat)) (k : Nat)
    (nq : Option Nat) {r : Ref} {o : Obs} (ho : view? h r = some o) :
    ∀ c ∈ [Call.circNew l nq, .circAdd a b, .circAddOp a op, .circBind a m, .circInverse a,
           .circControlled a k, .report "to_dict" [a], .report "to_unitary" [a], .report "eq" [a, b]],
      view? (step h c).1 r = some o :=
  fun c _ => observe_step h c ho

/-- sentence 2 (Pauli terms and sums) -/
theorem operators_are_values (h : Heap) (a b l : Ref) (z : Coef) (n : Nat) (zc : Option Coef)
    {r : Ref} {o : Obs} (ho : view? h r = some o) :
    ∀ c ∈ [Call.termCopy a zc, .termMul a b, .termScale a z, .termAdd a b, .termPow a n, .sumNew l,
           .sumAdd a b, .sumMul a b, .sumRMul a z, .sumPow a n, .sumSimplify a, .opConj a,
           .report "to_dict" [a], .report "pauli_strings" [a], .report "sparse" [a]],
      view? (step h c).1 r = some o :=
  fun c _ => observe_step h c ho

/-- sentences 3–5 (measurements, distributions, wavefunctions) -/
theorem measurements_distributions_wavefunctions_are_values (h : Heap) (m d d2 w l p : Ref)
    (counts : List (Bits × Nat)) (n : Nat) (samples : List Bits) (qs : List Int) (nrm : Bool)
    {r : Ref} {o : Obs} (ho : view? h r = some o) :
    ∀ c ∈ [Call.measNew l, .measFromCounts counts, .measCounts m, .measDistribution m,
           .measRepresenting d n samples, .report "expectation_values" [m, p], .report "parities" [m, p],
           .distNew l nrm, .distSub d qs, .report "distance" [d, d2], .report "save" [d],
           .wfNew l, .wfBind w, .wfProbs w, .report "outcome_probs" [w]],
      view? (step h c).1 r = some o :=
  fun c _ => observe_step h c ho

/-! ## negative witness: the model can express a violation.  `subdistribution` as it was before commit
    d900b77 (`self.distribution_dict.pop(key)`) changes what is observed of its receiver. -/

theorem old_subdistribution_breaks_frame :
    view? witnessStore 2 = some (.dist [([0, 1], 1/2), ([1, 1], 1/2)]) ∧
    view? (effectsSubPop witnessStore 2 [1]).1 2 = some (.dist []) ∧
    ¬ witnessStore <+: (effectsSubPop witnessStore 2 [1]).1 := by
  have h1 : view? witnessStore 2 = some (.dist [([0, 1], 1/2), ([1, 1], 1/2)]) := by decide +kernel
  have h2 : view? (effectsSubPop witnessStore 2 [1]).1 2 = some (.dist []) := by decide +kernel
  -- along a prefix the first observation would survive
  exact ⟨h1, h2, fun hp => nomatch h2.symm.trans (view?_mono hp h1)⟩

/-! ## non-vacuity: concrete histories on shared objects -/

-- histC: a circuit (ref 2) shared by inverse, `+`, bind and controlled
example : (run [] histC).2.map (·.ref) = [some 0, some 2, some 5, some 8, some 11, some 14] := by decide +kernel
example : view? (run [] histC).1 2 = some (.circuit [gRX, gCN, gT] 3) := by decide +kernel
example : view? (run [] histC).1 5 =
    some (.circuit [⟨.dag (.base "T" [] false), [1]⟩, gCN, ⟨.dag (.base "RX" [.sym "theta"] false), [0]⟩] 3) := by
  decide +kernel
example : (step (run [] histC).1 (.circInverse 2)).2.out = (step (run [] (histC.take 2)).1 (.circInverse 2)).2.out := by
  decide +kernel

-- histP: two terms shared by `*`, `+` (whose result SHARES them), a list / sum aliasing, simplify, power
example : ((run [] histP).2.map (·.ref)).take 7 = [some 1, some 3, some 9, some 13, some 14, some 15, some 19] := by
  decide +kernel
example : view? (run [] histP).1 9 = some (.term ([(0, .X), (1, .X)], ⟨-1/2, 0⟩)) := by decide +kernel
example : termRefs (run [] histP).1 13 = [1, 3] := by decide +kernel          -- the sum holds its very arguments
example : termRefs (run [] histP).1 19 = [17, 3] := by decide +kernel         -- simplify: one new term, one shared
example : view? (run [] histP).1 19 = some (.psum [([(0, .X), (1, .Y)], ⟨1, 0⟩), ([(1, .Z)], ⟨0, 1⟩)]) := by
  decide +kernel
example : view? (run [] histP).1 1 = some (.term ([(0, .X), (1, .Y)], ⟨1/2, 0⟩)) := by decide +kernel

-- histD: a dict normalised in place by the constructor (on its own copy), marginals, an error, measurements
example : view? (run [] histD).1 0 = some (.ddict [([0, 1], 1), ([1, 1], 1), ([1, 0], 2)]) := by decide +kernel
example : view? (run [] histD).1 2 = some (.dist [([0, 1], 1/4), ([1, 1], 1/4), ([1, 0], 1/2)]) := by decide +kernel
example : (((run [] histD).2.map (·.out)).drop 2).take 3 =
    [.ok (.obj (.dist [([1], 1/2), ([0], 1/2)])),
     .ok (.obj (.dist [([1, 0], 1/4), ([1, 1], 1/4), ([0, 1], 1/2)])), .err .value] := by decide +kernel
example : ((run [] histD).2.map (·.out)).drop 7 =
    [.ok (.counts [([0, 1], 2), ([1, 1], 1)]), .ok (.obj (.meas [[1], [1], [0]]))] := by decide +kernel

-- indices counted from the end (tuple indexing), an index below -len(key) (IndexError), and the store after them
example : ((run (run [] histD).1 [.distSub 2 [-1, 0], .distSub 2 [-2], .distSub 2 [-3], .distSub 2 [-1, 1]]).2.map (·.out)) =
    [.ok (.obj (.dist [([1, 0], 1/4), ([1, 1], 1/4), ([0, 1], 1/2)])),
     .ok (.obj (.dist [([0], 1/4), ([1], 3/4)])), .err .index,
     .ok (.obj (.dist [([1, 1], 1/2), ([0, 0], 1/2)]))] := by decide +kernel
example : view? (run (run [] histD).1 [.distSub 2 [-1, 0], .distSub 2 [-3]]).1 2 =
    some (.dist [([0, 1], 1/4), ([1, 1], 1/4), ([1, 0], 1/2)]) := by decide +kernel

-- amplitudes normalised only up to the tolerance of np.isclose are accepted (and read without being rescaled);
-- a dict whose values sum to 1 only up to math.isclose is stored as it is
example : ((run [] [.litArr [⟨707107/1000000, 0⟩, ⟨0, 707107/1000000⟩], .wfNew 0, .wfProbs 1,
                    .litArr [⟨1/2, 0⟩, ⟨1/2, 0⟩], .wfNew 2]).2.map (·.out)).drop 1 =
    [.ok (.obj (.wf [⟨707107/1000000, 0⟩, ⟨0, 707107/1000000⟩])),
     .ok (.probs [500000309449/1000000000000, 500000309449/1000000000000]),
     .ok (.obj (.arr [⟨1/2, 0⟩, ⟨1/2, 0⟩])), .err .value] := by decide +kernel
example : ((run [] [.litDict [([0], 1/3), ([1], 666666666667/1000000000000)], .distNew 0 true,
                    .litDict [([0], 1/3), ([1], 1/3)], .distNew 3 true]).2.map (·.out)).drop 1 =
    [.ok (.obj (.dist [([0], 1/3), ([1], 666666666667/1000000000000)])),
     .ok (.obj (.ddict [([0], 1/3), ([1], 1/3)])),
     .ok (.obj (.dist [([0], 1/2), ([1], 1/2)]))] := by decide +kernel

end OQ.C20
