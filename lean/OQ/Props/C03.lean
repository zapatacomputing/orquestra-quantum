/-
  C03 — PROPERTY THEOREMS: Pauli operator arithmetic is faithful to matrix arithmetic.
  Model: OQ/Model/C03.lean (+ data and the executable Kronecker `denote` of OQ/Model/Pauli.lean, tables regenerated
  from /repo in OQ/Generated/PauliTables.lean).  Helper lemmas: OQ/Lemmas/C03*.lean.

  Every statement is about the matrix that the EXECUTABLE `denote` computes (tensor product of the 2×2 Pauli matrices,
  qubit 0 leftmost, times the coefficient), viewed as a Mathlib matrix over `Fin (2^n)` (`MT`, `MS`, `MV` below), and
  about Mathlib's matrix `+`, `-`, `*`, `•`, `^`.  `R` is an arbitrary commutative ring with an element `k.i`,
  `k.i * k.i = -1` (ℂ, ℚ(i), and the driver's ℚ(ζ₈) – see `instCommRingCyc8`).  `n` is any register width that contains
  the operands (`TermFits` / `SumFits` / `ValFits`: every qubit index < n).
  `negl` is `np.isclose(·, 0.0)`; theorems with `hex : ∀ c, negl c = true → c = 0` are the exact-coefficient statements,
  `denote_simplify` is the statement for an arbitrary `negl`.
  Tier B (`==`): `close` is `np.allclose`, `hk` the coefficient part of `__hash__`; the theorems are for exact comparison
  (`close a b ↔ a = b`), an arbitrary `hk`, and rings without 2-torsion.  The float part of `==` (rtol of `np.allclose`,
  hash rounding at 1e-6) is modelled exactly in the driver (`Run.close`, `Run.hk`) and compared with the implementation, but
  is not a theorem; the one place where the library's answer differs from matrix equality (hash rounding) is recorded as a negative witness.
-/
import OQ.Lemmas.C03
import OQ.Lemmas.C03_Cyc8
import OQ.Lemmas.C03_Eq
namespace OQ.C03
open OQ.Pauli Matrix

variable {R : Type} [CommRing R]

/-- the matrix the executable `Term.denote` computes on `n` qubits -/
abbrev MT (k : Scal R) (n : Nat) (t : Term R) : Matrix (Fin (2 ^ n)) (Fin (2 ^ n)) R := Mat.toM (2 ^ n) (2 ^ n) (t.denote k n)
/-- the matrix the executable `PSum.denote` computes on `n` qubits -/
abbrev MS (k : Scal R) (n : Nat) (s : PSum R) : Matrix (Fin (2 ^ n)) (Fin (2 ^ n)) R := Mat.toM (2 ^ n) (2 ^ n) (PSum.denote k n s)
/-- the matrix a value (number = multiple of the identity, term, sum) denotes on `n` qubits -/
abbrev MV (k : Scal R) (n : Nat) (v : Val R) : Matrix (Fin (2 ^ n)) (Fin (2 ^ n)) R := Mat.toM (2 ^ n) (2 ^ n) (v.denote k n)

/-- 2×2 matrix of a letter (`none` = I), read off the executable `pauliMat` -/
abbrev M2 (k : Scal R) (o : Option P) : Matrix (Fin 2) (Fin 2) R := Mat.toM 2 2 (pauliMat k o)

/-- Mechanism "OPERATOR_MAP / COEFF_MAP": on the tables REGENERATED from /repo, for all letters a ≠ b,
    σ_a σ_b = COEFF_MAP[ab] · σ_{OPERATOR_MAP[ord a + ord b]}; equal letters cancel (σ_a σ_a = 1); `I` is the identity.
    Together: all sixteen single-qubit products are the 2×2 matrix products. -/
theorem table_faithful (k : Scal R) (hi : k.i * k.i = -1) :
    (∀ a b : P, a ≠ b → M2 k (some a) * M2 k (some b) = phase k (Gen.coeffTable a b) • M2 k (some (Gen.opTable a b)))
    ∧ (∀ a : P, M2 k (some a) * M2 k (some a) = 1) ∧ M2 k none = 1 :=
  ⟨fun a b hab => σ_mul_table k hi a b hab, fun a => σ_sq k hi (some a), σ_none k⟩

/-- the same table check run on the driver's scalars by kernel evaluation of the executable matrices:
    the six products of distinct letters and the three squares -/
theorem table_faithful_cyc8 :
    ([P.X, P.Y, P.Z].all fun a => [P.X, P.Y, P.Z].all fun b =>
      if a = b then Mat.beq (Mat.mul (pauliMat Scal.cyc8 (some a)) (pauliMat Scal.cyc8 (some b))) (pauliMat Scal.cyc8 none)
      else Mat.beq (Mat.mul (pauliMat Scal.cyc8 (some a)) (pauliMat Scal.cyc8 (some b)))
        (Mat.smul (phase Scal.cyc8 (Gen.coeffTable a b)) (pauliMat Scal.cyc8 (some (Gen.opTable a b))))) = true := by
  decide +kernel

/-- Mechanism "_multiply_by_operator": multiplying a term by the letter `op` on qubit `idx` (three cases: new qubit,
    equal letters cancel, table lookup with phase) denotes right-multiplication by that single-letter operator. -/
theorem denote_multiply_by_operator (k : Scal R) (hi : k.i * k.i = -1) (n : Nat) (t : Term R) (op : P) (idx : Nat)
    (hidx : idx < n) : MT k n (mulByOp k t op idx) = MT k n t * MT k n ⟨[(idx, op)], 1⟩ := by
  simp only [MT, toM_denote_term]
  rw [mulByOp_den k hi n t op idx hidx]
  congr 1
  unfold tden
  rw [one_smul]
  apply tens_congr
  intro q _
  simp only [single, lookup_cons, lookup_nil]
  by_cases h : q = idx
  · simp [h]
  · simp [h, Ne.symm h, σ_none]

/-- Sentence "product in either order" for terms (mechanism `PauliTerm.__mul__`): `t * u` denotes the matrix product
    `⟦t⟧ ⟦u⟧`, for all coefficients, on every register containing `u`, and for EVERY order in which Python's set iteration
    may visit the qubits of the right factor (`order`: no repetition, contains every qubit of `u`).  Swapping the
    arguments gives the other order of the product. -/
theorem denote_mul_term (k : Scal R) (hi : k.i * k.i = -1) (n : Nat) (t u : Term R) (order : List Nat)
    (hu : TermFits n u) (hnd : order.Nodup) (hcov : ∀ q, (u.opAt q).isSome → q ∈ order) :
    MT k n (mulTermOrd k order t u) = MT k n t * MT k n u := by
  simp only [MT, toM_denote_term]
  exact mulTermOrd_den k hi n t u order hu hnd (fun q a h => hcov q (by show (lookup u.ops q).isSome = true; rw [h]; rfl))

/-- the product the driver runs (dict order as iteration order) is an instance of `denote_mul_term` -/
theorem denote_mul_term_dictorder (k : Scal R) (hi : k.i * k.i = -1) (n : Nat) (t u : Term R) (hu : TermFits n u) :
    MT k n (mulTerm k t u) = MT k n t * MT k n u := by
  simp only [MT, toM_denote_term]
  exact mulTerm_den k hi n t u hu

/-- Mechanism "PauliSum.__mul__ distributes over the cartesian product": the un-simplified list of term products denotes
    the product of the sums (no assumption on `negl`; duplicates, zero coefficients and empty sums included). -/
theorem denote_product_terms (k : Scal R) (hi : k.i * k.i = -1) (n : Nat) (s1 s2 : PSum R) (hs : SumFits n s2) :
    MS k n (productTerms k s1 s2) = MS k n s1 * MS k n s2 := by
  simp only [MS, toM_denote_sum]
  exact productTerms_den k hi n s1 s2 hs

/-- Sentence "product" for sums: `PauliSum.__mul__` (cartesian product, then simplify) denotes the matrix product. -/
theorem denote_mul_sum (k : Scal R) (hi : k.i * k.i = -1) (n : Nat) (negl : R → Bool) (hex : ∀ c, negl c = true → c = 0)
    (s1 s2 : PSum R) (hs : SumFits n s2) : MS k n (mulS k negl s1 s2) = MS k n s1 * MS k n s2 := by
  simp only [MS, toM_denote_sum]
  exact mulS_den k hi n negl hex s1 s2 hs

/-- Sentence "simplification never changes the denoted matrix", for an ARBITRARY negligibility test: the matrix changes
    exactly by the merged terms that were discarded, and each of those has a coefficient the test called negligible
    (|c| ≤ 1e-8 in the library). -/
theorem denote_simplify (k : Scal R) (n : Nat) (negl : R → Bool) (s : PSum R) :
    MS k n s = MS k n (simplify negl s) + MS k n (dropped negl s) ∧ ∀ d ∈ dropped negl s, negl d.coeff = true := by
  simp only [MS, toM_denote_sum]
  exact ⟨(simplify_den k n negl s).symm, dropped_negl negl s⟩

/-- Sentence "simplification never changes the denoted matrix", exact coefficients: if only 0 is negligible the matrix is
    unchanged (like terms merged, duplicates, zero coefficients, empty sum). -/
theorem denote_simplify_exact (k : Scal R) (n : Nat) (negl : R → Bool) (hex : ∀ c, negl c = true → c = 0) (s : PSum R) :
    MS k n (simplify negl s) = MS k n s := by
  simp only [MS, toM_denote_sum]
  exact simplify_den_exact k n negl hex s

section ops
variable (k : Scal R) (n : Nat) (negl : R → Bool) (hex : ∀ c, negl c = true → c = 0)
include hex

/-- Sentence "sum … with terms, sums and plain numbers mixed on either side": whenever `a + b` is defined by the library
    (all nine kind combinations except number + number, incl. the reflected `__radd__`), it denotes `⟦a⟧ + ⟦b⟧`. -/
theorem denote_add (a b r : Val R) (h : addV negl a b = .ok r) : MV k n r = MV k n a + MV k n b := by
  simp only [MV, toM_denote_val]
  cases a <;> cases b <;> simp only [addV, Except.ok.injEq, reduceCtorEq] at h <;> subst h <;>
    simp only [vden, addS_den k n negl hex, simplify_den_exact k n negl hex, sden_cons, sden_nil,
      tden_constTerm, add_zero] <;> try abel

/-- `-1.0 * v` denotes `-⟦v⟧` -/
theorem denote_neg (v : Val R) : MV k n (negV negl v) = -MV k n v := by
  simp only [MV, toM_denote_val]
  cases v <;> simp [negV, vden, tden_scaleTerm, rmulS_den k n negl hex]

/-- Sentence "difference" (`__sub__` / `__rsub__` = `+ (-1.0 · other)`): whenever `a - b` is defined it denotes `⟦a⟧ - ⟦b⟧`. -/
theorem denote_sub (a b r : Val R) (h : subV negl a b = .ok r) : MV k n r = MV k n a - MV k n b := by
  have hadd : addV negl a (negV negl b) = .ok r := by
    cases a <;> cases b <;> exact h
  rw [denote_add k n negl hex _ _ _ hadd, denote_neg k n negl hex, sub_eq_add_neg]

variable (hi : k.i * k.i = -1)
include hi

/-- Sentence "product in either order … with terms, sums and plain numbers mixed on either side": whenever `a * b` is
    defined (all kind combinations except number * number, incl. `__rmul__`), it denotes `⟦a⟧ ⟦b⟧`. -/
theorem denote_mul (a b r : Val R) (hb : ValFits n b) (h : mulV k negl a b = .ok r) : MV k n r = MV k n a * MV k n b := by
  simp only [MV, toM_denote_val]
  cases a <;> cases b <;> simp only [mulV, Except.ok.injEq, reduceCtorEq] at h <;> subst h <;> simp only [vden, ValFits] at hb ⊢
  · -- number * term
    rw [tden_scaleTerm, Matrix.smul_mul, Matrix.one_mul]
  · -- number * sum
    rw [rmulS_den k n negl hex, Matrix.smul_mul, Matrix.one_mul]
  · -- term * number
    rw [tden_scaleTerm, Matrix.mul_smul, Matrix.mul_one]
  · -- term * term
    exact mulTerm_den k hi n _ _ hb
  · -- term * sum
    rw [simplify_den_exact k n negl hex, mulS_den k hi n negl hex _ _ hb, sden_singleton]
  · -- sum * number
    rw [mulS_den k hi n negl hex _ _ (singleton_fits n _ (scaleTerm_fits n _ _ (identityTerm_fits n))), sden_singleton,
      tden_scaleTerm, tden_identityTerm, Matrix.mul_smul]
  · -- sum * term
    rw [mulS_den k hi n negl hex _ _ (singleton_fits n _ (mulTerm_fits k n _ _ (identityTerm_fits n) hb)), sden_singleton,
      mulTerm_den k hi n _ _ hb, tden_identityTerm, Matrix.one_mul]
  · -- sum * sum
    exact mulS_den k hi n negl hex _ _ hb

/-- Sentence "scalar multiplication" (number on either side of a term or a sum): the result denotes `x • ⟦v⟧`. -/
theorem denote_smul (x : R) (v r : Val R) (h : mulV k negl (.num x) v = .ok r ∨ mulV k negl v (.num x) = .ok r) :
    MV k n r = x • MV k n v := by
  have hnum : MV k n (.num x) = x • (1 : Matrix (Fin (2 ^ n)) (Fin (2 ^ n)) R) := by
    simp only [MV, toM_denote_val, vden]
  rcases h with h | h
  · cases v with
    | num y => simp [mulV] at h
    | term t =>
      simp only [mulV, Except.ok.injEq] at h; subst h
      simp only [MV, toM_denote_val, vden, tden_scaleTerm]
    | sum s =>
      simp only [mulV, Except.ok.injEq] at h; subst h
      simp only [MV, toM_denote_val, vden, rmulS_den k n negl hex]
  · rw [denote_mul k n negl hex hi v (.num x) r trivial h, hnum, Matrix.mul_smul, Matrix.mul_one]

/-- Sentence "scalar division" (`self * (1.0 / y)`): if `1.0 / y` is the reciprocal (`y * r = 1`), the quotient `q` of a term
    or sum by the number `y` is the matrix division: `y • ⟦q⟧ = ⟦v⟧`, i.e. `⟦q⟧ = y⁻¹ • ⟦v⟧`.  Division BY an operator is a
    TypeError and division by a `y` without reciprocal a ZeroDivisionError (`div_pow_errors`). -/
theorem denote_div (recip : R → Option R) (hrecip : ∀ y r, recip y = some r → y * r = 1) (v q : Val R) (y : R)
    (h : divV k negl recip v (.num y) = .ok q) : y • MV k n q = MV k n v := by
  -- a quotient that is defined is the product with the reciprocal `r`
  obtain ⟨r, hr, hm⟩ : ∃ r, recip y = some r ∧ mulV k negl v (.num r) = .ok q := by
    cases v <;> cases hr : recip y <;> simp only [divV, hr, reduceCtorEq] at h <;> exact ⟨_, rfl, h⟩
  rw [denote_smul k n negl hex hi r _ _ (Or.inr hm), smul_smul, hrecip y r hr, one_smul]

/-- Sentence "non-negative integer powers" (mechanism square-and-multiply `_efficient_exponentiation`): for every exponent
    `p ≥ 0` (no bound), `v ** p` is defined for a term or sum and denotes the matrix power `⟦v⟧ ^ p` (`⟦v⟧ ^ 0 = 1`, also for
    the empty sum); the result again fits the register. -/
theorem denote_pow (v : Val R) (hv : ValFits n v) (hnum : ∀ x, v ≠ .num x) (p : Nat) :
    ∃ r, powV k negl v (p : Int) = .ok r ∧ MV k n r = MV k n v ^ p ∧ ValFits n r := by
  obtain ⟨ht, hs⟩ := effExp_den k hi n negl hex p
  cases v with
  | num x => exact absurd rfl (hnum x)
  | term t =>
    refine ⟨.term (effExp (mulTerm k) identityTerm t p), by simp [powV], ?_, (ht t hv).2⟩
    simp only [MV, toM_denote_val]
    exact (ht t hv).1
  | sum s =>
    refine ⟨.sum (effExp (mulS k negl) [identityTerm] s p), by simp [powV], ?_, (hs s hv).2⟩
    simp only [MV, toM_denote_val]
    exact (hs s hv).1

end ops

/-- the exceptions of `/` and `**`: negative or non-`int` exponents are ValueErrors; dividing by an operator is a TypeError;
    dividing a term or sum by a number without reciprocal (0) is a ZeroDivisionError -/
theorem div_pow_errors (k : Scal R) (negl : R → Bool) (recip : R → Option R) (t : Term R) (s : PSum R) (p : Int)
    (hp : p < 0) (y : R) (hy : recip y = none) :
    powV k negl (.term t) p = .error .value ∧ powV k negl (.sum s) p = .error .value
    ∧ powE k negl (.term t) .other = .error .value ∧ powE k negl (.sum s) .other = .error .value
    ∧ divV k negl recip (.term t) (.term t) = .error .type ∧ divV k negl recip (.sum s) (.term t) = .error .type
    ∧ divV k negl recip (.term t) (.sum s) = .error .type ∧ divV k negl recip (.num y) (.term t) = .error .type
    ∧ divV k negl recip (.term t) (.num y) = .error .zerodiv ∧ divV k negl recip (.sum s) (.num y) = .error .zerodiv := by
  simp [powV, powE, divV, hp, hy]

/-! ## non-vacuity: the hypotheses are met by concrete non-trivial inputs (driver scalars ℚ(ζ₈), kernel evaluation) -/

/-- `k.i * k.i = -1` holds for the driver's constants -/
example : (Scal.cyc8.i * Scal.cyc8.i : Cyc8) = -1 := cyc8_i_sq
/-- an exact negligibility test exists (only 0 is dropped) -/
example : ∀ c : Cyc8, (fun c => decide (c = 0)) c = true → c = 0 := by intro c h; simpa using h
/-- `denote_mul_term`: overlapping supports, a gap, descending dict order, a visiting order ≠ dict order -/
example : TermFits 3 (⟨[(2, .Y), (0, .Z)], Cyc8.ofReIm (1/2) (1/8)⟩ : Term Cyc8) ∧ [0, 2].Nodup
    ∧ (∀ q, ((⟨[(2, .Y), (0, .Z)], Cyc8.ofReIm (1/2) (1/8)⟩ : Term Cyc8).opAt q).isSome → q ∈ [0, 2]) := by
  refine ⟨by unfold TermFits; decide, by decide, ?_⟩
  intro q h
  change (lookup [(2, P.Y), (0, P.Z)] q).isSome = true at h
  simp only [lookup_cons, lookup_nil] at h
  split_ifs at h with h2 h0
  · simp [← h2]
  · simp [← h0]
  · simp at h
example :
    let r := mulTermOrd Scal.cyc8 [0, 2] ⟨[(0, .X), (2, .Z)], 2⟩ ⟨[(2, .Y), (0, .Z)], Cyc8.ofReIm (1/2) (1/8)⟩
    r.ops = [(0, .Y), (2, .X)] ∧ r.coeff = Cyc8.ofReIm (-1) (-1/4) := by decide +kernel
/-- … and the executable matrices agree on that input: ⟦t*u⟧ = ⟦t⟧⟦u⟧ on 3 qubits (8×8) -/
example :
    let t : Term Cyc8 := ⟨[(0, .X), (2, .Z)], 2⟩
    let u : Term Cyc8 := ⟨[(2, .Y), (0, .Z)], Cyc8.ofReIm (1/2) (1/8)⟩
    Mat.beq ((mulTermOrd Scal.cyc8 [0, 2] t u).denote Scal.cyc8 3) (Mat.mul (t.denote Scal.cyc8 3) (u.denote Scal.cyc8 3)) = true := by
  decide +kernel
/-- `denote_simplify`: duplicates, a zero coefficient, cancellation; with the library tolerance a 1e-9 coefficient is dropped
    (so the exact statement `denote_simplify_exact` does NOT apply to the library's `negl`, only `denote_simplify` does) -/
example : (simplify Run.negl [⟨[(0, .X)], 1⟩, ⟨[(1, .Z)], 0⟩, ⟨[(0, .X)], 2⟩, ⟨[(0, .Y)], 1⟩, ⟨[(0, .Y)], -1⟩] : PSum Cyc8).map (·.ops)
    = [[(0, .X)]] := by decide +kernel
example : (simplify Run.negl [⟨[(0, .X)], Cyc8.ofRat (1 / 10 ^ 9)⟩] : PSum Cyc8).length = 0
    ∧ (dropped Run.negl [⟨[(0, .X)], Cyc8.ofRat (1 / 10 ^ 9)⟩] : PSum Cyc8).length = 1 := by decide +kernel
/-- `denote_pow`: (X0 + Y0)³ = 2·(X0 + Y0) needs the cancellation of XY + YX -/
example :
    (match powV Scal.cyc8 Run.negl (.sum [⟨[(0, .X)], 1⟩, ⟨[(0, .Y)], 1⟩]) 3 with
     | .ok (.sum s) => s.map (fun t => (t.ops, t.coeff))
     | _ => []) = [([(0, P.X)], (2 : Cyc8)), ([(0, P.Y)], 2)] := by decide +kernel
/-- `denote_div`: the driver's reciprocal satisfies the assumed law on a non-real divisor -/
example : Run.recip (Cyc8.ofReIm 1 1) = some (Cyc8.ofReIm (1/2) (-1/2)) ∧ Cyc8.ofReIm 1 1 * Cyc8.ofReIm (1/2) (-1/2) = 1 := by
  decide +kernel
/-- mixed kinds: number − sum goes through `__rsub__` / `__radd__` -/
example :
    (match subV Run.negl (.num (2 : Cyc8)) (.sum [⟨[(0, .X)], 1⟩, ⟨[], 2⟩]) with
     | .ok (.sum s) => s.map (fun t => (t.ops, t.coeff))
     | _ => []) = [([(0, P.X)], (-1 : Cyc8))] := by decide +kernel

/-- Pauli strings are linearly independent (trace orthogonality tr(P_a P_b) = 2ⁿ δ_ab), over every commutative ring without
    2-torsion: if two sums – in any order, with duplicates, zero coefficients – denote the same matrix, every Pauli string has
    the same total coefficient in both. -/
theorem pauli_linearIndependent (k : Scal R) (hi : k.i * k.i = -1) (h2 : ∀ x : R, 2 * x = 0 → x = 0) (n : Nat)
    (s1 s2 : PSum R) (h : MS k n s1 = MS k n s2) (G : Nat → Option P) : coef n s1 G = coef n s2 G := by
  simp only [MS, toM_denote_sum] at h
  exact coef_eq_of_sden_eq k hi h2 n s1 s2 h G

section eq
variable {K : Type} [DecidableEq K] (k : Scal R) (hi : k.i * k.i = -1) (h2 : ∀ x : R, 2 * x = 0 → x = 0)
  (close : R → R → Bool) (hclose : ∀ a b, close a b = true ↔ a = b) (hk : R → K) (n : Nat)
include hi h2 hclose

/-- Sentence "equality between simplified operators coincides with equality of the denoted matrices … regardless of term
    order", sums: for simplified sums (what `simplify` returns: `simplify_result_simplified`), exact coefficient comparison and
    ANY hash of the coefficient, `PauliSum.__eq__` (length test, then set equality) is true iff the matrices are equal. -/
theorem eqSum_iff (s1 s2 : PSum R) (hs1 : Simplified n s1) (hs2 : Simplified n s2) :
    eqSum close hk s1 s2 = true ↔ MS k n s1 = MS k n s2 := by
  simp only [MS, toM_denote_sum]
  exact eqSum_iff_sden k hi h2 n close hclose hk s1 s2 hs1 hs2

/-- … terms: `PauliTerm.__eq__` is true iff the matrices are equal (two terms with coefficient 0 are equal whatever their letters) -/
theorem eqTerm_iff (t u : Term R) (ht : TermFits n t) (hu : TermFits n u) (wt : OpsWF t.ops) (wu : OpsWF u.ops) :
    eqTerm close t u = true ↔ MT k n t = MT k n u := by
  simp only [MT, toM_denote_term]
  exact eqTerm_iff_tden k hi h2 n close hclose t u ht hu wt wu

/-- … all kind combinations of `==` (numbers, terms, sums on either side, incl. the reflected comparisons; a number is
    compared as the constant term `PauliTerm("I0", x)`, so the empty sum equals the number 0): the answer is True iff the
    denoted matrices are equal. -/
theorem eq_iff (a b : Val R) (ha : ValSimplified n a) (hb : ValSimplified n b) (r : Bool) (h : eqV close hk a b = .ok r) :
    r = true ↔ MV k n a = MV k n b := by
  simp only [MV, toM_denote_val]
  cases a <;> cases b <;> simp only [eqV, Except.ok.injEq, reduceCtorEq] at h <;> subst h <;>
    simp only [vden, ValSimplified] at ha hb ⊢
  · -- number == term
    rw [eqTerm_iff_tden k hi h2 n close hclose _ _ hb.2 (constTerm_fits n _) hb.1 (constTerm_wf _), tden_constTerm, eq_comm]
  · -- number == sum
    rw [eqSumTerm_iff k hi h2 n close hclose hk _ _ hb (constTerm_fits n _) (constTerm_wf _), tden_constTerm, eq_comm]
  · -- term == number
    rw [eqTerm_iff_tden k hi h2 n close hclose _ _ ha.2 (constTerm_fits n _) ha.1 (constTerm_wf _), tden_constTerm]
  · -- term == term
    exact eqTerm_iff_tden k hi h2 n close hclose _ _ ha.2 hb.2 ha.1 hb.1
  · -- term == sum
    rw [eqSumTerm_iff k hi h2 n close hclose hk _ _ hb ha.2 ha.1, eq_comm]
  · -- sum == number
    rw [eqSumTerm_iff k hi h2 n close hclose hk _ _ ha (constTerm_fits n _) (constTerm_wf _), tden_constTerm]
  · -- sum == term
    exact eqSumTerm_iff k hi h2 n close hclose hk _ _ ha hb.2 hb.1
  · -- sum == sum
    exact eqSum_iff_sden k hi h2 n close hclose hk _ _ ha hb

end eq

/-- the hypotheses of `eqSum_iff` are met by every sum the arithmetic returns: `simplify` (the last step of `+ - * / **`
    on sums) produces a simplified sum from well-formed terms, provided the test calls 0 negligible -/
theorem simplify_result_simplified (n : Nat) (negl : R → Bool) (h0 : negl 0 = true) (s : PSum R)
    (hs : ∀ t ∈ s, OpsWF t.ops ∧ TermFits n t) : Simplified n (simplify negl s) :=
  simplify_simplified n negl h0 s hs

/-- … and term products keep the dict invariant (distinct keys) and the register width -/
theorem mul_term_wellformed (k : Scal R) (n : Nat) (order : List Nat) (t u : Term R) (wt : OpsWF t.ops) (ht : TermFits n t)
    (hu : TermFits n u) : OpsWF (mulTermOrd k order t u).ops ∧ TermFits n (mulTermOrd k order t u) :=
  ⟨mulTermOrd_wf k order t u wt, mulTermOrd_fits k n t u order ht hu⟩

/-- ℚ(ζ₈) has no 2-torsion, and exact comparison is a legitimate `close` -/
example : ∀ x : Cyc8, 2 * x = 0 → x = 0 := by
  intro x h
  have ha := congrArg Cyc8.a h; have hb := congrArg Cyc8.b h; have hc := congrArg Cyc8.c h; have hd := congrArg Cyc8.d h
  have e2 : (2 : Cyc8) = 1 + 1 := by norm_num
  rw [e2] at ha hb hc hd
  simp at ha hb hc hd
  ext <;> simp <;> linarith
example : ∀ a b : Cyc8, (fun a b => decide (a = b)) a b = true ↔ a = b := by intro a b; simp
/-- a simplified two-term sum and its reordering: `==` is True, as `eqSum_iff` says -/
example : Simplified 2 ([⟨[(0, .X)], 1⟩, ⟨[(1, .Z), (0, .Y)], Cyc8.I⟩] : PSum Cyc8) := by
  refine ⟨?_, by decide +kernel⟩
  intro t ht
  simp only [List.mem_cons, List.not_mem_nil, or_false] at ht
  rcases ht with rfl | rfl <;> refine ⟨by unfold OpsWF; decide, by unfold TermFits; decide, by decide +kernel⟩
example : eqSum Run.close Run.hk ([⟨[(0, .X)], 1⟩, ⟨[(1, .Z), (0, .Y)], Cyc8.I⟩] : PSum Cyc8)
    [⟨[(0, .Y), (1, .Z)], Cyc8.I⟩, ⟨[(0, .X)], 1⟩] = true := by decide +kernel
/-- the empty sum against the number 0 (fixed defect eq-empty-sum-vs-zero-number: formerly False): True on both sides, like
    the comparison with the zero TERM; against a non-zero number False – all as `eq_iff` says, both sides denoting 0 resp. x·1 -/
example : eqV Run.close Run.hk (.sum ([] : PSum Cyc8)) (.num 0) = .ok true
    ∧ eqV Run.close Run.hk (.num 0) (.sum ([] : PSum Cyc8)) = .ok true
    ∧ eqV Run.close Run.hk (.sum ([] : PSum Cyc8)) (.term ⟨[], 0⟩) = .ok true
    ∧ eqV Run.close Run.hk (.sum ([] : PSum Cyc8)) (.num 2) = .ok false
    ∧ eqV Run.close Run.hk (.sum ([⟨[], 2⟩] : PSum Cyc8)) (.num 2) = .ok true := by decide +kernel
example (k : Scal R) (n : Nat) : MV k n (.sum []) = MV k n (.num 0) := by
  simp only [MV, toM_denote_val, vden, sden_nil, zero_smul]
example (n : Nat) : ValSimplified n (.sum ([] : PSum Cyc8)) ∧ ValSimplified n (.num (0 : Cyc8)) :=
  ⟨⟨fun _ h => by simp at h, by simp⟩, trivial⟩
/-- NEGATIVE WITNESS (finding eq-hash-rounding-boundary; float part of `==`, outside `eq_iff` whose `close` is exact):
    with the library's tolerances, two one-term sums whose coefficients are 2·10⁻⁹ apart around 1.5·10⁻⁶ have equal terms
    (`np.allclose`) but different hashes (`round(c·10⁶)` = 1 resp. 2), so the sums compare unequal -/
example :
    let c1 : Cyc8 := Cyc8.ofRat (1499 / 10 ^ 9)
    let c2 : Cyc8 := Cyc8.ofRat (1501 / 10 ^ 9)
    eqTerm Run.close ⟨[(0, .X)], c1⟩ ⟨[(0, .X)], c2⟩ = true ∧ Run.hk c1 = (1, 0) ∧ Run.hk c2 = (2, 0)
    ∧ eqSum Run.close Run.hk [⟨[(0, .X)], c1⟩] [⟨[(0, .X)], c2⟩] = false := by decide +kernel

end OQ.C03
