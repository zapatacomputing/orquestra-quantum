/- C12 — PROPERTY THEOREMS (translation ties): the bit tricks of `Wavefunction.dicke_state`.
   The definitions `OQ.Generated.Translated.*` are REGENERATED from /repo's current Python source on every run
   (harness/translate.py → OQ/Generated/TranslatedC12.lean); an edit of the Python function changes the definition and
   these equalities stop checking at build time. -/
import OQ.Generated.TranslatedC12
import OQ.Lemmas.Translated
import OQ.Model.C12
import OQ.Props.C12
namespace OQ.C12
open OQ.Generated OQ.Py OQ.Tr

/-- TRANSLATION TIE: `_most_significant_set_bit(val)` (= `len(bin(val)) - 2`) regenerated from the current Python source is the
    model's `msb`. -/
theorem translated_most_significant_set_bit_eq (v : Nat) :
    Translated.most_significant_set_bit (v : Int) = ((OQ.C12.msb v : Nat) : Int) := by
  unfold Translated.most_significant_set_bit
  rw [bin_ofNat]
  simp only [List.length_cons, List.length_map, binDigits_length]
  unfold OQ.C09.bitLength OQ.C12.msb
  push_cast
  ring

/-- TRANSLATION TIE: `_get_next_number_with_same_hamming_weight(val)` (Gosper's hack) regenerated from the current Python source
    is the model's `nextSameWeight`, for every `val ≥ 1` (`x & -x` is rendered as the lowest set bit; the other operands of
    `|`, `>>`, `//` are non-negative there). -/
theorem translated_next_same_weight_eq (v : Nat) (hv : 1 ≤ v) :
    Translated.next_number_with_same_hamming_weight (v : Int) = ((OQ.C12.nextSameWeight v : Nat) : Int) := by
  -- the prelude's bit operations go through `toNat`, which undoes the casts (and cuts `· - 1` off at 0 as `ℕ` does)
  have e1 : ∀ k : Nat, ((k : Int) - 1).toNat = k - 1 := fun k => by omega
  have e2 : ∀ k : Nat, ((k : Int) + 1).toNat = k + 1 := fun k => by omega
  have e3 : ∀ a b : Nat, Int.fdiv (a : Int) (b : Int) = ((a / b : Nat) : Int) := fun a b =>
    Int.fdiv_eq_ediv_of_nonneg _ (Int.natCast_nonneg b)
  simp only [Translated.next_number_with_same_hamming_weight, lor, shr, lowbit, e1, e2, e3, Int.toNat_natCast]
  rfl

/-- END-TO-END ON THE CODE AS IT IS NOW: for every `val ≥ 1`, `_get_next_number_with_same_hamming_weight(val)` is the LEAST integer
    above `val` with the same Hamming weight (composition of the tie with `nextSameWeight_next`) – the step on which
    `dicke_state` enumerates "exactly the basis states of the requested Hamming weight". -/
theorem translated_gosper_next (v : Nat) (hv : 0 < v) :
    ∃ w : Nat, Translated.next_number_with_same_hamming_weight (v : Int) = (w : Int) ∧ v < w ∧
      popcount w = popcount v ∧ ∀ u, v < u → popcount u = popcount v → w ≤ u :=
  ⟨nextSameWeight v, translated_next_same_weight_eq v hv, nextSameWeight_next v hv⟩

/-! non-vacuity -/
example : Translated.next_number_with_same_hamming_weight 3 = 5 := by decide
example : Translated.next_number_with_same_hamming_weight 6 = 9 := by decide
example : Translated.most_significant_set_bit 9 = 4 := by decide
end OQ.C12
