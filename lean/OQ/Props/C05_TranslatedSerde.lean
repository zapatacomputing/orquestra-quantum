/- C05 — PROPERTY THEOREMS (translation tie of circuits/_serde.py, work package T8).
   `OQ.Generated.TranslatedC05` is REGENERATED on every run from the current source of `_serde.py` (harness/translate_t8.py, on top of
   the gate-class translator T1): the `@singledispatch` family `to_dict` on the five gate classes as ONE function by cases on the
   class (`to_dict_gate`), the `name` property of the gate classes (`gate_name`), `_gate_operation_to_dict`,
   `_custom_gate_def_to_dict`, `_circuit_to_dict`, `_circuitset_to_dict`, and the readers `_builtin_gate_from_dict`,
   `_special_gate_from_dict`, `_custom_gate_instance_from_dict`, `_gate_from_dict` (the `try … except KeyError` cascade, recursive with an
   explicit recursion budget `fuel`), `_gate_operation_from_dict`, `custom_gate_def_from_dict`, `circuit_from_dict`,
   `circuitset_from_dict`.  The theorems below prove that these regenerated definitions ARE the hand-written model `OQ/Model/C05.lean`
   (`gateToDict` / `gateFromDict` / `circuitToDict` / `circuitFromDict` …, the objects every other theorem of C05 speaks about): an edit
   of one of the Python functions changes a generated definition and the equality stops checking at build time, for ALL inputs.

   Reading guide (definitions in `OQ/Lemmas/C05_TranslatedSerdeDefs.lean` and `OQ/Lemmas/C05_TranslatedSerde.lean`).
   * `TS.X env C` INSTANTIATES the externals of the translated definitions by the model's parameters: `env` (the lookup namespace of
     `_builtin_gates`, `globals()[name]`; calling / returning the looked-up object) and the codec `C` (`str` of expressions,
     `sympify` with the symbol table, `f"{exponent}"`, definition `!=`); a sympy symbol is its name; a `CustomGateDefinition` is the
     model's `CustomDef` (its constructor checks `shapeOk` = `_n_qubits`); `Circuit(...)` is `mkCircuit`;
     `collect_custom_gate_definitions` is the model's `collectDefs` (a METHOD of `Circuit`, not part of `_serde.py`: external here).
     These are the assumptions of the tie (the same parameters the model itself has), nothing else is assumed.
   * Translated gate objects are `TS.TGate P E` = T1's generated `Gate P F E` with `F := Option (CustomDef P)` (`none`: the matrix factory
     of a built-in gate, `some d`: `CustomGateMatrixFactory(d)`); `TS.proj` is the model's gate of such an object (it forgets
     `num_qubits` / `is_hermitian`, which the format does not store).  `TS.WF g`: a gate with a custom factory carries its
     definition's `gate_name` as `name` – what `CustomGateDefinition.__call__` builds; the writers are tied on these gates.
   * JSON: `PyT8.JV E` (str, int, exponent number, list, insertion-ordered dict).  `TS.encG / encOp / encDef / encC / encCs` write the
     model's dictionaries (`GDict`, `OpDict`, `DefDict`, `CDict`) as JSON values with the keys in the order `to_dict` writes them.
     The READER ties are stated on these encodings, for EVERY model dictionary (keys missing, wrong names, rejected control counts,
     unknown gates … included): that is every well-typed dictionary with the keys in writing order.  Excluded: other key orders /
     extra keys (the readers look keys up by name, the model has no notion of order) and ill-typed values (`Err.IllTyped` in the
     translation, duck typing in Python).
   * Exceptions: `TS.embE` renames the model's error classes (`key ↦ KeyError`, `value ↦ ValueError`, `type ↦ TypeError`,
     `junk ↦ NotAGate`); it is injective (`TS.embE_inj`), so the equations determine the translated result.
   * `fuel`: the recursion budget of the translated `_gate_from_dict` (Python: the interpreter's recursion limit).  Every budget above
     the nesting depth of the dictionary (`TS.gdepth`) is sufficient; `RecursionError` is outside the stated domain. -/
import OQ.Lemmas.C05_TranslatedSerde
import OQ.Props.C05
namespace OQ.C05
open OQ.Generated OQ.PyT8
open TS
variable {P E : Type}

/-- the str constants `CONTROLLED_GATE_NAME` / `DAGGER_GATE_NAME` / `EXPONENTIAL_GATE_NAME` / `POWER_GATE_SYMBOL` that the TRANSLATED
    bodies mention (regenerated from `_gates.py`) are the markers of the generated lookup table `genEnv` the model's theorems are
    instantiated with (`hygiene_of_table`). -/
theorem translated_constants_match : EnvMatches genEnv where
  control := by decide
  dagger := by decide
  exponential := by decide
  power := by decide

/-- TRANSLATION TIE: the property `name` of all five gate classes (field of `MatrixFactoryGate`; `"Control"`; `wrapped.name + "_" +
    "Dagger"`; `"Exponential"`; `f"{wrapped.name}^{exponent}"`), regenerated from `_gates.py`, is the model's `Gate.name`.
    Domain: every translated gate object with `WF` (custom gates named after their definition). -/
theorem translated_gate_name_eq (env : Env) (hE : EnvMatches env) (C : Codec P E) (g : TGate P E) (hw : WF g) :
    TranslatedC05.gate_name (X env C) g = sN (Gate.name env C (proj g)) := by
  induction g with
  | MatrixFactoryGate nm f ps nq h =>
    cases f with
    | none => simp [TranslatedC05.gate_name, proj, Gate.name]
    | some d => simpa [TranslatedC05.gate_name, proj, Gate.name] using (show nm = sN d.gateName from hw)
  | ControlledGate g k ih => simp [TranslatedC05.gate_name, proj, Gate.name, hE.control]
  | Exponential g ih => simp [TranslatedC05.gate_name, proj, Gate.name, hE.exponential]
  | Dagger g ih =>
    simp only [TranslatedC05.gate_name, proj, Gate.name, ih hw, hE.dagger, sN_append]
    rw [sN_cons, String.append_assoc]
  | Power g e ih =>
    simp only [TranslatedC05.gate_name, proj, Gate.name, ih hw, hE.power, sN_append, X_format_exponent]

/-- TRANSLATION TIE: the `to_dict` overloads registered for the gate classes (`_basic_gate_to_dict` with its conditional `params` /
    `free_symbols` entries and `sorted(map(str, ·))`, `_controlled_gate_to_dict`, `_dagger_…`, `_exponential_…`, `_power_…`) are the
    model's `gateToDict`; they never raise.  Domain: every `WF` gate object, every nesting. -/
theorem translated_to_dict_gate_eq (env : Env) (hE : EnvMatches env) (C : Codec P E) (g : TGate P E) (hw : WF g) :
    TranslatedC05.to_dict_gate (X env C) g = .ok (encG (gateToDict env C (proj g))) := by
  induction g with
  | MatrixFactoryGate nm f ps nq h =>
    -- either factory: the name, the printed parameters, the sorted names of their free symbols
    have hd : gateToDict env C (proj (.MatrixFactoryGate nm f ps nq h : TGate P E)) =
        .leaf (some nm.toList) (ps.map C.ser) (sortDedup (ps.flatMap C.free)) none none := by
      cases f with
      | none => rfl
      | some d =>
        obtain rfl : nm = sN d.gateName := hw
        simp only [proj, gateToDict, String.toList_ofList, Gate.free, Gate.params]
    rw [hd]
    simp only [TranslatedC05.to_dict_gate, TranslatedGates.Gate.free_symbols, X_get_free_symbols, TranslatedC05.map_eager,
      X_serialize_expr, X_serialize_symbol, mapE_pure, encG, sortedStr_of_sorted _ (sortDedup_sorted _)]
    cases ps with
    | nil => simp [Except.bind, sortDedup, nameEntry, optEntry, ncEntry, exEntry]
    | cons p ps' =>
      cases hfs : sortDedup ((p :: ps').flatMap C.free) <;>
        simp [Except.bind, nameEntry, optEntry, ncEntry, exEntry, encStrs, Function.comp_def]
  | _ =>
    rename_i ih
    simp only [TranslatedC05.to_dict_gate, ih hw, bind_ok, translated_gate_name_eq env hE C _ hw, proj, gateToDict, Gate.name,
      encG, nameEntry, optEntry, ncEntry, exEntry, List.isEmpty_nil, if_true, List.append_nil, List.cons_append, List.nil_append]

/-- TRANSLATION TIE: `_gate_operation_to_dict` is the model's `opToDict` (plus the constant entry `"type": "gate_operation"`). -/
theorem translated_gate_operation_to_dict_eq (env : Env) (hE : EnvMatches env) (C : Codec P E) (o : TOp P E) (hw : WFOp o) :
    TranslatedC05.gate_operation_to_dict (X env C) o = .ok (encOp (opToDict env C (projOp o))) := by
  simp [TranslatedC05.gate_operation_to_dict, translated_to_dict_gate_eq env hE C o.gate hw, encOp, opToDict, projOp]

/-- TRANSLATION TIE: `_custom_gate_def_to_dict` is the model's `defToDict`; every definition. -/
theorem translated_custom_gate_def_to_dict_eq (env : Env) (C : Codec P E) (d : CustomDef P) :
    TranslatedC05.custom_gate_def_to_dict (X env C) d = .ok (encDef (defToDict C d)) := by
  simp [TranslatedC05.custom_gate_def_to_dict, TranslatedC05.map_eager, encDef, defToDict, encStrs, Function.comp_def]

/-- TRANSLATION TIE: `_circuit_to_dict` (`n_qubits` always, `operations` / `custom_gate_definitions` only when non-empty, the
    ValueError of `collect_custom_gate_definitions` passed on) is the model's `circuitToDict`.  Domain: every circuit object whose
    gates are `WF`. -/
theorem translated_circuit_to_dict_eq (env : Env) (hE : EnvMatches env) (C : Codec P E) (c : TCirc P E) (hw : WFC c) :
    TranslatedC05.circuit_to_dict (X env C) c = embE (Except.map encC (circuitToDict env C (projC c))) := by
  have hops : mapE (fun v2 => TranslatedC05.gate_operation_to_dict (X env C) v2) c.ops
      = .ok (c.ops.map (fun o => encOp (opToDict env C (projOp o)))) :=
    (mapE_congr _ _ _ fun o ho => translated_gate_operation_to_dict_eq env hE C o (hw o ho)).trans (mapE_pure _ _)
  unfold TranslatedC05.circuit_to_dict circuitToDict
  simp only [X_collect_custom_gate_definitions, X_circuit_operations, X_circuit_n_qubits, TranslatedC05.map_eager, hops,
    translated_custom_gate_def_to_dict_eq, mapE_pure, projC]
  cases collectDefs C (c.ops.map projOp) with
  | error e => rfl
  | ok defs =>
    cases hc : c.ops <;> cases defs <;> simp [encC, List.map_map, Function.comp_def]

/-- TRANSLATION TIE: `_circuitset_to_dict` is the model's `circuitsetToDict` (first failing circuit decides). -/
theorem translated_circuitset_to_dict_eq (env : Env) (hE : EnvMatches env) (C : Codec P E) (cs : List (TCirc P E))
    (hw : ∀ c ∈ cs, WFC c) :
    TranslatedC05.circuitset_to_dict (X env C) cs = embE (Except.map encCs (circuitsetToDict env C (cs.map projC))) := by
  have h : TranslatedC05.map_eager (fun v1 => TranslatedC05.circuit_to_dict (X env C) v1) cs
      = embE (Except.map (List.map encC) (mapE (circuitToDict env C) (cs.map projC))) := by
    rw [mapE_map, ← mapE_embE_map]
    exact mapE_congr _ _ _ (fun c hc => translated_circuit_to_dict_eq env hE C c (hw c hc))
  unfold TranslatedC05.circuitset_to_dict circuitsetToDict
  rw [h, mapM_eq_mapE]
  cases mapE (circuitToDict env C) (cs.map projC) <;> rfl

/-- TRANSLATION TIE: `_builtin_gate_from_dict` (`globals()[name]`, `is None`, `gate_is_parametric` = truthiness of
    `dict_.get("params")`, the arguments read against `dict_.get("free_symbols", [])`, the looked-up object called or returned as it
    is) is the model's `builtinFromDict`.  Domain: every model dictionary `d` (see the file header). -/
theorem translated_builtin_gate_from_dict_eq (env : Env) (C : Codec P E) (d : GDict E) :
    Except.map proj (TranslatedC05.builtin_gate_from_dict (X env C) (encG d))
      = embE (builtinFromDict env C (gname d) (gparams d) (gfree d)) := by
  obtain ⟨kv, hkv, hname, hps, hfs, -⟩ := encG_obj d
  unfold TranslatedC05.builtin_gate_from_dict builtinFromDict
  simp only [hkv, getItem_obj, getOpt_obj, getD_obj, hname, hps, hfs, strs_getD]
  cases gname d with
  | none => rfl
  | some n =>
    simp only [Option.map_some, bind_ok, asStr_str, TranslatedC05.builtin_gate_by_name, X_builtin_gate_by_name,
      String.toList_ofList, TranslatedC05.gate_is_parametric, truthy_strs, asList_encStrs, asStrs_encStrs, read_params, mapM_eq_mapE]
    cases hl : lookupGlobal env n with
    | missing => rfl
    | other =>
      cases hp : (gparams d).isEmpty with
      | true => simp [embErr]
      | false =>
        cases mapE (deserializeExpr C (gfree d)) (gparams d) <;> simp [embErr]
    | gate gi =>
      cases hp : (gparams d).isEmpty with
      | true => cases hq : gi.prototype <;> simp [hq, proj, embErr]
      | false =>
        cases mapE (deserializeExpr C (gfree d)) (gparams d) <;> cases hq : gi.prototype <;> simp [hq, proj, embErr]

/-- TRANSLATION TIE: `_special_gate_from_dict` (the chain `== "Control"` / `endswith("Dagger")` / `== "Exponential"` / `"^" in name`,
    in this order, each branch reading `wrapped_gate` recursively and going through the checked constructor) is the model's
    `specialFromDict`, for ANY recursive reader `rec` that agrees with the model on the wrapped dictionary.  Domain: every `d`. -/
theorem translated_special_gate_from_dict_eq (env : Env) (hE : EnvMatches env) (C : Codec P E) (defs : List (CustomDef P))
    (rec : JV E → List (CustomDef P) → Except PyT8.Err (TGate P E)) (d : GDict E)
    (hrec : ∀ i, ginner d = some i → Except.map proj (rec (encG i) defs) = embE (gateFromDict env C defs i)) :
    Except.map proj (TranslatedC05.special_gate_from_dict (X env C) rec (encG d) defs)
      = embE (specialFromDict env C (gname d) ((ginner d).map (gateFromDict env C defs)) (gnc d) (gex d)) := by
  obtain ⟨kv, hkv, hname, -, -, hwrapped, hnc, hex⟩ := encG_obj d
  unfold TranslatedC05.special_gate_from_dict
  simp only [hkv, getItem_obj, hname, hwrapped, hnc, hex]
  cases gname d with
  | none => rfl
  | some n =>
    -- every branch reads `wrapped_gate` with `rec` and hands the gate to a checked constructor
    have inner : ∀ (K : TGate P E → Except PyT8.Err (TGate P E)) (K' : Gate P E → Except OQ.C05.Err (Gate P E)),
        (∀ g, Except.map proj (K g) = embE (K' (proj g))) →
        Except.map proj ((match (ginner d).map encG with | some v => .ok v | none => .error .KeyError : Except PyT8.Err (JV E)).bind
            fun v => (rec v defs).bind K) = embE (withInner ((ginner d).map (gateFromDict env C defs)) K') := by
      intro K K' hK
      cases hi : ginner d with
      | none => rfl
      | some i => exact tie_bind (t := rec (encG i) defs) (hrec i hi) hK
    simp only [Option.map_some, bind_ok, asStr_str, hE.control, hE.dagger, hE.exponential, hE.power, String.ofList_inj, endswith, strIn,
      String.toList_ofList, subInChars_eq, specialFromDict_some]
    refine tie_ite (inner _ _ fun g => ?_) (tie_ite (inner _ _ fun g => rfl)
      (tie_ite (inner _ _ fun g => ?_) (tie_ite (inner _ _ fun g => ?_) rfl)))
    · cases gnc d with
      | none => rfl
      | some k => exact mk_controlled_tie g k
    · exact mk_closed_tie env C g _ _ rfl
    · cases gex d with
      | none => rfl
      | some e => exact mk_closed_tie env C g _ _ rfl

/-- TRANSLATION TIE: `_custom_gate_instance_from_dict` (`next(… if gate_def.gate_name == dict_["name"] …, None)` evaluated lazily, the
    ValueError for a missing definition – a KeyError when `name` is missing too –, `dict_.get("free_symbols") or [names of
    params_ordering]`) is the model's `customFromDict`.  Domain: every `d`, every list of definitions. -/
theorem translated_custom_gate_instance_from_dict_eq (env : Env) (C : Codec P E) (defs : List (CustomDef P)) (d : GDict E) :
    Except.map proj (TranslatedC05.custom_gate_instance_from_dict (X env C) (encG d) defs)
      = embE (customFromDict C defs (gname d) (gparams d) (gfree d)) := by
  obtain ⟨kv, hkv, hname, hps, hfs, -⟩ := encG_obj d
  unfold TranslatedC05.custom_gate_instance_from_dict customFromDict
  simp only [hkv, getItem_obj, getOpt_obj, getD_obj, hname, hps, hfs, strs_getD]
  cases gname d with
  | none =>
    simp only [Option.map_none, bind_error, nextE_error]
    cases defs <;> rfl
  | some n =>
    -- `dict_.get("free_symbols") or [names of params_ordering]`
    have hnames : ∀ ord : List Name,
        (if (!(gfree d).isEmpty) = true then (TranslatedC05.optGet (unlessEmpty (gfree d) (encStrs (gfree d)) : Option (JV E))).bind asStrs
          else .ok (ord.map sN)) = .ok ((if (gfree d).isEmpty then ord else gfree d).map sN) := by
      intro ord
      cases gfree d with
      | nil => rfl
      | cons a as => exact asStrs_encStrs _
    simp only [Option.map_some, bind_ok, asStr_str, X_def_gate_name, String.ofList_inj, nextE_find, truthy_strs, asList_encStrs, mapM_eq_mapE]
    cases hf : defs.find? (nameEq n) with
    | none => rfl
    | some dd =>
      simp only [bind_ok, X_def_params_ordering, X_serialize_symbol, hnames, read_params, X_call_gate_def]
      cases mapE (deserializeExpr C (if (gfree d).isEmpty then dd.ordering else gfree d)) (gparams d) <;> rfl

/-- TRANSLATION TIE: `_gate_from_dict` – built-in, on KeyError special, on KeyError custom – is the model's `gateFromDict`.
    Domain: every model dictionary `d` of every nesting depth, every recursion budget `fuel > gdepth d`. -/
theorem translated_gate_from_dict_eq (env : Env) (hE : EnvMatches env) (C : Codec P E) (defs : List (CustomDef P))
    (fuel : Nat) (d : GDict E) (h : gdepth d < fuel) :
    Except.map proj (TranslatedC05.gate_from_dict (X env C) fuel (encG d) defs) = embE (gateFromDict env C defs d) := by
  induction fuel generalizing d with
  | zero => exact absurd h (Nat.not_lt_zero _)
  | succ fuel ih =>
    rw [gateFromDict_cascade]
    unfold TranslatedC05.gate_from_dict
    refine exceptKeyError_tie (translated_builtin_gate_from_dict_eq env C d)
      (exceptKeyError_tie (translated_special_gate_from_dict_eq env hE C defs _ d fun i hi => ih i ?_) (translated_custom_gate_instance_from_dict_eq env C defs d))
    cases d with
    | leaf => exact nomatch hi
    | wrap n ps fs i' nc ex =>
      obtain rfl := Option.some.inj hi
      exact Nat.lt_of_succ_lt_succ h

/-- TRANSLATION TIE: `_gate_operation_from_dict` is the model's `opFromDict`. -/
theorem translated_gate_operation_from_dict_eq (env : Env) (hE : EnvMatches env) (C : Codec P E) (defs : List (CustomDef P))
    (fuel : Nat) (o : OpDict E) (h : gdepth o.gate < fuel) :
    Except.map projOp (TranslatedC05.gate_operation_from_dict (X env C) fuel (encOp o) defs) = embE (opFromDict env C defs o) := by
  have h1 : getItem (encOp o) "gate" = .ok (encG o.gate) := rfl
  have h2 : getItem (encOp o) "qubit_indices" = .ok (.arr (o.qubits.map .int)) := rfl
  unfold TranslatedC05.gate_operation_from_dict
  rw [opFromDict_eq, h1]
  simp only [h2, bind_ok, asInts_ints]
  exact tie_bind (translated_gate_from_dict_eq env hE C defs fuel o.gate h) fun g => rfl

/-- TRANSLATION TIE: `custom_gate_def_from_dict` (symbols of `params_ordering`, the matrix read against them, the constructor with
    its shape check) is the model's `defFromDict`; every definition dictionary. -/
theorem translated_custom_gate_def_from_dict_eq (env : Env) (C : Codec P E) (dd : DefDict) :
    TranslatedC05.custom_gate_def_from_dict (X env C) (encDef dd : JV E) = embE (defFromDict C dd) := by
  have h0 : getD (encDef dd : JV E) "params_ordering" (.arr []) = .ok (encStrs dd.ordering) := rfl
  have h1 : getItem (encDef dd : JV E) "gate_name" = .ok (.str (sN dd.gateName)) := rfl
  have h2 : getItem (encDef dd : JV E) "matrix" = .ok (.arr (dd.matrix.map fun row => .arr (row.map fun t => .str (sN t)))) := rfl
  unfold TranslatedC05.custom_gate_def_from_dict defFromDict
  simp only [h0, h1, h2, bind_ok, asList_encStrs, mapE_map,
    asStr_str, X_Symbol, String.toList_ofList, mapE_id, asStrss_enc, asStrs_encStrs, X_matrix_from_json,
    X_CustomGateDefinition, mapM_eq_mapE, List.map_map, Function.comp_def, List.map_id']
  generalize mapE (fun row => mapE (deserializeExpr C dd.ordering) row) dd.matrix = q
  cases q with
  | error e => rfl
  | ok m => by_cases hs : shapeOk m <;> simp [hs, embErr]

/-- TRANSLATION TIE: `circuit_from_dict` (definitions first, then the operations against them, then `dict_["n_qubits"]` and the
    `Circuit` constructor) is the model's `circuitFromDict`.  Domain: every circuit dictionary, `fuel` above the depth of its gates. -/
theorem translated_circuit_from_dict_eq (env : Env) (hE : EnvMatches env) (C : Codec P E) (fuel : Nat) (d : CDict E)
    (h : ∀ o ∈ d.ops, gdepth o.gate < fuel) :
    Except.map projC (TranslatedC05.circuit_from_dict (X env C) fuel (encC d)) = embE (circuitFromDict env C d) := by
  have hd : mapE (fun def_dict => TranslatedC05.custom_gate_def_from_dict (X env C) def_dict) (d.defs.map (encDef (E := E)))
      = embE (mapE (defFromDict C) d.defs) := by
    rw [mapE_map, embE_mapE]
    exact mapE_congr _ _ _ fun a _ => translated_custom_gate_def_from_dict_eq env C a
  unfold TranslatedC05.circuit_from_dict
  rw [circuitFromDict_eq, encC_eq]
  simp only [getD_obj, getItem_obj, lookup_append, lookup_entry, String.reduceEq, if_true, if_false, Option.or_none,
    Option.none_or, unlessEmpty_getD, bind_ok, asList_arr, hd, mapE_map]
  cases mapE (defFromDict C) d.defs with
  | error e => rfl
  | ok defs =>
    simp only [embE_ok, bind_ok]
    refine tie_bind (mapE_rel projOp _ _ d.ops fun o ho => translated_gate_operation_from_dict_eq env hE C defs fuel o (h o ho)) fun ops => ?_
    cases d.nQubits with
    | none => rfl
    | some n =>
      simp only [Option.map_some, bind_ok, asInt_int, X_Circuit, optKey]
      -- `Circuit(...)` keeps the operations it is given
      cases hmk : mkCircuit (ops.map projOp) n with
      | error e => rfl
      | ok c' =>
        show Except.ok (Circuit.mk c'.nQubits (ops.map projOp)) = Except.ok c'
        rw [← mkCircuit_ops hmk]

/-- TRANSLATION TIE: `circuitset_from_dict` is the model's `circuitsetFromDict`. -/
theorem translated_circuitset_from_dict_eq (env : Env) (hE : EnvMatches env) (C : Codec P E) (fuel : Nat) (ds : List (CDict E))
    (h : ∀ d ∈ ds, ∀ o ∈ d.ops, gdepth o.gate < fuel) :
    Except.map (List.map projC) (TranslatedC05.circuitset_from_dict (X env C) fuel (encCs ds))
      = embE (circuitsetFromDict env C ds) := by
  have h1 : getItem (encCs ds) "circuits" = .ok (.arr (ds.map encC)) := rfl
  unfold TranslatedC05.circuitset_from_dict circuitsetFromDict
  simp only [h1, bind_ok, asList_arr, TranslatedC05.map_eager, mapE_map, mapM_eq_mapE]
  exact mapE_rel projC _ _ ds (fun d hd => translated_circuit_from_dict_eq env hE C fuel d (h d hd))

/-- number of wrappers of a gate (= nesting depth of the dictionary `to_dict` writes for it) -/
def gateDepth : Gate P E → Nat
  | .controlled g _ => gateDepth g + 1
  | .dagger g => gateDepth g + 1
  | .exponential g => gateDepth g + 1
  | .power g _ => gateDepth g + 1
  | _ => 0

theorem gdepth_gateToDict (env : Env) (C : Codec P E) (g : Gate P E) : gdepth (gateToDict env C g) = gateDepth g := by
  induction g with
  | builtin n ps => rfl
  | custom d ps => rfl
  | _ => simp only [gateToDict, gdepth, gateDepth, *]

/-- **END-TO-END, one gate** (`gate_fromDict_toDict_partial` on the translated code): for every gate object `tg` the library can build
    (`WF`) whose model gate satisfies `GateOK`, the TRANSLATED `to_dict` succeeds and the TRANSLATED `_gate_from_dict`, applied to what
    it wrote (with any recursion budget above the number of wrappers), returns a gate object whose model gate is the original with
    `nrm` applied to the parameters – same kind, nesting, controls, exponent, definition.  PARTIAL through `okName` exactly as the
    model-level theorem. -/
theorem translated_gate_roundtrip_partial (env : Env) (h : EnvHygienic env) (hE : EnvMatches env) (C : Codec P E) (nrm : P → P)
    (okName auto : Name → Prop) (L : SympifyLaw C nrm okName auto) (defs' : List (CustomDef P))
    (tg : TGate P E) (hw : WF tg) (hg : GateOK env C okName auto (proj tg))
    (hd : ∀ d ps, (proj tg).innermost = .custom d ps → defs'.find? (nameEq d.gateName) = some (d.map nrm))
    (fuel : Nat) (hf : gateDepth (proj tg) < fuel) :
    ∃ j, TranslatedC05.to_dict_gate (X env C) tg = .ok j ∧
      Except.map proj (TranslatedC05.gate_from_dict (X env C) fuel j defs') = .ok ((proj tg).map nrm) := by
  refine ⟨_, translated_to_dict_gate_eq env hE C tg hw, ?_⟩
  rw [translated_gate_from_dict_eq env hE C defs' fuel _ (by rw [gdepth_gateToDict]; exact hf),
    gate_fromDict_toDict_partial env h C nrm okName auto L defs' (proj tg) hg hd]
  rfl

theorem gdepth_circuitToDict {env : Env} {C : Codec P E} {tc : TCirc P E} {d : CDict E} (h : circuitToDict env C (projC tc) = .ok d)
    {fuel : Nat} (hf : ∀ o ∈ tc.ops, gateDepth (proj o.gate) < fuel) : ∀ o ∈ d.ops, gdepth o.gate < fuel := by
  unfold circuitToDict at h
  cases hc : collectDefs C (projC tc).ops with
  | error e => rw [hc] at h; exact nomatch h
  | ok defs =>
    rw [hc] at h
    obtain rfl := Except.ok.inj h
    intro o ho
    simp only [projC, List.map_map, List.mem_map] at ho
    obtain ⟨to, hto, rfl⟩ := ho
    exact Nat.lt_of_le_of_lt (Nat.le_of_eq (gdepth_gateToDict env C (proj to.gate))) (hf to hto)

/-- **END-TO-END, circuits** (`fromDict_toDict_partial` on the translated code): for every circuit object whose gates are `WF` and whose
    model circuit satisfies `CircuitOK`, the TRANSLATED `_circuit_to_dict` succeeds and the TRANSLATED `circuit_from_dict` applied to
    the dictionary it wrote returns a circuit object whose model circuit is the original with `nrm` applied to every expression. -/
theorem translated_circuit_roundtrip_partial (env : Env) (h : EnvHygienic env) (hE : EnvMatches env) (C : Codec P E)
    (nrm : P → P) (okName auto : Name → Prop) (L : SympifyLaw C nrm okName auto) (tc : TCirc P E) (hw : WFC tc)
    (hc : CircuitOK env C okName auto (projC tc)) (fuel : Nat) (hf : ∀ o ∈ tc.ops, gateDepth (proj o.gate) < fuel) :
    ∃ j, TranslatedC05.circuit_to_dict (X env C) tc = .ok j ∧
      Except.map projC (TranslatedC05.circuit_from_dict (X env C) fuel j) = .ok ((projC tc).map nrm) := by
  obtain ⟨d, h1, h2⟩ := fromDict_toDict_partial env h C nrm okName auto L (projC tc) hc
  refine ⟨encC d, by rw [translated_circuit_to_dict_eq env hE C tc hw, h1]; rfl, ?_⟩
  rw [translated_circuit_from_dict_eq env hE C fuel d (gdepth_circuitToDict h1 hf), h2]
  rfl

/-- **END-TO-END, circuit sets** (`circuitset_fromDict_toDict_partial` on the translated `to_dict(list)` / `circuitset_from_dict`). -/
theorem translated_circuitset_roundtrip_partial (env : Env) (h : EnvHygienic env) (hE : EnvMatches env) (C : Codec P E)
    (nrm : P → P) (okName auto : Name → Prop) (L : SympifyLaw C nrm okName auto) (tcs : List (TCirc P E))
    (hw : ∀ c ∈ tcs, WFC c) (hc : ∀ c ∈ tcs, CircuitOK env C okName auto (projC c)) (fuel : Nat)
    (hf : ∀ c ∈ tcs, ∀ o ∈ c.ops, gateDepth (proj o.gate) < fuel) :
    ∃ j, TranslatedC05.circuitset_to_dict (X env C) tcs = .ok j ∧
      Except.map (List.map projC) (TranslatedC05.circuitset_from_dict (X env C) fuel j)
        = .ok ((tcs.map projC).map (Circuit.map nrm)) := by
  obtain ⟨ds, h1, h2⟩ := circuitset_fromDict_toDict_partial env h C nrm okName auto L (tcs.map projC)
    (by intro c hcm; simp only [List.mem_map] at hcm; obtain ⟨tc, htc, rfl⟩ := hcm; exact hc tc htc)
  refine ⟨encCs ds, by rw [translated_circuitset_to_dict_eq env hE C tcs hw, h1]; rfl, ?_⟩
  rw [translated_circuitset_from_dict_eq env hE C fuel ds, h2]
  · rfl
  · -- every dictionary of `ds` is the dictionary of one of the circuits
    intro d hd
    obtain ⟨c, hcm, hcd⟩ := mem_of_mapM_ok h1 d hd
    obtain ⟨tc, htc, rfl⟩ := List.mem_map.mp hcm
    exact gdepth_circuitToDict hcd (hf tc htc)

/-! ### non-vacuity: the TRANSLATED definitions evaluated by the kernel on concrete inputs (stand-in codec `XC` of the driver) -/

/-- `X.controlled(2)` as a translated gate object -/
def tCCX : TGate PExpr Expo := .ControlledGate (.MatrixFactoryGate "X" none [] 1 true) 2
/-- `RX(gamma + x[3]).controlled(1).dagger`: nesting with a parameter -/
def tNested : TGate PExpr Expo :=
  .Dagger (.ControlledGate (.MatrixFactoryGate "RX" none [⟨"gamma + x[3]".toList, ["gamma".toList, "x[3]".toList]⟩] 1 false) 1)
/-- a custom gate `U(0.25)` raised to a power -/
def tCustom : TGate PExpr Expo :=
  .Power (.MatrixFactoryGate "U" (some thetaDef) [⟨"0.25".toList, []⟩] 1 false) ⟨true, 2, 1, "2".toList⟩

example : TranslatedC05.gate_name (X genEnv XC) tNested = "Control_Dagger" := by decide +kernel
example : TranslatedC05.gate_name (X genEnv XC) tCustom = "U^2" := by decide +kernel

example : TranslatedC05.to_dict_gate (X genEnv XC) tCCX =
    .ok (.obj [("name", .str "Control"), ("wrapped_gate", .obj [("name", .str "X")]), ("num_control_qubits", .int 2)]) := by
  rfl

example : TranslatedC05.to_dict_gate (X genEnv XC) tNested =
    .ok (.obj [("name", .str "Control_Dagger"), ("wrapped_gate", .obj [("name", .str "Control"),
      ("wrapped_gate", .obj [("name", .str "RX"), ("params", .arr [.str "gamma + x[3]"]),
        ("free_symbols", .arr [.str "gamma", .str "x[3]"])]), ("num_control_qubits", .int 1)])]) := by
  rfl

/-- the translated reader rebuilds what the translated writer wrote (budget 3 for two wrappers) … -/
example : (TranslatedC05.to_dict_gate (X genEnv XC) tNested).bind
    (fun j => Except.map proj (TranslatedC05.gate_from_dict (X genEnv XC) 3 j [])) = .ok (proj tNested) := by decide +kernel
example : (TranslatedC05.to_dict_gate (X genEnv XC) tCustom).bind
    (fun j => Except.map proj (TranslatedC05.gate_from_dict (X genEnv XC) 2 j [thetaDef])) = .ok (proj tCustom) := by decide +kernel
/-- … a budget that is too small is a RecursionError, a missing definition a ValueError, a rejected control count a ValueError, a
    dictionary without `name` a KeyError -/
example : (TranslatedC05.to_dict_gate (X genEnv XC) tNested).bind
    (fun j => Except.map proj (TranslatedC05.gate_from_dict (X genEnv XC) 2 j [])) = .error .RecursionError := by decide +kernel
example : (TranslatedC05.to_dict_gate (X genEnv XC) tCustom).bind
    (fun j => Except.map proj (TranslatedC05.gate_from_dict (X genEnv XC) 2 j [])) = .error .ValueError := by decide +kernel
example : Except.map proj (TranslatedC05.gate_from_dict (X genEnv XC) 5
    (.obj [("name", .str "Control"), ("wrapped_gate", .obj [("name", .str "X")]), ("num_control_qubits", .int 0)]) [])
    = .error .ValueError := by decide +kernel
example : Except.map proj (TranslatedC05.gate_from_dict (X genEnv XC) 5 (.obj [("params", .arr [])] : JV Expo) [])
    = .error .KeyError := by decide +kernel

/-- a whole circuit through the translated `_circuit_to_dict` / `circuit_from_dict` -/
def tCircuit : TCirc PExpr Expo :=
  ⟨4, [⟨tCCX, [0, 1, 2]⟩, ⟨tNested, [3, 0]⟩, ⟨tCustom, [1]⟩]⟩

example : (TranslatedC05.circuit_to_dict (X genEnv XC) tCircuit).bind
    (fun j => Except.map projC (TranslatedC05.circuit_from_dict (X genEnv XC) 4 j)) = .ok (projC tCircuit) := by decide +kernel

example : WFC tCircuit := by
  intro o ho
  simp only [tCircuit, List.mem_cons, List.not_mem_nil, or_false] at ho
  rcases ho with rfl | rfl | rfl <;> simp [WFOp, WF, tCCX, tNested, tCustom, thetaDef, sN]

end OQ.C05
