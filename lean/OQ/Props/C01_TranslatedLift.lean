/- C01 — PROPERTY THEOREMS (translation ties; translator `harness/translate_t12.py`): the COMPOSITION of `_unitary_tools._lift_matrix` regenerated on
   every run from the current Python source — range `[smallest, largest]`, shifted indices, `_permutation_making_qubits_adjacent`
   (itself translated), the permutation matrix, `P.T @ kron(M, eye) @ P`, the outer `reduce(kron, [eye, ·, eye])` — equals the
   hand-written model `OQ.Lift.liftMatrix`, the object `liftMatrix_pointwise` / `liftMatrix_eq_spec_lift` are about.

   `_permutation_matrix` is translated too (the check `sorted(order) != list(range(n))`, the zero matrix, the loop that writes column
   `i` = the unit vector of the permuted bitstring of `i`, calling the translated `_basis_bitstring` / `_permute`) and CALLED by the
   translated `_lift_matrix`.

   numpy / sympy enter the translated definitions as PARAMETERS (they are parameters of the Python functions too): `zeros`, `eye`,
   `kronecker_product`, `bitstring_to_dense_vector` (function parameters) and the externals `M[:, i] = v` (column assignment),
   `m.transpose()`, `a @ b`.  The ties instantiate them with the matrix operations of the model (`Mat.ofFn … 0`, `Mat.identity`,
   `Mat.kron`, unit column vectors, `Mat.transpose`, `Mat.mul`) — the operations whose laws (`Lemmas/C01_Lift`, `Bridge`)
   the theorems of `Props/C01.lean` use. -/
import OQ.Generated.TranslatedC01
import OQ.Lemmas.TranslatedT12
import OQ.Props.C01_Translated
import OQ.Props.C01
set_option linter.unusedSectionVars false
namespace OQ.C01
open OQ.Generated OQ.Lift OQ.Py OQ.T12

section Lift
variable {R : Type} [Zero R] [One R] [Add R] [Mul R]

/-- `zeros((r, c))` read in the model -/
def zerosExt (dims : List Int) : Mat R := Mat.ofFn (dims.getD 0 0).toNat (dims.getD 1 0).toNat (fun _ _ => 0)

/-- `M[:, i] = v` (v a column vector) read in the model: a new matrix, column `i` replaced -/
def setColumnExt (M : Mat R) (i : Int) (v : Mat R) : Mat R :=
  Mat.ofFn M.r M.c (fun r c => if c = i.toNat then v.get r 0 else M.get r c)

/-- `bitstring_to_dense_vector(bits)` read in the model: the unit column vector of the basis state, qubit 0 most significant -/
def unitVecExt (bits : List Int) : Mat R :=
  Mat.ofFn (2 ^ bits.length) 1 (fun r _ => if r = bitsToIndex (bits.map Int.toNat) then 1 else 0)

/-- `eye(d)` read in the model -/
def eyeExt (d : Int) : Mat R := Mat.identity d.toNat

private theorem two_pow_toNat (k : Nat) : ((2 : Int) ^ k).toNat = 2 ^ k := Int.toNat_pow_of_nonneg (by decide) k

private theorem map_sub_cast (qs : List Nat) (s : Nat) (h : ∀ q ∈ qs, s ≤ q) :
    (qs.map Int.ofNat).map (fun (index : Int) => index - (s : Int)) = (qs.map (fun q => q - s)).map Int.ofNat := by
  simp only [List.map_map]
  apply List.map_congr_left
  intro q hq
  have := h q hq
  simp only [Function.comp, Int.ofNat_eq_natCast]
  omega

private theorem toNat_ofNat_map (l : List Nat) : (l.map Int.ofNat).map Int.toNat = l := by
  rw [List.map_map]; exact List.map_id'' (fun _ => rfl) l

/-- TRANSLATION TIE: `_permutation_matrix(target_indices_order, zeros, bitstring_to_dense_vector)` regenerated from the current
    source — `ValueError` unless `sorted(order) == list(range(n))`, then the zero matrix filled column by column with the unit
    vector of `_permute(_basis_bitstring(i, n), order)` (both callees translated) — is the model's `permutationMatrix`, for EVERY
    non-empty list `order` of natural numbers (permutation or not).  The empty order is excluded: there
    `bitstring_to_dense_vector([])` (a `reduce` over nothing) raises inside the external. -/
theorem translated_permutation_matrix_eq (order : List Nat) (hne : order ≠ []) :
    Translated.permutation_matrix setColumnExt (order.map Int.ofNat) zerosExt unitVecExt = permutationMatrix (R := R) order := by
  unfold Translated.permutation_matrix permutationMatrix
  simp only [List.length_map, Int.toNat_natCast, sorted_check, two_pow_toNat, List.foldl_map, zerosExt,
    List.getD_cons_zero, List.getD_cons_succ]
  split_ifs
  · rfl
  -- the loop writes column `i` := the column vector the external returns, so it is `foldl_set_column` as it stands;
  -- what that vector is matters only inside the matrix
  · refine congrArg some ((foldl_set_column (2 ^ order.length) (fun r i => (unitVecExt (R := R) (Translated.permute
      (Translated.basis_bitstring (Int.ofNat i) order.length) (order.map Int.ofNat))).get r 0) _ le_rfl).trans
      (Mat.ofFn_congr _ _ _ _ fun r c hr hc => ?_))
    rw [if_pos hc, Int.ofNat_eq_natCast, translated_basis_bitstring_eq c order.length (List.length_pos_iff.mpr hne) hc, translated_permute_eq,
      unitVecExt, toNat_ofNat_map, Mat.get_ofFn _ _ _ _ _ (by simpa [permute] using hr) Nat.one_pos]

/-- TRANSLATION TIE: `_lift_matrix(matrix, qubit_indices, num_qubits, zeros, eye, kronecker_product, bitstring_to_dense_vector)`
    regenerated from the current source, with the model's matrix operations for the numpy / sympy parameters, is the model's
    `liftMatrix` — including the `ValueError` of the permutation check on duplicated indices.
    Domain: a non-empty tuple of natural indices, all `< num_qubits`, with `len(qubit_indices) ≤ largest − smallest + 1` (true for
    every tuple of DISTINCT indices; it keeps the two exponents `2 ** (…)` non-negative — with a negative exponent Python
    computes a float and `eye` raises, which the model renders as `none` and the translation leaves to the external).
    The empty tuple is covered by `translated_lift_matrix_empty`. -/
theorem translated_lift_matrix_eq (m : Mat R) (qs : List Nat) (n : Nat)
    (hne : qs ≠ []) (hlt : ∀ q ∈ qs, q < n) (hlen : qs.length ≤ listMax qs - listMin qs + 1) :
    Translated.lift_matrix setColumnExt Mat.transpose Mat.mul m (qs.map Int.ofNat) (n : Int) zerosExt eyeExt Mat.kron unitVecExt
      = liftMatrix m qs n := by
  have hmin_le_max : listMin qs ≤ listMax qs := listMin_le qs _ (listMax_mem qs hne)
  have hmax_lt : listMax qs < n := hlt _ (listMax_mem qs hne)
  have hemp : qs.isEmpty = false := List.isEmpty_eq_false_iff.mpr hne
  unfold Translated.lift_matrix liftMatrix
  simp only [minList_cast, maxList_cast, hemp, Bool.false_eq_true, if_false]
  rw [map_sub_cast qs (listMin qs) (listMin_le qs)]
  have hspan : ((listMax qs : Nat) : Int) - ((listMin qs : Nat) : Int) + 1 = ((listMax qs - listMin qs + 1 : Nat) : Int) := by
    omega
  rw [hspan, translated_permMakingAdjacent_eq]
  simp only [not_le.mpr hmax_lt, not_lt.mpr hlen, if_false]
  rw [translated_permutation_matrix_eq _ (by exact List.append_ne_nil_of_left_ne_nil (mt List.map_eq_nil_iff.mp hne) _)]
  cases permutationMatrix (R := R) (permMakingAdjacent (qs.map (fun q => q - listMin qs)) (listMax qs - listMin qs + 1)) with
  | none => rfl
  | some p =>
    simp only [reduce1, List.foldl_cons, List.foldl_nil, eyeExt, two_pow_toNat, List.length_map]
    have e1 : (((listMax qs : Nat) : Int) - ((listMin qs : Nat) : Int) - ((qs.length : Nat) : Int) + 1).toNat
        = listMax qs - listMin qs + 1 - qs.length := by omega
    have e2 : ((n : Int) - ((listMax qs : Nat) : Int) - 1).toNat = n - listMax qs - 1 := by omega
    rw [e1, e2, Int.toNat_natCast]

/-- the empty index tuple: `min(())` raises `ValueError` — `none` on both sides -/
theorem translated_lift_matrix_empty (m : Mat R) (n : Int) :
    Translated.lift_matrix setColumnExt Mat.transpose Mat.mul m [] n zerosExt eyeExt Mat.kron unitVecExt = none
      ∧ liftMatrix m [] n.toNat = none := ⟨rfl, rfl⟩

end Lift

section EndToEnd
variable {R : Type} [CommRing R]

/-- END-TO-END (`liftMatrix_pointwise`, the main embedding theorem, restated ON THE TRANSLATED `_lift_matrix`): for every register
    width `n`, every tuple of distinct indices `< n` (any order, gaps, idle qubits) and every `2^k × 2^k` matrix, the TRANSLATED
    composition succeeds, is `2^n × 2^n`, and its entry at (row, col) is the entry of `m` at the sub-indices read at `qs` when row and
    col agree on every other qubit, else 0. -/
theorem translated_lift_matrix_pointwise (m : Mat R) (qs : List Nat) (n : Nat)
    (hne : qs ≠ []) (hd : qs.Nodup) (hlt : ∀ q ∈ qs, q < n)
    (hmr : m.r = 2 ^ qs.length) (hmc : m.c = 2 ^ qs.length) :
    ∃ L, Translated.lift_matrix setColumnExt Mat.transpose Mat.mul m (qs.map Int.ofNat) (n : Int) zerosExt eyeExt Mat.kron unitVecExt = some L ∧
      L.r = 2 ^ n ∧ L.c = 2 ^ n ∧
      ∀ row col, row < 2 ^ n → col < 2 ^ n →
        L.get row col = if (∀ q, q < n → q ∉ qs → bit n q row = bit n q col)
          then m.get (sub n qs row) (sub n qs col) else 0 := by
  rw [translated_lift_matrix_eq m qs n hne hlt (length_le_span qs hd)]
  exact liftMatrix_pointwise m qs n hne hd hlt hmr hmc

end EndToEnd

section Examples
example : ((Translated.permutation_matrix (setColumnExt (R := Int)) [1, 0] zerosExt unitVecExt).map Mat.toLists)
    = some [[1, 0, 0, 0], [0, 0, 1, 0], [0, 1, 0, 0], [0, 0, 0, 1]] := by decide +kernel
example : (Translated.permutation_matrix (setColumnExt (R := Int)) [1, 1] zerosExt unitVecExt).isNone := by decide +kernel
private def exM' : Mat Int := Mat.ofLists [[1, 2, 3, 4], [5, 6, 7, 8], [9, 10, 11, 12], [13, 14, 15, 16]]
-- descending, gapped indices with an idle qubit on a 3-qubit register: the entries of `liftMatrix_pointwise`'s example
example : ((Translated.lift_matrix setColumnExt Mat.transpose Mat.mul exM' [2, 0] 3 zerosExt eyeExt Mat.kron unitVecExt).map
    (fun L => (L.r, L.get 5 0, L.get 7 0, L.get 4 1))) = some (8, 13, 0, 7) := by
  -- the tie applies to this input: the model is evaluated, not the translated column loop as well
  rw [show Translated.lift_matrix setColumnExt Mat.transpose Mat.mul exM' [2, 0] 3 zerosExt eyeExt Mat.kron unitVecExt
    = liftMatrix exM' [2, 0] 3 from translated_lift_matrix_eq exM' [2, 0] 3 (by decide) (by decide) (by decide)]
  decide +kernel
-- duplicated indices: the permutation check raises
example : (Translated.lift_matrix setColumnExt Mat.transpose Mat.mul exM' [1, 1] 3 zerosExt eyeExt Mat.kron unitVecExt).isNone := by
  decide +kernel
example : [2, 0] ≠ ([] : List Nat) ∧ (∀ q ∈ [2, 0], q < 3) ∧ [2, 0].length ≤ listMax [2, 0] - listMin [2, 0] + 1 := by decide
end Examples

end OQ.C01
