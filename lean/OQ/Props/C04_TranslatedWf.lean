/- C04 — PROPERTY THEOREMS (translation ties, work package T13): the state VIEWS of the `Wavefunction` class.
   `OQ.Generated.Wf.*` are REGENERATED from /repo's current `wavefunction.py` on every run (harness/translate_t13.py →
   OQ/Generated/TranslatedC12Wf.lean, TranslatedC04Wf.lean): `__len__`, `n_qubits`, `get_probabilities`, `get_outcome_probs`,
   `sample_from_wavefunction`.  numpy / rng expressions are fields of the parameter `ext`; the theorems hold for EVERY `ext` satisfying
   `OQ.C04.T13.ViewLaws k ext` (OQ/Lemmas/C04_T13.lean; satisfied by the stand-ins `viewExt` the driver runs against the real class),
   over any scalar type `R`.  An edit of a Python function changes its generated definition and these stop checking at build time. -/
import OQ.Lemmas.C04_T13
import OQ.Props.C04
import OQ.Props.C04_TranslatedLists
namespace OQ.C04
open OQ.Generated OQ.PyT OQ.C04.T13
open OQ.Py (digitChar)

section
variable {R : Type} [Zero R] [One R] [Add R] [Mul R] [Neg R]

/-- TRANSLATION TIE: `len(wf)` (`__len__`) is the number of amplitudes.  Law used: `len_vector`. -/
theorem translated_len_eq {k : Scal R} {ext : VExt R} (h : ViewLaws k ext) (amps : List R) :
    Wf.len ext ⟨amps⟩ = .ok (amps.length : Int) := by
  simp only [Wf.len, h.len_vector]

/-- TRANSLATION TIE: the property `n_qubits` = `int(log2(len(self)))` is `⌊log₂ len⌋` (a non-empty vector; laws `len_vector`, `int_log2`). -/
theorem translated_n_qubits_eq {k : Scal R} {ext : VExt R} (h : ViewLaws k ext) (amps : List R) (hpos : 0 < amps.length) :
    Wf.n_qubits ext ⟨amps⟩ = .ok ((Nat.log2 amps.length : Nat) : Int) := by
  simp only [Wf.n_qubits, translated_len_eq h, h.int_log2 _ hpos]

/-- TRANSLATION TIE: `get_probabilities()` = `np.abs(self.amplitudes) ** 2` regenerated from the current source is the C04 model's
    `getProbabilities` (every numeric wavefunction; laws `getattr_free_symbols`, `np_abs_sq`). -/
theorem translated_get_probabilities_view_eq {k : Scal R} {ext : VExt R} (h : ViewLaws k ext) (amps : List R) :
    Wf.get_probabilities ext ⟨amps⟩ = .ok (getProbabilities k amps) := by
  simp only [Wf.get_probabilities, Wf.amplitudes, Wf.free_symbols, h.getattr_free_symbols, Bool.false_eq_true, if_false,
    h.np_abs_sq, getProbabilities]

/-- TRANSLATION TIE: `get_outcome_probs()` regenerated from the current source – the comprehension
    `format(i, "0" + str(self.n_qubits) + "b")[::-1][: self.n_qubits] for i in range(len(self))`, `get_probabilities()`,
    `dict(zip(values, probs))` – is the C04 model's `getOutcomeProbs`: the same keys (as digit strings) in the same order with the same
    values, and it never raises.  Every wavefunction of `2ⁿ` amplitudes, `n ≥ 0` (the keys are distinct there, so `dict` keeps all
    pairs – proved, `keys_nodup`). -/
theorem translated_get_outcome_probs_eq {k : Scal R} {ext : VExt R} (h : ViewLaws k ext) (amps : List R) (n : Nat)
    (hlen : amps.length = 2 ^ n) :
    Wf.get_outcome_probs ext ⟨amps⟩ = .ok ((getOutcomeProbs k amps).map (fun p => (p.1.map digitChar, p.2))) := by
  have hpos : 0 < amps.length := by rw [hlen]; exact Nat.two_pow_pos n
  have hk : (List.range (2 ^ n)).map ((fun i : Int => OQ.Py.sliceTo ((formatBinW i n).reverse) n) ∘ Int.ofNat) =
      (List.range (2 ^ n)).map (fun i => ((bits n i).reverse).map digitChar) :=
    List.map_congr_left fun i hi => by rw [Function.comp, key_string_eq, outcome_key_eq n i (List.mem_range.mp hi)]
  unfold Wf.get_outcome_probs
  simp only [translated_len_eq h, translated_n_qubits_eq h amps hpos, translated_get_probabilities_view_eq h, h.iter_probs,
    Int.toNat_natCast, hlen, Nat.log2_two_pow]
  rw [mapE_ok _ _ _ fun _ _ => rfl, List.map_map, hk]
  simp only [getProbabilities]
  rw [zip_range_map _ _ amps 0 hlen, dictOfPairs_nodup, getOutcomeProbs_eq k amps n hlen, List.map_map]
  · rfl
  · rw [List.map_map]; exact keys_nodup n

/-- TRANSLATION TIE: `sample_from_wavefunction(wavefunction, n_samples, seed)` regenerated from the current source – the guard, the
    `zip(*….items())` unpacking, BOTH branches (`len(wavefunction) < n_samples`: every key converted first, the sentinel `0` and its
    probability appended, `rng.choice` over the object array; otherwise `rng.choice` over the key strings, converted afterwards by
    `convert_bitstrings_to_tuples`, itself a translated definition) – is the C04 model's `sampleFromWavefunction`, with `seed` standing
    for the indices `draws` the generator draws: the same tuples (a drawn sentinel is the int `0`), ValueError for `n_samples < 1`,
    `Exc.other 1` (= the model's `Err.draw`) for a draw list `rng.choice` cannot produce.  Every wavefunction of `2ⁿ` amplitudes, EVERY
    `n_samples` and EVERY draw list. -/
theorem translated_sample_from_wavefunction_eq {k : Scal R} {ext : VExt R} (h : ViewLaws k ext) (amps : List R) (n : Nat)
    (hlen : amps.length = 2 ^ n) (nSamples : Int) (draws : List Nat) :
    Wf.sample_from_wavefunction ext ⟨amps⟩ nSamples draws =
      match sampleFromWavefunction k amps nSamples draws with
      | .ok l => .ok (l.map drawnOut)
      | .error e => .error (errOut e) := by
  unfold Wf.sample_from_wavefunction sampleFromWavefunction
  by_cases h1 : nSamples < 1
  · simp [h1, errOut]
  · have hkeys := outcome_keys k amps n hlen
    have hne : ((getOutcomeProbs k amps).map (fun p => (p.1.map digitChar, p.2))).isEmpty = false := by
      rw [getOutcomeProbs_eq k amps n hlen]
      simp
    have hdig : ∀ s ∈ (getOutcomeProbs k amps).map (·.1), ∀ d ∈ s, d < 10 := by
      rw [hkeys]
      intro s hs d hd
      obtain ⟨i, _, rfl⟩ := List.mem_map.mp hs
      have := bits_lt_two n i d (List.mem_reverse.mp hd)
      omega
    simp only [h1, decide_false, Bool.false_eq_true, if_false, translated_get_outcome_probs_eq h amps n hlen, unzipItems, hne,
      translated_len_eq h, h.default_rng, h.choice_objects, h.choice_strings, h.iter_strings, List.map_map]
    have hS : (List.map (Prod.fst ∘ fun p : List Nat × R => (List.map digitChar p.1, p.2)) (getOutcomeProbs k amps))
        = ((getOutcomeProbs k amps).map (·.1)).map (fun s => s.map digitChar) := by
      rw [List.map_map]; rfl
    simp only [hS]
    generalize hSdef : (getOutcomeProbs k amps).map (·.1) = S at hdig hS
    by_cases hc : (draws.length : Int) = nSamples
    · simp only [choose, hc, ne_eq, not_true_eq_false, if_false]
      by_cases hb : (amps.length : Int) < nSamples
      · simp only [hb, decide_true, if_true, sampleBranchLarge]
        rw [translated_convert_bitstrings_to_tuples_eq S hdig]
        have hA : ([] ++ List.map Sum.inl (List.map (fun s => List.map Int.ofNat (bitstringToTuple s)) S) ++
              List.map Sum.inr [(0 : Int)] : List ((List Int) ⊕ Int))
            = (List.map (fun s => Drawn.tuple (bitstringToTuple s)) S ++ [Drawn.sentinel]).map drawnOut := by
          simp [drawnOut, Function.comp_def]
        rw [hA, mapM_getElem_map]
        cases List.mapM (fun i => (List.map (fun s => Drawn.tuple (bitstringToTuple s)) S ++ [Drawn.sentinel])[i]?) draws <;> rfl
      · simp only [hb, decide_false, Bool.false_eq_true, if_false, sampleBranchSmall]
        rw [mapM_getElem_map]
        cases hm : List.mapM (fun i => S[i]?) draws with
        | none => rfl
        | some ss =>
          simp only [Option.map_some]
          rw [translated_convert_bitstrings_to_tuples_eq ss (fun s hs => hdig s (mapM_getElem_mem S draws ss hm s hs))]
          simp [drawnOut, Function.comp_def]
    · simp only [choose, hc, ne_eq, not_false_eq_true, if_true, errOut]
      by_cases hb : (amps.length : Int) < nSamples <;> simp [hb]

/-- END-TO-END (`tuple_of_index` on the translated `sample_from_wavefunction`, BOTH regimes, ALL widths): whatever `n_samples ≥ 1` is
    (fewer or more than `2ⁿ` – the two code paths), if the generator draws the indices `draws` (exactly `n_samples`, each an index of
    a basis state), the translated function returns exactly the tuples `bits n i`: position `q` of a measured tuple holds bit `q`
    (qubit 0 MOST significant) of the drawn basis index. -/
theorem translated_tuple_of_index {k : Scal R} {ext : VExt R} (h : ViewLaws k ext) (amps : List R) (n : Nat)
    (hlen : amps.length = 2 ^ n) (nSamples : Int) (hs : 1 ≤ nSamples) (draws : List Nat)
    (hcount : (draws.length : Int) = nSamples) (hdraw : ∀ i ∈ draws, i < 2 ^ n) :
    Wf.sample_from_wavefunction ext ⟨amps⟩ nSamples draws =
      .ok (draws.map (fun i => Sum.inl ((bits n i).map Int.ofNat))) := by
  rw [translated_sample_from_wavefunction_eq h amps n hlen, (tuple_of_index k amps n hlen nSamples hs draws hcount hdraw).1]
  simp [drawnOut, Function.comp_def]

/-- END-TO-END (the key convention of `get_outcome_probs` on the translated code): entry `i` of the returned dict has the key
    `bits n i` REVERSED (qubit 0 is the LAST character) as a digit string, and the value `|amps[i]|²`. -/
theorem translated_outcome_entry {k : Scal R} {ext : VExt R} (h : ViewLaws k ext) (amps : List R) (n : Nat)
    (hlen : amps.length = 2 ^ n) (i : Nat) (hi : i < 2 ^ n) :
    ∃ d, Wf.get_outcome_probs ext ⟨amps⟩ = .ok d ∧
      d[i]? = some (((bits n i).reverse).map digitChar, normSq k (amps.getD i 0)) := by
  refine ⟨_, translated_get_outcome_probs_eq h amps n hlen, ?_⟩
  rw [List.getElem?_map, outcome_key_of_index k amps n hlen i hi]
  rfl
end

/-! ## non-vacuity: the laws are satisfiable (`viewExt_laws`) and the TRANSLATED definitions run on concrete data -/

private def ki : Scal Int := ⟨0, 0, 0, 0, id⟩
private def vx : VExt Int := viewExt ki (fun x => x == 1)

example : ViewLaws ki vx := viewExt_laws ki _
example : Wf.get_outcome_probs vx ⟨[0, 1, 0, 0]⟩ = .ok [(['0', '0'], 0), (['1', '0'], 1), (['0', '1'], 0), (['1', '1'], 0)] := by decide
example : Wf.get_outcome_probs vx ⟨[1]⟩ = .ok [([], 1)] := by decide
-- (basis index 1 = binary 01 has the key "10": the key is the MSB-first bit string REVERSED – qubit 0 is its LAST character)
-- `len(wavefunction) < n_samples`: index 1 of 4 is the tuple (0, 1) (qubit 0 most significant); the sentinel is index 4
example : Wf.sample_from_wavefunction vx ⟨[0, 1, 0, 0]⟩ 5 [1, 1, 2, 1, 3] = .ok [.inl [0, 1], .inl [0, 1], .inl [1, 0], .inl [0, 1], .inl [1, 1]] := by
  decide
example : Wf.sample_from_wavefunction vx ⟨[0, 1, 0, 0]⟩ 5 [1, 1, 4, 1, 3] = .ok [.inl [0, 1], .inl [0, 1], .inr 0, .inl [0, 1], .inl [1, 1]] := by
  decide
-- the other branch
example : Wf.sample_from_wavefunction vx ⟨[0, 1, 0, 0]⟩ 2 [1, 2] = .ok [.inl [0, 1], .inl [1, 0]] := by decide
example : Wf.sample_from_wavefunction vx ⟨[0, 1, 0, 0]⟩ 0 [] = .error .ValueError := by decide
example : Wf.sample_from_wavefunction vx ⟨[0, 1, 0, 0]⟩ 2 [1] = .error (.other 1) := by decide
example : Wf.sample_from_wavefunction vx ⟨[0, 1, 0, 0]⟩ 2 [1, 4] = .error (.other 1) := by decide
end OQ.C04
