/- C16 — PROPERTY THEOREMS (translation tie): `time_evolution_for_term` of `evolution.py` (the loops of
   `time_evolution` and `_generate_circuit_sequence` are tied in `C16_TranslatedSeq.lean`).

   `OQ.Generated.Translated.time_evolution_for_term` is REGENERATED from /repo's current Python source on every run
   (harness/translate_t11.py → OQ/Generated/TranslatedC16.lean).  The term (θ), the time (τ), circuits (γ), operations (ω), gates (κ),
   real numbers (ϕ), the complex coefficient (ψ) and the frozenset `term.operations` (ο) are OPAQUE; every operation on them is a
   parameter: `ext_Circuit0` (`Circuit()`), `attr_qubits` (the iteration order of the SET `term.qubits`; `sorted` itself is the
   prelude's `sortedInts`, compared with CPython on every run), `attr_is_constant`, `attr_coefficient`, `attr_imag`, `attr_real`,
   `ext_abs`, `const_1e_9`, `ext_gt` (`abs(x) > 1e-9`), `ext_getitem` (`term[q]`), `ext_H`, `ext_RX`, `ext_RZ`, `ext_CNOT`,
   `call_gate` (`gate(q)`), `ext_add_op` / `ext_add` (`circuit + operation`, `circuit + circuit`; `x += e` rebinds – `Circuit` has no
   `__iadd__`, checked by the translator), `const_np_pi`, `ext_div` (`np.pi / 2`), `ext_mul_int`, `ext_mul` (`2 * time * c`),
   `attr_operations` / `ext_len` (`len(term.operations)`), `meth_inverse`.
   Python scoping is rendered as it is: `central_gate` is assigned only in the branch `i == len(term.operations) - 1` of the loop and
   read after it, so it is carried through the loop as `Option ω` starting at `none`, and reading it unbound is `none`
   (UnboundLocalError); `qubit_indices[i + 1]` is a CHECKED subscript (`OQ.Py.indexE`: IndexError → `none`), which makes the loop a
   raising fold (`OQ.Py.foldlOpt`).  The ties prove that neither happens.  `none` = the Python function raises. -/
import OQ.Generated.TranslatedC16
import OQ.Lemmas.C16_TranslatedTerm
import OQ.Props.C16
set_option linter.unusedSectionVars false
namespace OQ.C16
open OQ.Generated OQ.Pauli Matrix OQ.Spec

section tie
variable {Q T : Type} [One Q] [Mul Q] [Div Q] [Neg Q] [NatCast Q] [DecidableEq Q]

/-- `term[q]`: the letter at qubit `q` as a Python `str` (identity where the term does not act) -/
def letterAt (t : Term (Q × Q)) (q : Int) : List Char :=
  match t.opAt q.toNat with
  | some .X => ['X'] | some .Y => ['Y'] | some .Z => ['Z'] | none => ['I']

/-- the translated `time_evolution_for_term` at the model's reading of the opaque objects; `abs`, the float `1e-9` and `>` stay
    arbitrary (`ab`, `eps`, `gt`) -/
abbrev translatedTermEvolution (alg : TimeAlg Q T) (ab : Q → Q) (eps : Q) (gt : Q → Q → Bool) (t : Term (Q × Q)) (time : T) :
    Option (Circ T) :=
  Translated.time_evolution_for_term ([] : Circ T) (fun t : Term (Q × Q) => t.ops.map (fun p => Int.ofNat p.1))
    (fun t => t.ops.isEmpty) (fun t => t.coeff) (fun c : Q × Q => c.2) (fun c => c.1) ab eps gt letterAt
    (fun q => (⟨.H, [q.toNat]⟩ : GOp T)) (fun c o => c ++ [o]) alg.pi (fun x m => alg.smul (1 / ((m.toNat : Nat) : Q)) x)
    GateK.RX (fun g q => ⟨g, [q.toNat]⟩) (fun t => t.ops) (fun l => (l.length : Int))
    (fun m x => alg.smul ((m.toNat : Nat) : Q) x) (fun x q => alg.smul q x) GateK.RZ
    (fun a b => ⟨.CNOT, [a.toNat, b.toNat]⟩) inverse (fun a b => a ++ b) t time

/-- TRANSLATION TIE (`evolution.py:time_evolution_for_term`): the function regenerated from the current Python source – the constant
    guard, the ValueError for `abs(term.coefficient.imag) > 1e-9`, the loop over `enumerate(sorted(term.qubits))` (H for "X",
    RX(np.pi / 2) for "Y"; RZ(2 * time * coefficient.real) at index `len(term.operations) - 1`, otherwise CNOT(q, qubit_indices[i + 1])),
    `cnot_gates + central_gate + cnot_gates.inverse()` and `basis_change + … + basis_change.inverse()` – is the model's
    `evolutionForTerm` (`none` = raises) for EVERY term (any letters, any insertion order, any coefficient) and every time, whatever
    `abs`, `1e-9` and `>` are (the model's `negl x` is read as `not (abs(x) > 1e-9)`).  In particular the translated code never reads
    `central_gate` unbound and never indexes `qubit_indices` out of range. -/
theorem translated_time_evolution_for_term_eq (alg : TimeAlg Q T) (ab : Q → Q) (eps : Q) (gt : Q → Q → Bool)
    (t : Term (Q × Q)) (time : T) :
    translatedTermEvolution alg ab eps gt t time
      = (evolutionForTerm alg (fun x => !gt (ab x) eps) t time).toOption := by
  unfold translatedTermEvolution Translated.time_evolution_for_term evolutionForTerm
  dsimp only
  by_cases h0 : t.ops.isEmpty = true
  · simp only [h0, if_true]; rfl
  · have h0' : t.ops.isEmpty = false := by simpa using h0
    simp only [h0', Bool.false_eq_true, if_false, Bool.not_not]
    by_cases hg : gt (ab t.coeff.2) eps = true
    · simp only [hg, if_true]; rfl
    · have hg' : gt (ab t.coeff.2) eps = false := by simpa using hg
      simp only [hg', Bool.false_eq_true, if_false]
      have hmap : (t.ops.map (fun p => Int.ofNat p.1)) = (t.ops.map (·.1)).map Int.ofNat := by
        rw [List.map_map]; rfl
      rw [hmap, sortedInts_map]
      have hlen : (sortNat (t.ops.map (·.1))).length = t.ops.length := (sortNat_perm _).length_eq.trans (List.length_map _)
      rw [loop_spec_all _ (basisOps alg t)
        (fun q => ⟨.RZ (alg.smul t.coeff.1 (alg.smul ((2 : Nat) : Q) time)), [q]⟩) (sortNat (t.ops.map (·.1))) ?_]
      · simp only [Option.bind_some, sortedQubits, ← basisChange_flatMap]
        obtain ⟨last, hl⟩ := sortedQubits_getLast? t (by simpa using h0')
        rw [sortedQubits] at hl
        rw [hl]
        rfl
      · intro b c cn i q
        have hidx : (((i : Nat) : Int) == ((t.ops.length : Nat) : Int) - 1) = decide (i + 1 = (sortNat (t.ops.map (·.1))).length) := by
          rw [hlen, Bool.eq_iff_iff, beq_iff_eq, decide_eq_true_iff]; omega
        have h2 : Int.toNat 2 = 2 := rfl
        simp only [letterAt, Int.toNat_natCast, hidx, h2, basisOps]
        rcases t.opAt q with _ | (_ | _ | _) <;> simp

/-- STRUCTURE of the translated `time_evolution_for_term` on a non-constant term with a negligible imaginary part: basis change –
    CNOT ladder – RZ(2·t·c) on the LAST sorted qubit – inverse ladder – inverse basis change, in this order -/
theorem translated_term_structure (alg : TimeAlg Q T) (ab : Q → Q) (eps : Q) (gt : Q → Q → Bool) (t : Term (Q × Q)) (time : T)
    (hne : t.ops ≠ []) (him : gt (ab t.coeff.2) eps = false) :
    ∃ last, (sortedQubits t).getLast? = some last ∧
      translatedTermEvolution alg ab eps gt t time
        = some (basisChange alg t (sortedQubits t) ++
            ((ladder (sortedQubits t) : Circ T) ++
              [⟨.RZ (alg.smul t.coeff.1 (alg.smul ((2 : Nat) : Q) time)), [last]⟩] ++ inverse (ladder (sortedQubits t))) ++
            inverse (basisChange alg t (sortedQubits t))) := by
  obtain ⟨last, hl⟩ := sortedQubits_getLast? t hne
  have h0 : t.ops.isEmpty = false := by simpa using hne
  refine ⟨last, hl, ?_⟩
  rw [translated_time_evolution_for_term_eq, evolutionForTerm_eq, acc_of_ne_nil _ t hne, if_pos (by rw [him]; rfl)]
  simp only [evoCirc, h0, hl, Bool.false_eq_true, if_false]
  rfl

/-- "a constant term gives an empty circuit" for the translated code (`constant_term_empty`) -/
theorem translated_constant_term_empty (alg : TimeAlg Q T) (ab : Q → Q) (eps : Q) (gt : Q → Q → Bool) (t : Term (Q × Q)) (time : T)
    (h : t.ops = []) : translatedTermEvolution alg ab eps gt t time = some [] := by
  rw [translated_time_evolution_for_term_eq, constant_term_empty alg _ t time h]; rfl

/-- "a non-negligible imaginary part is rejected" for the translated code (`imag_rejected`): a non-constant term raises EXACTLY when
    `abs(coefficient.imag) > 1e-9` -/
theorem translated_imag_rejected (alg : TimeAlg Q T) (ab : Q → Q) (eps : Q) (gt : Q → Q → Bool) (t : Term (Q × Q)) (time : T)
    (hne : t.ops ≠ []) :
    translatedTermEvolution alg ab eps gt t time = none ↔ gt (ab t.coeff.2) eps = true := by
  rw [translated_time_evolution_for_term_eq, evolutionForTerm_eq, acc_of_ne_nil _ t hne]
  cases gt (ab t.coeff.2) eps <;> simp [Except.toOption]

section sem
variable {R : Type} [CommRing R] [StarRing R] {ι : Type} [Fintype ι] [DecidableEq ι]

/-- `term_evolution` for the translated code: whenever the translated `time_evolution_for_term` returns a circuit for a non-constant
    term, its matrix is cos(tc)·1 − i·sin(tc)·P for the half-angle point of the central angle 2·t·c -/
theorem translated_term_evolution (k : Scal R) (hk : ScalLaws k) (alg : TimeAlg Q T) (ab : Q → Q) (eps : Q) (gt : Q → Q → Bool)
    (ang : T → Ang R) (hpi : ang (alg.smul (1 / ((2 : Nat) : Q)) alg.pi) = ⟨k.r, k.r⟩)
    (rg : Register ι) (t : Term (Q × Q)) (hcov : rg.Covers t) (hnd : (t.ops.map (·.1)).Nodup) (hne : t.ops ≠ [])
    (time : T) (c : Circ T) (hc : translatedTermEvolution alg ab eps gt t time = some c) :
    circSem k ang rg.e c
      = (ang (alg.smul t.coeff.1 (alg.smul ((2 : Nat) : Q) time))).ch • (1 : Matrix (BV ι) (BV ι) R)
        - (k.i * (ang (alg.smul t.coeff.1 (alg.smul ((2 : Nat) : Q) time))).sh)
            • pauliString k (fun p => t.opAt (rg.lab p)) := by
  rw [translated_time_evolution_for_term_eq, toOption_eq_some] at hc
  exact term_evolution k hk alg _ ang hpi rg t hcov hnd hne time c hc
end sem

end tie

/-! non-vacuity (numbers and times are integers here: `smul` is `*`, `np.pi` is 3; X on qubit 2 inserted before Z on qubit 0) -/
def exAlg : TimeAlg Int Int := ⟨fun a b => a + b, fun q x => q * x, 3⟩
example : translatedTermEvolution exAlg (fun x => if x < 0 then -x else x) 0 (fun a b => decide (a > b))
    ⟨[(2, .X), (0, .Z)], (5, 0)⟩ 7
    = some [⟨.H, [2]⟩, ⟨.CNOT, [0, 2]⟩, ⟨.RZ 70, [2]⟩, ⟨.CNOT, [0, 2]⟩, ⟨.H, [2]⟩] := by decide
example : translatedTermEvolution exAlg (fun x => if x < 0 then -x else x) 0 (fun a b => decide (a > b))
    ⟨[(2, .X), (0, .Z)], (5, -1)⟩ 7 = none := by decide
example : translatedTermEvolution exAlg (fun x => if x < 0 then -x else x) 0 (fun a b => decide (a > b)) ⟨[], (5, 4)⟩ 7 = some [] := by
  decide
/-- a way the Python could raise besides the ValueError, shown on the TRANSLATED definition with externals that break the invariant
    `len(term.operations) = len(term.qubits)` (here `len(term.operations)` is 5 for two qubits): no index is the "last" one, so
    `qubit_indices[i + 1]` is read out of range at the second qubit (IndexError → `none`) -/
example : Translated.time_evolution_for_term ([] : List Int) (fun _ : Unit => [4, 1]) (fun _ => false) (fun _ => (0 : Int))
    (fun c => c) (fun c => c) (fun x : Int => x) 0 (fun a b => decide (a > b)) (fun _ _ => ['Z']) (fun q : Int => q) (fun c o => c ++ [o])
    (3 : Int) (fun x _ => x) (fun x : Int => x) (fun g q => g + q) (fun _ => (5 : Int)) (fun l => l) (fun m x => m * x) (fun x q => x * q)
    (fun x => x) (fun a b => 10 * a + b) (fun c => c.reverse) (fun a b => a ++ b) () 7 = none := by decide

end OQ.C16
