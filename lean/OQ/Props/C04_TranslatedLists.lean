/- C04 — PROPERTY THEOREMS (translation ties): the list-level bitstring conversions of `utils.py`:
   `convert_bitstrings_to_tuples`, `convert_tuples_to_bitstrings`, `get_ordered_list_of_bitstrings`.
   The definitions `OQ.Generated.Translated.*` are REGENERATED from /repo's current Python source on every run
   (harness/translate_t2.py → OQ/Generated/TranslatedC04.lean); an edit of a Python function changes its definition and these
   equalities stop checking at build time.  `get_ordered_list_of_bitstrings` contains a `while` loop: its translated definition is
   `Option`-valued (`none` = the declared fuel `num_qubits + 1` ran out); the tie `… = some …` shows that this never happens. -/
import OQ.Lemmas.C04_Lists
import OQ.Props.C04_Translated
namespace OQ.C04
open OQ.Generated OQ.Py OQ.Tr

/-- TRANSLATION TIE: `convert_bitstrings_to_tuples` regenerated from the current Python source applies `bitstring_to_tuple` (already
    tied: the model's `bitstringToTuple`, i.e. the REVERSED digits) to every string, in order – for all lists of digit strings. -/
theorem translated_convert_bitstrings_to_tuples_eq (ss : List (List Nat)) (h : ∀ s ∈ ss, ∀ d ∈ s, d < 10) :
    Translated.convert_bitstrings_to_tuples (ss.map (fun s => s.map digitChar))
      = ss.map (fun s => (bitstringToTuple s).map Int.ofNat) := by
  unfold Translated.convert_bitstrings_to_tuples
  simp only [List.map_map]
  exact List.map_congr_left (fun s hs => translated_bitstring_to_tuple_eq s (h s hs))

/-- TRANSLATION TIE: `convert_tuples_to_bitstrings` regenerated from the current Python source applies `tuple_to_bitstring` (the
    model's `tupleToBitstring`: same order) to every tuple, in order – for tuples whose entries print as one character (< 10;
    multi-digit entries are the known text-format limitation F7). -/
theorem translated_convert_tuples_to_bitstrings_eq (ts : List (List Nat)) (h : ∀ t ∈ ts, ∀ d ∈ t, d < 10) :
    Translated.convert_tuples_to_bitstrings (ts.map (fun t => t.map Int.ofNat))
      = ts.map (fun t => (tupleToBitstring t).map digitChar) := by
  unfold Translated.convert_tuples_to_bitstrings
  simp only [List.map_map]
  exact List.map_congr_left (fun t ht => translated_tuple_to_bitstring_eq t (h t ht))

/-- END-TO-END (`translated_tuple_bitstring_roundtrip` lifted to lists, on the code as it is now): writing measurement tuples as
    bitstrings and reading them back with `convert_bitstrings_to_tuples` REVERSES every tuple (count strings and basis-index strings are
    different conventions; see C04's `counts_key_position` / `tuple_of_index`). -/
theorem translated_convert_roundtrip (ts : List (List Nat)) (h : ∀ t ∈ ts, ∀ d ∈ t, d < 10) :
    Translated.convert_bitstrings_to_tuples (Translated.convert_tuples_to_bitstrings (ts.map (fun t => t.map Int.ofNat)))
      = ts.map (fun t => t.reverse.map Int.ofNat) := by
  rw [translated_convert_tuples_to_bitstrings_eq ts h]
  unfold tupleToBitstring
  rw [translated_convert_bitstrings_to_tuples_eq ts h]
  rfl

/-- TRANSLATION TIE: `get_ordered_list_of_bitstrings` (the `for i in range(2**num_qubits)` loop, `"{0:b}".format(i)`, the inner
    `while len(bitstring) < num_qubits: bitstring = "0" + bitstring`, `append`) regenerated from the current Python source returns, for
    every `num_qubits ≥ 0`, the list of the C04 model's `formatBin num_qubits i` (binary digits of `i` left-padded with zeros to the width)
    for `i = 0 … 2^num_qubits − 1`, in ascending order.  Domain: `num_qubits ≥ 0` (a negative one makes `2**num_qubits` a float and
    `range` raise TypeError in Python; the translator renders `**` for non-negative exponents only). -/
theorem translated_get_ordered_list_of_bitstrings_eq (n : Nat) :
    Translated.get_ordered_list_of_bitstrings (n : Int)
      = some ((List.range (2 ^ n)).map (fun i => (formatBin n i).map digitChar)) := by
  unfold Translated.get_ordered_list_of_bitstrings
  have e1 : Int.toNat ((2 : Int) ^ (Int.toNat (n : Int))) = 2 ^ n := by
    rw [Int.toNat_natCast, Int.toNat_pow_of_nonneg (by decide)]; rfl
  have e2 : Int.toNat ((n : Int) + (1 : Int)) = n + 1 := by omega
  simp only [e1, e2]
  show (foldlOpt (fun (st : List (List Char)) (i : Int) =>
      (whileFuel (padStep n) (n + 1) (formatB i)).bind (fun y => some (st ++ [y]))) [] _).bind _ = _
  rw [foldlOpt_append _ (fun (i : Int) => (formatBin n i.toNat).map digitChar)]
  · simp only [List.nil_append, Option.bind_some, List.map_map]
    congr 1
  · intro x hx
    simp only [List.mem_map, List.mem_range] at hx
    obtain ⟨i, _, rfl⟩ := hx
    rw [whileFuel_pad n (n + 1) _ (by omega), formatB_ofNat]
    simp only [formatBin, List.length_map, List.map_append, List.map_replicate]
    rfl

/-- ON THE TRANSLATED CODE: the ordered list has `2 ^ num_qubits` entries. -/
theorem translated_ordered_list_length (n : Nat) (l : List (List Char))
    (h : Translated.get_ordered_list_of_bitstrings (n : Int) = some l) : l.length = 2 ^ n := by
  rw [translated_get_ordered_list_of_bitstrings_eq] at h
  rw [← Option.some.inj h]; simp

/-- ON THE TRANSLATED CODE, END-TO-END with C04's `bits` / `product01`: for at least one qubit the i-th entry is the `num_qubits`-digit
    binary of `i`, most significant digit first – the list is `itertools.product("01", repeat=n)` in generation order.  (For
    `num_qubits = 0` Python returns `["0"]`, one entry of ONE digit: `formatBin 0 0 = [0]`.) -/
theorem translated_ordered_list_eq_product01 (n : Nat) (hn : 1 ≤ n) :
    Translated.get_ordered_list_of_bitstrings (n : Int) = some ((product01 n).map (fun b => b.map digitChar)) := by
  rw [translated_get_ordered_list_of_bitstrings_eq, product01_eq, List.map_map]
  congr 1
  apply List.map_congr_left
  intro i hi
  simp only [Function.comp, formatBin_eq_bits n i hn (List.mem_range.mp hi)]

/-! non-vacuity -/
example : Translated.convert_bitstrings_to_tuples [['1', '1', '0'], ['0', '1']] = [[0, 1, 1], [1, 0]] := by decide
example : Translated.convert_tuples_to_bitstrings [[0, 1, 1], [1]] = [['0', '1', '1'], ['1']] := by decide
example : Translated.get_ordered_list_of_bitstrings 2 = some [['0', '0'], ['0', '1'], ['1', '0'], ['1', '1']] := by decide
example : Translated.get_ordered_list_of_bitstrings 0 = some [['0']] := by decide
end OQ.C04
