/-
  C15 — LINK THEOREMS: the theorems of OQ/Props/C15.lean composed with those of C09 (operator ↔ matrix),
  C01 (circuit semantics) and C10 (sample statistics).

  OQ/Props/C15.lean states "exact expectation values equal the state's quadratic form with the operator"
  for an ABSTRACT operator-to-matrix map `opMat` and an ABSTRACT simulator `wf`, and the sentences on
  coefficients and basis states (`measured_value_weighted`, `basis_state_value`) with its own re-model of
  `Measurements.get_expectation_values` and its own vocabulary (`sampleMean`, `zEigenvalue`).  Here the parameters are instantiated with the models the other
  properties verify, and the resulting statements are proved without the corresponding assumptions:

    opMat := `sparseOpMat k ofGQ`  – C09's model of `get_sparse_operator` (COO assembly), on the operator
                                      converted by `toPSum`;  its matrix is `specMatrix` = `PSum.denote`
                                      (C09.sparse_eq_denote);
    wf    := `simWf stepSim`        – C01's step-wise application of the circuit's operations to |0…0⟩
                                      (`liftWf`: the same through `Lift.applyAll`; or any simulator built on
                                      the base class, C01.getWavefunction); its state is `specState` =
                                      `circSem · |0…0⟩` (C01.applyAll_eq_circuit_matrix);
    conj  := `star`                 – (`starConj`), the conjugation C09 reasons with;
    shots/terms of C10              – `toShots`, `reTerms`: the same bitstrings as Booleans, the same terms
                                      with the real parts of the coefficients over ℚ.

  Vocabulary (OQ/Lemmas/C15_LinkC09.lean, OQ/Lemmas/C15_LinkC10.lean):
    quadForm A ψ = star ψ ⬝ᵥ A *ᵥ ψ   (⟨ψ|A|ψ⟩, Mathlib matrices indexed by `Fin (2^n)`, qubit 0 = MSB).
-/
import OQ.Props.C15
import OQ.Lemmas.C15_LinkC09
import OQ.Lemmas.C15_LinkC10
set_option linter.unusedSectionVars false
namespace OQ.C15.Link
open OQ OQ.C15 OQ.Pauli Matrix

section exact
variable {R : Type} [CommRing R] [StarRing R] [DecidableEq R]
attribute [local instance] starConj

/-- The width guard of `get_exact_expectation_values` in C15's model (`n < operator.n_qubits` ⇒ `ValueError`)
    is exactly the guard of C09's `get_sparse_operator` on the converted operator: the two models compute
    the same operator width, so the `none` branch of `sparseOpMat` is never read by `exactValue`. -/
theorem sparse_guard_agrees (k : Scal R) (ofGQ : GQ → R) (o : Op) (n : Nat) :
    PSum.nQubits (toPSum ofGQ o) = o.nQubits ∧
    (C09.getSparseOperator k (toPSum ofGQ o) n = none ↔ n < o.nQubits) :=
  ⟨nQubits_toPSum ofGQ o, sparse_guard k ofGQ o n⟩

/-- C15.exact_eq_quadratic_form with `opMat := get_sparse_operator` (C09), simulator still abstract:
    removes the parameter `opMat` – the matrix in the quadratic form is now the tensor-product
    DEFINITION of the operator (`PSum.denote`, C09.sparse_eq_denote), for every operator with distinct
    qubit indices per term, and the call succeeds (no exception) on the stated domain.
    `width`/`state` name what the simulator returns for each circuit. -/
theorem exact_values_sparse_abstract_simulator {C : Type} (k : Scal R) (hi : k.i * k.i = -1)
    (ofGQ : GQ → R) (re : R → R) (wf : C → Except Err (Nat × (Nat → R))) (width : C → Nat)
    (state : (c : C) → Fin (2 ^ width c) → R) (tasks : List (Task C))
    (hwf : ∀ t ∈ tasks, ∃ ψ, wf t.circuit = .ok (width t.circuit, ψ) ∧
      (fun a : Fin (2 ^ width t.circuit) => ψ a) = state t.circuit)
    (hterm : ∀ t ∈ tasks, ∀ term ∈ t.op, term.qubits.Nodup)
    (hwidth : ∀ t ∈ tasks, t.op.nQubits ≤ width t.circuit) :
    exactValues wf (sparseOpMat k ofGQ) re tasks =
      .ok (tasks.map (fun t =>
        [re (quadForm (specMatrix k ofGQ (width t.circuit) t.op) (state t.circuit))])) := by
  unfold exactValues
  apply mapE_ok_of_forall
  intro t ht
  obtain ⟨ψ, hψ, hst⟩ := hwf t ht
  rw [exactValue_of_wf _ _ _ _ _ _ hψ, if_neg (Nat.not_lt.mpr (hwidth t ht)),
    expectation_sparse k hi ofGQ t.op (hterm t ht) _ (hwidth t ht) ψ, hst]

/-- (1) C15.exact_eq_quadratic_form with BOTH parameters instantiated:
    `opMat := get_sparse_operator` (C09) and `wf :=` step-wise application of the circuit's operations to
    |0…0⟩ (C01).  For every list of tasks whose circuits consist of valid operations (gates on distinct
    in-range qubits and full-length phase operations, in any interleaving) and whose operators fit the
    circuit's register, `calculate_exact_expectation_values` succeeds and returns, per task and in task
    order, the single value re ⟨ψ|A|ψ⟩ with ψ = (circuit matrix, C01.circSem) · |0…0⟩ and
    A = the tensor-product definition of the operator (C09 `PSum.denote`).
    Removes: the abstract `opMat` and `wf` of C15.exact_eq_quadratic_form. -/
theorem exact_values_sparse (k : Scal R) (hi : k.i * k.i = -1) (ofGQ : GQ → R) (re : R → R)
    (tasks : List (Task (C01.Circ R)))
    (hcirc : ∀ t ∈ tasks, ∀ op ∈ t.circuit.ops, C01.OperValid t.circuit.n op)
    (hterm : ∀ t ∈ tasks, ∀ term ∈ t.op, term.qubits.Nodup)
    (hwidth : ∀ t ∈ tasks, t.op.nQubits ≤ t.circuit.n) :
    exactValues (simWf stepSim) (sparseOpMat k ofGQ) re tasks =
      .ok (tasks.map (fun t =>
        [re (quadForm (specMatrix k ofGQ t.circuit.n t.op) (specState t.circuit.n t.circuit.ops))])) := by
  apply exact_values_sparse_abstract_simulator k hi ofGQ re (simWf stepSim) (fun c => c.n)
    (fun c => specState c.n c.ops) tasks ?_ hterm hwidth
  intro t ht
  obtain ⟨w, hw, hs⟩ := stepSim_spec t.circuit.n t.circuit.ops (hcirc t ht)
  exact ⟨fun a => w.get a 0, simWf_of_some stepSim _ w hw, hs⟩

/-- (1) for a circuit given as a width and a list of gate operations, simulated through `Lift.applyAll`
    from the zero state (the simulator named in the C04 model): same statement. -/
theorem exact_values_sparse_lift (k : Scal R) (hi : k.i * k.i = -1) (ofGQ : GQ → R) (re : R → R)
    (tasks : List (Task (Nat × List (Lift.Op R))))
    (hcirc : ∀ t ∈ tasks, ∀ o ∈ t.circuit.2, C01.OpValid t.circuit.1 o)
    (hterm : ∀ t ∈ tasks, ∀ term ∈ t.op, term.qubits.Nodup)
    (hwidth : ∀ t ∈ tasks, t.op.nQubits ≤ t.circuit.1) :
    exactValues liftWf (sparseOpMat k ofGQ) re tasks =
      .ok (tasks.map (fun t =>
        [re (quadForm (specMatrix k ofGQ t.circuit.1 t.op)
              (specState t.circuit.1 (t.circuit.2.map C01.Oper.gate)))])) := by
  apply exact_values_sparse_abstract_simulator k hi ofGQ re liftWf (fun c => c.1)
    (fun c => specState c.1 (c.2.map C01.Oper.gate)) tasks ?_ hterm hwidth
  intro t ht
  have hv : ∀ op ∈ t.circuit.2.map C01.Oper.gate, C01.OperValid t.circuit.1 op := by
    intro op hop
    obtain ⟨o, ho, rfl⟩ := List.mem_map.mp hop
    exact hcirc t ht o ho
  obtain ⟨w, hw, hs⟩ := stepSim_spec t.circuit.1 _ hv
  have hl := C01.lift_applyAll_eq t.circuit.2 (fun o ho => ⟨(hcirc t ht o ho).mr, (hcirc t ht o ho).mc⟩)
    (C01.zeroState t.circuit.1)
  exact ⟨fun a => w.get a 0, by simp only [liftWf, liftSim, hl, hw], hs⟩

/-- (1) for EVERY simulator built on `BaseWavefunctionSimulator` (any set of native operations, C01
    sentence (vi)): if its native run acts like applying the operations of the piece and the
    `Wavefunction` constructor accepts the final states, the exact expectation values are the same
    quadratic forms. -/
theorem exact_values_sparse_any_simulator (k : Scal R) (hi : k.i * k.i = -1) (ofGQ : GQ → R) (re : R → R)
    (isNative : C01.Oper R → Bool) (native : C01.Circ R → Mat R → Option (Mat R)) (valid : Mat R → Bool)
    (hnative : ∀ sub st, native sub st = C01.applyAll sub.ops st)
    (tasks : List (Task (C01.Circ R)))
    (hvalid : ∀ t ∈ tasks, ∀ w, stepSim t.circuit = some w → valid w = true)
    (hcirc : ∀ t ∈ tasks, ∀ op ∈ t.circuit.ops, C01.OperValid t.circuit.n op)
    (hterm : ∀ t ∈ tasks, ∀ term ∈ t.op, term.qubits.Nodup)
    (hwidth : ∀ t ∈ tasks, t.op.nQubits ≤ t.circuit.n) :
    exactValues (simWf (fun c => C01.getWavefunction isNative native valid c none)) (sparseOpMat k ofGQ) re tasks =
      .ok (tasks.map (fun t =>
        [re (quadForm (specMatrix k ofGQ t.circuit.n t.op) (specState t.circuit.n t.circuit.ops))])) := by
  apply exact_values_sparse_abstract_simulator k hi ofGQ re _ (fun c => c.n)
    (fun c => specState c.n c.ops) tasks ?_ hterm hwidth
  intro t ht
  obtain ⟨w, hw, hs⟩ := stepSim_spec t.circuit.n t.circuit.ops (hcirc t ht)
  refine ⟨fun a => w.get a 0, simWf_of_some _ _ w ?_, hs⟩
  simp only [C01.getWavefunction_eq_applyAll isNative native valid hnative, Option.getD_none, hw, Option.bind_some,
    hvalid t ht w hw, if_true]

/-- C15's model of `get_exact_expectation_values` and C09's model of `get_expectation_value` are two
    models of the same call chain: on the amplitude list of the simulated state they agree – value for
    value and `ValueError` for `ValueError` – for every operator and every state (no hypothesis on either).
    Hence C09.expectation_quadratic_form / expectation_rejects speak about C15's exact values. -/
theorem exact_value_is_C09_expectation (k : Scal R) (hcj : k.cj = star) (tol : C09.Tol R) (ofGQ : GQ → R)
    (re : R → R) (sim : C01.Circ R → Option (Mat R)) (t : Task (C01.Circ R)) (w : Mat R)
    (hsim : sim t.circuit = some w) :
    exactValue (simWf sim) (sparseOpMat k ofGQ) re t =
      match C09.getExpectationValue k tol (toPSum ofGQ t.op) (amps t.circuit.n w) false with
      | none => .error .value
      | some v => .ok (re v) := by
  rw [exactValue_of_wf _ _ _ _ _ _ (simWf_of_some sim _ w hsim)]
  unfold C09.getExpectationValue
  simp only [amps_length, Nat.log2_two_pow, Bool.false_eq_true, if_false]
  by_cases hn : t.circuit.n < t.op.nQubits
  · rw [if_pos hn, (sparse_guard k ofGQ t.op t.circuit.n).2 hn]
  · rw [if_neg hn]
    cases hM : C09.getSparseOperator k (toPSum ofGQ t.op) t.circuit.n with
    | none => exact absurd ((sparse_guard k ofGQ t.op t.circuit.n).1 hM) hn
    | some M =>
      simp only
      rw [expectation_eq_C09 k hcj M t.circuit.n w]
      congr 3
      funext a b
      simp only [sparseOpMat, hM]

/-- C15.exact_basis_ising is stated for C15's own entry-by-entry matrix `opMatrix` and only CLAIMS that
    this is "the matrix `get_sparse_operator` denotes".  Closed here: on every register width, for every
    operator (X, Y, Z, gaps, repeated indices – no hypothesis), `opMatrix` is C09's tensor-product
    definition `PSum.denote` of the converted operator. -/
theorem opMatrix_is_denote (k : Scal R) (ofGQ : GQ → R) (o : Op) (n : Nat) :
    Matrix.of (fun (a b : Fin (2 ^ n)) => opMatrix k.i ofGQ o n a b) = specMatrix k ofGQ n o := by
  funext a b
  simp only [Matrix.of_apply, specMatrix, Mat.toM]
  rw [(C09.denote_spec k n (toPSum ofGQ o)).2.2 a b a.2 b.2, opMatrix_eq_dEntry]

/-- … and therefore equals what C09's model of `get_sparse_operator` assembles (COO triplets), whenever
    that call is accepted. -/
theorem opMatrix_is_sparse (k : Scal R) (hi : k.i * k.i = -1) (ofGQ : GQ → R) (o : Op)
    (hterm : ∀ term ∈ o, term.qubits.Nodup) (n : Nat) (hn : o.nQubits ≤ n) (a b : Nat)
    (ha : a < 2 ^ n) (hb : b < 2 ^ n) :
    sparseOpMat k ofGQ o n a b = opMatrix k.i ofGQ o n a b := by
  have h1 := sparseOpMat_get k hi ofGQ o hterm n hn ⟨a, ha⟩ ⟨b, hb⟩
  have h2 := congrFun (congrFun (opMatrix_is_denote k ofGQ o n) ⟨a, ha⟩) ⟨b, hb⟩
  simp only [Matrix.of_apply] at h2
  rw [h1, ← h2]

/-- C15.exact_basis_ising with `opMat := get_sparse_operator` (C09) instead of C15's private `opMatrix`:
    on the computational basis state of index `x` the exact value of an Ising operator is
    re Σ_terms coefficient × eigenvalue at the bits of `x`. -/
theorem exact_basis_ising_sparse {C : Type} (k : Scal R) (hi : k.i * k.i = -1) (ofGQ : GQ → R) (re : R → R)
    (wf : C → Except Err (Nat × (Nat → R)))
    (t : Task C) (n x : Nat) (hx : x < 2 ^ n)
    (hwf : wf t.circuit = .ok (n, fun j => if j = x then 1 else 0))
    (hI : t.op.isIsing = true) (hnd : ∀ term ∈ t.op, term.qubits.Nodup)
    (hw : ∀ term ∈ t.op, ∀ q ∈ term.qubits, q < n) :
    exactValue wf (sparseOpMat k ofGQ) re t =
      .ok (re ((t.op.map (fun term => ofGQ term.coeff * ((zEigenvalue term.qubits (bitsOf n x) : Int) : R))).sum)) := by
  rw [← exact_basis_ising (K := R) (star_one R) (star_zero R) wf k.i ofGQ re t n x hx hwf hI hnd hw]
  exact exactValue_congr wf wf _ _ re t n _ _ hwf hwf
    (opMatrix_is_sparse k hi ofGQ t.op hnd n ((nQubits_le_iff _ _).mpr hw)) (fun _ _ => rfl)

/-- the same with the simulator of C01: when the circuit's matrix sends |0…0⟩ to the basis state of index
    `x` (a statement about `C01.circSem` only), the exact value computed through C01's step-wise
    simulation and C09's `get_sparse_operator` is re Σ coefficient × eigenvalue.
    Removes `hwf` of C15.exact_basis_ising in favour of the circuit's SPEC. -/
theorem exact_basis_ising_circuit (k : Scal R) (hi : k.i * k.i = -1) (ofGQ : GQ → R) (re : R → R)
    (t : Task (C01.Circ R)) (x : Nat) (hx : x < 2 ^ t.circuit.n)
    (hcirc : ∀ op ∈ t.circuit.ops, C01.OperValid t.circuit.n op)
    (hprep : specState t.circuit.n t.circuit.ops = fun a => if a.val = x then 1 else 0)
    (hI : t.op.isIsing = true) (hnd : ∀ term ∈ t.op, term.qubits.Nodup)
    (hw : ∀ term ∈ t.op, ∀ q ∈ term.qubits, q < t.circuit.n) :
    exactValue (simWf stepSim) (sparseOpMat k ofGQ) re t =
      .ok (re ((t.op.map (fun term => ofGQ term.coeff *
        ((zEigenvalue term.qubits (bitsOf t.circuit.n x) : Int) : R))).sum)) := by
  obtain ⟨w, hwm, hs⟩ := stepSim_spec t.circuit.n t.circuit.ops hcirc
  rw [hprep] at hs
  rw [← exact_basis_ising_sparse k hi ofGQ re
    (fun _ : C01.Circ R => (.ok (t.circuit.n, fun j => if j = x then 1 else 0) : Except Err (Nat × (Nat → R))))
    t t.circuit.n x hx rfl hI hnd hw]
  -- the simulated amplitudes agree with the indicator on the range the expectation reads
  exact exactValue_congr _ _ _ _ re t t.circuit.n (fun a => w.get a 0) _ (simWf_of_some stepSim _ w hwm) rfl
    (fun _ _ _ _ => rfl) (fun a ha => congrFun hs ⟨a, ha⟩)

/-- C15.basis_state_value with "prepares the basis state `b`" discharged by C01: the runner law is taken
    with `supp := ampSupp` (bitstrings of the basis indices of non-zero amplitude in C01's step-wise
    simulation).  When the circuit's matrix (C01.circSem) sends |0…0⟩ to the basis state of index `x`,
    every value of the task's result is Re(coefficient) × eigenvalue of the term's Z-string at the bits
    of `x`, for every positive shot count.
    Removes `supp`, `b`, `hprep`, `hbits` of C15.basis_state_value in favour of the circuit's SPEC. -/
theorem basis_state_value_circuit (rb : List (C01.Circ R) → List (Option Int) → Except Err (List Shots))
    (hlaw : RunnerLaw rb ampSupp)
    (tasks : List (Task (C01.Circ R))) (r : List (Option Vals)) (h : estimateByAveraging rb tasks = .ok r)
    (i : Nat) (hi : i < tasks.length) (hc : tasks[i].op.isConstant = false)
    (n : Int) (hn : 0 < n) (hshots : tasks[i].shots = some n)
    (hcirc : ∀ op ∈ tasks[i].circuit.ops, C01.OperValid tasks[i].circuit.n op) (x : Nat)
    (hprep : specState tasks[i].circuit.n tasks[i].circuit.ops = fun a => if a.val = x then 1 else 0)
    (hwidth : ∀ t ∈ tasks[i].op, ∀ q ∈ t.qubits, q < tasks[i].circuit.n) :
    r[i]? = some (some (tasks[i].op.map (fun t =>
      (⟨t.coeff.re * (zEigenvalue t.qubits (bitsOf tasks[i].circuit.n x) : Int), 0⟩ : GQ)))) :=
  basis_state_value rb ampSupp hlaw tasks r h i hi hc n hn hshots (bitsOf tasks[i].circuit.n x)
    (fun s hs => ampSupp_basis tasks[i].circuit hcirc x hprep s hs)
    (fun q => bitsOf_getD_le_one _ x q)
    (by rw [bitsOf_length]; exact hwidth)

/-- the hypothesis `RunnerLaw rb ampSupp` is satisfiable: the batch validation of `BaseCircuitRunner`
    around a sampler that returns copies of the first outcome of non-zero amplitude obeys it. -/
theorem runner_law_ampSupp_satisfiable :
    RunnerLaw (baseRunBatch (firstOutcomeRun (R := R))) ampSupp := by
  apply baseRunBatch_law_of
  intro k c n s h x hx
  unfold firstOutcomeRun at h
  split at h
  · cases h
  · rename_i w hw
    split at h
    · cases h
    · rename_i a hf
      cases h
      exact ⟨w, a, hw, List.mem_range.mp (List.mem_of_find?_eq_some hf), List.eq_of_mem_replicate hx,
        by simpa using List.find?_some hf⟩

end exact

/-- C15 re-models `Measurements.get_expectation_values` inline (`getExpectationValues`, `expFromFreq`);
    C10 verifies its own model of the same method.  On the same shots (non-empty, one width, bits 0/1)
    and the same operator (qubits inside the width, distinct per term) the two agree: WHATEVER C10's
    model reports (`= .ok ev`, with or without Bessel's correction), C15's measured value is `ev.values` –
    so the per-term value of C15 IS C10's "coefficient × sample mean of the ±1 eigenvalue"
    (C10.value_eq_mean), and C15's vocabulary `sampleMean` is C10's `meanZ`. -/
theorem measured_value_via_C10 (op : Op) (s0 : Bits) (rest : Shots) (w : Nat) (bessel : Bool)
    (hl : ∀ s ∈ s0 :: rest, s.length = w) (hb : ∀ s ∈ s0 :: rest, ∀ x ∈ s, x ≤ 1)
    (hq : ∀ t ∈ op, ∀ q ∈ t.qubits, q < w) (hn : ∀ t ∈ op, t.qubits.Nodup)
    (ev : C10.ExpectationValues Rat)
    (h : C10.getExpectationValues (toShots (s0 :: rest)) (reTerms op) bessel = .ok ev) :
    measuredValue op (s0 :: rest) = .ok (ev.values.map GQ.ofRat) ∧
    ev.values = op.map (fun t => t.coeff.re * C10.meanZ t.qubits (toShots (s0 :: rest))) ∧
    ∀ t ∈ op, sampleMean t.qubits (s0 :: rest) = C10.meanZ t.qubits (toShots (s0 :: rest)) := by
  have hI : op.isIsing = true := by
    by_contra hc
    rw [(C10.non_ising_rejected (toShots (s0 :: rest)) (reTerms op) bessel (by rwa [reTerms_isIsing])).1] at h
    cases h
  have hvals := C10.value_eq_mean (toShots (s0 :: rest)) (reTerms op) bessel w ev (List.cons_ne_nil _ _)
    (toShots_length _ w hl) ((forall_reTerms_qubits op fun qs => ∀ q ∈ qs, q < w).mpr hq)
    ((forall_reTerms_qubits op List.Nodup).mpr hn) h
  have hvals' : ev.values = op.map (fun t => t.coeff.re * C10.meanZ t.qubits (toShots (s0 :: rest))) := by
    rw [hvals, reTerms, List.map_map]
    apply List.map_congr_left
    intro t _
    simp only [Function.comp, reTerm_qubits]
    rfl
  refine ⟨?_, hvals', fun t _ => sampleMean_eq_meanZ t.qubits (s0 :: rest) hb⟩
  rw [measuredValue_eq op s0 rest hI (by rw [hl s0 List.mem_cons_self]; exact hq), hvals', List.map_map]
  congr 1
  apply List.map_congr_left
  intro t _
  simp only [Function.comp, GQ.ofRat, sampleMean_eq_meanZ t.qubits (s0 :: rest) hb]

/-- … and on a positive width both models DO report (no exception), the same values. -/
theorem measured_value_reported_via_C10 (op : Op) (s0 : Bits) (rest : Shots) (w : Nat) (bessel : Bool)
    (hw : 0 < w) (hl : ∀ s ∈ s0 :: rest, s.length = w) (hb : ∀ s ∈ s0 :: rest, ∀ x ∈ s, x ≤ 1)
    (hI : op.isIsing = true) (hq : ∀ t ∈ op, ∀ q ∈ t.qubits, q < w) (hn : ∀ t ∈ op, t.qubits.Nodup) :
    ∃ ev, C10.getExpectationValues (toShots (s0 :: rest)) (reTerms op) bessel = .ok ev ∧
      measuredValue op (s0 :: rest) = .ok (ev.values.map GQ.ofRat) := by
  have h := C10.expectation_values_reported_partial (R := Rat) (toShots (s0 :: rest)) (reTerms op) bessel w
    (List.cons_ne_nil _ _) hw (toShots_length _ w hl) (List.all_eq_true.mp (by rwa [reTerms_isIsing]))
    ((forall_reTerms_qubits op fun qs => ∀ q ∈ qs, q < w).mpr hq) ((forall_reTerms_qubits op List.Nodup).mpr hn)
  exact ⟨_, h, (measured_value_via_C10 op s0 rest w bessel hl hb hq hn _ h).1⟩

/-- C15.measured_value_weighted read through C10: inside `estimate_expectation_values_by_averaging`,
    the result of a measured task is what C10's model of `get_expectation_values` reports on the shots
    the runner returned for this task's circuit. -/
theorem estimate_value_via_C10 {C : Type} (rb : List C → List (Option Int) → Except Err (List Shots))
    (hlaw : ∀ cs ns meas, rb cs ns = .ok meas → meas.length = cs.length)
    (tasks : List (Task C)) (r : List (Option Vals)) (h : estimateByAveraging rb tasks = .ok r)
    (i : Nat) (hi : i < tasks.length) (hm : notMeasured tasks[i] = false) :
    ∃ meas s0 rest, rb (submittedCircuits tasks) (submittedShots tasks) = .ok meas ∧
      meas.getD (rank tasks i) [] = s0 :: rest ∧
      ∀ (w : Nat) (bessel : Bool) (ev : C10.ExpectationValues Rat),
        (∀ s ∈ s0 :: rest, s.length = w) → (∀ s ∈ s0 :: rest, ∀ x ∈ s, x ≤ 1) →
        (∀ t ∈ tasks[i].op, ∀ q ∈ t.qubits, q < w) → (∀ t ∈ tasks[i].op, t.qubits.Nodup) →
        C10.getExpectationValues (toShots (s0 :: rest)) (reTerms tasks[i].op) bessel = .ok ev →
        r[i]? = some (some (ev.values.map GQ.ofRat)) := by
  obtain ⟨meas, s0, rest, v, hrb, hs, hv, he⟩ := measured_entry rb tasks hlaw r h i hi hm
  refine ⟨meas, s0, rest, hrb, hs, fun w bessel ev hl hb hq hn hev => ?_⟩
  rw [(measured_value_via_C10 tasks[i].op s0 rest w bessel hl hb hq hn ev hev).1] at he
  cases he
  exact hv

/-- (2) C15.basis_state_value through C10: when the circuit of a measured task prepares the basis state
    `b`, C10's model of `get_expectation_values`, run on the shots the runner returned for it, REPORTS
    (no exception, any positive shot count, with or without Bessel's correction) the values
    Re(coefficient) × eigenvalue of the term's Z-string at `b`, and the result of
    `estimate_expectation_values_by_averaging` for that task is exactly C10's report. -/
theorem basis_state_value_via_C10 {C : Type} (rb : List C → List (Option Int) → Except Err (List Shots))
    (supp : C → Bits → Prop) (hlaw : RunnerLaw rb supp)
    (tasks : List (Task C)) (r : List (Option Vals)) (h : estimateByAveraging rb tasks = .ok r)
    (i : Nat) (hi : i < tasks.length) (hc : tasks[i].op.isConstant = false)
    (n : Int) (hn : 0 < n) (hshots : tasks[i].shots = some n)
    (b : Bits) (hprep : ∀ s, supp tasks[i].circuit s → s = b)
    (hbits : ∀ x ∈ b, x ≤ 1) (hwidth : ∀ t ∈ tasks[i].op, ∀ q ∈ t.qubits, q < b.length)
    (hnd : ∀ t ∈ tasks[i].op, t.qubits.Nodup) (bessel : Bool) :
    ∃ meas ev, rb (submittedCircuits tasks) (submittedShots tasks) = .ok meas ∧
      C10.getExpectationValues (toShots (meas.getD (rank tasks i) [])) (reTerms tasks[i].op) bessel = .ok ev ∧
      ev.values = tasks[i].op.map (fun t => t.coeff.re * ((zEigenvalue t.qubits b : Int) : Rat)) ∧
      r[i]? = some (some (ev.values.map GQ.ofRat)) := by
  have hm := notMeasured_of_pos_shots tasks[i] n hc hn hshots
  obtain ⟨meas, s0, rest, v, hrb, hs, hv, he⟩ := measured_entry rb tasks hlaw.onePer r h i hi hm
  have hall := shots_eq_of_prepares rb tasks supp hlaw meas hrb i hi hm b hprep
  rw [hs] at hall
  have hl : ∀ s ∈ s0 :: rest, s.length = b.length := fun s hsm => by rw [hall s hsm]
  have hb : ∀ s ∈ s0 :: rest, ∀ x ∈ s, x ≤ 1 := fun s hsm => by rw [hall s hsm]; exact hbits
  -- a measured (non-constant) operator has a qubit, so the width is positive
  obtain ⟨t, ht, q, hq⟩ := exists_qubit_of_not_constant _ hc
  have hpos : 0 < b.length := Nat.zero_lt_of_lt (hwidth t ht q hq)
  obtain ⟨ev, hev, hmv⟩ := measured_value_reported_via_C10 tasks[i].op s0 rest b.length bessel hpos hl hb
    (isIsing_of_measuredValue_ok _ _ _ he) hwidth hnd
  obtain ⟨_, hvals, hmean⟩ := measured_value_via_C10 tasks[i].op s0 rest b.length bessel hl hb hwidth hnd ev hev
  refine ⟨meas, ev, hrb, by rw [hs]; exact hev, ?_, by rw [hv, Except.ok.inj (he.symm.trans hmv)]⟩
  rw [hvals]
  apply List.map_congr_left
  intro t ht
  rw [← hmean t ht, sampleMean_basis t.qubits b (s0 :: rest) (List.cons_ne_nil _ _) hall,
    paritySign_eq _ _ (fun q _ => getD_le_one b hbits q)]

/-! ### non-vacuity: concrete inputs meeting the hypotheses; the values are computed by the composed models -/

section examples
attribute [local instance] starConj

/-- integer Gaussian coefficients embedded in ℤ[i] (the ring of C09's examples, `C09.kG`) -/
def gqInt (c : GQ) : GaussianInt := ⟨c.re.num, c.im.num⟩
def exX : Mat GaussianInt := Mat.ofLists [[0, 1], [1, 0]]
/-- X on qubit 1 of a 2-qubit register: prepares |01⟩ (index 1) -/
def exCirc : C01.Circ GaussianInt := ⟨2, [.gate ⟨exX, [1]⟩]⟩
/-- 2·Z0 + 3·Z0Z1 + 4 (ops stored in descending order in the second term) -/
def exOp : Op := [⟨⟨2, 0⟩, [(0, .Z)]⟩, ⟨⟨3, 0⟩, [(1, .Z), (0, .Z)]⟩, ⟨⟨4, 0⟩, []⟩]
/-- a non-Ising operator with a Y and a gap: X0·Y2 on 3 qubits, coefficient 1+2i -/
def exOpXY : Op := [⟨⟨1, 2⟩, [(2, .Y), (0, .X)]⟩, ⟨⟨-3, 0⟩, []⟩]
def exTask : Task (C01.Circ GaussianInt) := ⟨exOp, exCirc, none⟩

example : ∀ t ∈ [exTask], ∀ op ∈ t.circuit.ops, C01.OperValid t.circuit.n op :=
  List.forall_mem_singleton.mpr (List.forall_mem_singleton.mpr ⟨by decide, by decide, by decide, rfl, rfl⟩)
example : (∀ term ∈ exOp, term.qubits.Nodup) ∧ exOp.nQubits ≤ exCirc.n ∧ exOp.isIsing = true := by decide
/-- the theorems instantiated at the concrete input; the bundled `SymbolicSimulator` of C01 (everything
    native, native run = step-wise application, constructor checks passing) meets `hnative` / `hvalid` -/
example := exact_values_sparse C09.kG (by decide) gqInt id [exTask]
  (List.forall_mem_singleton.mpr (List.forall_mem_singleton.mpr ⟨by decide, by decide, by decide, rfl, rfl⟩))
  (by decide) (by decide)
example := exact_values_sparse_any_simulator C09.kG (by decide) gqInt id (fun _ => true)
  (fun sub st => C01.applyAll sub.ops st) (fun _ => true) (fun _ _ => rfl) [exTask] (fun _ _ _ _ => rfl)
  (List.forall_mem_singleton.mpr (List.forall_mem_singleton.mpr ⟨by decide, by decide, by decide, rfl, rfl⟩))
  (by decide) (by decide)
example : C09.kG.i * C09.kG.i = -1 ∧ C09.kG.cj = star := ⟨by decide, rfl⟩

/-- the composed models, EXECUTED on an operator with a complex coefficient, a constant and a Y
    (one Pauli per term: `List.mergeSort` of longer key lists does not reduce in the kernel):
    C01's step-wise simulation, C09's COO assembly, C15's estimator give
    2·(+1) + (3+i)·(−1) + 4 + 5·⟨01|Y1|01⟩ = 3 − i on |01⟩ -/
def exOp1 : Op := [⟨⟨2, 0⟩, [(0, .Z)]⟩, ⟨⟨3, 1⟩, [(1, .Z)]⟩, ⟨⟨4, 0⟩, []⟩, ⟨⟨5, 0⟩, [(1, .Y)]⟩]
example : exactValues (simWf stepSim) (sparseOpMat C09.kG gqInt) id [⟨exOp1, exCirc, none⟩] = .ok [[⟨3, -1⟩]] := by
  decide +kernel
/-- the same simulator through `Lift.applyAll`, empty circuit on 3 qubits: ⟨000|(1+2i)·X0 − 3|000⟩ = −3 -/
example : exactValues liftWf (sparseOpMat C09.kG gqInt) id
    [(⟨[⟨⟨1, 2⟩, [(0, .X)]⟩, ⟨⟨-3, 0⟩, []⟩], (3, []), none⟩ : Task (Nat × List (Lift.Op GaussianInt)))]
      = .ok [[⟨-3, 0⟩]] := by
  decide +kernel
/-- the guard: an operator wider than the register is a `ValueError` in the composed model too -/
example : exactValues (simWf stepSim) (sparseOpMat C09.kG gqInt) id
    [(⟨exOpXY, exCirc, none⟩ : Task (C01.Circ GaussianInt))] = .error .value := by
  decide +kernel

/-- the hypothesis `hprep` of `exact_basis_ising_circuit` / `basis_state_value_circuit` holds for
    `exCirc`: its circuit matrix sends |00⟩ to |01⟩ (index 1) -/
theorem exCirc_prepares_01 : specState exCirc.n exCirc.ops = fun a => if a.val = 1 then 1 else 0 := by
  obtain ⟨w, hw, hs⟩ := stepSim_spec exCirc.n exCirc.ops
    (List.forall_mem_singleton.mpr ⟨by decide, by decide, by decide, rfl, rfl⟩)
  have hc : ∀ a : Fin (2 ^ exCirc.n), (C01.applyAll exCirc.ops (C01.zeroState exCirc.n)).map (fun w => w.get a 0)
      = some (if a.val = 1 then (1 : GaussianInt) else 0) := by decide +kernel
  rw [← hs]
  funext a
  have := hc a
  rw [hw] at this
  exact Option.some.inj this

/-- `exact_basis_ising_circuit` instantiated at the concrete task (every hypothesis discharged), with a
    two-qubit term stored in descending order: 2·(+1) + 3·(−1) + 4 = 3 -/
example : exactValue (simWf stepSim) (sparseOpMat C09.kG gqInt) id exTask = .ok ⟨3, 0⟩ := by
  rw [exact_basis_ising_circuit C09.kG (by decide) gqInt id exTask 1 (by decide)
    (List.forall_mem_singleton.mpr ⟨by decide, by decide, by decide, rfl, rfl⟩)
    exCirc_prepares_01 (by decide) (by decide) (by decide)]
  decide +kernel
example : bitsOf 2 1 = [0, 1] ∧ zEigenvalue [0] [0, 1] = 1 ∧ zEigenvalue [1, 0] [0, 1] = -1 := by decide

/-- estimation by averaging with the runner of `runner_law_ampSupp_satisfiable` on the same circuit, 5 shots
    (hypotheses of `basis_state_value_circuit` / `basis_state_value_via_C10` met: `exCirc_prepares_01`) -/
example : estimateByAveraging (baseRunBatch firstOutcomeRun) [(⟨exOp, exCirc, some 5⟩ : Task (C01.Circ GaussianInt))]
    = .ok [some [⟨2, 0⟩, ⟨-3, 0⟩, ⟨4, 0⟩]] := by decide +kernel
example : (match C10.getExpectationValues (toShots (List.replicate 5 [0, 1])) (reTerms exOp) true with
    | .ok e => e.values | .error _ => []) = [2, -3, 4] := by decide +kernel

/-- C10 side: four shots on two qubits, an operator with a complex coefficient and a constant term -/
def exShots : Shots := [[0, 1], [1, 1], [0, 1], [1, 0]]
def exOp10 : Op := [⟨⟨2, 0⟩, [(0, .Z)]⟩, ⟨⟨1 / 2, 1⟩, [(0, .Z), (1, .Z)]⟩, ⟨⟨3, 0⟩, []⟩]

example : (∀ s ∈ exShots, s.length = 2) ∧ (∀ s ∈ exShots, ∀ x ∈ s, x ≤ 1) ∧
    (∀ t ∈ exOp10, ∀ q ∈ t.qubits, q < 2) ∧ (∀ t ∈ exOp10, t.qubits.Nodup) ∧ exOp10.isIsing = true := by decide
example : measuredValue exOp10 exShots = .ok [⟨0, 0⟩, ⟨-1 / 4, 0⟩, ⟨3, 0⟩] := by decide +kernel
example : (match C10.getExpectationValues (toShots exShots) (reTerms exOp10) false with
    | .ok e => e.values | .error _ => []) = [0, -1 / 4, 3] := by decide +kernel
example := measured_value_reported_via_C10 exOp10 [0, 1] [[1, 1], [0, 1], [1, 0]] 2 true (by decide) (by decide)
  (by decide) (by decide) (by decide) (by decide)

/-- negative witness for `hw : 0 < w`: on zero-width shots the two models of
    `get_expectation_values` DIFFER in the exception (C10: `ValueError` from `reshape(-1, 0)`, the
    behaviour of the real code and a known finding of C10; C15's inline model: `IndexError`), and on a
    constant-only operator C15's inline model even reports the coefficient. -/
example : measuredValue [⟨⟨3, 0⟩, []⟩, ⟨⟨1, 0⟩, [(0, .Z)]⟩] [[], []] = .error .index ∧
    (match C10.getExpectationValues (R := Rat) (toShots [[], []]) (reTerms [⟨⟨3, 0⟩, []⟩, ⟨⟨1, 0⟩, [(0, .Z)]⟩]) false with
      | .ok _ => none | .error e => some e) = some C10.Err.value ∧
    measuredValue [⟨⟨3, 0⟩, []⟩] [[], []] = .ok [⟨3, 0⟩] := by decide +kernel

end examples

end OQ.C15.Link
