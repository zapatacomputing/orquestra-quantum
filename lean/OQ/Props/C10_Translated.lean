/- C10 — PROPERTY THEOREMS (translation ties): `parities.check_parity` (tuple form and count-string form).
   The definitions `OQ.Generated.Translated.*` are REGENERATED from /repo's current Python source on every run
   (harness/translate.py → OQ/Generated/TranslatedC10.lean); an edit of the Python function changes the definition and
   these equalities stop checking at build time. -/
import OQ.Generated.TranslatedC10
import OQ.Lemmas.Translated
namespace OQ.C10
open OQ.Generated OQ.Py OQ.Tr

/-- TRANSLATION TIE / PARITY: `check_parity(bitstring, marked)` regenerated from the current Python source is `True` exactly when
    an EVEN number of the marked positions hold a 1 (for every tuple and every list of marked positions, repeats included). -/
theorem translated_check_parity_tuple_eq (bits marked : List Int) :
    Translated.check_parity_tuple bits marked = ((oddCount bits marked) % 2 == 0) :=
  (parity_fold bits marked true).trans (Bool.true_beq _)

/-- the count-string form and the tuple form of `check_parity` agree on the same outcome -/
theorem translated_check_parity_str_eq_tuple (t : List Nat) (h : ∀ d ∈ t, d < 10) (marked : List Int) :
    Translated.check_parity_str (t.map digitChar) marked = Translated.check_parity_tuple (t.map Int.ofNat) marked := by
  unfold Translated.check_parity_str Translated.check_parity_tuple
  simp only [getD_char_int t h, Bool.or_false, Bool.false_or]

/-! non-vacuity -/
example : Translated.check_parity_tuple [1, 0, 1] [0, 2] = true := by decide
example : Translated.check_parity_tuple [1, 0, 1] [0, 1] = false := by decide
example : Translated.check_parity_str ['1', '0', '1'] [0, 1] = false := by decide
end OQ.C10
