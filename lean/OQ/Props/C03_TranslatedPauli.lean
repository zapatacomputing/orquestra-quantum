/- C03 — PROPERTY THEOREMS (translation ties): the CLASSES `PauliTerm` / `PauliSum` of `operators/_pauli_operators.py`.
   `OQ.Generated.TranslatedPauli.*` is REGENERATED from /repo's current source on every run (harness/translate_t7.py →
   OQ/Generated/TranslatedC03.lean): one Lean definition per method and per KIND of its polymorphic argument (number / term / sum / the
   union), objects as values (`PTerm R` = the attributes `__init__` assigns, `PSum R` = `terms`), every `raise` as `Except.error`,
   the module constants OPERATOR_MAP / COEFF_MAP / ALLOWED_OPERATORS with their CURRENT values.
   Externals (record `Ext R`): `np.isclose`, `np.allclose`, true division of numbers, `==` of two numbers, the iteration order of a
   `set` of ints.
   The theorems below state, for ALL model terms / sums / coefficients over any commutative ring, that the regenerated definition run on
   the object state of a model value (`ofTerm`, `ofSum`: same dict order, letters as strs) never raises and returns the object state of
   what the hand-written model `OQ/Model/C03.lean` computes – with the model's parameters read off the externals
   (`negl c := x.isclose c 0`, `recip y := x.truediv 1 y`, iteration order `x.set_iter (keys u.ops)`).
   DOMAIN: object states whose `_ops` is a dict (distinct keys: `OpsWF`) without "I" values – what `PauliTerm.__init__` establishes;
   qubit indices are typed ℕ (the guard `qubit_idx >= 0` of `__init__` is constantly true there); operand kinds other than
   number / term / sum (TypeError of `_validate_type`) and non-int exponents are outside the translation. -/
import OQ.Props.C03
import OQ.Lemmas.C03_TranslatedPauli
namespace OQ.C03
open OQ.Pauli OQ.Py OQ.Generated Matrix

set_option linter.unusedSectionVars false
set_option linter.unusedSimpArgs false
set_option linter.unusedVariables false

variable {R : Type} [CommRing R]

/-- TRANSLATION TIE `PauliTerm.__init__(dict, coefficient)`: on the dict of a model term (distinct keys, no "I") nothing is
    raised and the object holds exactly that dict and coefficient; a missing coefficient is 1. -/
theorem translated_term_init_eq (k : Scal R) (x : TranslatedPauli.Ext R) (ops : List (Nat × P)) (c : Option R) (w : OpsWF ops) :
    TranslatedPauli.term_init k x (up ops) c = .ok (ofTerm ⟨ops, c.getD 1⟩) := by
  cases c with
  | some c => exact term_init_up k x ops c w
  | none => exact term_init_up k x ops 1 w  -- `coefficient=None` is read as 1 by the same `match`

/-- `__init__` drops "I" entries and rejects nothing else on ℕ keys: `PauliTerm({0: "I"}, c)` is the constant term. -/
example : TranslatedPauli.term_init (R := Int) ⟨0, 0, 0, 0, id⟩ ⟨fun _ _ => false, fun _ _ => false, fun _ _ => none, fun a b => a == b, id⟩
    [(0, none), (2, some P.X)] (some 5) = .ok ⟨[(2, some P.X)], 5⟩ := rfl

/-- TRANSLATION TIE `PauliTerm("I0", c)` (the str literal constant-folded through the CURRENT parser) and `PauliTerm.identity()`:
    the model's `constTerm c` / `identityTerm`. -/
theorem translated_term_init_lit_I0_eq (k : Scal R) (x : TranslatedPauli.Ext R) (c : R) :
    TranslatedPauli.term_init_lit_I0 k x (some c) = .ok (ofTerm (constTerm c)) ∧
    TranslatedPauli.term_identity k x = .ok (ofTerm (identityTerm (R := R))) :=
  ⟨rfl, rfl⟩

/-- TRANSLATION TIE `PauliTerm._multiply_by_operator(op, index)` = the model's `mulByOp` (all three cases: new qubit, equal letters
    cancel, OPERATOR_MAP / COEFF_MAP lookup), for every term whose `_ops` is a dict and every letter X / Y / Z; nothing is raised. -/
theorem translated_multiply_by_operator_eq (k : Scal R) (x : TranslatedPauli.Ext R) (t : Term R) (op : P) (idx : Nat)
    (wt : OpsWF t.ops) :
    TranslatedPauli.term_multiply_by_operator k x (ofTerm t) (some op) idx = .ok (ofTerm (mulByOp k t op idx)) := by
  -- every branch ends in `PauliTerm(result_ops, result_coeff)`, which raises nothing on the dict of the model's result
  refine Eq.trans ?_ (term_init_up k x _ _ (mulByOp_wf k t op idx wt))
  unfold TranslatedPauli.term_multiply_by_operator
  simp only [ofTerm_ops, ofTerm_coeff, dictHas_up, dictGetE_up, TranslatedPauli.term_getitem, dictGetD_up]
  cases hl : lookup t.ops idx with
  | none => simp only [Option.isSome_none, Bool.not_false, if_true, dictSet_up_new _ _ _ hl]
  | some a =>
    have hs : (lookup t.ops idx).isSome := by rw [hl]; rfl
    simp only [Option.isSome_some, Bool.not_true, Bool.false_eq_true, if_false, bind_ok]
    by_cases ha : a = op
    · subst ha
      simp only [beq_self_eq_true, if_true, dictDelE_up _ _ hs, bind_ok]
    · have hne : ((some a : TranslatedPauli.Letter) == some op) = false := by simp [ha]
      have hc : [(some P.X : TranslatedPauli.Letter), some P.Y, some P.Z].contains (some op) = true := by cases op <;> rfl
      simp only [hne, ha, hc, if_false, if_true, Bool.false_eq_true, opmap_lookup a op ha, coeffmap_lookup k a op ha, bind_ok,
        dictSet_up_old _ _ _ wt hs]

/-- the "I" letter: on an unused qubit `_multiply_by_operator("I", i)` returns the term itself (`__init__` drops the entry); on a used
    one it raises ValueError (a stored letter is never "I", so the letters differ and "I" is not in the table) -/
example : TranslatedPauli.term_multiply_by_operator (R := Int) ⟨0, 0, 0, 0, id⟩ ⟨fun _ _ => false, fun _ _ => false, fun _ _ => none, fun a b => a == b, id⟩
    ⟨[(1, some P.Z)], 3⟩ none 1 = .error .value := rfl
example : TranslatedPauli.term_multiply_by_operator (R := Int) ⟨0, 0, 0, 0, id⟩ ⟨fun _ _ => false, fun _ _ => false, fun _ _ => none, fun a b => a == b, id⟩
    ⟨[(1, some P.Z)], 3⟩ (some P.Z) 1 = .ok ⟨[], 3⟩ := rfl

/-- the loop of `PauliTerm.__mul__` never raises and is the model's fold -/
theorem translated_mul_loop (k : Scal R) (x : TranslatedPauli.Ext R) (u : Term R) (order : List Nat) (r : Term R) (wr : OpsWF r.ops) :
    foldlE (fun (st : TranslatedPauli.PTerm R) (p0 : TranslatedPauli.Letter × Nat) =>
        if (!(p0.1 == (none : TranslatedPauli.Letter))) then
          Except.bind (TranslatedPauli.term_multiply_by_operator k x st p0.1 p0.2) (fun t => Except.ok t)
        else Except.ok st) (ofTerm r) (order.map (fun i => (lookup u.ops i, i)))
      = .ok (ofTerm (order.foldl (mulStep k u) r)) ∧ OpsWF (order.foldl (mulStep k u) r).ops := by
  refine foldlE_emb _ ofTerm _ (mulStep k u) (fun r => OpsWF r.ops) order (fun r q _ wr => ?_) r wr
  dsimp only [mulStep]
  cases lookup u.ops q with
  | none => exact ⟨rfl, wr⟩
  | some op =>
    rw [show ((some op : TranslatedPauli.Letter) == none) = false from rfl, translated_multiply_by_operator_eq k x r op q wr]
    exact ⟨rfl, mulByOp_wf k r op q wr⟩

/-- TRANSLATION TIE `PauliTerm.__mul__(PauliTerm)` = the model's `mulTermOrd` with the iteration order CPython uses for the set of the
    right factor's qubits (`x.set_iter` applied to the distinct keys in dict order – ANY function: no law is needed for the tie);
    nothing is raised.  Left factor: any term whose `_ops` is a dict. -/
theorem translated_term_mul_term_eq (k : Scal R) (x : TranslatedPauli.Ext R) (t u : Term R) (wt : OpsWF t.ops) :
    TranslatedPauli.term_mul_term k x (ofTerm t) (ofTerm u) = .ok (ofTerm (mulTermOrd k (x.set_iter (keys u.ops)) t u)) := by
  unfold TranslatedPauli.term_mul_term
  rw [term_copy_some k x t 1 wt]
  simp only [bind_ok]
  have hit : TranslatedPauli.term_iter k x (ofTerm u) = (x.set_iter (keys u.ops)).map (fun i => (lookup u.ops i, i)) := by
    unfold TranslatedPauli.term_iter TranslatedPauli.term_qubits TranslatedPauli.term_getitem
    simp only [ofTerm_ops, setOfList_keys, dictGetD_up]
  rw [hit]
  obtain ⟨h1, h2⟩ := translated_mul_loop k x u (x.set_iter (keys u.ops)) ⟨t.ops, 1⟩ wt
  rw [mulTermOrd_eq]
  -- the generated loop body is the one of `translated_mul_loop` (let-bindings unfolded)
  show Except.bind (foldlE _ _ _) _ = _
  erw [h1]
  simp only [bind_ok, ofTerm_coeff]
  exact term_copy_some k x _ _ h2

/-- TRANSLATION TIE `PauliTerm.__mul__(number)`, `__rmul__`, `__truediv__` = the model's `scaleTerm` (`1.0 / other` through the
    external division: ZeroDivisionError exactly when it is undefined).  The `__truediv__` clause assumes `ZeroDivLaw x`
    (Lemmas/C03_TranslatedPauli.lean: what `==` calls equal to 0 has no quotient `1.0 / c`): the zero guard
    `if isinstance(other, Number) and other == 0: raise ZeroDivisionError` of the repaired source then raises nothing new
    (`truediv_guard`). -/
theorem translated_term_mul_num_eq (k : Scal R) (x : TranslatedPauli.Ext R) (t : Term R) (c : R) (wt : OpsWF t.ops) :
    TranslatedPauli.term_mul_num k x (ofTerm t) c = .ok (ofTerm (scaleTerm t c)) ∧
    TranslatedPauli.term_rmul_num k x (ofTerm t) c = .ok (ofTerm (scaleTerm t c)) ∧
    (ZeroDivLaw x → TranslatedPauli.term_truediv_num k x (ofTerm t) c =
      (match recipOf x c with | some r => .ok (ofTerm (scaleTerm t r)) | none => .error .zeroDiv)) := by
  have h1 : ∀ c, TranslatedPauli.term_mul_num k x (ofTerm t) c = .ok (ofTerm (scaleTerm t c)) := by
    intro c
    unfold TranslatedPauli.term_mul_num
    exact term_copy_some k x t _ wt
  refine ⟨h1 c, ?_, ?_⟩
  · unfold TranslatedPauli.term_rmul_num
    rw [h1]; rfl
  · intro hz
    unfold TranslatedPauli.term_truediv_num
    exact truediv_guard x hz c _ (fun r => ofTerm (scaleTerm t r)) fun r => by rw [h1]; rfl

/-- the model's term product with the iteration order the translated code uses -/
def mulTermX (k : Scal R) (x : TranslatedPauli.Ext R) (t u : Term R) : Term R := mulTermOrd k (x.set_iter (keys u.ops)) t u

theorem effExp_zero {α : Type} (mul : α → α → α) (one x : α) : effExp mul one x 0 = one := by
  rw [effExp, dif_pos rfl]

theorem effExp_odd {α : Type} (mul : α → α → α) (one x : α) (p : Nat) (h : p % 2 = 1) :
    effExp mul one x p = mul x (effExp mul one x (p - 1)) := by
  rw [effExp, dif_neg (by omega), if_pos h]

theorem effExp_even {α : Type} (mul : α → α → α) (one x : α) (p : Nat) (h0 : p ≠ 0) (h : ¬ p % 2 = 1) :
    effExp mul one x p = mul (effExp mul one x (p / 2)) (effExp mul one x (p / 2)) := by
  rw [effExp, dif_neg h0, if_neg h]

/-- TRANSLATION TIE `_efficient_exponentiation(PauliTerm, power)` (recursion on the int exponent, rendered with explicit fuel;
    exhaustion = RecursionError): for every exponent `p ≥ 0` ANY fuel `≥ p + 1` is sufficient, nothing is raised, and the result is
    the model's square-and-multiply `effExp` over the term product. -/
theorem translated_efficient_exponentiation_term_fuel (k : Scal R) (x : TranslatedPauli.Ext R) (t : Term R) (wt : OpsWF t.ops)
    (p : Nat) : ∀ fuel : Nat, p + 1 ≤ fuel →
    TranslatedPauli.efficient_exponentiation_term_fuel k x fuel (ofTerm t) (p : Int)
      = .ok (ofTerm (effExp (mulTermX k x) identityTerm t p)) ∧ OpsWF (effExp (mulTermX k x) identityTerm t p).ops :=
  fuelExp_tie (TranslatedPauli.efficient_exponentiation_term_fuel k x) (TranslatedPauli.term_identity k x)
    (TranslatedPauli.term_mul_term k x) (fun _ _ _ => rfl) ofTerm (fun t => OpsWF t.ops) identityTerm (mulTermX k x)
    ⟨rfl, constTerm_wf 1⟩ (fun a b wa => ⟨translated_term_mul_term_eq k x a b wa, mulTermOrd_wf k _ a b wa⟩) t wt p

/-- TRANSLATION TIE `PauliTerm.__pow__(power)` for every int: ValueError for a negative exponent, otherwise the model's `powV`-shape
    result `effExp` (the declared fuel `power + 1` is sufficient: no RecursionError for any exponent). -/
theorem translated_term_pow_eq (k : Scal R) (x : TranslatedPauli.Ext R) (t : Term R) (wt : OpsWF t.ops) (p : Int) :
    TranslatedPauli.term_pow k x (ofTerm t) p =
      if p < 0 then .error .value else .ok (ofTerm (effExp (mulTermX k x) identityTerm t p.toNat)) := by
  unfold TranslatedPauli.term_pow
  by_cases hp : p < 0
  · simp [hp]
  · obtain ⟨m, rfl⟩ := Int.eq_ofNat_of_zero_le (Int.not_lt.mp hp)
    simp only [hp, decide_false, Bool.not_true, Bool.or_self, Bool.false_eq_true, if_false, term_copy_none k x t wt, bind_ok,
      TranslatedPauli.efficient_exponentiation_term, Int.toNat_natCast]
    exact (translated_efficient_exponentiation_term_fuel k x t wt m (m + 1) (le_refl _)).1

/-- with the dict order as iteration order (`set_iter = id`, what the model driver runs) the translated power IS the model's `powV` -/
theorem translated_term_pow_powV (k : Scal R) (x : TranslatedPauli.Ext R) (hid : ∀ l, x.set_iter l = l) (t : Term R)
    (wt : OpsWF t.ops) (p : Int) :
    (TranslatedPauli.term_pow k x (ofTerm t) p).map TranslatedPauli.PVal.term
      = (match powV k (neglOf x) (.term t) p with | .ok v => .ok (ofVal v) | .error _ => .error .value) := by
  rw [translated_term_pow_eq k x t wt p]
  have : mulTermX k x = mulTerm k := mulTermOrd_iter_id k x.set_iter hid
  rw [this]
  unfold powV
  by_cases hp : p < 0 <;> simp [hp, Except.map, ofVal]

/-- the law of the external `set_iter` used by the end-to-end theorems: CPython yields every element of a set exactly once -/
def SetIterLaw (x : TranslatedPauli.Ext R) : Prop := ∀ l : List Nat, l.Nodup → (x.set_iter l).Nodup ∧ ∀ q, q ∈ l → q ∈ x.set_iter l

/-- END-TO-END (`denote_multiply_by_operator` on the translated `_multiply_by_operator`): the object the regenerated method returns
    denotes the matrix product with the single-letter operator. -/
theorem translated_multiply_by_operator_denote (k : Scal R) (x : TranslatedPauli.Ext R) (hi : k.i * k.i = -1) (n : Nat) (t : Term R)
    (op : P) (idx : Nat) (hidx : idx < n) (wt : OpsWF t.ops) :
    ∃ r : Term R, TranslatedPauli.term_multiply_by_operator k x (ofTerm t) (some op) idx = .ok (ofTerm r) ∧
      MT k n r = MT k n t * MT k n ⟨[(idx, op)], 1⟩ :=
  ⟨_, translated_multiply_by_operator_eq k x t op idx wt, denote_multiply_by_operator k hi n t op idx hidx⟩

/-- END-TO-END (`denote_mul_term` on the translated `PauliTerm.__mul__`): for every order in which CPython may iterate the set of
    the right factor's qubits, the regenerated method returns (never raises) an object that denotes the matrix product. -/
theorem translated_term_mul_term_denote (k : Scal R) (x : TranslatedPauli.Ext R) (hset : SetIterLaw x) (hi : k.i * k.i = -1) (n : Nat)
    (t u : Term R) (hu : TermFits n u) (wt : OpsWF t.ops) :
    ∃ r : Term R, TranslatedPauli.term_mul_term k x (ofTerm t) (ofTerm u) = .ok (ofTerm r) ∧ MT k n r = MT k n t * MT k n u := by
  refine ⟨_, translated_term_mul_term_eq k x t u wt, ?_⟩
  obtain ⟨hnd, hmem⟩ := hset (keys u.ops) (keys_spec u.ops).1
  refine denote_mul_term k hi n t u _ hu hnd fun q hq => ?_
  obtain ⟨a, ha⟩ := Option.isSome_iff_exists.mp (show (lookup u.ops q).isSome from hq)
  exact hmem q (((keys_spec u.ops).2 q).mpr ⟨(q, a), lookup_mem ha, rfl⟩)

/-- every term of the sum has a dict as `_ops` -/
def SumWF (s : PSum R) : Prop := ∀ t ∈ s, OpsWF t.ops

/-- TRANSLATION TIE `PauliSum.simplify()` = the model's `simplify` with `negl c := np.isclose(c, 0.0)`: the OrderedDict grouping by
    `operations` (frozenset equality = `opsEq`), the single-term branch, the summed branch and the cut-off; neither `term_list[0]`
    (IndexError) nor the constructors ever raise.  For every sum whose terms' `_ops` are dicts. -/
theorem translated_simplify_eq (k : Scal R) (x : TranslatedPauli.Ext R) (s : PSum R) (hs : SumWF s) :
    TranslatedPauli.sum_simplify k x (ofSum s) = .ok (ofSum (simplify (neglOf x) s)) := by
  have e : TranslatedPauli.sum_simplify k x (ofSum s) = Except.bind (foldlE (likeStep k x) (ofGroups []) (ofSum s)) (fun st =>
      Except.bind (foldlE (emitStep k x) [] (dictValues st)) (fun st2 => TranslatedPauli.sum_init k x st2)) := rfl
  rw [e, likeLoop_eq]
  simp only [bind_ok]
  rw [emitLoop_eq k x (s.foldl insertGroup []) (likeTerms_first s hs)]
  simp only [bind_ok, List.nil_append]
  rw [sum_init_ok]
  rfl

/-- non-vacuity: `2·Z0 + 3·Z0 + 0·X1` simplifies to `5·Z0` (isclose := equality with the second argument on ℤ) -/
example : TranslatedPauli.sum_simplify (R := Int) ⟨0, 0, 0, 0, id⟩ ⟨fun a b => a == b, fun a b => a == b, fun _ _ => none, fun a b => a == b, id⟩
    [⟨[(0, some P.Z)], 2⟩, ⟨[(0, some P.Z)], 3⟩, ⟨[(1, some P.X)], 0⟩] = .ok [⟨[(0, some P.Z)], 5⟩] := rfl

theorem mapE_map {α β γ : Type} (f : β → Except Exc4 γ) (h : α → β) (l : List α) : mapE f (l.map h) = mapE (fun a => f (h a)) l :=
  OQ.Py.mapE_map f h l

/-- the model's list of term products / product of sums with the iteration order the translated code uses -/
def productTermsX (k : Scal R) (x : TranslatedPauli.Ext R) (s1 s2 : PSum R) : PSum R :=
  s1.flatMap (fun l => s2.map (fun r => mulTermX k x l r))
def mulSX (k : Scal R) (x : TranslatedPauli.Ext R) (s1 s2 : PSum R) : PSum R := simplify (neglOf x) (productTermsX k x s1 s2)

theorem productTermsX_wf (k : Scal R) (x : TranslatedPauli.Ext R) (s1 s2 : PSum R) (h1 : SumWF s1) : SumWF (productTermsX k x s1 s2) := by
  intro t ht
  simp only [productTermsX, List.mem_flatMap, List.mem_map] at ht
  obtain ⟨l, hl, r, _, rfl⟩ := ht
  exact mulTermOrd_wf k _ l r (h1 l hl)

theorem mulSX_wf (k : Scal R) (x : TranslatedPauli.Ext R) (s1 s2 : PSum R) (h1 : SumWF s1) : SumWF (mulSX k x s1 s2) :=
  simplify_wf _ _ (productTermsX_wf k x s1 s2 h1)

/-- TRANSLATION TIE `PauliSum.__mul__(PauliSum)` = cartesian product of the term lists (`itertools.product`), term products, then
    `simplify` – the model's `mulS` with the translated code's iteration order; nothing is raised. -/
theorem translated_sum_mul_sum_eq (k : Scal R) (x : TranslatedPauli.Ext R) (s1 s2 : PSum R) (h1 : SumWF s1) :
    TranslatedPauli.sum_mul_sum k x (ofSum s1) (ofSum s2) = .ok (ofSum (mulSX k x s1 s2)) := by
  simp only [TranslatedPauli.sum_mul_sum]
  have hp : (ofSum s1).flatMap (fun (pa : TranslatedPauli.PTerm R) => (ofSum s2).map (fun (pb : TranslatedPauli.PTerm R) => (pa, pb)))
      = (s1.flatMap (fun a => s2.map (fun b => (a, b)))).map (fun p => (ofTerm p.1, ofTerm p.2)) := by
    simp only [ofSum, List.flatMap_map, List.map_flatMap, List.map_map, Function.comp_def]
  have hl : (s1.flatMap (fun a => s2.map (fun b => (a, b)))).map (fun p => ofTerm (mulTermX k x p.1 p.2))
      = ofSum (productTermsX k x s1 s2) := by
    simp only [ofSum, productTermsX, List.map_flatMap, List.map_map, Function.comp_def]
  rw [hp, mapE_map, mapE_ok_on _ (fun p => ofTerm (mulTermX k x p.1 p.2)), bind_ok, sum_init_ok, bind_ok, hl]
  · exact translated_simplify_eq k x _ (productTermsX_wf k x s1 s2 h1)
  · intro p hp'
    simp only [List.mem_flatMap, List.mem_map] at hp'
    obtain ⟨a, ha, b, _, rfl⟩ := hp'
    exact translated_term_mul_term_eq k x a b (h1 a ha)

/-- with the dict order as iteration order the translated product of sums IS the model's `mulS` -/
theorem mulSX_eq_mulS (k : Scal R) (x : TranslatedPauli.Ext R) (hid : ∀ l, x.set_iter l = l) (s1 s2 : PSum R) :
    mulSX k x s1 s2 = mulS k (neglOf x) s1 s2 := by
  have : mulTermX k x = mulTerm k := mulTermOrd_iter_id k x.set_iter hid
  simp only [mulSX, mulS, productTermsX, productTerms, this]

/-- TRANSLATION TIE `PauliSum.__add__(PauliSum)` = the model's `addS` (copies of all terms, then `simplify`). -/
theorem translated_sum_add_sum_eq (k : Scal R) (x : TranslatedPauli.Ext R) (s1 s2 : PSum R) (h1 : SumWF s1) (h2 : SumWF s2) :
    TranslatedPauli.sum_add_sum k x (ofSum s1) (ofSum s2) = .ok (ofSum (addS (neglOf x) s1 s2)) := by
  unfold TranslatedPauli.sum_add_sum
  have hw : SumWF (s1 ++ s2) := fun t ht => (List.mem_append.mp ht).elim (h1 t) (h2 t)
  have hl : ofSum s1 ++ ofSum s2 = (s1 ++ s2).map ofTerm := by simp [ofSum]
  rw [hl, mapE_map, mapE_ok_on _ ofTerm _ fun t ht => term_copy_none k x t (hw t ht), bind_ok, sum_init_ok, bind_ok]
  exact translated_simplify_eq k x _ hw

/-- TRANSLATION TIE `PauliSum.__rmul__(number)` = the model's `rmulS`. -/
theorem translated_sum_rmul_num_eq (k : Scal R) (x : TranslatedPauli.Ext R) (s : PSum R) (c : R) (hs : SumWF s) :
    TranslatedPauli.sum_rmul_num k x (ofSum s) c = .ok (ofSum (rmulS (neglOf x) s c)) := by
  simp only [TranslatedPauli.sum_rmul_num, ofSum]
  rw [mapE_map, mapE_ok_on _ (fun t => ofTerm (scaleTerm t c)) _ fun t ht => by
    rw [term_copy_none k x t (hs t ht), bind_ok, (translated_term_mul_num_eq k x t c (hs t ht)).1],
    bind_ok, sum_init_ok, bind_ok, show s.map (fun t => ofTerm (scaleTerm t c)) = ofSum (s.map fun t => scaleTerm t c) by simp [ofSum]]
  exact translated_simplify_eq k x _ (List.forall_mem_map.mpr hs)

/-- TRANSLATION TIE `_efficient_exponentiation(PauliSum, power)`: any fuel `≥ p + 1` is sufficient; square-and-multiply over the
    product of sums, starting from `PauliSum.identity()`. -/
theorem translated_efficient_exponentiation_sum_fuel (k : Scal R) (x : TranslatedPauli.Ext R) (s : PSum R) (ws : SumWF s)
    (p : Nat) : ∀ fuel : Nat, p + 1 ≤ fuel →
    TranslatedPauli.efficient_exponentiation_sum_fuel k x fuel (ofSum s) (p : Int)
      = .ok (ofSum (effExp (mulSX k x) [identityTerm] s p)) ∧ SumWF (effExp (mulSX k x) [identityTerm] s p) :=
  fuelExp_tie (TranslatedPauli.efficient_exponentiation_sum_fuel k x) (TranslatedPauli.sum_identity k x)
    (TranslatedPauli.sum_mul_sum k x) (fun _ _ _ => rfl) ofSum SumWF [identityTerm] (mulSX k x)
    ⟨rfl, fun t ht => List.mem_singleton.mp ht ▸ constTerm_wf 1⟩
    (fun a b wa => ⟨translated_sum_mul_sum_eq k x a b wa, mulSX_wf k x a b wa⟩) s ws p

/-- TRANSLATION TIE `PauliSum.__pow__(power)` for every int: ValueError for a negative exponent, otherwise `effExp`. -/
theorem translated_sum_pow_eq (k : Scal R) (x : TranslatedPauli.Ext R) (s : PSum R) (ws : SumWF s) (p : Int) :
    TranslatedPauli.sum_pow k x (ofSum s) p =
      if p < 0 then .error .value else .ok (ofSum (effExp (mulSX k x) [identityTerm] s p.toNat)) := by
  unfold TranslatedPauli.sum_pow
  by_cases hp : p < 0
  · simp [hp]
  · obtain ⟨m, rfl⟩ := Int.eq_ofNat_of_zero_le (Int.not_lt.mp hp)
    simp only [hp, decide_false, Bool.not_true, Bool.or_self, Bool.false_eq_true, if_false,
      TranslatedPauli.efficient_exponentiation_sum, Int.toNat_natCast]
    exact (translated_efficient_exponentiation_sum_fuel k x s ws m (m + 1) (le_refl _)).1

/-- END-TO-END (`denote_simplify` on the translated `PauliSum.simplify`): what the regenerated method returns differs from the input,
    as a matrix, exactly by merged terms whose coefficient `np.isclose` called negligible. -/
theorem translated_simplify_denote (k : Scal R) (x : TranslatedPauli.Ext R) (n : Nat) (s : PSum R) (hs : SumWF s) :
    ∃ r : PSum R, TranslatedPauli.sum_simplify k x (ofSum s) = .ok (ofSum r) ∧
      MS k n s = MS k n r + MS k n (dropped (neglOf x) s) ∧ ∀ d ∈ dropped (neglOf x) s, x.isclose d.coeff 0 = true :=
  ⟨_, translated_simplify_eq k x s hs, denote_simplify k n (neglOf x) s⟩

/-- END-TO-END (`denote_pow` on the translated `PauliTerm.__pow__` / `PauliSum.__pow__`, dict order as iteration order, exact
    cut-off): for EVERY exponent `p ≥ 0` the regenerated method returns (no RecursionError, no other exception) an object that
    denotes the matrix power. -/
theorem translated_pow_denote (k : Scal R) (x : TranslatedPauli.Ext R) (hid : ∀ l, x.set_iter l = l)
    (hex : ∀ c, x.isclose c 0 = true → c = 0) (hi : k.i * k.i = -1) (n : Nat) (p : Nat) :
    (∀ t : Term R, TermFits n t → OpsWF t.ops →
      ∃ r : Term R, TranslatedPauli.term_pow k x (ofTerm t) (p : Int) = .ok (ofTerm r) ∧ MT k n r = MT k n t ^ p) ∧
    (∀ s : PSum R, SumFits n s → SumWF s →
      ∃ r : PSum R, TranslatedPauli.sum_pow k x (ofSum s) (p : Int) = .ok (ofSum r) ∧ MS k n r = MS k n s ^ p) := by
  have hX : mulTermX k x = mulTerm k := mulTermOrd_iter_id k x.set_iter hid
  have hS : mulSX k x = mulS k (neglOf x) := funext fun a => funext (mulSX_eq_mulS k x hid a)
  have hp : ¬ ((p : Int) < 0) := by omega
  obtain ⟨ht, hs⟩ := effExp_den k hi n (neglOf x) hex p
  constructor
  · intro t ht' wt
    refine ⟨effExp (mulTerm k) identityTerm t p, ?_, ?_⟩
    · rw [translated_term_pow_eq k x t wt, hX, if_neg hp, Int.toNat_natCast]
    · simp only [MT, toM_denote_term]
      exact (ht t ht').1
  · intro s hs' ws
    refine ⟨effExp (mulS k (neglOf x)) [identityTerm] s p, ?_, ?_⟩
    · rw [translated_sum_pow_eq k x s ws, hS, if_neg hp, Int.toNat_natCast]
    · simp only [MS, toM_denote_sum]
      exact (hs s hs').1

theorem ebind_assoc {α β γ : Type} (m : Except Exc4 α) (f : α → Except Exc4 β) (g : β → Except Exc4 γ) :
    Except.bind (Except.bind m f) g = Except.bind m (fun a => Except.bind (f a) g) := by
  cases m <;> rfl

/-- TRANSLATION TIE `PauliTerm.__mul__(other)` with the run-time dispatch on the kind of `other` (`isinstance` chain: PauliSum →
    `(PauliSum([self]) * other).simplify()`, PauliTerm → the loop, number → `copy`): with the dict order as iteration order it is
    the model's `mulV (.term t)` for every value; nothing is raised. -/
theorem translated_term_mul_val_eq (k : Scal R) (x : TranslatedPauli.Ext R) (hid : ∀ l, x.set_iter l = l) (t : Term R)
    (wt : OpsWF t.ops) (v r : Val R) (h : mulV k (neglOf x) (.term t) v = .ok r) :
    TranslatedPauli.term_mul_val k x (ofTerm t) (ofVal v) = .ok (ofVal r) := by
  have hX : mulTermX k x = mulTerm k := mulTermOrd_iter_id k x.set_iter hid
  cases v with
  | num c =>
    cases h
    simp only [TranslatedPauli.term_mul_val, ofVal, ofTerm_coeff]
    rw [term_copy_some k x t _ wt]; rfl
  | term u =>
    cases h
    have e : TranslatedPauli.term_mul_val k x (ofTerm t) (.term (ofTerm u)) =
        Except.bind (TranslatedPauli.term_mul_term k x (ofTerm t) (ofTerm u)) (fun r => .ok (.term r)) := by
      unfold TranslatedPauli.term_mul_val TranslatedPauli.term_mul_term
      simp only [ebind_assoc]
    simp only [ofVal]
    rw [e, translated_term_mul_term_eq k x t u wt, ← hX]
    rfl
  | sum s =>
    cases h
    have w1 : SumWF [t] := fun _ h => List.mem_singleton.mp h ▸ wt
    simp only [TranslatedPauli.term_mul_val, ofVal]
    rw [sum_init_ok, bind_ok, show [ofTerm t] = ofSum [t] from rfl, translated_sum_mul_sum_eq k x [t] s w1, bind_ok,
      translated_simplify_eq k x _ (mulSX_wf k x [t] s w1), mulSX_eq_mulS k x hid]
    rfl

/-- TRANSLATION TIE `PauliTerm.__add__(PauliTerm)` / `__add__(number)` / `__radd__`: `PauliSum([self, other]).simplify()` with a
    number as the constant term `PauliTerm("I0", other)` – the model's `addV` branches. -/
theorem translated_term_add_eq (k : Scal R) (x : TranslatedPauli.Ext R) (t u : Term R) (c : R) (wt : OpsWF t.ops) (wu : OpsWF u.ops) :
    TranslatedPauli.term_add_term k x (ofTerm t) (ofTerm u) = .ok (ofSum (simplify (neglOf x) [t, u])) ∧
    TranslatedPauli.term_add_num k x (ofTerm t) c = .ok (ofSum (simplify (neglOf x) [t, constTerm c])) ∧
    TranslatedPauli.term_radd_num k x (ofTerm t) c = .ok (ofSum (simplify (neglOf x) [t, constTerm c])) := by
  have h : ∀ u : Term R, OpsWF u.ops →
      TranslatedPauli.term_add_term k x (ofTerm t) (ofTerm u) = .ok (ofSum (simplify (neglOf x) [t, u])) := by
    intro u wu
    unfold TranslatedPauli.term_add_term
    rw [sum_init_ok, bind_ok]
    exact translated_simplify_eq k x [t, u] (List.forall_mem_cons.mpr ⟨wt, List.forall_mem_cons.mpr ⟨wu, nofun⟩⟩)
  have hc : TranslatedPauli.term_add_num k x (ofTerm t) c = .ok (ofSum (simplify (neglOf x) [t, constTerm c])) := by
    unfold TranslatedPauli.term_add_num
    rw [(translated_term_init_lit_I0_eq k x c).1, bind_ok]
    exact h _ (constTerm_wf c)
  exact ⟨h u wu, hc, hc⟩  -- `__radd__` is rendered with the body of `__add__(number)`

/-- TRANSLATION TIE `PauliTerm.__eq__(PauliTerm)` = the model's `eqTerm` with `close := np.allclose` (coefficients close, and both
    negligible or equal `operations` as frozensets), and `__eq__(number)` through `PauliTerm("I0", other)`. -/
theorem translated_term_eq_eq (k : Scal R) (x : TranslatedPauli.Ext R) (t u : Term R) (c : R) :
    TranslatedPauli.term_eq_term k x (ofTerm t) (ofTerm u) = eqTerm x.allclose t u ∧
    TranslatedPauli.term_eq_num k x (ofTerm t) c = .ok (eqTerm x.allclose t (constTerm c)) := by
  have h : ∀ u : Term R, TranslatedPauli.term_eq_term k x (ofTerm t) (ofTerm u) = eqTerm x.allclose t u := by
    intro u
    simp only [TranslatedPauli.term_eq_term, TranslatedPauli.term_operations, dictItems, ofTerm_ops, ofTerm_coeff, frozenItemsEq_up,
      eqTerm]
  refine ⟨h u, ?_⟩
  unfold TranslatedPauli.term_eq_num
  rw [(translated_term_init_lit_I0_eq k x c).1]
  simp only [bind_ok, h]

/-- TRANSLATION TIE `is_constant` (term: `_ops == {}`; sum: no terms, or all terms constant) and `PauliSum.__len__`. -/
theorem translated_is_constant_eq (k : Scal R) (x : TranslatedPauli.Ext R) (t : Term R) (s : PSum R) :
    TranslatedPauli.term_is_constant k x (ofTerm t) = t.ops.isEmpty ∧
    TranslatedPauli.sum_is_constant k x (ofSum s) = (s.isEmpty || s.all (fun t => t.ops.isEmpty)) ∧
    TranslatedPauli.sum_len k x (ofSum s) = (s.length : Int) := by
  have h : ∀ t : Term R, TranslatedPauli.term_is_constant k x (ofTerm t) = t.ops.isEmpty := fun t => List.isEmpty_map
  refine ⟨h t, ?_, congrArg Nat.cast (List.length_map _)⟩
  simp only [TranslatedPauli.sum_is_constant, ofSum, List.length_map, List.all_map, List.map_map, Function.comp_def, h]
  cases s <;> rfl

theorem foldl_max_le (l : List Nat) (a b : Nat) : l.foldl max a ≤ b ↔ a ≤ b ∧ ∀ q ∈ l, q ≤ b :=
  OQ.foldl_max_le_iff l a b

theorem foldl_max_succ_le (ops : List (Nat × P)) (a b : Nat) :
    ops.foldl (fun acc p => max acc (p.1 + 1)) a ≤ b ↔ a ≤ b ∧ ∀ p ∈ ops, p.1 + 1 ≤ b :=
  foldl_max_map_le (·.1 + 1) ops a b

theorem foldl_max_mem (l : List Nat) (a : Nat) : l.foldl max a ∈ a :: l :=
  OQ.foldl_max_mem l a

/-- TRANSLATION TIE `PauliTerm.n_qubits` (`0 if self.is_constant else max(self.qubits) + 1`; `max` of the SET of qubits does not
    depend on the iteration order) = the model's `Term.nQubits`; the `max` of an empty set (ValueError) is never reached. -/
theorem translated_term_n_qubits_eq (k : Scal R) (x : TranslatedPauli.Ext R) (t : Term R) :
    TranslatedPauli.term_n_qubits k x (ofTerm t) = .ok t.nQubits := by
  have hk : ∀ q, q ∈ TranslatedPauli.term_qubits k x (ofTerm t) ↔ ∃ p ∈ t.ops, p.1 = q := by
    unfold TranslatedPauli.term_qubits
    rw [ofTerm_ops, setOfList_keys]
    exact (keys_spec t.ops).2
  refine nQubits_tie _ _ _ ?_ fun m => ?_
  · rw [(translated_is_constant_eq k x t []).1, List.isEmpty_iff, List.eq_nil_iff_forall_not_mem]
    exact ⟨fun h q hq => by obtain ⟨p, hp, _⟩ := (hk q).mp hq; exact h p hp, fun h p hp => h p.1 ((hk p.1).mpr ⟨p, hp, rfl⟩)⟩
  · rw [Term.nQubits, foldl_max_succ_le]
    exact ⟨fun h q hq => by obtain ⟨p, hp, rfl⟩ := (hk q).mp hq; exact h.2 p hp,
      fun h => ⟨Nat.zero_le _, fun p hp => h p.1 ((hk p.1).mpr ⟨p, hp, rfl⟩)⟩⟩

/-- TRANSLATION TIE `PauliSum.__add__(PauliTerm)` / `__add__(number)` / `__radd__(number)` / `PauliTerm.__add__(PauliSum)`: the other
    operand wrapped into a one-term sum (a number as `PauliTerm("I0", other)`), then as for two sums – the model's `addV` branches
    `addS s [t]`, `addS s [constTerm c]`. -/
theorem translated_sum_add_eq (k : Scal R) (x : TranslatedPauli.Ext R) (s : PSum R) (t : Term R) (c : R) (hs : SumWF s)
    (wt : OpsWF t.ops) :
    TranslatedPauli.sum_add_term k x (ofSum s) (ofTerm t) = .ok (ofSum (addS (neglOf x) s [t])) ∧
    TranslatedPauli.term_add_sum k x (ofTerm t) (ofSum s) = .ok (ofSum (addS (neglOf x) s [t])) ∧
    TranslatedPauli.sum_add_num k x (ofSum s) c = .ok (ofSum (addS (neglOf x) s [constTerm c])) ∧
    TranslatedPauli.sum_radd_num k x (ofSum s) c = .ok (ofSum (addS (neglOf x) s [constTerm c])) := by
  have w1 : ∀ t : Term R, OpsWF t.ops → SumWF [t] := fun t wt _ h => List.mem_singleton.mp h ▸ wt
  have h1 : TranslatedPauli.sum_add_term k x (ofSum s) (ofTerm t) = .ok (ofSum (addS (neglOf x) s [t])) := by
    unfold TranslatedPauli.sum_add_term
    rw [sum_init_ok, bind_ok]
    exact translated_sum_add_sum_eq k x s [t] hs (w1 t wt)
  have h2 : TranslatedPauli.sum_add_num k x (ofSum s) c = .ok (ofSum (addS (neglOf x) s [constTerm c])) := by
    unfold TranslatedPauli.sum_add_num
    rw [(translated_term_init_lit_I0_eq k x c).1, bind_ok, sum_init_ok, bind_ok]
    exact translated_sum_add_sum_eq k x s [constTerm c] hs (w1 _ (constTerm_wf c))
  exact ⟨h1, h1, h2, h2⟩  -- `PauliTerm.__add__(PauliSum)` is `other + self`, `__radd__` is `__add__`

/-- TRANSLATION TIE `PauliSum.__mul__(PauliTerm)` / `__mul__(number)` (`other_terms = [PauliTerm.identity() * other]`),
    `PauliTerm.__mul__(PauliSum)` (`(PauliSum([self]) * other).simplify()`) and `PauliSum.__truediv__(number)`: the model's `mulV`
    branches with the translated code's iteration order.  The `__truediv__` clause assumes `ZeroDivLaw x` as in
    `translated_term_mul_num_eq` (zero guard of the repaired source). -/
theorem translated_sum_mul_other_eq (k : Scal R) (x : TranslatedPauli.Ext R) (s : PSum R) (t : Term R) (c : R) (hs : SumWF s)
    (wt : OpsWF t.ops) :
    TranslatedPauli.sum_mul_term k x (ofSum s) (ofTerm t) = .ok (ofSum (mulSX k x s [mulTermX k x identityTerm t])) ∧
    TranslatedPauli.sum_mul_num k x (ofSum s) c = .ok (ofSum (mulSX k x s [scaleTerm identityTerm c])) ∧
    TranslatedPauli.term_mul_sum k x (ofTerm t) (ofSum s) = .ok (ofSum (simplify (neglOf x) (mulSX k x [t] s))) ∧
    (ZeroDivLaw x → TranslatedPauli.sum_truediv_num k x (ofSum s) c =
      (match recipOf x c with | some r => .ok (ofSum (mulSX k x s [scaleTerm identityTerm r])) | none => .error .zeroDiv)) := by
  have hid := (translated_term_init_lit_I0_eq k x (1 : R)).2
  have hnum : ∀ c : R, TranslatedPauli.sum_mul_num k x (ofSum s) c = .ok (ofSum (mulSX k x s [scaleTerm identityTerm c])) := by
    intro c
    unfold TranslatedPauli.sum_mul_num
    rw [hid, bind_ok, (translated_term_mul_num_eq k x identityTerm c (constTerm_wf 1)).1, bind_ok]
    exact translated_sum_mul_sum_eq k x s [scaleTerm identityTerm c] hs
  refine ⟨?_, hnum c, ?_, ?_⟩
  · unfold TranslatedPauli.sum_mul_term
    rw [hid, bind_ok, translated_term_mul_term_eq k x identityTerm t (constTerm_wf 1), bind_ok]
    exact translated_sum_mul_sum_eq k x s [mulTermX k x identityTerm t] hs
  · have w1 : SumWF [t] := fun _ h => List.mem_singleton.mp h ▸ wt
    unfold TranslatedPauli.term_mul_sum
    rw [sum_init_ok, bind_ok, show [ofTerm t] = ofSum [t] from rfl, translated_sum_mul_sum_eq k x [t] s w1, bind_ok]
    exact translated_simplify_eq k x _ (mulSX_wf k x [t] s w1)
  · intro hz
    unfold TranslatedPauli.sum_truediv_num
    exact truediv_guard x hz c _ (fun r => ofSum (mulSX k x s [scaleTerm identityTerm r])) hnum

end OQ.C03
