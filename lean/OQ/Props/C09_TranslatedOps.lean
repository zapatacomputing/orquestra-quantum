/-
  C09 — TRANSLATION TIE for the operator utilities on PauliTerm / PauliSum OBJECTS: `hermitian_conjugated`, `is_hermitian`
  (operators/_openfermion_utils/operator_utils.py) and `reverse_qubit_order` (operators/_utils.py), rendered by harness/translate_t18.py into `OQ/Generated/TranslatedC09Ops.lean`
  (regenerated from /repo on every run), are equal to the hand-written model `OQ/Model/C09.lean` – the definitions every theorem of
  `Props/C09.lean` is about – and the property theorems are restated ON THE TRANSLATED CODE.

  Objects.  A model term `t : Term R` is the object state `C03.ofTerm t` (`_ops` = the dict with the same keys in the same order,
  `coefficient`), a model sum the list of its terms' states (`C03.ofSum`); `SumWF` / `TermWF`: the keys of every `_ops` are distinct
  (a Python dict).  The methods of the two classes the code calls (`copy`, `+=`, `==`, `len`) are the translated ones of package T7,
  tied to the model of C03; `Lemmas/C09_TranslatedOps.lean` bridges the two hand-written models of `simplify`.
  Externals.  `x : TranslatedPauli.Ext R` (np.isclose / np.allclose) is read as the model's tolerance record by `TolOf x tol`;
  `y.hash_eq` (`hash(a) == hash(b)` of two PauliTerm objects, `__hash__` is not translated) is assumed to be the model's
  `termHashEq` (`HashOf y tol`: equal rounded coefficient key and equal operation sets – distinct hashed tuples have distinct hashes);
  `c.conjugate()` is `k.cj`.
-/
import OQ.Lemmas.C09_TranslatedOps
import OQ.Props.C09

set_option linter.unusedSectionVars false
set_option linter.unusedSimpArgs false
set_option linter.unusedVariables false

namespace OQ.C09
open OQ OQ.Pauli OQ.Py OQ.Generated Matrix

variable {R : Type} [CommRing R] [StarRing R] [DecidableEq R]

/-- `hash(a) == hash(b)` on PauliTerm objects is the model's `termHashEq` -/
def HashOf (y : TranslatedOps.Ext9 R) (tol : Tol R) : Prop :=
  ∀ a b : Term R, TermWF a → TermWF b → y.hash_eq (C03.ofTerm a) (C03.ofTerm b) = termHashEq tol a b

/-- TRANSLATION TIE `hermitian_conjugated(PauliTerm)` (`operator.copy(operator.coefficient.conjugate())`) = the model's
    `hermitianConjugatedTerm`, for every term whose `_ops` is a dict; nothing is raised. -/
theorem translated_hermitian_conjugated_term_eq (k : Scal R) (x : TranslatedPauli.Ext R) (y : TranslatedOps.Ext9 R) (t : Term R)
    (w : TermWF t) :
    TranslatedOps.hermitian_conjugated_term k x y (C03.ofTerm t) = .ok (C03.ofTerm (hermitianConjugatedTerm k t)) := by
  unfold TranslatedOps.hermitian_conjugated_term
  rw [C03.ofTerm_coeff, C03.term_copy_some k x t _ w]
  rfl

example : TranslatedOps.hermitian_conjugated_term (R := Int) ⟨0, 0, 0, 0, fun c => -c⟩ ⟨fun _ _ => false, fun _ _ => false, fun _ _ => none, fun a b => a == b, id⟩
    ⟨fun _ _ => true, id⟩ ⟨[(2, some P.X), (0, some P.Y)], 5⟩ = .ok ⟨[(2, some P.X), (0, some P.Y)], -5⟩ := rfl

/-- the loop `for term in operator.terms: conjugate_operator += term.copy(term.coefficient.conjugate())` -/
theorem hc_loop (k : Scal R) (x : TranslatedPauli.Ext R) (tol : Tol R) (h : TolOf x tol) (l acc : PSum R)
    (hl : SumWF l) (ha : SumWF acc) :
    foldlE (fun (st : TranslatedPauli.PSum R) (term : TranslatedPauli.PTerm R) =>
        Except.bind (TranslatedPauli.term_copy k x term (some (k.cj term.coefficient))) (fun __t2 =>
        Except.bind (TranslatedPauli.sum_add_term k x st __t2) (fun __t3 => Except.ok __t3)))
      (C03.ofSum acc) (C03.ofSum l)
      = .ok (C03.ofSum (l.foldl (fun acc t => addTerm tol acc (hermitianConjugatedTerm k t)) acc)) := by
  refine foldlE_addTerm tol _ (hermitianConjugatedTerm k) l (fun acc ha t ht => ⟨hl t ht, ?_⟩) acc ha
  rw [C03.ofTerm_coeff, C03.term_copy_some k x t _ (hl t ht)]
  simp only [bind_ok]
  rw [sum_add_term_eq k x tol h acc ⟨t.ops, k.cj t.coeff⟩ ha (hl t ht)]
  rfl

/-- TRANSLATION TIE `hermitian_conjugated(PauliSum)` (`PauliSum()`, then `+=` of every conjugated copy: each `+=` is the translated
    `PauliSum.__add__(PauliTerm)` with its `simplify`) = the model's `hermitianConjugated`, for every sum of dict-terms and every
    tolerance; nothing is raised. -/
theorem translated_hermitian_conjugated_sum_eq (k : Scal R) (x : TranslatedPauli.Ext R) (y : TranslatedOps.Ext9 R) (tol : Tol R)
    (h : TolOf x tol) (s : PSum R) (hs : SumWF s) :
    TranslatedOps.hermitian_conjugated_sum k x y (C03.ofSum s) = .ok (C03.ofSum (hermitianConjugated k tol s)) := by
  unfold TranslatedOps.hermitian_conjugated_sum
  rw [sum_init_none_eq, bind_ok]
  exact congrArg (Except.bind · Except.ok) (hc_loop k x tol h s [] hs sumWF_nil)

example : TranslatedOps.hermitian_conjugated_sum (R := Int) ⟨0, 0, 0, 0, fun c => -c⟩
    ⟨fun a b => a == b, fun a b => a == b, fun _ _ => none, fun a b => a == b, id⟩ ⟨fun _ _ => true, id⟩
    [⟨[(1, some P.Z)], 2⟩, ⟨[], 3⟩, ⟨[(1, some P.Z)], 5⟩] = .ok [⟨[(1, some P.Z)], -7⟩, ⟨[], -3⟩] := rfl

/-- TRANSLATION TIE `is_hermitian(PauliTerm)` (`operator == hermitian_conjugated(operator)` through the translated
    `PauliTerm.__eq__`) = the model's `isHermitianTerm`; nothing is raised. -/
theorem translated_is_hermitian_term_eq (k : Scal R) (x : TranslatedPauli.Ext R) (y : TranslatedOps.Ext9 R) (tol : Tol R)
    (h : TolOf x tol) (t : Term R) (w : TermWF t) :
    TranslatedOps.is_hermitian_term k x y (C03.ofTerm t) = .ok (isHermitianTerm k tol t) := by
  unfold TranslatedOps.is_hermitian_term
  rw [translated_hermitian_conjugated_term_eq k x y t w]
  simp only [bind_ok]
  rw [(C03.translated_term_eq_eq k x t (hermitianConjugatedTerm k t) 0).1]
  unfold isHermitianTerm termEq C03.eqTerm
  have e1 : C03.opsEq t.ops (hermitianConjugatedTerm k t).ops = true := C03.opsEq_refl w
  have e2 : sameOps t.ops (hermitianConjugatedTerm k t).ops = true := sameOps_refl _
  simp only [e1, e2, Bool.or_true, h.2]

/-- `x in s` for a set of PauliTerm objects = the model's `setMem` -/
theorem setMemBy_eq (k : Scal R) (x : TranslatedPauli.Ext R) (y : TranslatedOps.Ext9 R) (tol : Tol R) (h : TolOf x tol)
    (hh : HashOf y tol) (u : Term R) (wu : TermWF u) (S : PSum R) (hS : SumWF S) :
    setMemBy y.hash_eq (TranslatedPauli.term_eq_term k x) (C03.ofTerm u) (C03.ofSum S) = setMem tol u S := by
  unfold setMemBy setMem C03.ofSum
  rw [List.any_map]
  apply any_congr_mem
  intro v hv
  simp only [Function.comp]
  rw [hh v u (hS v hv) wu, (C03.translated_term_eq_eq k x v u 0).1]
  unfold termHashEq termEq C03.eqTerm
  rw [opsEq_eq_sameOps _ _ (hS v hv) wu]
  simp only [h.2]
  cases sameOps v.ops u.ops <;> simp

theorem toSet_wf (tol : Tol R) (l acc : PSum R) (hl : SumWF l) (ha : SumWF acc) :
    SumWF (l.foldl (fun S x => if setMem tol x S then S else S ++ [x]) acc) := by
  induction l generalizing acc with
  | nil => exact ha
  | cons t l ih =>
    rw [List.foldl_cons]
    apply ih _ (fun u hu => hl u (List.mem_cons_of_mem _ hu))
    split
    · exact ha
    · exact sumWF_snoc ha (hl t List.mem_cons_self)

theorem setOfListBy_eq (k : Scal R) (x : TranslatedPauli.Ext R) (y : TranslatedOps.Ext9 R) (tol : Tol R) (h : TolOf x tol)
    (hh : HashOf y tol) (l acc : PSum R) (hl : SumWF l) (ha : SumWF acc) :
    (C03.ofSum l).foldl (fun s e => if setMemBy y.hash_eq (TranslatedPauli.term_eq_term k x) e s then s else s ++ [e]) (C03.ofSum acc)
      = C03.ofSum (l.foldl (fun S x => if setMem tol x S then S else S ++ [x]) acc) := by
  induction l generalizing acc with
  | nil => rfl
  | cons t l ih =>
    have wt := hl t List.mem_cons_self
    simp only [C03.ofSum, List.map_cons, List.foldl_cons]
    have e := setMemBy_eq k x y tol h hh t wt acc ha
    simp only [C03.ofSum] at e
    rw [e]
    have hl' : SumWF l := fun u hu => hl u (List.mem_cons_of_mem _ hu)
    by_cases hm : setMem tol t acc = true
    · simp only [hm, if_true]
      exact ih acc hl' ha
    · simp only [hm, Bool.false_eq_true, if_false]
      have := ih (acc ++ [t]) hl' (sumWF_snoc ha wt)
      simp only [C03.ofSum, List.map_append, List.map_cons, List.map_nil] at this
      exact this

/-- TRANSLATION TIE `PauliSum.__eq__(PauliSum)` (length test, then `set(self.terms) == set(other.terms)` with CPython's set
    semantics over the external `hash_eq` and the TRANSLATED `PauliTerm.__eq__`) = the model's `sumEq`.  Inside a set the two
    renderings of `PauliTerm.__eq__` (the code's `(close a 0 and close b 0) or ops equal`, the model's `close a 0 or ops equal`)
    cannot differ: an equal hash already means equal operations. -/
theorem translated_sum_eq_sum_eq (k : Scal R) (x : TranslatedPauli.Ext R) (y : TranslatedOps.Ext9 R) (tol : Tol R) (h : TolOf x tol)
    (hh : HashOf y tol) (a b : PSum R) (ha : SumWF a) (hb : SumWF b) :
    TranslatedOps.sum_eq_sum k x y (C03.ofSum a) (C03.ofSum b) = sumEq tol a b := by
  unfold TranslatedOps.sum_eq_sum sumEq
  dsimp only
  rw [(C03.translated_is_constant_eq k x ⟨[], 0⟩ a).2.2, (C03.translated_is_constant_eq k x ⟨[], 0⟩ b).2.2,
    show ((a.length : Int) == (b.length : Int)) = (a.length == b.length) by
      rw [Bool.eq_iff_iff, beq_iff_eq, beq_iff_eq, Int.natCast_inj]]
  refine if_congr Iff.rfl rfl ?_
  have hA := setOfListBy_eq k x y tol h hh a [] ha sumWF_nil
  have hB := setOfListBy_eq k x y tol h hh b [] hb sumWF_nil
  rw [show C03.ofSum ([] : PSum R) = [] from rfl] at hA hB
  unfold setOfListBy setEqBy
  rw [hA, hB]
  simp only [C03.ofSum, List.length_map, List.all_map]
  exact congrArg (_ && ·) (all_congr_mem _ _ _ fun u hu =>
    setMemBy_eq k x y tol h hh u (toSet_wf tol a [] ha sumWF_nil u hu) _ (toSet_wf tol b [] hb sumWF_nil))

/-- TRANSLATION TIE `is_hermitian(PauliSum)` (`operator == hermitian_conjugated(operator)`) = the model's `isHermitian`, for every
    sum of dict-terms; nothing is raised. -/
theorem translated_is_hermitian_sum_eq (k : Scal R) (x : TranslatedPauli.Ext R) (y : TranslatedOps.Ext9 R) (tol : Tol R)
    (h : TolOf x tol) (hh : HashOf y tol) (s : PSum R) (hs : SumWF s) :
    TranslatedOps.is_hermitian_sum k x y (C03.ofSum s) = .ok (isHermitian k tol s) := by
  unfold TranslatedOps.is_hermitian_sum
  rw [translated_hermitian_conjugated_sum_eq k x y tol h s hs]
  simp only [bind_ok]
  rw [translated_sum_eq_sum_eq k x y tol h hh s _ hs (hc_wf k tol s hs)]
  rfl

/-- the body of the loop `for term in qubit_operator.terms` of `reverse_qubit_order` as the translator renders it (lets unfolded), for
    the width `m`: build `new_term`, `PauliTerm(new_term, term.coefficient)`, `reversed_op += …` -/
def revBody (k : Scal R) (x : TranslatedPauli.Ext R) (y : TranslatedOps.Ext9 R) (m : Nat) (st : TranslatedPauli.PSum R)
    (term : TranslatedPauli.PTerm R) : Except Exc4 (TranslatedPauli.PSum R) :=
  Except.bind (natKeysE ((y.items_iter (TranslatedPauli.term_operations k x term)).foldl
      (fun (st : Dict Int TranslatedPauli.Letter) (p0 : Nat × TranslatedPauli.Letter) =>
        dictSet st ((((m : Nat) : Int) - (1 : Int)) - ((p0.1 : Nat) : Int)) p0.2) []))
    (fun __t3 => Except.bind (TranslatedPauli.term_init k x __t3 (some term.coefficient)) (fun __t4 =>
      Except.bind (TranslatedPauli.sum_add_term k x st __t4) (fun __t5 => Except.ok __t5)))

theorem rev_loop (k : Scal R) (x : TranslatedPauli.Ext R) (y : TranslatedOps.Ext9 R) (tol : Tol R) (h : TolOf x tol)
    (hid : ∀ l, y.items_iter l = l) (m : Nat) (l acc : PSum R) (hl : SumWF l) (hm : ∀ t ∈ l, ∀ p ∈ t.ops, p.1 < m)
    (ha : SumWF acc) :
    foldlE (revBody k x y m) (C03.ofSum acc) (C03.ofSum l)
      = .ok (C03.ofSum (l.foldl (fun acc t => addTerm tol acc (reverseTerm m t)) acc)) := by
  refine foldlE_addTerm tol _ (reverseTerm m) l (fun acc ha t ht => ?_) acc ha
  have wr : TermWF (reverseTerm m t) := reverseTerm_wf m t (hl t ht) (hm t ht)
  refine ⟨wr, ?_⟩
  unfold revBody TranslatedPauli.term_operations
  simp only [dictItems, C03.ofTerm_ops, hid, C03.ofTerm_coeff]
  rw [reverse_inner m t.ops (hl t ht) (hm t ht)]
  simp only [bind_ok]
  have := C03.term_init_up k x (reverseTerm m t).ops t.coeff wr
  simp only [reverseTerm] at this
  rw [this]
  simp only [bind_ok]
  have := sum_add_term_eq k x tol h acc (reverseTerm m t) ha wr
  simp only [reverseTerm] at this
  rw [this]
  rfl

/-- TRANSLATION TIE `reverse_qubit_order(PauliSum, n_qubits=n)` for an explicit width `n ≥ 0` = the model's `reverseQubitOrder`:
    `ValueError` exactly when the model rejects (`n <` the operator's width, through the translated `PauliSum.n_qubits`), else the
    model's sum (each term: the dict rebuilt with the keys `n - 1 - q`, the constructor's key check never fires, `+=`).
    Hypothesis `hid`: `for q, op in term.operations` yields the items in dict order (the iteration order of a frozenset is an
    external; with another order the result has the same terms with permuted dicts). -/
theorem translated_reverse_qubit_order_sum_eq (k : Scal R) (x : TranslatedPauli.Ext R) (y : TranslatedOps.Ext9 R) (tol : Tol R)
    (h : TolOf x tol) (hid : ∀ l, y.items_iter l = l) (s : PSum R) (hs : SumWF s) (n : Nat) :
    TranslatedOps.reverse_qubit_order_sum k x y (C03.ofSum s) (some (n : Int))
      = (match reverseQubitOrder tol s n with | some r => .ok (C03.ofSum r) | none => .error .value) := by
  unfold TranslatedOps.reverse_qubit_order_sum
  simp only [sum_init_none_eq, bind_ok, sum_n_qubits_eq, Int.ofNat_lt]
  unfold reverseQubitOrder
  by_cases hlt : n < PSum.nQubits s
  · simp only [hlt, decide_true, if_true]
  · simp only [hlt, decide_false, Bool.false_eq_true, if_false]
    exact congrArg (Except.bind · Except.ok)
      (rev_loop k x y tol h hid n s [] hs ((sum_nQubits_le s n).1 (Nat.le_of_not_lt hlt)) sumWF_nil)

/-- TRANSLATION TIE `reverse_qubit_order(PauliSum)` with the default width (`n_qubits=None`: the operator's own width) and with a
    negative width (`ValueError`: every width is `≥ 0`). -/
theorem translated_reverse_qubit_order_sum_default (k : Scal R) (x : TranslatedPauli.Ext R) (y : TranslatedOps.Ext9 R) (tol : Tol R)
    (h : TolOf x tol) (hid : ∀ l, y.items_iter l = l) (s : PSum R) (hs : SumWF s) :
    TranslatedOps.reverse_qubit_order_sum k x y (C03.ofSum s) none
        = TranslatedOps.reverse_qubit_order_sum k x y (C03.ofSum s) (some (PSum.nQubits s : Int)) ∧
    ∀ m : Nat, TranslatedOps.reverse_qubit_order_sum k x y (C03.ofSum s) (some (Int.negSucc m)) = .error .value := by
  unfold TranslatedOps.reverse_qubit_order_sum
  simp only [sum_init_none_eq, bind_ok, sum_n_qubits_eq, Int.ofNat_lt, true_and]
  exact fun m => if_pos (decide_eq_true (by omega))

/-- TRANSLATION TIE `reverse_qubit_order(PauliTerm, n_qubits=n)` (`qubit_operator.terms == [qubit_operator]`, width through the
    translated `PauliTerm.n_qubits`) = the model's `reverseQubitOrder` on the one-term sum. -/
theorem translated_reverse_qubit_order_term_eq (k : Scal R) (x : TranslatedPauli.Ext R) (y : TranslatedOps.Ext9 R) (tol : Tol R)
    (h : TolOf x tol) (hid : ∀ l, y.items_iter l = l) (t : Term R) (w : TermWF t) (n : Nat) :
    TranslatedOps.reverse_qubit_order_term k x y (C03.ofTerm t) (some (n : Int))
      = (match reverseQubitOrder tol [t] n with | some r => .ok (C03.ofSum r) | none => .error .value) := by
  -- the code for a term is the code for the one-term sum, up to how the width is computed
  rw [← translated_reverse_qubit_order_sum_eq k x y tol h hid [t] (sumWF_singleton.2 w) n]
  unfold TranslatedOps.reverse_qubit_order_term TranslatedOps.reverse_qubit_order_sum TranslatedOps.term_terms
  simp only [C03.translated_term_n_qubits_eq, sum_n_qubits_eq, nQubits_singleton]
  rfl

/-- END-TO-END (`conj_denote` on the translated code): the REGENERATED `hermitian_conjugated` applied to a PauliSum object returns,
    without raising, an object whose matrix (tensor-product definition, every width `n`) is the conjugate transpose of the operand's
    matrix.  Hypotheses: `k.cj` is the star, the tolerance of `np.isclose` only drops exact zeros (`NeglExact`). -/
theorem translated_conj_denote (k : Scal R) (x : TranslatedPauli.Ext R) (y : TranslatedOps.Ext9 R) (tol : Tol R) (h : TolOf x tol)
    (hcj : k.cj = star) (hsi : star k.i = -k.i) (hnegl : NeglExact tol) (s : PSum R) (hwf : SumWF s) (n : Nat) :
    ∃ s', TranslatedOps.hermitian_conjugated_sum k x y (C03.ofSum s) = .ok (C03.ofSum s') ∧
      Mat.toM (2 ^ n) (2 ^ n) (PSum.denote k n s') = (Mat.toM (2 ^ n) (2 ^ n) (PSum.denote k n s))ᴴ :=
  ⟨_, translated_hermitian_conjugated_sum_eq k x y tol h s hwf, conj_denote k hcj hsi tol hnegl s hwf n⟩

/-- END-TO-END (`conj_term_denote` on the translated code), for a PauliTerm object. -/
theorem translated_conj_term_denote (k : Scal R) (x : TranslatedPauli.Ext R) (y : TranslatedOps.Ext9 R) (hcj : k.cj = star)
    (hsi : star k.i = -k.i) (t : Term R) (w : TermWF t) (n : Nat) :
    ∃ t', TranslatedOps.hermitian_conjugated_term k x y (C03.ofTerm t) = .ok (C03.ofTerm t') ∧
      Mat.toM (2 ^ n) (2 ^ n) (t'.denote k n) = (Mat.toM (2 ^ n) (2 ^ n) (t.denote k n))ᴴ :=
  ⟨_, translated_hermitian_conjugated_term_eq k x y t w, conj_term_denote k hcj hsi t n⟩

/-- END-TO-END (`isHermitian_iff` on the translated code): with the float comparisons exact (`TolExact`), the REGENERATED
    `is_hermitian` applied to a simplified PauliSum object of width `≤ n` returns `True` exactly when the operator's matrix equals its
    conjugate transpose (and never raises). -/
theorem translated_isHermitian_iff (k : Scal R) (x : TranslatedPauli.Ext R) (y : TranslatedOps.Ext9 R) (tol : Tol R)
    (h : TolOf x tol) (hh : HashOf y tol) (hi : k.i * k.i = -1) (hcj : k.cj = star) (hsi : star k.i = -k.i) (h2 : 2 * k.half = 1)
    (hex : TolExact tol) (s : PSum R) (hwf : SumWF s) (hs : Simplified tol s) (n : Nat) (hn : PSum.nQubits s ≤ n) :
    ∃ b, TranslatedOps.is_hermitian_sum k x y (C03.ofSum s) = .ok b ∧
      (b = true ↔ Mat.toM (2 ^ n) (2 ^ n) (PSum.denote k n s) = (Mat.toM (2 ^ n) (2 ^ n) (PSum.denote k n s))ᴴ) :=
  ⟨_, translated_is_hermitian_sum_eq k x y tol h hh s hwf, isHermitian_iff k hi hcj hsi h2 tol hex s hwf hs n hn⟩

/-- END-TO-END (`isHermitianTerm_iff` on the translated code), for a PauliTerm object (any coefficient, also 0). -/
theorem translated_isHermitianTerm_iff (k : Scal R) (x : TranslatedPauli.Ext R) (y : TranslatedOps.Ext9 R) (tol : Tol R)
    (h : TolOf x tol) (hi : k.i * k.i = -1) (hcj : k.cj = star) (hsi : star k.i = -k.i) (h2 : 2 * k.half = 1)
    (hex : TolExact tol) (t : Term R) (w : TermWF t) (n : Nat) (hn : t.nQubits ≤ n) :
    ∃ b, TranslatedOps.is_hermitian_term k x y (C03.ofTerm t) = .ok b ∧
      (b = true ↔ Mat.toM (2 ^ n) (2 ^ n) (t.denote k n) = (Mat.toM (2 ^ n) (2 ^ n) (t.denote k n))ᴴ) :=
  ⟨_, translated_is_hermitian_term_eq k x y tol h t w, isHermitianTerm_iff k hi hcj hsi h2 tol hex t w n hn⟩

/-- END-TO-END (`reverse_reverse` on the translated code): for `n ≥` width the REGENERATED `reverse_qubit_order` applied twice
    returns, without raising, an object that denotes the operand's matrix. -/
theorem translated_reverse_reverse (k : Scal R) (x : TranslatedPauli.Ext R) (y : TranslatedOps.Ext9 R) (tol : Tol R)
    (h : TolOf x tol) (hid : ∀ l, y.items_iter l = l) (hnegl : NeglExact tol) (s : PSum R) (hwf : SumWF s) (n : Nat)
    (hn : PSum.nQubits s ≤ n) :
    ∃ s' s'', TranslatedOps.reverse_qubit_order_sum k x y (C03.ofSum s) (some (n : Int)) = .ok (C03.ofSum s') ∧
      TranslatedOps.reverse_qubit_order_sum k x y (C03.ofSum s') (some (n : Int)) = .ok (C03.ofSum s'') ∧
      Mat.toM (2 ^ n) (2 ^ n) (PSum.denote k n s'') = Mat.toM (2 ^ n) (2 ^ n) (PSum.denote k n s) := by
  obtain ⟨s', h1, hwf', _, _⟩ := reverse_spec k tol hnegl n s hwf hn
  obtain ⟨t', t'', g1, g2, g3⟩ := reverse_reverse k tol hnegl s hwf n hn
  have e : t' = s' := by rw [h1] at g1; exact (Option.some.inj g1).symm
  subst e
  refine ⟨t', t'', ?_, ?_, g3⟩
  · rw [translated_reverse_qubit_order_sum_eq k x y tol h hid s hwf n, g1]
  · rw [translated_reverse_qubit_order_sum_eq k x y tol h hid t' hwf' n, g2]

/-- END-TO-END (`reverse_eq_bitreversal_conj` / `reverse_rejects_iff` on the translated code): for `n ≥` width the result of the
    REGENERATED `reverse_qubit_order` denotes the matrix conjugated by the bit-reversal permutation of the basis indices; it raises
    `ValueError` exactly when `n <` width. -/
theorem translated_reverse_eq_bitreversal_conj (k : Scal R) (x : TranslatedPauli.Ext R) (y : TranslatedOps.Ext9 R) (tol : Tol R)
    (h : TolOf x tol) (hid : ∀ l, y.items_iter l = l) (hnegl : NeglExact tol) (s : PSum R) (hwf : SumWF s) (n : Nat) :
    (PSum.nQubits s ≤ n → ∃ s', TranslatedOps.reverse_qubit_order_sum k x y (C03.ofSum s) (some (n : Int)) = .ok (C03.ofSum s') ∧
      Mat.toM (2 ^ n) (2 ^ n) (PSum.denote k n s')
        = (Mat.toM (2 ^ n) (2 ^ n) (PSum.denote k n s)).submatrix (bitrevFin n) (bitrevFin n)) ∧
    (n < PSum.nQubits s → TranslatedOps.reverse_qubit_order_sum k x y (C03.ofSum s) (some (n : Int)) = .error .value) := by
  constructor
  · intro hn
    obtain ⟨s', g1, g2⟩ := reverse_eq_bitreversal_conj k tol hnegl s hwf n hn
    exact ⟨s', by rw [translated_reverse_qubit_order_sum_eq k x y tol h hid s hwf n, g1], g2⟩
  · intro hn
    rw [translated_reverse_qubit_order_sum_eq k x y tol h hid s hwf n, (reverse_rejects_iff tol s n).2 hn]

/-! ### non-vacuity: externals meeting the hypotheses -/

/-- exact comparisons as the externals of the translated classes -/
def xExact : TranslatedPauli.Ext R := ⟨fun a b => decide (a = b), fun a b => decide (a = b), fun _ _ => none, fun a b => decide (a = b), id⟩
/-- hash equality = equal coefficient and equal operation sets; dict order as iteration order -/
def yExact : TranslatedOps.Ext9 R :=
  ⟨fun a b => decide (a.coefficient = b.coefficient) && frozenItemsEq a._ops b._ops, id⟩

example : TolOf (xExact : TranslatedPauli.Ext R) Tol.exact := ⟨fun _ => rfl, fun _ _ => rfl⟩
example : HashOf (yExact : TranslatedOps.Ext9 R) Tol.exact := by
  intro a b wa wb
  simp only [yExact, C03.ofTerm_coeff, C03.ofTerm_ops, C03.frozenItemsEq_up, opsEq_eq_sameOps _ _ wa wb, termHashEq, Tol.exact]
  congr
example : TranslatedOps.is_hermitian_sum (R := Int) ⟨0, 0, 0, 0, fun c => -c⟩ xExact yExact
    [⟨[(1, some P.Z)], 2⟩, ⟨[], 0⟩] = .ok false := by decide
example : TranslatedOps.is_hermitian_sum (R := Int) ⟨0, 0, 0, 0, id⟩ xExact yExact
    [⟨[(1, some P.Z), (0, some P.X)], 2⟩, ⟨[], 3⟩] = .ok true := by decide
example : TranslatedOps.is_hermitian_term (R := Int) ⟨0, 0, 0, 0, fun c => -c⟩ xExact yExact ⟨[(1, some P.Z)], 0⟩ = .ok true := by decide

example : TranslatedOps.reverse_qubit_order_sum (R := Int) ⟨0, 0, 0, 0, id⟩ xExact yExact
    [⟨[(2, some P.X), (0, some P.Y)], 3⟩, ⟨[], -3⟩, ⟨[(1, some P.Z)], 0⟩, ⟨[(0, some P.Y), (2, some P.X)], 4⟩] (some 4)
    = .ok [⟨[(1, some P.X), (3, some P.Y)], 7⟩, ⟨[], -3⟩] := rfl
example : TranslatedOps.reverse_qubit_order_sum (R := Int) ⟨0, 0, 0, 0, id⟩ xExact yExact
    [⟨[(2, some P.X), (0, some P.Y)], 3⟩] (some 2) = .error .value := rfl
example : ∀ l, (yExact : TranslatedOps.Ext9 Int).items_iter l = l := fun _ => rfl

end OQ.C09
