/-
  C12 — PROPERTY THEOREMS: a wavefunction object is normalised after every operation on it.
  Model: OQ/Model/C12.lean.  Helper lemmas and the auxiliary notions `Inv`, `bitrev`: OQ/Lemmas/C12.lean.

  `close : ℚ → Bool` is the library's "equals 1" test on the float sum (`np.isclose(·, 1.0)`); every theorem holds
  for EVERY such predicate, in particular for the exact one `fun q => decide (q = 1)` and for the concrete
  tolerance `isClose` the driver runs.
-/
import OQ.Lemmas.C12
namespace OQ.C12

/-- "A wavefunction can only be created with a power-of-two number of amplitudes whose squared magnitudes sum to 1
    (for symbolic entries: whose numeric entries do not already exceed 1)": the constructor succeeds EXACTLY on
    those vectors (`popcount len = 1` is proved equivalent to `len = 2^k`). -/
theorem construct_ok_iff (close : Rat → Bool) (col : Bool) (v : List Lin) :
    (∃ s, construct close col v = .ok s) ↔
      (∃ k, v.length = 2 ^ k) ∧ (allNum v = true → close (numSq v) = true) ∧ (allNum v = false → numSq v ≤ 1) := by
  rw [← checkNorm_iff]
  exact ⟨fun ⟨s, hs⟩ => ((construct_eq_ok close col v s).mp hs).1, fun h => ⟨_, (construct_eq_ok ..).mpr ⟨h, rfl⟩⟩⟩

/-- … every other vector is refused with a ValueError. -/
theorem construct_rejects (close : Rat → Bool) (col : Bool) (v : List Lin)
    (h : ¬ ((∃ k, v.length = 2 ^ k) ∧ (allNum v = true → close (numSq v) = true) ∧ (allNum v = false → numSq v ≤ 1))) :
    construct close col v = .error .value := by
  cases hc : construct close col v with
  | ok s => exact absurd ((construct_ok_iff close col v).mp ⟨s, hc⟩) h
  | error e => rw [construct_error close col v e hc]

/-- a created object satisfies the invariant and holds exactly the amplitudes it was given -/
theorem inv_init (close : Rat → Bool) (col : Bool) (v : List Lin) (s : Store)
    (h : construct close col v = .ok s) : Inv close s ∧ s.entries = v :=
  ⟨inv_of_construct h, entries_of_construct h⟩

/-- "an assignment or binding that would break it raises an error and leaves the object exactly as it was":
    whenever an operation is rejected the object is unchanged – for ALL objects (numpy- and sympy-Matrix-backed),
    integer and slice keys (including sympy's `(row, col)` reading of a bare slice), bindings, flips and reloads.
    `__setitem__` keeps a copy of the whole vector and puts it back when the re-check fails; errors raised by the
    write itself (IndexError, TypeError, broadcast/ShapeError) occur before anything is written. -/
theorem rejected_unchanged (close : Rat → Bool) (s : Store) (op : Op)
    (hrej : (step close s op).2 ≠ .ok) : (step close s op).1 = s :=
  (step_spec close s op).unchanged hrej

/-- one operation (accepted or rejected) preserves the invariant – all objects, all keys -/
theorem inv_step (close : Rat → Bool) (s : Store) (op : Op) (hinv : Inv close s) :
    Inv close (step close s op).1 :=
  (step_spec close s op).inv hinv

/-- "after any sequence of element assignments and symbol bindings the object still satisfies this": every state
    reachable by ANY history of accepted and rejected operations from a valid object is valid -/
theorem inv_reachable (close : Rat → Bool) (s : Store) (ops : List Op) (hinv : Inv close s) :
    Inv close (run close s ops) := by
  induction ops generalizing s with
  | nil => exact hinv
  | cons op ops ih => exact ih _ (inv_step close s op hinv)

/-- in particular: every object ever reachable from a successful construction -/
theorem inv_reachable_from_construct (close : Rat → Bool) (col : Bool) (v : List Lin) (s : Store) (ops : List Op)
    (h : construct close col v = .ok s) : Inv close (run close s ops) :=
  inv_reachable close s ops (inv_of_construct h)

/-- "Probabilities are the squared magnitudes and sum to 1": on a valid symbol-free object `get_probabilities`
    returns `|aᵢ|²` entrywise, each non-negative, and their sum passes the library's "= 1" test. -/
theorem probs_sum (close : Rat → Bool) (s : Store) (hinv : Inv close s) (p : List Rat)
    (hp : probabilities s = some p) :
    p = s.entries.map (fun e => e.c.normSq) ∧ (∀ x ∈ p, 0 ≤ x) ∧ close p.sum = true := by
  rw [probabilities] at hp
  split at hp
  · rename_i ha
    obtain rfl := Option.some.inj hp
    refine ⟨rfl, fun x hx => ?_, by rw [← numSq_allNum _ ha]; exact hinv.2.1 ha⟩
    obtain ⟨e, -, rfl⟩ := List.mem_map.mp hx
    exact normSq_nonneg _
  · cases hp

/-- with the exact test the probabilities sum to exactly 1 -/
theorem probs_sum_exact (s : Store) (hinv : Inv (fun q => decide (q = 1)) s) (p : List Rat)
    (hp : probabilities s = some p) : p.sum = 1 := by
  have := (probs_sum _ s hinv p hp).2.2
  simpa using this

/-- "reversing qubit order is the bit-reversal permutation of amplitudes": on `2^k` amplitudes `flip_amplitudes` is
    defined, keeps the length, and entry `i` of the result is the old entry at `bitrev k i`, whose bit `p` is bit
    `k-1-p` of `i` (and `bitrev k i < 2^k`). -/
theorem flip_eq_bitreversal {α : Type} (v : List α) (k : Nat) (hlen : v.length = 2 ^ k) :
    (∃ w, flipList v = some w ∧ w.length = 2 ^ k ∧ ∀ i, i < 2 ^ k → w[i]? = v[bitrev k i]?) ∧
    (∀ i, bitrev k i < 2 ^ k) ∧
    (∀ i p, p < k → (bitrev k i).testBit p = i.testBit (k - 1 - p)) :=
  ⟨flipList_spec v k hlen, bitrev_lt k, fun i p hp => bitrev_testBit k i p hp⟩

/-- "… and is its own inverse" -/
theorem flip_involutive {α : Type} (v w : List α) (k : Nat) (hlen : v.length = 2 ^ k)
    (h : flipList v = some w) : flipList w = some v := by
  obtain ⟨w', hw', hl', hg'⟩ := flipList_spec v k hlen
  obtain rfl := Option.some.inj (h.symm.trans hw')
  obtain ⟨u, hu, hlu, hgu⟩ := flipList_spec w k hl'
  rw [hu]; congr 1
  -- entry `i` of the second flip is entry `bitrev k (bitrev k i) = i` of `v`
  refine List.ext_getElem? fun i => ?_
  by_cases hi : i < 2 ^ k
  · rw [hgu i hi, hg' _ (bitrev_lt k i), bitrev_bitrev k i hi]
  · have hi := Nat.le_of_not_lt hi
    rw [List.getElem?_eq_none (hlu ▸ hi), List.getElem?_eq_none (hlen ▸ hi)]

/-- on the object: `flip_wavefunction` of a valid object never raises, returns a valid object holding the flipped
    amplitudes, and flipping that again returns an object with the original amplitudes -/
theorem flipWf_total (close : Rat → Bool) (s : Store) (hinv : Inv close s) :
    ∃ s' s'', flipWf close s = .ok s' ∧ Inv close s' ∧ flipList s.entries = some s'.entries ∧
      flipWf close s' = .ok s'' ∧ s''.entries = s.entries := by
  obtain ⟨s', h1, h2⟩ := flipWf_spec close s hinv
  have hinv' := flipWf_ok close s s' h1
  obtain ⟨s'', h3, h4⟩ := flipWf_spec close s' hinv'
  obtain ⟨k, hk⟩ := hinv.1
  have := flip_involutive s.entries s'.entries k hk h2
  rw [this] at h4
  exact ⟨s', s'', h1, hinv', h2, h3, (Option.some.inj h4).symm⟩

/-- "saving and loading returns the same amplitudes": whatever `save_wavefunction` writes for a valid object,
    `load_wavefunction` rebuilds exactly that object (JSON is assumed to round-trip the doubles). -/
theorem saveLoad_roundtrip (close : Rat → Bool) (s : Store) (hinv : Inv close s)
    (col : Bool) (re im : List Rat) (hs : save s = .ok (col, re, im)) :
    load close col re (some im) = .ok s := by
  cases s with
  | mat v => cases hs
  | arr1 v | arr2 v =>
    cases hs
    obtain ⟨hk, hc⟩ := (inv_iff close _).mp hinv
    rw [load, dictToArray_save]
    exact (construct_eq_ok ..).mpr ⟨⟨hk, hc⟩, ofInput_ofNum _ v⟩

/-- the Gosper step in closed form: on `v = A·2^(j+m'+2) + (2^(m'+1) − 1)·2^j` (`j` zeros, a block of `m'+1` ones,
    a zero, then anything) the result is `A·2^(j+m'+2) + 2^(j+m'+1) + (2^m' − 1)`; every `v ≥ 1` has this form. -/
theorem nextSameWeight_spec :
    (∀ A j m', nextSameWeight (2 ^ (j + m' + 2) * A + (2 ^ (m' + 1) - 1) * 2 ^ j)
        = 2 ^ (j + m' + 2) * A + 2 ^ (j + m' + 1) + (2 ^ m' - 1)) ∧
    (∀ v, 0 < v → ∃ A j m', v = 2 ^ (j + m' + 2) * A + (2 ^ (m' + 1) - 1) * 2 ^ j) :=
  ⟨gosper_core, block_decomp⟩

/-- … hence it is the LEAST integer above `v` with the same Hamming weight -/
theorem nextSameWeight_next (v : Nat) (hv : 0 < v) :
    v < nextSameWeight v ∧ popcount (nextSameWeight v) = popcount v ∧
    ∀ w, v < w → popcount w = popcount v → nextSameWeight v ≤ w :=
  nextSameWeight_least v hv

/-- "the Dicke-state constructor gives equal probability to exactly the basis states of the requested Hamming
    weight" – for ALL qubit counts `n ≥ 1` and weights `0 ≤ k ≤ n`: the loop terminates (the fuel is never
    exhausted), the support it collects is exactly `{w < 2^n : popcount w = k}` (in increasing order), the vector has
    `2^n` entries, the probability is `1/|support|` on the support and `0` elsewhere, and the total is 1. -/
theorem dicke_support (n k : Int) (hn : 1 ≤ n) (hk : 0 ≤ k) (hkn : k ≤ n) :
    let idx := (List.range (2 ^ n.toNat)).filter (fun w => decide (popcount w = k.toNat))
    dickeState n k = .ok (idx, dickeProbs n.toNat idx) ∧
    idx ≠ [] ∧
    (dickeProbs n.toNat idx).length = 2 ^ n.toNat ∧
    (∀ i, i < 2 ^ n.toNat →
      (dickeProbs n.toNat idx)[i]? = some (if popcount i = k.toNat then 1 / (idx.length : Rat) else 0)) ∧
    (dickeProbs n.toNat idx).sum = 1 := by
  intro idx
  have hne : idx ≠ [] := weights_ne_nil n.toNat k.toNat (by omega)
  refine ⟨?_, hne, dickeProbs_spec n.toNat (popcount · = k.toNat) hne⟩
  rw [dickeState_eq, if_neg (by omega)]
  split
  · rw [show idx = [0] by subst k; exact filter_popcount_zero n.toNat]
  · rw [dickeIndices_spec n.toNat k.toNat (by omega) (by omega)]

/-- invalid requests are refused (ValueError): no qubits, a negative weight, a weight above the qubit count -/
theorem dicke_rejects (n k : Int) (h : n ≤ 0 ∨ k < 0 ∨ n < k) : dickeState n k = .error .value := by
  rw [dickeState_eq, if_pos h]

/-! ## non-vacuity and negative witness -/

private def x0 : List Lin := [Lin.ofSym "x", Lin.ofNum 0]
private def v34 : List Lin := [Lin.ofNum ⟨3/5, 0⟩, Lin.ofNum ⟨0, 4/5⟩, Lin.ofNum 0, Lin.ofNum 0]

-- the defect class fixed in 05839b5: a rejected scalar write through a bare slice key on a symbolic object is undone;
-- an accepted one (`wf[1:0] = 1/2` writes element 1) has passed the re-check
example : step isClose (.mat x0) (.setSlice (some 0) (some 0) (.scalar (Lin.ofNum ⟨5, 0⟩))) = (.mat x0, .err .value) := by
  decide +kernel
example : step isClose (.mat x0) (.setSlice (some 1) (some 0) (.scalar (Lin.ofNum ⟨1/2, 0⟩)))
    = (.mat [Lin.ofSym "x", Lin.ofNum ⟨1/2, 0⟩], .ok) := by decide +kernel
example : Inv isClose (.mat x0) := ⟨⟨1, rfl⟩, fun h => absurd h (by decide), fun _ => by decide +kernel⟩

example : construct isClose false v34 = .ok (.arr1 [⟨3/5, 0⟩, ⟨0, 4/5⟩, 0, 0]) := by decide +kernel
example : construct isClose false (v34 ++ [Lin.ofNum 0]) = .error .value := by decide +kernel
example : construct isClose false x0 = .ok (.mat x0) := by decide +kernel
example : construct isClose false [Lin.ofSym "x", Lin.ofNum ⟨5/4, 0⟩] = .error .value := by decide +kernel
-- the hypothesis of `inv_reachable` is satisfiable; slice assignments and bindings, accepted and rejected
example : Inv isClose (.arr1 [⟨3/5, 0⟩, ⟨0, 4/5⟩, 0, 0]) := (inv_init isClose false v34 _ (by decide +kernel)).1
example : step isClose (.arr1 [⟨3/5, 0⟩, ⟨0, 4/5⟩, 0, 0]) (.setSlice (some 0) (some 2) (.list [Lin.ofNum ⟨1/2, 0⟩, Lin.ofNum ⟨1/2, 0⟩]))
    = (.arr1 [⟨3/5, 0⟩, ⟨0, 4/5⟩, 0, 0], .err .value) := by decide +kernel
example : step isClose (.arr1 [⟨3/5, 0⟩, ⟨0, 4/5⟩, 0, 0]) (.setSlice (some 0) (some 2) (.list [Lin.ofNum ⟨4/5, 0⟩, Lin.ofNum ⟨3/5, 0⟩]))
    = (.arr1 [⟨4/5, 0⟩, ⟨3/5, 0⟩, 0, 0], .ok) := by decide +kernel
example : step isClose (.mat [Lin.ofSym "x", Lin.ofNum ⟨3/5, 0⟩]) (.bind [("x", Lin.ofNum ⟨0, 4/5⟩)])
    = (.arr2 [⟨0, 4/5⟩, ⟨3/5, 0⟩], .ok) := by decide +kernel
example : step isClose (.mat [Lin.ofSym "x", Lin.ofNum ⟨3/5, 0⟩]) (.bind [("x", Lin.ofNum ⟨1, 0⟩)])
    = (.mat [Lin.ofSym "x", Lin.ofNum ⟨3/5, 0⟩], .err .value) := by decide +kernel
example : probabilities (.arr1 [⟨3/5, 0⟩, ⟨0, 4/5⟩, 0, 0]) = some [9/25, 16/25, 0, 0] := by decide +kernel
-- a whole history on a mixed object: rejected integer write, partial bind, rejected bind, full bind, flip, reload
example : run isClose (.mat [Lin.ofSym "x", Lin.ofSym "y", Lin.ofNum ⟨3/5, 0⟩, Lin.ofNum 0])
    [.setInt (-1) (Lin.ofNum ⟨9/10, 0⟩), .bind [("x", Lin.ofNum 0)], .bind [("y", Lin.ofNum ⟨1, 0⟩)],
     .bind [("y", Lin.ofNum ⟨0, 4/5⟩)], .flip, .reload]
    = .arr2 [0, ⟨3/5, 0⟩, ⟨0, 4/5⟩, 0] := by decide +kernel

example : flipList [0, 1, 2, 3, 4, 5, 6, 7] = some [0, 4, 2, 6, 1, 5, 3, 7] := by decide
example : save (.arr1 [⟨3/5, 0⟩, ⟨0, 4/5⟩]) = .ok (false, [3/5, 0], [0, 4/5]) := by decide +kernel

example : nextSameWeight 6 = 9 ∧ nextSameWeight 12 = 17 ∧ nextSameWeight 23 = 27 := by decide
example : dickeIndices 4 2 = some [3, 5, 6, 9, 10, 12] := by decide
example : (List.range (2 ^ 4)).filter (fun w => decide (popcount w = 2)) = [3, 5, 6, 9, 10, 12] := by decide
example : dickeState 3 2 = .ok ([3, 5, 6], [0, 0, 0, 1/3, 0, 1/3, 1/3, 0]) := by decide +kernel

end OQ.C12
