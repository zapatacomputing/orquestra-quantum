/- C15 — PROPERTY THEOREMS (translation tie): the remaining functions of `estimation/_estimation.py` –
   `evaluate_estimation_circuits`, `evaluate_non_measured_estimation_tasks`, `estimate_expectation_values_by_averaging`,
   `calculate_exact_expectation_values` (`split_estimation_tasks_to_measure` is tied in `C15_Translated.lean`).

   `OQ.Generated.Translated.<f>` is REGENERATED from /repo's current Python source on every run (harness/translate_t11.py →
   OQ/Generated/TranslatedC15.lean).  Tasks, operators, terms, coefficients, circuits, symbol maps, the runner, measurements and
   `ExpectationValues` are OPAQUE objects; what the functions do with them is an explicit parameter of the translated definition:
     `attr_operator`, `attr_circuit`, `attr_number_of_shots`, `attr_is_constant`, `attr_terms`, `attr_coefficient`;
     `meth_bind` (`circuit.bind(map)`), `ext_EstimationTask` (the constructor), `ext_add` / `ext_ofInt` / `const_0_0` (the `+`, the int
     `0` and the float `0.0` of `sum(...)` / `coefficient = 0.0`), `ext_asarray_*` (`np.asarray`), `ext_ExpectationValues`,
     `ext_expectation_values_to_real`; and the RAISING externals (result `Option`, `none` = the call raises)
     `meth_run_batch_and_measure`, `meth_get_expectation_values`, `meth_get_exact_expectation_values`.
   `none` = the Python function raises (its own `raise`, or an exception of a raising external, in Python's evaluation order).
   In the ties the externals are instantiated by the model's own operations on `Task C` / `Op` / `GQ` (an `ExpectationValues` object is
   read as its `values`, as everywhere in `OQ.C15`; correlations / covariances are arbitrary), the runner and the wavefunction
   simulator stay ARBITRARY (`rb`, `wf`), so every tie is a statement for all task lists and all runners.
   Trusted as in `translate.py`: `xs[i] = v` is rendered as `List.set` (index domain `0 ≤ i < len(xs)`, which
   `split_indices_remembered` establishes for the indices written here). -/
import OQ.Generated.TranslatedC15
import OQ.Lemmas.C15_TranslatedEstimate
import OQ.Props.C15_Translated
import OQ.Props.C15
namespace OQ.C15
open OQ.Generated

/-- the Python int `n` as a coefficient (`sum` starts from the int `0`) -/
def gqOfInt (n : Int) : GQ := GQ.ofRat (n : Rat)

/-- TRANSLATION TIE (`_estimation.py:evaluate_estimation_circuits`): the function regenerated from the current Python source (a
    single map is repeated `len(tasks)` times; a length mismatch raises ValueError; `[EstimationTask(operator=t.operator,
    circuit=t.circuit.bind(m), number_of_shots=t.number_of_shots) for t, m in zip(tasks, maps)]`) is the model's `evaluateCircuits`
    (`none` = raises), for EVERY task list, EVERY list of maps and every (total) `bind`. -/
theorem translated_evaluate_estimation_circuits_eq {C M : Type} (bind : C → M → C) (tasks : List (Task C)) (maps : List M) :
    Translated.evaluate_estimation_circuits (fun t : Task C => t.op) (fun t => t.circuit) (fun t => t.shots) bind
        (fun o c s => (⟨o, c, s⟩ : Task C)) tasks maps
      = (evaluateCircuits bind tasks maps).toOption := by
  unfold Translated.evaluate_estimation_circuits evaluateCircuits
  by_cases h1 : maps.length = 1
  · obtain ⟨m, rfl⟩ := List.length_eq_one_iff.mp h1
    simp only [List.length_singleton, Nat.cast_one, beq_self_eq_true, if_true, Int.toNat_natCast,
      List.flatten_replicate_singleton]
    exact len_guard _ _ _ _
  · rw [broadcastMaps_eq_self _ _ fun h => absurd h h1, if_neg (by simpa using h1)]
    exact len_guard _ _ _ _

theorem coeffSum_translated (o : Op) :
    (o.map Term.coeff).foldl (fun a b => a + b) (gqOfInt 0) = o.coeffSum := by
  unfold Op.coeffSum
  rw [List.foldl_map]
  rfl

/-- TRANSLATION TIE (`_estimation.py:evaluate_non_measured_estimation_tasks`): the loop regenerated from the current Python source
    (`sum(term.coefficient for term in task.operator.terms)` for a constant operator; otherwise RuntimeError when
    `number_of_shots is not None and number_of_shots > 0`, else `0.0`; one `ExpectationValues` appended per task) is the model's
    `mapE evalNonMeasured` (`none` = raises; the first raising task aborts), for EVERY task list. -/
theorem translated_evaluate_non_measured_eq {C μ : Type} (mat : List (List GQ) → μ) (tasks : List (Task C)) :
    Translated.evaluate_non_measured_estimation_tasks (fun t : Task C => t.op) (fun t => t.shots) Op.isConstant (fun o : Op => o)
        Term.coeff (fun a b => a + b) gqOfInt (0 : GQ) (fun v : List GQ => v) mat (fun (v : Vals) _ _ => v) tasks
      = (mapE evalNonMeasured tasks).toOption := by
  unfold Translated.evaluate_non_measured_estimation_tasks
  dsimp only
  rw [foldlOpt_append (fun t : Task C => (evalNonMeasured t).toOption)]
  · rw [mapOpt_toOption]
    cases mapE evalNonMeasured tasks <;> rfl
  · intro acc t
    obtain ⟨op, c, shots⟩ := t
    unfold evalNonMeasured
    cases hc : op.isConstant with
    | true => simp [coeffSum_translated, Except.toOption]
    | false =>
      cases shots with
      | none => simp [Except.toOption]
      | some n =>
        by_cases hn : n > 0 <;> simp [hn, Except.toOption]

theorem measured_toOption (op : Op) (shots : Shots) :
    ((getExpectationValues op shots).toOption.bind fun r => some (toReal r)) = (measuredValue op shots).toOption := by
  unfold measuredValue
  cases getExpectationValues op shots <;> rfl

/-- TRANSLATION TIE (`_estimation.py:estimate_expectation_values_by_averaging`): the function regenerated from the current Python
    source – split (the translated `split_estimation_tasks_to_measure`), non-measured values (the translated
    `evaluate_non_measured_estimation_tasks`), `zip(*[(e.circuit, e.operator, e.number_of_shots) …])`, ONE call
    `runner.run_batch_and_measure(circuits, shots)`, `expectation_values_to_real(m.get_expectation_values(op))` per (operator,
    measurements) pair, `[None …]` of length `len(not measured) + len(measured)`, and the two write-back loops `full[i] = v` – is the
    model's `estimateByAveraging` (`none` = raises), for EVERY task list and EVERY runner `rb` (which may raise).
    `get_expectation_values` / `expectation_values_to_real` are instantiated by the model's `getExpectationValues` / `toReal`. -/
theorem translated_estimate_by_averaging_eq {C μ : Type} (mat : List (List GQ) → μ)
    (rb : List C → List (Option Int) → Except Err (List Shots)) (tasks : List (Task C)) :
    Translated.estimate_expectation_values_by_averaging (fun t : Task C => t.op.isConstant) (fun t : Task C => t.op) (fun t => t.shots)
        Op.isConstant (fun o : Op => o) Term.coeff (fun a b => a + b) gqOfInt (0 : GQ) (fun v : List GQ => v) mat
        (fun (v : Vals) _ _ => v) (fun t => t.circuit) (fun (_ : Unit) cs ns => (rb cs ns).toOption)
        (fun (shots : Shots) (op : Op) => (getExpectationValues op shots).toOption) toReal () tasks
      = (estimateByAveraging rb tasks).toOption := by
  unfold Translated.estimate_expectation_values_by_averaging estimateByAveraging
  dsimp only
  rw [translated_split_estimation_tasks_eq, translated_evaluate_non_measured_eq]
  generalize splitTasks tasks = s
  obtain ⟨tm, ntm, im, inm⟩ := s
  dsimp only
  cases mapE evalNonMeasured ntm with
  | error e => rfl
  | ok nv =>
    simp only [toOption_ok, Option.bind_some]
    cases tm with
    | nil =>
      simp only [List.isEmpty_nil, if_true, List.length_nil, Int.natCast_zero, Int.add_zero, Int.toNat_natCast, Nat.add_zero,
        List.map_const', List.length_map, List.length_range, writeBack_int, List.map_nil, List.zip_nil_left, List.foldl_nil, writeBack, toOption_ok]
    | cons t0 ts =>
      simp only [List.isEmpty_cons, Bool.false_eq_true, if_false, List.map_cons, List.map_map, Function.comp_def]
      cases rb (t0.circuit :: ts.map (fun t => t.circuit)) (t0.shots :: ts.map (fun t => t.shots)) with
      | error e => rfl
      | ok meas =>
        simp only [toOption_ok, Option.bind_some, measured_toOption, mapOpt_toOption]
        cases mapE (fun p : Op × Shots => measuredValue p.1 p.2) ((t0.op :: ts.map (fun t => t.op)).zip meas) with
        | error e => rfl
        | ok mv =>
          simp only [toOption_ok, Option.bind_some, ← Int.natCast_add, Int.toNat_natCast, List.map_const', List.length_range,
            writeBack_int, writeBack]

section exact
variable {K : Type} [Zero K] [Add K] [Mul K] [Conj K]

/-- TRANSLATION TIE (`_estimation.py:calculate_exact_expectation_values`): the two comprehensions regenerated from the current
    Python source (`runner.get_exact_expectation_values(task.circuit, task.operator)` per task – the first exception aborts – then
    `ExpectationValues(np.asarray([val]))` per value) are the model's `exactValues` (`none` = raises), for EVERY task list and every
    simulator `wf`; the runner's method is instantiated by the model's `exactValue` (which reads circuit and operator only). -/
theorem translated_calculate_exact_eq {C : Type} (wf : C → Except Err (Nat × (Nat → K))) (opMat : Op → Nat → Nat → Nat → K)
    (re : K → K) (tasks : List (Task C)) :
    Translated.calculate_exact_expectation_values (fun t : Task C => t.circuit) (fun t => t.op)
        (fun (_ : Unit) c o => (exactValue wf opMat re (⟨o, c, none⟩ : Task C)).toOption) (fun v : List K => v) (fun v => v) () tasks
      = (exactValues wf opMat re tasks).toOption := by
  unfold Translated.calculate_exact_expectation_values exactValues
  dsimp only
  rw [mapOpt_bind_map, ← mapOpt_toOption]
  congr 1
  funext t
  -- `exactValue` reads the circuit and the operator only
  show ((exactValue wf opMat re t).toOption.bind fun v => some [v]) = _
  cases exactValue wf opMat re t <;> rfl
end exact

section EndToEnd
variable {C μ : Type} (mat : List (List GQ) → μ) (rb : List C → List (Option Int) → Except Err (List Shots))

/-- the translated `estimate_expectation_values_by_averaging` at the model's instantiation of the externals -/
abbrev translatedEstimate (tasks : List (Task C)) : Option (List (Option Vals)) :=
  Translated.estimate_expectation_values_by_averaging (fun t : Task C => t.op.isConstant) (fun t : Task C => t.op) (fun t => t.shots)
    Op.isConstant (fun o : Op => o) Term.coeff (fun a b => a + b) gqOfInt (0 : GQ) (fun v : List GQ => v) mat
    (fun (v : Vals) _ _ => v) (fun t => t.circuit) (fun (_ : Unit) cs ns => (rb cs ns).toOption)
    (fun (shots : Shots) (op : Op) => (getExpectationValues op shots).toOption) toReal () tasks

theorem translatedEstimate_ok (tasks : List (Task C)) (r : List (Option Vals)) (h : translatedEstimate mat rb tasks = some r) :
    estimateByAveraging rb tasks = .ok r :=
  (toOption_ok_iff _ _).mp (by rw [← translated_estimate_by_averaging_eq mat rb tasks]; exact h)

/-- "exactly one result per task" (`result_length`) for the TRANSLATED code: whenever the translated function returns, the result
    list has the length of the task list – every task list, every runner -/
theorem translated_result_length (tasks : List (Task C)) (r : List (Option Vals)) (h : translatedEstimate mat rb tasks = some r) :
    r.length = tasks.length :=
  result_length rb tasks r (translatedEstimate_ok mat rb tasks r h)

/-- "one result per task AT THE TASK'S POSITION" (`result_at_index`) for the TRANSLATED code: entry `i` is a value (never `None`)
    computed from task `i` alone – by the non-measured rule if the task is not measured, otherwise from the operator of task `i` and
    the measurements the runner returned at task `i`'s rank in the submitted batch (runner law: one measurement set per circuit) -/
theorem translated_result_at_index (hlaw : ∀ cs ns meas, rb cs ns = .ok meas → meas.length = cs.length)
    (tasks : List (Task C)) (r : List (Option Vals)) (h : translatedEstimate mat rb tasks = some r) :
    ∃ meas : List Shots,
      (tasks.filter isMeasured ≠ [] → rb (submittedCircuits tasks) (submittedShots tasks) = .ok meas) ∧
      meas.length = (submittedCircuits tasks).length ∧
      ∀ i (hi : i < tasks.length), ∃ v, r[i]? = some (some v) ∧
        (if notMeasured tasks[i] then evalNonMeasured tasks[i]
         else measuredValue tasks[i].op (meas.getD (rank tasks i) [])) = .ok v :=
  result_at_index rb hlaw tasks r (translatedEstimate_ok mat rb tasks r h)

/-- "a constant operator yields the sum of its coefficients" (`constant_value`) for the TRANSLATED code, at any position and for any
    shot count -/
theorem translated_constant_value (tasks : List (Task C)) (r : List (Option Vals)) (h : translatedEstimate mat rb tasks = some r)
    (i : Nat) (hi : i < tasks.length) (hc : tasks[i].op.isConstant = true) :
    r[i]? = some (some [⟨(tasks[i].op.map (fun t => t.coeff.re)).sum, (tasks[i].op.map (fun t => t.coeff.im)).sum⟩]) :=
  constant_value rb tasks r (translatedEstimate_ok mat rb tasks r h) i hi hc

/-- "a non-constant zero-shot task yields 0" (`zero_shot_value`) for the TRANSLATED code -/
theorem translated_zero_shot_value (tasks : List (Task C)) (r : List (Option Vals)) (h : translatedEstimate mat rb tasks = some r)
    (i : Nat) (hi : i < tasks.length) (hc : tasks[i].op.isConstant = false) (h0 : tasks[i].shots = some 0) :
    r[i]? = some (some [0]) :=
  zero_shot_value rb tasks r (translatedEstimate_ok mat rb tasks r h) i hi hc h0

/-- the index domain of the write-back loops (`full[i] = v` is rendered as `List.set`, which does nothing outside `0 ≤ i < len`):
    every index the translated split hands to them is a position of the result list -/
theorem translated_write_back_in_range (tasks : List (Task C)) :
    ∀ i ∈ (splitTasks tasks).idxMeasure ++ (splitTasks tasks).idxNot,
      i < (splitTasks tasks).notToMeasure.length + (splitTasks tasks).toMeasure.length := by
  intro i hi
  rw [splitTasks_eq] at hi ⊢
  have hlt : i < tasks.length := by
    rcases List.mem_append.mp hi with h | h <;> exact ((mem_pos _ _ _).mp h).1
  exact Nat.lt_of_lt_of_eq hlt (length_filter_add tasks).symm

end EndToEnd

/-! non-vacuity: stand-in objects – a task is (constant?, shots), its operator the flag, terms / coefficients integers, a measurement
    set the shot count it was taken with -/
example : Translated.evaluate_non_measured_estimation_tasks (fun t : Bool × Option Int => t.1) (fun t => t.2) (fun o : Bool => o)
    (fun o => if o then [3, 4] else [5]) (fun c : Int => c) (fun a b => a + b) (fun n => n) (0 : Int) (fun v : List Int => v)
    (fun m : List (List Int) => m) (fun v _ _ => v) [(true, some 5), (false, some 0), (false, none)] = some [[7], [0], [0]] := by
  decide
example : Translated.evaluate_non_measured_estimation_tasks (fun t : Bool × Option Int => t.1) (fun t => t.2) (fun o : Bool => o)
    (fun o => if o then [3, 4] else [5]) (fun c : Int => c) (fun a b => a + b) (fun n => n) (0 : Int) (fun v : List Int => v)
    (fun m : List (List Int) => m) (fun v _ _ => v) [(true, some 5), (false, some 2)] = none := by decide
/-- tasks 0 and 2 are measured (their "measurement" is 100 + the shot count), task 1 is constant (3 + 4), task 3 has zero shots -/
example : Translated.estimate_expectation_values_by_averaging (fun t : Bool × Option Int => t.1) (fun t : Bool × Option Int => t.1)
    (fun t => t.2) (fun o : Bool => o) (fun o => if o then [3, 4] else [5]) (fun c : Int => c) (fun a b => a + b) (fun n => n)
    (0 : Int) (fun v : List Int => v) (fun m : List (List Int) => m) (fun v _ _ => v) (fun t => t.2.getD 0)
    (fun (_ : Unit) (cs : List Int) ns => if cs.length = ns.length then some (cs.map (fun c => 100 + c)) else none)
    (fun (m : Int) (_ : Bool) => some [m]) (fun v => v) () [(false, some 5), (true, some 9), (false, none), (false, some 0)]
    = some [some [105], some [7], some [100], some [0]] := by decide
example : Translated.estimate_expectation_values_by_averaging (fun t : Bool × Option Int => t.1) (fun t : Bool × Option Int => t.1)
    (fun t => t.2) (fun o : Bool => o) (fun o => if o then [3, 4] else [5]) (fun c : Int => c) (fun a b => a + b) (fun n => n)
    (0 : Int) (fun v : List Int => v) (fun m : List (List Int) => m) (fun v _ _ => v) (fun t => t.2.getD 0)
    (fun (_ : Unit) (_ : List Int) _ => none) (fun (m : Int) (_ : Bool) => some [m]) (fun v => v) ()
    [(false, some 5), (true, some 9)] = none := by decide
example : Translated.evaluate_estimation_circuits (fun t : Nat × Int × Option Int => t.1) (fun t => t.2.1) (fun t => t.2.2)
    (fun (c : Int) (m : Int) => c + m) (fun o c s => (o, c, s)) [(1, 10, none), (2, 20, some 3)] [5]
    = some [(1, 15, none), (2, 25, some 3)] := by decide
example : Translated.evaluate_estimation_circuits (fun t : Nat × Int × Option Int => t.1) (fun t => t.2.1) (fun t => t.2.2)
    (fun (c : Int) (m : Int) => c + m) (fun o c s => (o, c, s)) [(1, 10, none), (2, 20, some 3)] [5, 6, 7] = none := by decide
example : Translated.calculate_exact_expectation_values (fun t : Int × Int => t.1) (fun t => t.2)
    (fun (_ : Unit) (c : Int) (o : Int) => if o = 0 then none else some (c * o)) (fun v : List Int => v) (fun v => v) ()
    [(2, 3), (4, 5)] = some [[6], [20]] := by decide
example : Translated.calculate_exact_expectation_values (fun t : Int × Int => t.1) (fun t => t.2)
    (fun (_ : Unit) (c : Int) (o : Int) => if o = 0 then none else some (c * o)) (fun v : List Int => v) (fun v => v) ()
    [(2, 3), (4, 0)] = none := by decide

end OQ.C15
