/- C06 — PROPERTY THEOREMS (translation tie of the gate CLASSES).
   `OQ.Generated.TranslatedGates` is REGENERATED on every run from the current source of the dataclasses `MatrixFactoryGate`,
   `ControlledGate`, `Dagger`, `Exponential`, `Power` of `circuits/_gates.py` (harness/translate_cls.py: one inductive constructor
   per class with the dataclass fields in source order, one Lean function per method / property defined by cases on the class,
   each case rendered mechanically from that class's method body, constructor calls through `mk_<Class>` = `__post_init__`).
   The theorems below prove that these regenerated rules ARE the gate methods of the hand-written model `OQ/Model/C06.lean`
   (`Gate.params / freeSymbols / mkPow / mkExp / power / expG / dagger / controlled / replaceParams / bind`, the objects the
   theorems of Props/C06.lean speak about), for ALL gates and all arguments; an edit of a method body, of a `__post_init__` guard
   or of the field list changes the generated definitions and these equalities stop checking at build time.

   Reading guide.  `emb` embeds the model's gate tree into the generated `Gate P F E` with `P := Param`, `F := Factory`, `E := Rat`.
   The externals are INSTANTIATED with the model's own `getFreeSymbols` / `subSymbols` (`ext`); what those two say about sympy is
   the subject of C06's correspondence check, not of this tie.  The model stores control counts as `Nat` and does not re-check
   the constructor guard `num_control_qubits ≥ 1` when it re-wraps; the code does.  The ties therefore hold on `CtlPos` –
   "every control count in the tree is ≥ 1", which is every gate object that can exist (`emb_surjective_on_valid`) – and
   `*_ctlPos` show that every method keeps it.  `toRes` only renames the exception classes (`ValueError ↦ .value`,
   `NotImplementedError ↦ .notimpl`); it is injective (`toRes_injective`), so `toRes r = (model result).map emb` determines `r`.
   Tied elsewhere: `num_qubits` (Props/C07_TranslatedGates.lean) and `matrix` (generated into OQ/Generated/TranslatedGatesMatrix.lean,
   Props/C07_TranslatedMatrix.lean).  Not translated: `name`, `__str__`, `__eq__`, `__call__`. -/
import OQ.Lemmas.C06_TranslatedGates
import OQ.Props.C06
namespace OQ.C06
open OQ.Generated
namespace TG

/-- `Power(g, e)` keeps `CtlPos` -/
theorem mkPow_ctlPos {g g' : Gate} {e : Rat} (h : CtlPos g) (hp : mkPow g e = .ok g') : CtlPos g' :=
  transparent_ctlPos.mkPow h hp

/-- `Exponential(g)` keeps `CtlPos` -/
theorem mkExp_ctlPos {g g' : Gate} (h : CtlPos g) (hp : mkExp g = .ok g') : CtlPos g' :=
  transparent_ctlPos.mkExp h hp

/-- `.power(e)` keeps `CtlPos` -/
theorem power_ctlPos {g g' : Gate} {e : Rat} (h : CtlPos g) (hp : g.power e = .ok g') : CtlPos g' :=
  transparent_ctlPos.power h hp

/-- `.dagger` keeps `CtlPos` -/
theorem dagger_ctlPos {g g' : Gate} (h : CtlPos g) (hp : g.dagger = .ok g') : CtlPos g' :=
  transparent_ctlPos.dagger h hp

/-- `.controlled(n)`, `n ≥ 1`, keeps `CtlPos` (counts add) -/
theorem controlled_ctlPos {g g' : Gate} {n : Nat} (hn : 1 ≤ n) (h : CtlPos g) (hp : g.controlled n = .ok g') : CtlPos g' :=
  transparent_ctlPos.controlled hn h hp

/-- `.replace_params(ps)` keeps `CtlPos` -/
theorem replaceParams_ctlPos {g g' : Gate} {ps : List Param} (h : CtlPos g) (hp : g.replaceParams ps = .ok g') : CtlPos g' :=
  transparent_ctlPos.replaceParams transparent_ctlPos (fun _ _ _ _ _ => trivial) h hp

/-- `.bind(m)` keeps `CtlPos` -/
theorem bind_ctlPos {g g' : Gate} {m : SymMap} (h : CtlPos g) (hp : g.bind m = .ok g') : CtlPos g' :=
  transparent_ctlPos.bind transparent_ctlPos (fun _ _ _ _ => id) h hp

/-- TRANSLATION TIE: the property `.params` of all five classes, regenerated from the source, is the model's `Gate.params`;
    every gate. -/
theorem translated_params_eq (g : Gate) : TranslatedGates.Gate.params (emb g) = g.params := by
  induction g with
  | mf nm fac ps nq herm => rfl
  | ctrl _ _ ih | dag _ ih | exp _ ih | pow _ _ ih => exact ih

/-- TRANSLATION TIE: `.free_symbols` (`get_free_symbols(self.params)`: own property of `MatrixFactoryGate` and `Power`, inherited
    from the protocol `Gate` by the other three) is the model's `Gate.freeSymbols`; every gate. -/
theorem translated_free_symbols_eq (g : Gate) : TranslatedGates.Gate.free_symbols ext (emb g) = g.freeSymbols := by
  have aux : ∀ t : TGate, TranslatedGates.Gate.free_symbols ext t = getFreeSymbols (TranslatedGates.Gate.params t) := by
    intro t; cases t <;> rfl
  rw [aux, translated_params_eq]; rfl

/-- TRANSLATION TIE: the constructor call `Power(g, e)` with `__post_init__` (`ValueError` when `len(g.free_symbols) > 0`) is the
    model's `mkPow`; every gate, every exponent. -/
theorem translated_mk_Power_eq (g : Gate) (e : Rat) :
    toRes (TranslatedGates.mk_Power ext (emb g) e) = (mkPow g e).map emb := by
  unfold TranslatedGates.mk_Power mkPow
  rw [translated_free_symbols_eq]
  generalize g.freeSymbols = l
  cases l <;> simp [errOf, emb]

/-- TRANSLATION TIE: the constructor call `Exponential(g)` with `__post_init__` is the model's `mkExp`; every gate. -/
theorem translated_mk_Exponential_eq (g : Gate) :
    toRes (TranslatedGates.mk_Exponential ext (emb g)) = (mkExp g).map emb := by
  unfold TranslatedGates.mk_Exponential mkExp
  rw [translated_free_symbols_eq]
  generalize g.freeSymbols = l
  cases l <;> simp [errOf, emb]

/-- TRANSLATION TIE: `.power(exponent)` of all five classes (including the `ValueError` on free symbols, raised from below the
    controls of a `ControlledGate`) is the model's `Gate.power`; every gate with `CtlPos`, every exponent. -/
theorem translated_power_eq (g : Gate) (h : CtlPos g) (e : Rat) :
    toRes (TranslatedGates.Gate.power ext (emb g) e) = (g.power e).map emb := by
  induction g with
  | ctrl w k ih => exact toRes_ctrl_tie k h.1 (ih h.2)
  | mf nm fac ps nq herm => exact translated_mk_Power_eq (.mf nm fac ps nq herm) e
  | dag w => exact translated_mk_Power_eq (.dag w) e
  | exp w => exact translated_mk_Power_eq (.exp w) e
  | pow w e' => exact translated_mk_Power_eq (.pow w e') e

/-- TRANSLATION TIE: `.exp` (`Exponential(self)` on every class, `ValueError` on free symbols) is the model's `Gate.expG`;
    every gate. -/
theorem translated_exp_eq (g : Gate) :
    toRes (TranslatedGates.Gate.exp ext (emb g)) = g.expG.map emb := by
  have h := translated_mk_Exponential_eq g
  cases g <;> exact h

/-- TRANSLATION TIE: `.dagger` of all five classes (`self if self.is_hermitian else Dagger(self)`, re-wrapping through the
    constructors / `.exp` / `.power(exponent)`, errors propagated) is the model's `Gate.dagger`; every gate with `CtlPos`. -/
theorem translated_dagger_eq (g : Gate) (h : CtlPos g) :
    toRes (TranslatedGates.Gate.dagger ext (emb g)) = g.dagger.map emb := by
  induction g with
  | mf nm fac ps nq herm => cases herm <;> rfl
  | ctrl w k ih => exact toRes_ctrl_tie k h.1 (ih h.2)
  | dag w ih => rfl
  | exp w ih => exact toRes_bind_tie (ih h) fun w' _ => translated_exp_eq w'
  | pow w e ih => exact toRes_bind_tie (ih h) fun w' hw => translated_power_eq w' (dagger_ctlPos (g := w) h hw) e

/-- TRANSLATION TIE: `.controlled(n)` of all five classes is the model's `Gate.controlled`, for every gate with `CtlPos` and every
    valid count `n ≥ 1` (the model has no `ValueError` for `n < 1`: `bind` / `replace_params` only pass counts of existing gates;
    the rejected counts are tied to C07's model, `OQ.C07.TG.translated_controlled_eq`). -/
theorem translated_controlled_eq (g : Gate) (h : CtlPos g) (n : Nat) (hn : 1 ≤ n) :
    toRes (TranslatedGates.Gate.controlled ext (emb g) (n : Int)) = (g.controlled n).map emb := by
  induction g with
  | mf nm fac ps nq herm => exact congrArg toRes (mk_ControlledGate_pos _ n hn)
  | ctrl w k ih =>
    have h1 := h.1
    simp only [emb, TranslatedGates.Gate.controlled, Gate.controlled]
    -- the sum of the counts, in whichever order the source writes it
    rw [mk_ControlledGate_ok _ _ (by omega)]
    simp only [toRes_ok, Res.map_ok, emb, Res.ok.injEq, TranslatedGates.Gate.ControlledGate.injEq, true_and]
    omega
  | dag w ih => exact toRes_bind_tie (ih h) fun w' hw => translated_dagger_eq w' (controlled_ctlPos (g := w) hn h hw)
  | exp w ih => exact congrArg toRes (mk_ControlledGate_pos _ n hn)
  | pow w e ih =>
    exact toRes_bind_tie (ih h) fun w' hw => translated_power_eq w' (controlled_ctlPos (g := w) hn h hw) e

/-- TRANSLATION TIE: `.replace_params(new_params)` of all five classes is the model's `Gate.replaceParams`; every gate with
    `CtlPos`, every tuple (errors included: re-wrapping a `Power` / `Exponential` over new symbolic parameters raises). -/
theorem translated_replace_params_eq (g : Gate) (h : CtlPos g) (ps : List Param) :
    toRes (TranslatedGates.Gate.replace_params ext (emb g) ps) = (g.replaceParams ps).map emb := by
  induction g with
  | mf nm fac ps0 nq herm => rfl
  | ctrl w k ih =>
    exact toRes_bind_tie (ih h.2) fun w' hw => translated_controlled_eq w' (replaceParams_ctlPos h.2 hw) k h.1
  | dag w ih => exact toRes_bind_tie (ih h) fun w' hw => translated_dagger_eq w' (replaceParams_ctlPos (g := w) h hw)
  | exp w ih => exact toRes_bind_tie (ih h) fun w' _ => translated_exp_eq w'
  | pow w e ih => exact toRes_bind_tie (ih h) fun w' hw => translated_power_eq w' (replaceParams_ctlPos (g := w) h hw) e

/-- TRANSLATION TIE: `.bind(symbols_map)` of all five classes (`replace_params(tuple(sub_symbols(p, map) for p in params))` on the
    factory gate, bind-and-re-wrap on `ControlledGate` / `Dagger`, `NotImplementedError` on `Power` / `Exponential`) is the model's
    `Gate.bind`; every gate with `CtlPos`, every map. -/
theorem translated_bind_eq (g : Gate) (h : CtlPos g) (m : SymMap) :
    toRes (TranslatedGates.Gate.bind ext (emb g) m) = (g.bind m).map emb := by
  induction g with
  | mf nm fac ps0 nq herm => rfl
  | ctrl w k ih => exact toRes_bind_tie (ih h.2) fun w' hw => translated_controlled_eq w' (bind_ctlPos h.2 hw) k h.1
  | dag w ih => exact toRes_bind_tie (ih h) fun w' hw => translated_dagger_eq w' (bind_ctlPos (g := w) h hw)
  | exp | pow => rfl

/-- `toRes` loses nothing: the equations above determine the result of the translated method -/
theorem toRes_injective {α} {r1 r2 : Except TranslatedGates.Err α} (h : toRes r1 = toRes r2) : r1 = r2 := by
  cases r1 with
  | ok a => cases r2 with
    | ok b => simpa [toRes] using h
    | error e => simp [toRes] at h
  | error e => cases r2 with
    | ok b => simp [toRes] at h
    | error e' => cases e <;> cases e' <;> simp_all [toRes, errOf]

/-- what the constructor guards leave of the generated classes: control counts ≥ 1 (and a natural number of qubits) -/
def TValid : TGate → Prop
  | .MatrixFactoryGate _ _ _ nq _ => 0 ≤ nq
  | .ControlledGate t k => 1 ≤ k ∧ TValid t
  | .Dagger t => TValid t
  | .Exponential t => TValid t
  | .Power t _ => TValid t

/-- the embedding reaches every object of the generated classes with valid control counts, from a model gate satisfying `CtlPos`:
    the ties are statements about ALL such objects (the free-symbol guards of `Power` / `Exponential` are not part of `TValid`:
    the ties also cover trees those guards would refuse) -/
theorem emb_surjective_on_valid (t : TGate) (h : TValid t) : ∃ g : Gate, emb g = t ∧ CtlPos g := by
  induction t with
  | MatrixFactoryGate nm f ps nq herm =>
    exact ⟨.mf nm f ps nq.toNat herm, by rw [emb, Int.toNat_of_nonneg h], trivial⟩
  | ControlledGate t k ih =>
    obtain ⟨g, rfl, hp⟩ := ih h.2
    have hk : 0 ≤ k := Int.le_trans (by decide) h.1
    exact ⟨.ctrl g k.toNat, by rw [emb, Int.toNat_of_nonneg hk], (Int.le_toNat hk).mpr h.1, hp⟩
  | Dagger t ih => obtain ⟨g, rfl, hp⟩ := ih h; exact ⟨.dag g, rfl, hp⟩
  | Exponential t ih => obtain ⟨g, rfl, hp⟩ := ih h; exact ⟨.exp g, rfl, hp⟩
  | Power t e ih => obtain ⟨g, rfl, hp⟩ := ih h; exact ⟨.pow g e, rfl, hp⟩

/-- END-TO-END ON THE CODE AS IT IS NOW (S7, `bind_power_notimpl` / `bind_exp_notimpl`): the TRANSLATED `bind` of a `Power` and of an
    `Exponential` raises `NotImplementedError` – for every wrapped object, every exponent, every map and every behaviour of the
    externals (no tie needed: this is the generated definition itself). -/
theorem translated_bind_power_exp_notimpl {P F E S M : Type} (x : TranslatedGates.Ext P S M) (t : TranslatedGates.Gate P F E)
    (e : E) (m : M) :
    TranslatedGates.Gate.bind x (.Power t e) m = .error .NotImplementedError ∧
    TranslatedGates.Gate.bind x (.Exponential t) m = .error .NotImplementedError :=
  ⟨rfl, rfl⟩

/-- END-TO-END (S7 for every chain, `bind_refuses_iff` through the tie): the TRANSLATED `bind` returns a gate exactly when no
    power / exponential wrapper occurs anywhere in the chain, and raises `NotImplementedError` – never another exception – otherwise. -/
theorem translated_bind_refuses_iff (m : SymMap) (g : Gate) (h : CtlPos g) :
    (g.isCD = true → ∃ g', TranslatedGates.Gate.bind ext (emb g) m = .ok (emb g') ∧ g'.isCD = true) ∧
    (g.isCD = false → TranslatedGates.Gate.bind ext (emb g) m = .error .NotImplementedError) := by
  have tie := translated_bind_eq g h m
  constructor <;> intro hc
  · obtain ⟨g', hb, hc'⟩ := (bind_refuses_iff m g).1 hc
    exact ⟨g', toRes_injective (by rw [tie, hb]; rfl), hc'⟩
  · exact toRes_injective (by rw [tie, (bind_refuses_iff m g).2 hc]; rfl)

/-- END-TO-END (mechanism, `bind_eq_replace_params` through the ties): whenever the TRANSLATED `bind` returns, the result is the
    TRANSLATED `replace_params` applied to the tuple of substituted parameters, and the TRANSLATED `params` of the result is exactly
    that tuple, position by position. -/
theorem translated_bind_eq_replace_params (m : SymMap) (g : Gate) (h : CtlPos g) (t : TGate)
    (hb : TranslatedGates.Gate.bind ext (emb g) m = .ok t) :
    TranslatedGates.Gate.replace_params ext (emb g)
        ((TranslatedGates.Gate.params (emb g)).map (fun p => ext.sub_symbols p m)) = .ok t ∧
      TranslatedGates.Gate.params t = (TranslatedGates.Gate.params (emb g)).map (fun p => ext.sub_symbols p m) := by
  obtain ⟨g', hm, rfl⟩ := toRes_eq_map_ok (translated_bind_eq g h m) hb
  obtain ⟨h1, h2⟩ := bind_eq_replace_params m g g' hm
  rw [translated_params_eq, translated_params_eq]
  refine ⟨toRes_injective ?_, h2⟩
  rw [translated_replace_params_eq g h]
  exact congrArg (Res.map emb) h1

/-- END-TO-END (S7 "why nothing is lost", `power_exp_no_free` through the ties): a `Power` / `Exponential` object the TRANSLATED
    constructors accept has no free symbols by the TRANSLATED `free_symbols`. -/
theorem translated_power_exp_no_free (g : Gate) (e : Rat) (t : TGate) :
    (TranslatedGates.mk_Power ext (emb g) e = .ok t → TranslatedGates.Gate.free_symbols ext t = []) ∧
    (TranslatedGates.mk_Exponential ext (emb g) = .ok t → TranslatedGates.Gate.free_symbols ext t = []) := by
  constructor <;> intro hk
  · obtain ⟨g', hm, rfl⟩ := toRes_eq_map_ok (translated_mk_Power_eq g e) hk
    rw [translated_free_symbols_eq]; exact (power_exp_no_free g g' e).1 hm
  · obtain ⟨g', hm, rfl⟩ := toRes_eq_map_ok (translated_mk_Exponential_eq g) hk
    rw [translated_free_symbols_eq]; exact (power_exp_no_free g g' e).2 hm

/-- END-TO-END (S4, `bind_extra_gate` through the tie): two maps that agree on the TRANSLATED `free_symbols` of a gate give the
    same result of the TRANSLATED `bind` (gate or exception alike). -/
theorem translated_bind_extra (m m' : SymMap) (g : Gate) (h : CtlPos g)
    (hs : ∀ s ∈ TranslatedGates.Gate.free_symbols ext (emb g), lookup m s = lookup m' s) :
    TranslatedGates.Gate.bind ext (emb g) m = TranslatedGates.Gate.bind ext (emb g) m' := by
  rw [translated_free_symbols_eq] at hs
  apply toRes_injective
  rw [translated_bind_eq g h, translated_bind_eq g h, bind_extra_gate m m' g hs]

/-! ### non-vacuity: the TRANSLATED definitions on concrete objects -/
section Examples

def sx : Param := .expr (.sym "x")
/-- `RX(x)` (symbolic), `RX(3)` (numeric), hermitian `X` -/
def rxs : TGate := .MatrixFactoryGate "RX" (.builtin "RX") [sx] 1 false
def rx3 : TGate := .MatrixFactoryGate "RX" (.builtin "RX") [.number 3] 1 false
def xg : TGate := .MatrixFactoryGate "X" (.builtin "X") [] 1 true
abbrev XRes := Except TranslatedGates.Err TGate

example : TranslatedGates.Gate.free_symbols ext (.ControlledGate (.Dagger rxs) 2) = ["x"] := by decide
example : TranslatedGates.Gate.bind ext (.ControlledGate (.Dagger rxs) 2) [("x", .number 3)] =
    (.ok (.ControlledGate (.Dagger rx3) 2) : XRes) := by decide
example : TranslatedGates.Gate.bind ext (.Dagger (.ControlledGate rxs 2)) [("x", .number 3)] =
    (.ok (.ControlledGate (.Dagger rx3) 2) : XRes) := by decide
example : TranslatedGates.Gate.power ext rxs 2 = (.error .ValueError : XRes) := by decide
example : TranslatedGates.Gate.power ext (.ControlledGate rxs 1) 2 = (.error .ValueError : XRes) := by decide
example : TranslatedGates.Gate.power ext (.ControlledGate rx3 1) 2 = (.ok (.ControlledGate (.Power rx3 2) 1) : XRes) := by decide
example : TranslatedGates.Gate.bind ext (.Power rx3 2) [] = (.error .NotImplementedError : XRes) := by decide
example : TranslatedGates.Gate.replace_params ext (.Power rx3 2) [sx] = (.error .ValueError : XRes) := by decide
example : TranslatedGates.Gate.dagger ext xg = (.ok xg : XRes) := by decide
example : TranslatedGates.Gate.controlled ext xg 0 = (.error .ValueError : XRes) := by decide
example : CtlPos (.ctrl (.dag (.mf "RX" (.builtin "RX") [sx] 1 false)) 2) := by simp [CtlPos]
example : emb (.ctrl (.dag (.mf "RX" (.builtin "RX") [sx] 1 false)) 2) = .ControlledGate (.Dagger rxs) 2 := rfl
end Examples

end TG
end OQ.C06
