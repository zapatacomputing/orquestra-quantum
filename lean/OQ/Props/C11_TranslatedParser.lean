/-
  C11 — TRANSLATION TIE (work package T9), the term-string parser of `operators/_pauli_operators.py`.
  `OQ/Generated/TranslatedC11.lean` is regenerated on every run from the CURRENT source of `_is_in_brackets`, `_parse_complex`,
  `_parse_operator`, `_parse_operators_and_coefficient` by harness/translate_t9.py.  A `str` is a `List Char`; a function that may
  raise returns `Except OQ.Py.Exc τ` (the model writes `none` for `ValueError`: `liftO`).

  Externals: `complex(text)` is the parameter `ext_complex` (instantiated here by the model's `readC`, `none` = ValueError);
  `re.match(r"([XYZI])([0-9]+)$", s, re.I)`, `re.split(r"\ *\*\ *", s)`, `str.startswith / endswith / replace / strip / upper`,
  `int(str)`, `dict(pairs)` are prelude functions (`OQ/Exec/Py.lean`, compared with CPython on every run).
  DOMAIN of the string functions: ASCII text (with `re.I`, `[XYZI]` also matches U+0130 / U+0131, which the model excludes too).

  Tied: `_is_in_brackets`, `_parse_complex`, `_parse_operator` (for ALL strings).  `_parse_operators_and_coefficient` is translated and
  compared with the Python function on every run and evaluated on concrete inputs below; its tie to `parseOpsAndCoef` is proved in
  `OQ/Props/C11_TranslatedText.lean` (work package T19: `translated_parse_operators_and_coefficient_eq`).
-/
import OQ.Lemmas.C11_TranslatedT9Parser
import OQ.Props.C11
namespace OQ.C11
open OQ.Py OQ.Generated

/-- **`_is_in_brackets` (translated) = `isInBrackets`**, for every string: starts with `(` and ends with `)`. -/
theorem translated_is_in_brackets_eq (s : List Char) : Translated.is_in_brackets s = isInBrackets s := by
  unfold Translated.is_in_brackets isInBrackets startswith endswith
  simp only [List.reverse_cons, List.reverse_nil, List.nil_append, isPrefixOf_singleton, List.head?_reverse]
  simp

/-- Python's `complex(text)` as the model sees it -/
def readNum (readC : List Char → Option (Rat × Rat)) (t : List Char) : Except Exc Num :=
  liftO ((readC t).map (fun v => Num.cplx v.1 v.2))

/-- **`_parse_complex` (translated) = `parseComplex`**, for every string and every behaviour `readC` of `complex(text)`: blanks are
    removed before `complex` is called, `ValueError` of `complex` propagates, and a value with non-zero real AND imaginary part is
    accepted only in brackets (`ValueError` otherwise).  Domain: all strings. -/
theorem translated_parse_complex_eq (readC : List Char → Option (Rat × Rat)) (s : List Char) :
    Translated.parse_complex (readNum readC) s = liftO ((parseComplex readC s).map (fun v => Num.cplx v.1 v.2)) := by
  unfold Translated.parse_complex parseComplex readNum
  rw [replaceChar_space, translated_is_in_brackets_eq]
  cases h : readC (s.filter (fun c => c ≠ ' ')) with
  | none => rfl
  | some v =>
    simp only [Option.map_some, liftO, Except.bind, Num.re, Num.im]
    by_cases h1 : v.1 = 0
    · simp [h1]
    · by_cases h2 : v.2 = 0
      · simp [h1, h2]
      · cases hb : isInBrackets s <;> simp [h1, h2]

/-- **`_parse_operator` (translated) = `parseOperator`**, for every (ASCII) string: one Pauli letter in either case, then one or
    more decimal digits, optionally one final newline; the result is the qubit index and the UPPER-CASE letter; anything else is
    `ValueError`.  (`int(match.group(2))` is rendered with the general `int(str)` of the prelude; the tie shows that it cannot
    fail on what the regular expression matched.) -/
theorem translated_parse_operator_eq (s : List Char) :
    Translated.parse_operator s = liftO ((parseOperator s).map (fun r => ((r.1 : Int), [pauliChar r.2]))) := by
  unfold Translated.parse_operator parseOperator
  cases s with
  | nil => rfl
  | cons c rest =>
    have hdig : isAsciiDigit = fun d => (digitVal d).isSome := funext isAsciiDigit_eq_digitVal
    simp only [reMatchPauliIndex, beq_iff_eq, hdig]
    obtain ⟨hc, hu⟩ := pauli_letter c
    cases hp : pauliOfChar c with
    | none =>
      simp only [hp, Option.isSome_none] at hc
      simp only [hc, Bool.false_eq_true, if_false]
      rfl
    | some p =>
      simp only [hp, Option.isSome_some] at hc
      have hu := hu p hp
      simp only [hc, if_true]
      generalize (if rest.getLast? = some '\n' then rest.dropLast else rest) = digits
      by_cases he : digits.isEmpty = true
      · simp [he, liftO]
      · by_cases ha : digits.all (fun d => (digitVal d).isSome) = true
        · have hd : ∀ c ∈ digits, isAsciiDigit c = true := fun c hc => by rw [hdig]; exact List.all_eq_true.mp ha c hc
          have hp' := OQ.C19.intParse_digits digits (by simpa using he)
            (fun c hc => by rw [← OQ.C19.isAsciiDigit_eq]; exact hd c hc)
          simp only [he, ha, Bool.not_false, Bool.true_and, if_true, hp', hu, Bool.false_eq_true, if_false,
            Option.map_some, liftO, Except.bind, readNat_eq_valDigits digits hd]
        · simp [he, ha, liftO]

/-- END-TO-END (`parseOperator_repr` ON THE TRANSLATED CODE): the factor `f"{op}{index}"` printed by `PauliTerm.__repr__` for any
    operator and any qubit index is read back by the translated `_parse_operator` as exactly that index and that letter. -/
theorem translated_parse_operator_repr (n : Nat) (p : Pauli) :
    Translated.parse_operator (pauliChar p :: showNat n) = .ok ((n : Int), [pauliChar p]) := by
  rw [translated_parse_operator_eq, parseOperator_repr]
  rfl

/-! ## non-vacuity: the TRANSLATED definitions on concrete inputs (also the regression cases of `_parse_operators_and_coefficient`) -/

example : Translated.is_in_brackets "(1+2j)".toList = true := by decide
example : Translated.is_in_brackets "(1+2j".toList = false := by decide
example : Translated.is_in_brackets [] = false := by decide
example : Translated.parse_complex (readNum demoRead) "(1+2j)".toList = .ok (.cplx 1 2) := by decide +kernel
example : Translated.parse_complex (readNum demoRead) "( 1 + 2j )".toList = .ok (.cplx 1 2) := by decide +kernel
example : Translated.parse_complex (readNum demoRead) "1+2j".toList = .error .ValueError := by decide +kernel
example : Translated.parse_complex (readNum demoRead) "-0.5".toList = .ok (.cplx (-1/2) 0) := by decide +kernel
example : Translated.parse_complex (readNum demoRead) "Z0".toList = .error .ValueError := by decide +kernel
example : Translated.parse_operator "x12".toList = .ok (12, "X".toList) := by decide +kernel
example : Translated.parse_operator "Z0\n".toList = .ok (0, "Z".toList) := by decide +kernel
example : Translated.parse_operator "I".toList = .error .ValueError := by decide +kernel
example : Translated.parse_operator "Z-1".toList = .error .ValueError := by decide +kernel
example : Translated.parse_operator "Z1a".toList = .error .ValueError := by decide +kernel
-- `_parse_operators_and_coefficient`: coefficient first, blanks around `*`, bare identity dropped, no coefficient, duplicates, bad factor
example : Translated.parse_operators_and_coefficient (readNum demoRead) "(1+2j) * Z0*X12".toList
    = .ok (some (.cplx 1 2), [(0, "Z".toList), (12, "X".toList)]) := by decide +kernel
example : Translated.parse_operators_and_coefficient (readNum demoRead) "-0.5*I".toList = .ok (some (.cplx (-1/2) 0), []) := by
  decide +kernel
example : Translated.parse_operators_and_coefficient (readNum demoRead) " y3 *Z1 ".toList
    = .ok (none, [(3, "Y".toList), (1, "Z".toList)]) := by decide +kernel
example : Translated.parse_operators_and_coefficient (readNum demoRead) "Z0*X0".toList = .error .ValueError := by decide +kernel
example : Translated.parse_operators_and_coefficient (readNum demoRead) "1e-12*Y3*Q1".toList = .error .ValueError := by decide +kernel
example : Translated.parse_operators_and_coefficient (readNum demoRead) "1+2j*Z0".toList = .error .ValueError := by decide +kernel

end OQ.C11
