/- C18 — PROPERTY THEOREMS (translation tie): the rule chaining of `decompositions/_decomposition.py`
   (`decompose_operation`, `decompose_operations`), the circuit wrapper `decompose_orquestra_circuit` and the predicate of the
   bundled rule `U3GateToRotation` of `decompositions/_orquestra_decompositions.py`.

   `OQ.Generated.Translated.decompose_operation` … are REGENERATED from /repo's current Python source on every run
   (harness/translate_t3.py → OQ/Generated/TranslatedC18.lean).  Rules, operations, gates and circuits are OPAQUE objects;
   what the functions do with them is an explicit parameter of the translated definition:
     `meth_predicate : ρ → ω → Bool`, `meth_production : ρ → ω → List ω`   (`rule.predicate(op)`, `rule.production(op)`),
     `attr_operations`, `attr_n_qubits`, `ext_Circuit` (`Circuit(ops, n_qubits=…)`), `isinstance_…`, `attr_gate`, `attr_name`, ….
   The recursion of `decompose_operation` (`current_rule, *remaining_rules = decomposition_rules`, recursive call on
   `remaining_rules`) is emitted as STRUCTURAL recursion on the rule list (no `partial`, no fuel).
   Domain of every tie: rule objects whose `predicate` / `production` do not raise (total parameters); an exception in a rule
   aborts the Python call and is modelled by `none` in `OQ.C18` – that part of the model is outside the translated subset. -/
import OQ.Generated.TranslatedC18
import OQ.Lemmas.C18_TranslatedDecompose
import OQ.Props.C18
namespace OQ.C18
open OQ.Generated

/-- TRANSLATION TIE (`_decomposition.py:decompose_operation`): the recursive function regenerated from the current Python source
    is the model's `decomposeOperation` (the definition `rules_in_order`, `unmatched_kept`, `chain_sound`, … are proved about),
    for EVERY list of rule objects, EVERY operation and whatever the rules' `predicate` / `production` return. -/
theorem translated_decompose_operation_eq {ρ ω : Type} (pred : ρ → ω → Bool) (prod : ρ → ω → List ω)
    (rules : List ρ) (op : ω) :
    decomposeOperation (rules.map (totalRule pred prod)) op
      = some (Translated.decompose_operation pred prod op rules) := by
  induction rules generalizing op with
  | nil => rfl
  | cons r rs ih =>
    rw [List.map_cons, decomposeOperation_cons, Translated.decompose_operation]
    unfold decomposeOperations
    rw [funext ih]
    cases h : pred r op <;> simp [applyRule, totalRule, h, flatMapM_total]

/-- the same tie read from the model's side: EVERY list of model rules that never raise is the image of rule objects, so
    `decomposeOperation rs op` is what the translated Python computes with `predicate` / `production` read off `rs`. -/
theorem translated_decompose_operation_eq_model {ω : Type} (rs : List (Rule ω)) (op : ω)
    (htot : ∀ r ∈ rs, ∀ o, (r.predicate o).isSome ∧ (r.production o).isSome) :
    decomposeOperation rs op
      = some (Translated.decompose_operation (fun r o => (r.predicate o).getD false) (fun r o => (r.production o).getD [])
          op rs) := by
  rw [← translated_decompose_operation_eq,
    (List.map_congr_left fun r hr => totalRule_getD r (htot r hr)).trans (List.map_id rs)]

/-- TRANSLATION TIE (`_decomposition.py:decompose_operations`): the comprehension over the circuit's operations regenerated from
    the current source is the model's `decomposeOperations`, for every rule list and every operation list. -/
theorem translated_decompose_operations_eq {ρ ω : Type} (pred : ρ → ω → Bool) (prod : ρ → ω → List ω)
    (rules : List ρ) (ops : List ω) :
    decomposeOperations (rules.map (totalRule pred prod)) ops
      = some (Translated.decompose_operations pred prod ops rules) := by
  unfold decomposeOperations Translated.decompose_operations
  have hfun : decomposeOperation (rules.map (totalRule pred prod))
      = fun o => some (Translated.decompose_operation pred prod o rules) :=
    funext (translated_decompose_operation_eq pred prod rules)
  rw [hfun, flatMapM_total]
  simp only [List.map_id']

/-- TRANSLATION TIE (`_orquestra_decompositions.py:decompose_orquestra_circuit`): `Circuit(decompose_operations(circuit.operations,
    rules), n_qubits=circuit.n_qubits)` regenerated from the current source, with the constructor instantiated by the model's
    `mkCircuit` (`none` = the constructor raises), is the model's `decomposeCircuit`. -/
theorem translated_decompose_orquestra_circuit_eq {ρ α R : Type} (pred : ρ → Operation α R → Bool)
    (prod : ρ → Operation α R → List (Operation α R)) (rules : List ρ) (c : Circuit α R) :
    decomposeCircuit (rules.map (totalRule pred prod)) c
      = Translated.decompose_orquestra_circuit pred prod (fun c : Circuit α R => c.ops) (fun c => (c.n : Int))
          (fun ops n => mkCircuit ops n.toNat) c rules := by
  unfold decomposeCircuit Translated.decompose_orquestra_circuit
  rw [translated_decompose_operations_eq]
  simp

/-- TRANSLATION TIE (`_orquestra_decompositions.py:U3GateToRotation.predicate`): the boolean expression regenerated from the
    current source (`isinstance(operation, GateOperation) and (operation.gate.name == "U3" or isinstance(operation.gate,
    ControlledGate) and operation.gate.wrapped_gate.name == "U3")`) is the model's `u3Predicate`, for every operation. -/
theorem translated_u3_predicate_eq {α R : Type} (self : Unit) (o : Operation α R) :
    u3Predicate o = some (Translated.u3_predicate opIsGate Gate.isControlled opGate (fun g => (Gate.name g).toList)
      gateWrapped self o) := by
  have hs : ∀ s : String, (s.toList == ['U', '3']) = (s == "U3") := fun s => by
    rw [Bool.eq_iff_iff, beq_iff_eq, beq_iff_eq]
    exact ⟨fun h => String.ext h, fun h => h ▸ rfl⟩
  cases o with
  | other t qs => rfl
  | gate g qs =>
    cases g <;> simp [u3Predicate, Translated.u3_predicate, opIsGate, opGate, Gate.isControlled, gateWrapped, hs]

section EndToEnd
variable {ρ ω : Type} (pred : ρ → ω → Bool) (prod : ρ → ω → List ω)

/-- "With an empty rule list the circuit is returned unchanged" – for the translated `decompose_operations` (`no_rules_id`) -/
theorem translated_no_rules_id (ops : List ω) : Translated.decompose_operations pred prod ops [] = ops :=
  Option.some.inj ((translated_decompose_operations_eq pred prod [] ops).symm.trans (no_rules_id ops))

/-- "rules are applied in the order given to the output of the previous rule" – for the translated code (`rules_in_order`):
    decomposing with `r :: rs` is one full pass of `r` over the operations followed by decomposing its output with `rs` -/
theorem translated_rules_in_order (r : ρ) (rs : List ρ) (ops : List ω) :
    Translated.decompose_operations pred prod ops (r :: rs)
      = Translated.decompose_operations pred prod (Translated.decompose_operations pred prod ops [r]) rs := by
  apply Option.some.inj
  rw [← translated_decompose_operations_eq, List.map_cons, rules_in_order, ← List.map_singleton,
    translated_decompose_operations_eq, Option.bind_some, translated_decompose_operations_eq]

/-- … and for any split of the rule list (`rules_append`) -/
theorem translated_rules_append (rs₁ rs₂ : List ρ) (ops : List ω) :
    Translated.decompose_operations pred prod ops (rs₁ ++ rs₂)
      = Translated.decompose_operations pred prod (Translated.decompose_operations pred prod ops rs₁) rs₂ := by
  apply Option.some.inj
  rw [← translated_decompose_operations_eq, List.map_append, rules_append, translated_decompose_operations_eq,
    Option.bind_some, translated_decompose_operations_eq]

/-- "operations no rule applies to are kept unchanged" – for the translated `decompose_operation` (`unmatched_kept`) -/
theorem translated_unmatched_kept (rules : List ρ) (op : ω) (h : ∀ r ∈ rules, pred r op = false) :
    Translated.decompose_operation pred prod op rules = [op] :=
  Option.some.inj ((translated_decompose_operation_eq pred prod rules op).symm.trans
    (unmatched_kept _ op (List.forall_mem_map.mpr fun r hr => congrArg some (h r hr))))

/-- "… and in order" – for the translated code (`kept_in_place`): an unmatched operation stays between what its neighbours became -/
theorem translated_kept_in_place (rules : List ρ) (pre post : List ω) (op : ω) (h : ∀ r ∈ rules, pred r op = false) :
    Translated.decompose_operations pred prod (pre ++ op :: post) rules
      = Translated.decompose_operations pred prod pre rules ++ op :: Translated.decompose_operations pred prod post rules :=
  Option.some.inj ((translated_decompose_operations_eq pred prod rules _).symm.trans
    (kept_in_place _ pre post _ _ op (List.forall_mem_map.mpr fun r hr => congrArg some (h r hr))
      (translated_decompose_operations_eq pred prod rules pre) (translated_decompose_operations_eq pred prod rules post)))

end EndToEnd

/-! non-vacuity: the toy rules of `Props/C18.lean` as rule OBJECTS (0 = "halve an even number", 1 = "split n > 2 into n-1, 1") -/
example :
    let pred : Nat → Nat → Bool := fun r n => if r = 0 then n % 2 == 0 else decide (n > 2)
    let prod : Nat → Nat → List Nat := fun r n => if r = 0 then [n / 2, n / 2] else [n - 1, 1]
    Translated.decompose_operations pred prod [4, 3] [0, 1] = [2, 2, 2, 1] ∧
    Translated.decompose_operations pred prod [4, 3] [1, 0] = [3, 1, 1, 1, 1] ∧
    Translated.decompose_operation pred prod 4 [] = [4] ∧
    Translated.decompose_operations pred prod ([8] ++ 3 :: [7]) [0] = [4, 4] ++ 3 :: [7] := by decide
example : Translated.decompose_orquestra_circuit (fun (_ : Nat) (n : Nat) => n % 2 == 0) (fun _ n => [n / 2, n / 2])
    (fun c : List Nat × Int => c.1) (fun c => c.2) (fun ops n => (ops, n)) ([4, 3], 7) [0, 0] = ([1, 1, 1, 1, 3], 7) := by decide
example : Translated.u3_predicate opIsGate Gate.isControlled opGate (fun g => (Gate.name g).toList) gateWrapped ()
      (Operation.gate (Gate.controlled (Gate.mf "U3" [1, 2, 3] none : Gate Nat Nat) 3) [0, 1, 2, 3]) = true ∧
    Translated.u3_predicate opIsGate Gate.isControlled opGate (fun g => (Gate.name g).toList) gateWrapped ()
      (Operation.other "reset" [0] : Operation Nat Nat) = false := by decide

end OQ.C18
