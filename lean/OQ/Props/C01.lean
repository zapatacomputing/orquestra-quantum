/-
  C01 — PROPERTY THEOREMS: a circuit acts as the ordered product of its gates on the named qubits.
  Model: OQ/Model/Lift.lean (`_unitary_tools.py`) + OQ/Model/C01.lean (circuit, operations, simulators).
  Spec:  OQ/Spec/Lift.lean (`lift σ M`: gate on the qubits named by σ, identity elsewhere).
  Helper lemmas: OQ/Lemmas/C01_{Bits,Perm,Lift,Spec}.lean and OQ/Lemmas/C01.lean.
  All theorems but `multiPhase_real_parameters` hold over every commutative ring `R` (in particular ℂ, and ℚ(ζ₈) which
  the driver runs).

  Vocabulary (defined in the lemma files):
    bit n q x          bit of qubit q in the basis index x of an n-qubit register, (x / 2^(n-1-q)) % 2
                       – qubit 0 is the MOST significant bit;
    sub n qs x         the index read off x at the positions qs, first listed qubit most significant;
    bvEquiv n          Fin (2^n) ≃ (Fin n → Bool), MSB first;  toBV n A / toBVv n v: an executable matrix /
                       state vector re-indexed by bit assignments;
    sigmaOf qs n       the partition  Fin k ⊕ {q // q ∉ qs} ≃ Fin n  placing the j-th gate qubit at qs[j];
    OpValid n o        what the library accepts: ≥ 1 index, distinct, all < n, a 2^k × 2^k matrix;
    opSem n o          SPEC of a gate operation = Spec.lift (sigmaOf o.qs n) (own matrix);
    operSem n op       gate: opSem; phase-only operation: the diagonal matrix of its factors;
    circSem n ops      SPEC of a circuit = product over the operations in program order, first rightmost.
-/
import OQ.Lemmas.C01
import Mathlib.Analysis.Complex.Trigonometric
namespace OQ.C01
open OQ.Lift OQ OQ.Spec Matrix
variable {R : Type} [CommRing R]

/-! ### Sentence 1 — the embedding of one gate (`_lift_matrix`) -/

/-- (i) MAIN THEOREM, pointwise characterisation of `_lift_matrix`: for every register width `n`, every
    list `qs` of distinct indices `< n` (any order, gaps, any arity `k ≥ 1`, idle qubits) and every
    `2^k × 2^k` matrix `m`, the embedding succeeds, is `2^n × 2^n`, and its entry at (row, col) is the
    entry of `m` at the sub-indices read at `qs` when row and col agree on every other qubit, else 0. -/
theorem liftMatrix_pointwise (m : Mat R) (qs : List Nat) (n : Nat)
    (hne : qs ≠ []) (hd : qs.Nodup) (hlt : ∀ q ∈ qs, q < n)
    (hmr : m.r = 2 ^ qs.length) (hmc : m.c = 2 ^ qs.length) :
    ∃ L, liftMatrix m qs n = some L ∧ L.r = 2 ^ n ∧ L.c = 2 ^ n ∧
      ∀ row col, row < 2 ^ n → col < 2 ^ n →
        L.get row col = if (∀ q, q < n → q ∉ qs → bit n q row = bit n q col)
          then m.get (sub n qs row) (sub n qs col) else 0 := by
  obtain ⟨s, span, t, hn, hq, hL⟩ := liftMatrix_of_valid m qs n hne hd hlt
  exact ⟨_, hL, liftAt_spec m qs s span t n hn hq hd hmr hmc⟩

/-- (ii) the same transported to the specification: the executable embedding IS `Spec.lift` of the gate's
    own matrix along the partition that puts the j-th gate qubit on `qs[j]` (qubit 0 = most significant
    bit on both sides), identity on every other qubit. -/
theorem liftMatrix_eq_spec_lift (m : Mat R) (qs : List Nat) (n : Nat)
    (hne : qs ≠ []) (hd : qs.Nodup) (hlt : ∀ q ∈ qs, q < n)
    (hmr : m.r = 2 ^ qs.length) (hmc : m.c = 2 ^ qs.length) :
    ∃ L, liftMatrix m qs n = some L ∧ L.r = 2 ^ n ∧ L.c = 2 ^ n ∧
      toBV n L = Spec.lift (sigmaOf qs n hd hlt) (toBV qs.length m) :=
  liftMatrix_eq_lift m qs n hne hd hlt hmr hmc

/-- `GateOperation.lifted_matrix` is accepted EXACTLY on the valid operations (otherwise the code raises:
    empty tuple, duplicated index, index outside the register, matrix of the wrong arity). -/
theorem lifted_matrix_defined_iff (n : Nat) (o : Op R) : (gateLift o n).isSome ↔ OpValid n o :=
  gateLift_isSome_iff n o

/-- `GateOperation.lifted_matrix(n)` of a valid operation is the spec matrix of the operation. -/
theorem lifted_matrix_spec (n : Nat) (o : Op R) (h : OpValid n o) :
    ∃ L, gateLift o n = some L ∧ L.r = 2 ^ n ∧ L.c = 2 ^ n ∧ toBV n L = opSem n o :=
  gateLift_spec n o h

/-- pointwise reading of the spec of a gate operation: identity off the named qubits, the gate's own
    entry at the assignments restricted to `qs[0], qs[1], …` (in the listed order). -/
theorem opSem_pointwise (n : Nat) (o : Op R) (h : OpValid n o) (x y : BV (Fin n)) :
    opSem n o x y = if (∀ q : Fin n, q.val ∉ o.qs → x q = y q)
      then toBV o.qs.length o.m (fun j => x ⟨o.qs[j.val], h.lt _ (List.getElem_mem _)⟩)
                                 (fun j => y ⟨o.qs[j.val], h.lt _ (List.getElem_mem _)⟩)
      else 0 :=
  opSem_apply n o h x y

/-! ### Sentence 1 — the whole circuit (`Circuit.to_unitary`) -/

/-- (iii) for every non-empty circuit of valid gate operations, of any length and width, `to_unitary()`
    returns a `2^n × 2^n` matrix equal to the product, in program order (first operation rightmost), of
    each gate's own matrix on exactly its qubits and identity elsewhere. -/
theorem toUnitary_ordered_product (n : Nat) (gs : List (Op R)) (hne : gs ≠ []) (h : ∀ o ∈ gs, OpValid n o) :
    ∃ U, toUnitary ⟨n, gs.map Oper.gate⟩ = some U ∧ U.r = 2 ^ n ∧ U.c = 2 ^ n ∧
      toBV n U = circSem n (gs.map Oper.gate) := by
  -- `reduce` starts from the lifted matrix of the LAST operation and multiplies the earlier ones onto it
  obtain ⟨o, l, hrev⟩ := List.exists_cons_of_ne_nil (mt List.reverse_eq_nil_iff.mp hne)
  have hv : ∀ o' ∈ o :: l, OpValid n o' := fun o' ho' => h o' (List.mem_reverse.mp (hrev ▸ ho'))
  obtain ⟨L, hL, hs⟩ := gateLift_spec n o (hv o List.mem_cons_self)
  obtain ⟨Ls, h1, h2⟩ := foldl_lifted n l (fun o' ho' => hv o' (List.mem_cons_of_mem _ ho')) L _ hs
  refine ⟨Ls.foldl Mat.mul L, ?_, ?_⟩
  · unfold toUnitary
    dsimp only
    rw [← List.map_reverse, hrev, List.map_cons, List.mapM_cons]
    simp only [Oper.lifted, hL, h1]; rfl
  · rw [circSem, ← List.map_reverse, hrev, List.map_map, List.map_cons, List.prod_cons]; exact h2

/-- program order made explicit: appending an operation multiplies its matrix ON THE LEFT. -/
theorem circSem_snoc (n : Nat) (ops : List (Oper R)) (op : Oper R) :
    circSem n (ops ++ [op]) = operSem n op * circSem n ops := by
  rw [circSem_append, circSem_cons, circSem_nil, Matrix.one_mul]

/-- F17 (negative witness): the empty circuit has NO matrix – `reduce` of an empty sequence raises. -/
theorem toUnitary_empty_none (n : Nat) : toUnitary (R := R) ⟨n, []⟩ = none := rfl

/-- a non-gate (phase-only) operation anywhere makes `to_unitary()` raise. -/
theorem toUnitary_nongate_none (n : Nat) (a b : List (Oper R)) (fs : List R) :
    toUnitary ⟨n, a ++ Oper.mphase fs :: b⟩ = none := by
  unfold toUnitary
  dsimp only
  rw [List.reverse_append, List.reverse_cons, List.append_assoc, List.singleton_append, mapM_none_of_mem _ _ rfl]

/-! ### Sentence 2 — applying the operations one at a time; simulators -/

/-- `MultiPhaseOperation.apply` multiplies amplitude `k` by its factor `exp(iθ_k)`: the diagonal matrix
    of the factors applied to the state (and a length mismatch raises). -/
theorem multiPhase_apply_eq_diag (n : Nat) (fs : List R) (v : Mat R) (hvr : v.r = 2 ^ n) (hvc : v.c = 1) :
    (fs.length ≠ 2 ^ n → applyOper (.mphase fs) v = none) ∧
    (fs.length = 2 ^ n → ∃ w, applyOper (.mphase fs) v = some w ∧ w.r = 2 ^ n ∧ w.c = 1 ∧
      toBVv n w = Matrix.diagonal (fun x => fs.getD ((bvEquiv n).symm x).val 0) * toBVv n v) := by
  exact ⟨fun h => if_pos fun e => h (hvr ▸ e).symm, fun h => applyOper_spec n (.mphase fs) h v hvr hvc⟩

/-- corollary at `R = ℂ` for REAL parameters θ_k (the library rejects non-real ones): amplitude `k` is
    multiplied by `exp(i·θ_k)`, a factor of modulus 1 – a phase and nothing else. -/
theorem multiPhase_real_parameters (n : Nat) (thetas : List ℝ) (h : thetas.length = 2 ^ n)
    (v : Mat ℂ) (hvr : v.r = 2 ^ n) :
    ∃ w, applyOper (.mphase (thetas.map (fun θ : ℝ => Complex.exp ((θ : ℂ) * Complex.I)))) v = some w ∧
      ∀ k (hk : k < thetas.length),
        w.get k 0 = v.get k 0 * Complex.exp (thetas[k] * Complex.I) ∧
        ‖Complex.exp (thetas[k] * Complex.I)‖ = 1 := by
  refine ⟨_, if_neg (not_not.mpr (by rw [hvr, List.length_map, h])), fun k hk => ⟨?_, Complex.norm_exp_ofReal_mul_I _⟩⟩
  rw [Mat.get_ofFn _ _ _ _ _ (by rw [hvr, ← h]; exact hk) Nat.one_pos]
  congr 1
  rw [List.getD_eq_getElem?_getD, List.getElem?_map, List.getElem?_eq_getElem hk]
  rfl

/-- (iv) applying the operations one at a time (gates and phase-only operations, in any interleaving) to
    ANY state vector gives the circuit's matrix applied to that state; with no operation, the state is
    returned unchanged (the action clause also covers the empty circuit of F17). -/
theorem applyAll_eq_circuit_matrix (n : Nat) (ops : List (Oper R)) (h : ∀ op ∈ ops, OperValid n op)
    (v : Mat R) (hvr : v.r = 2 ^ n) (hvc : v.c = 1) :
    ∃ w, applyAll ops v = some w ∧ w.r = 2 ^ n ∧ w.c = 1 ∧ toBVv n w = circSem n ops * toBVv n v := by
  induction ops generalizing v with
  | nil => exact ⟨v, rfl, hvr, hvc, by rw [circSem_nil, Matrix.one_mul]⟩
  | cons o ops ih =>
    obtain ⟨ho, hops⟩ := List.forall_mem_cons.mp h
    obtain ⟨w1, h1, hr1, hc1, hs1⟩ := applyOper_spec n o ho v hvr hvc
    obtain ⟨w, h2, hr2, hc2, hs2⟩ := ih hops w1 hr1 hc1
    exact ⟨w, by rw [applyAll_cons, h1]; exact h2, hr2, hc2, by rw [hs2, hs1, circSem_cons, Matrix.mul_assoc]⟩

/-- (iv, executable form) for a non-empty circuit of gates, step-wise application equals the matrix
    REPORTED by `to_unitary()` times the initial state. -/
theorem applyAll_eq_toUnitary_mulVec (n : Nat) (gs : List (Op R)) (hne : gs ≠ []) (h : ∀ o ∈ gs, OpValid n o)
    (v : Mat R) (hvr : v.r = 2 ^ n) (hvc : v.c = 1) :
    ∃ U w, toUnitary ⟨n, gs.map Oper.gate⟩ = some U ∧ applyAll (gs.map Oper.gate) v = some w ∧
      toBVv n w = toBV n U * toBVv n v := by
  obtain ⟨U, hU, _, _, hs⟩ := toUnitary_ordered_product n gs hne h
  obtain ⟨w, hw, _, _, hws⟩ := applyAll_eq_circuit_matrix n (gs.map Oper.gate) (List.forall_mem_map.mpr h) v hvr hvc
  exact ⟨U, w, hU, hw, by rw [hws, hs]⟩

/-- `split_circuit`: the pieces are non-empty maximal runs with a constant predicate value equal to their
    tag, consecutive tags differ, concatenated they give back the operations in order, and every piece
    keeps the width of the whole circuit. -/
theorem splitCircuit_spec (c : Circ R) (p : Oper R → Bool) :
    ((splitCircuit c p).flatMap (fun s => s.2.ops) = c.ops) ∧
    (∀ s ∈ splitCircuit c p, s.2.n = c.n ∧ s.2.ops ≠ [] ∧ ∀ op ∈ s.2.ops, p op = s.1) ∧
    List.IsChain (fun a b => a.1 ≠ b.1) (splitCircuit c p) := by
  obtain ⟨hflat, htags, hchain⟩ := groupBy_spec p c.ops
  unfold splitCircuit
  refine ⟨by rw [List.flatMap_map]; exact hflat, fun s hs => ?_, by rw [List.isChain_map]; exact hchain⟩
  obtain ⟨bg, hbg, rfl⟩ := List.mem_map.mp hs
  exact ⟨rfl, htags bg hbg⟩

/-- (vi) EVERY simulator built on the base class, whatever set of operations it declares native
    (`isNative` arbitrary) and with phase-only operations interleaved: if its native run acts like applying
    the operations of the piece (`hnative`, the contract of `_get_wavefunction_from_native_circuit`), then
    `get_wavefunction` returns exactly what applying all operations one at a time returns, subject to the
    constructor checks of `Wavefunction`. -/
theorem getWavefunction_eq_applyAll (isNative : Oper R → Bool) (native : Circ R → Mat R → Option (Mat R))
    (valid : Mat R → Bool) (hnative : ∀ sub st, native sub st = applyAll sub.ops st)
    (c : Circ R) (init : Option (Mat R)) :
    getWavefunction isNative native valid c init =
      (applyAll c.ops (init.getD (zeroState c.n))).bind (fun st => if valid st then some st else none) :=
  getWavefunction_eq isNative native valid hnative c init

/-- the bundled `SymbolicSimulator` (everything native, native run = step-wise application). -/
theorem symbolicSimulator_eq_applyAll (valid : Mat R → Bool) (c : Circ R) (init : Option (Mat R)) :
    symbolicWavefunction valid c init =
      (applyAll c.ops (init.getD (zeroState c.n))).bind (fun st => if valid st then some st else none) :=
  getWavefunction_eq _ _ valid (fun _ _ => rfl) c init

/-- (vi, closed form) the final state of any such simulator is the circuit's matrix applied to the
    initial state (`|0…0⟩` when none is given). -/
theorem getWavefunction_final_state (isNative : Oper R → Bool) (native : Circ R → Mat R → Option (Mat R))
    (valid : Mat R → Bool) (hnative : ∀ sub st, native sub st = applyAll sub.ops st)
    (c : Circ R) (h : ∀ op ∈ c.ops, OperValid c.n op) (init : Option (Mat R))
    (hinit : ∀ v, init = some v → v.r = 2 ^ c.n ∧ v.c = 1) :
    ∃ w, toBVv c.n w = circSem c.n c.ops * toBVv c.n (init.getD (zeroState c.n)) ∧
      getWavefunction isNative native valid c init = if valid w then some w else none := by
  have hv : (init.getD (zeroState c.n)).r = 2 ^ c.n ∧ (init.getD (zeroState c.n)).c = 1 := by
    cases init with
    | none => exact ⟨rfl, rfl⟩
    | some v => exact hinit v rfl
  obtain ⟨w, hw, _, _, hs⟩ := applyAll_eq_circuit_matrix c.n c.ops h _ hv.1 hv.2
  refine ⟨w, hs, ?_⟩
  rw [getWavefunction_eq isNative native valid hnative, hw]; rfl

/-! ### Sentence 3 — concatenation -/

/-- the constructor invariant: a circuit of width 0 has no operations (so pieces and sums are well formed). -/
theorem mkCircuit_wellFormed (ops : List (Oper R)) (d : Option Nat) (c : Circ R)
    (h : mkCircuit ops d = some c) : c.wf := by
  intro hn
  unfold mkCircuit at h
  split at h
  · -- a positive declared width
    cases h; exact absurd hn (Nat.succ_ne_zero _)
  · -- the width by operations: 0 only for no operations
    dsimp only at h
    split_ifs at h with he
    · cases h; exact List.isEmpty_iff.mp he
    · cases h; exact absurd hn (Nat.succ_ne_zero _)

/-- `c1 + c2`: operations are concatenated in order and the register width is the larger of the two. -/
theorem add_circuit_width_max (c d : Circ R) (hc : c.wf) (hd : d.wf) :
    addCirc c d = some ⟨max c.n d.n, c.ops ++ d.ops⟩ := by
  unfold addCirc
  by_cases h : 0 < max c.n d.n
  · exact mkCircuit_pos _ _ h
  · -- width 0: both circuits are empty
    have h0 : max c.n d.n = 0 := by omega
    rw [h0, hc (by omega), hd (by omega)]; rfl

/-- `c + gate_operation`: appended last, width = max(width, largest index + 1); a non-gate operation is
    rejected (`NotImplementedError`). -/
theorem add_operation_width_max (c : Circ R) (o : Op R) (h : o.qs ≠ []) (fs : List R) :
    addOp c (.gate o) = some ⟨max c.n (listMax o.qs + 1), c.ops ++ [.gate o]⟩ ∧
    addOp c (.mphase fs) = none := by
  refine ⟨?_, rfl⟩
  rw [addOp, if_neg (by simpa using h)]
  exact mkCircuit_pos _ _ (by omega)

/-- widening: on a wider register a circuit of gates acts as itself on its own qubits and as the identity
    on the added (idle) qubits. -/
theorem circuit_widen (n N : Nat) (hn : n ≤ N) (gs : List (Op R)) (h : ∀ o ∈ gs, OpValid n o) :
    circSem N (gs.map Oper.gate) = Spec.lift (widenEquiv n N hn) (circSem n (gs.map Oper.gate)) := by
  induction gs with
  | nil => rw [List.map_nil, circSem_nil, circSem_nil, Spec.lift_one]
  | cons o gs ih =>
    obtain ⟨ho, hgs⟩ := List.forall_mem_cons.mp h
    rw [List.map_cons, circSem_cons, circSem_cons, Spec.lift_mul, ih hgs]
    exact congrArg _ (opSem_widen n N hn o ho)

/-- (v) concatenating two circuits composes their actions: the sum has the operations of both in order,
    the larger of the two widths, and on that register it acts as
    (second circuit, widened by identity) · (first circuit, widened by identity). -/
theorem add_composes (n1 n2 : Nat) (g1 g2 : List (Op R))
    (h1 : ∀ o ∈ g1, OpValid n1 o) (h2 : ∀ o ∈ g2, OpValid n2 o) :
    addCirc ⟨n1, g1.map Oper.gate⟩ ⟨n2, g2.map Oper.gate⟩ =
        some ⟨max n1 n2, g1.map Oper.gate ++ g2.map Oper.gate⟩ ∧
      circSem (max n1 n2) (g1.map Oper.gate ++ g2.map Oper.gate) =
        Spec.lift (widenEquiv n2 (max n1 n2) (Nat.le_max_right _ _)) (circSem n2 (g2.map Oper.gate)) *
        Spec.lift (widenEquiv n1 (max n1 n2) (Nat.le_max_left _ _)) (circSem n1 (g1.map Oper.gate)) := by
  -- a circuit of valid gate operations is well formed: a valid operation needs a qubit
  have wf : ∀ (n : Nat) (g : List (Op R)), (∀ o ∈ g, OpValid n o) → (⟨n, g.map Oper.gate⟩ : Circ R).wf := by
    intro n g hg hn
    cases g with
    | nil => rfl
    | cons o _ => exact absurd (hg o List.mem_cons_self).pos (Nat.not_lt.mpr (Nat.le_of_eq hn))
  exact ⟨add_circuit_width_max _ _ (wf n1 g1 h1) (wf n2 g2 h2), by
    rw [circSem_append, circuit_widen n2 _ (Nat.le_max_right _ _) g2 h2, circuit_widen n1 _ (Nat.le_max_left _ _) g1 h1]⟩

/-- (iii)+(v) the matrix REPORTED by `to_unitary()` for a non-empty sum is that composition. -/
theorem add_toUnitary (n1 n2 : Nat) (g1 g2 : List (Op R)) (hne : g1 ++ g2 ≠ [])
    (h1 : ∀ o ∈ g1, OpValid n1 o) (h2 : ∀ o ∈ g2, OpValid n2 o) :
    ∃ s U, addCirc ⟨n1, g1.map Oper.gate⟩ ⟨n2, g2.map Oper.gate⟩ = some s ∧ toUnitary s = some U ∧
      toBV (max n1 n2) U =
        Spec.lift (widenEquiv n2 (max n1 n2) (Nat.le_max_right _ _)) (circSem n2 (g2.map Oper.gate)) *
        Spec.lift (widenEquiv n1 (max n1 n2) (Nat.le_max_left _ _)) (circSem n1 (g1.map Oper.gate)) := by
  obtain ⟨hs, hsem⟩ := add_composes n1 n2 g1 g2 h1 h2
  have hval : ∀ o ∈ g1 ++ g2, OpValid (max n1 n2) o := List.forall_mem_append.mpr
    ⟨fun o ho => (h1 o ho).mono (Nat.le_max_left _ _), fun o ho => (h2 o ho).mono (Nat.le_max_right _ _)⟩
  obtain ⟨U, hU, _, _, hUs⟩ := toUnitary_ordered_product (max n1 n2) (g1 ++ g2) hne hval
  rw [List.map_append] at hU hUs
  exact ⟨_, U, hs, hU, by rw [hUs, hsem]⟩

/-! ### Non-vacuity: concrete, non-trivial inputs meeting the hypotheses -/

section Examples

/-- an asymmetric 2-qubit gate over ℤ -/
def exM : Mat Int := Mat.ofLists [[1, 2, 3, 4], [5, 6, 7, 8], [9, 10, 11, 12], [13, 14, 15, 16]]
def exX : Mat Int := Mat.ofLists [[0, 1], [1, 0]]
/-- descending, gapped indices with an idle qubit (qubit 1) on a 3-qubit register -/
def exOp : Op Int := ⟨exM, [2, 0]⟩
def exOp2 : Op Int := ⟨exX, [1]⟩

example : OpValid 3 exOp := ⟨by decide, by decide, by decide, rfl, rfl⟩
example : OpValid 3 exOp2 := ⟨by decide, by decide, by decide, rfl, rfl⟩
example : ∀ o ∈ [exOp, exOp2], OpValid 3 o := by
  intro o ho
  simp only [List.mem_cons, List.not_mem_nil, or_false] at ho
  rcases ho with rfl | rfl
  · exact ⟨by decide, by decide, by decide, rfl, rfl⟩
  · exact ⟨by decide, by decide, by decide, rfl, rfl⟩
example : [exOp, exOp2] ≠ [] := by simp
-- the pointwise formula on this input: row 5 = |101⟩, col 0 = |000⟩ agree on the idle qubit 1;
-- sub-indices (bit of qubit 2, bit of qubit 0) are 3 and 0
example : (∀ q, q < 3 → q ∉ [2, 0] → bit 3 q 5 = bit 3 q 0) ∧ sub 3 [2, 0] 5 = 3 ∧ sub 3 [2, 0] 0 = 0 := by
  decide
-- … and row 7 = |111⟩, col 0 differ on the idle qubit: the entry is 0
example : ¬ (∀ q, q < 3 → q ∉ [2, 0] → bit 3 q 7 = bit 3 q 0) := by decide
example : ((liftMatrix exM [2, 0] 3).map (fun L => (L.get 5 0, L.get 7 0, L.get 4 1))) = some (13, 0, 7) := by
  decide +kernel
-- rejected inputs (the hypotheses of the theorems are necessary)
example : (liftMatrix exM [1, 1] 3).isNone ∧ (liftMatrix exM [0, 3] 3).isNone ∧ (liftMatrix exM [] 3).isNone ∧
    (gateLift (⟨exX, [0, 1]⟩ : Op Int) 3).isNone := by decide +kernel
-- the hypothesis of (vi) is satisfiable: the bundled simulator's native run
example : ∀ (sub : Circ Int) (st : Mat Int), (fun (s : Circ Int) v => applyAll s.ops v) sub st = applyAll sub.ops st :=
  fun _ _ => rfl
-- a split into native / non-native runs with an interleaved phase-only operation
example : (splitCircuit (⟨1, [.gate exOp2, .mphase [1, -1], .gate exOp2, .gate exOp2]⟩ : Circ Int) Oper.isGate).map
    (fun s => (s.1, s.2.ops.length, s.2.n)) = [(true, 1, 1), (false, 1, 1), (true, 2, 1)] := by decide
-- widths of sums
example : ((addCirc (⟨1, [.gate exOp2]⟩ : Circ Int) ⟨3, [.gate exOp]⟩).map (fun c => (c.n, c.ops.length))) = some (3, 2) := by
  decide
example : ((addOp (⟨1, []⟩ : Circ Int) (.gate exOp)).map (fun c => (c.n, c.ops.length))) = some (3, 1) := by decide

end Examples

end OQ.C01
