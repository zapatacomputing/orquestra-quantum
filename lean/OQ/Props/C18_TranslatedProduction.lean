/- C18 — PROPERTY THEOREMS (translation tie): `U3GateToRotation.production` of
   `decompositions/_orquestra_decompositions.py` (the predicate and the rule chaining are tied in `C18_TranslatedDecompose.lean`).

   `OQ.Generated.Translated.u3_production` is REGENERATED from /repo's current Python source on every run (harness/translate_t11.py →
   OQ/Generated/TranslatedC18.lean).  Operations (ω), gates (κ) and gate parameters (π) are OPAQUE; `attr_params`
   (`operation.params`), `ext_RZ` / `ext_RY` (the gate factories), `isinstance_ControlledGate`, `attr_gate`,
   `attr_num_control_qubits`, `attr_qubit_indices`, `call_gate_star` (`gate(*qubits)`) are parameters, and `meth_controlled`
   (`gate.controlled(k)`) is a RAISING external (`Option`; `ControlledGate.__post_init__` raises for `k < 1`).
   `theta, phi, lambda_ = operation.params` is rendered as a match on a three-element list (anything else: ValueError → `none`); the
   closure `preprocess_gate` as a local function that may raise; the comprehension as `OQ.Py.mapOpt` (first exception aborts);
   `reversed(…)` as `List.reverse`.  `none` = the Python call raises. -/
import OQ.Generated.TranslatedC18
import OQ.Lemmas.C18_TranslatedProduction
import OQ.Props.C18
namespace OQ.C18
open OQ.Generated

/-- TRANSLATION TIE (`_orquestra_decompositions.py:U3GateToRotation.production`): the method regenerated from the current Python
    source is the model's `u3Production` (`none` = raises), for EVERY operation: gate operations with any gate (plain, controlled with
    any control count incl. the rejected `0`, daggered), any number of parameters, and non-gate operations (which have no parameters
    to unpack). -/
theorem translated_u3_production_eq {α R : Type} (self : Unit) (o : Operation α R) :
    Translated.u3_production opParams (rzGate : α → Gate α R) ryGate Gate.isControlled opGate gateControls
        (fun g k => g.mfControlled k.toNat) opQubits (fun g qs => Operation.gate g (qs.map Int.toNat)) self o
      = u3Production o := by
  cases o with
  | other t qs => rfl
  | gate g qs =>
    unfold Translated.u3_production u3Production
    simp only [opParams, opGate, opQubits, Operation.qs, map_toNat_ofNat]
    rcases hp : g.params with _ | ⟨a, _ | ⟨b, _ | ⟨c, _ | ⟨d, r⟩⟩⟩⟩
    · rfl
    · rfl
    · rfl
    · -- three parameters: both sides compute, once the control count is `0` (rejected) or a successor
      cases g with
      | controlled w k => cases k <;> rfl
      | _ => rfl
    · rfl

section Structure
variable {σ ω κ π : Type} (params : ω → List π) (rz ry : π → κ) (isCtl : κ → Bool) (gate : ω → κ) (nctl : κ → Int)
  (ctl : κ → Int → Option κ) (qubits : ω → List Int) (app : κ → List Int → ω) (self : σ)

/-- plain gate: `RZ(λ), RY(θ), RZ(φ)` in THIS (circuit) order – the list `[RZ(φ), RY(θ), RZ(λ)]` reversed – on the operation's
    qubits; whatever the factories, the gate application and the objects are -/
theorem translated_u3_order_plain (op : ω) (th ph la : π) (hp : params op = [th, ph, la]) (hc : isCtl (gate op) = false) :
    Translated.u3_production params rz ry isCtl gate nctl ctl qubits app self op
      = some [app (rz la) (qubits op), app (ry th) (qubits op), app (rz ph) (qubits op)] := by
  unfold Translated.u3_production
  simp [hp, hc, OQ.Py.mapOpt]

/-- controlled gate: every rotation gets `gate.controlled(num_control_qubits)` first (in the order RZ(φ), RY(θ), RZ(λ); the first
    failing `controlled` aborts), the result is in the same reversed order -/
theorem translated_u3_order_controlled (op : ω) (th ph la : π) (g1 g2 g3 : κ) (hp : params op = [th, ph, la])
    (hc : isCtl (gate op) = true) (h1 : ctl (rz ph) (nctl (gate op)) = some g1) (h2 : ctl (ry th) (nctl (gate op)) = some g2)
    (h3 : ctl (rz la) (nctl (gate op)) = some g3) :
    Translated.u3_production params rz ry isCtl gate nctl ctl qubits app self op
      = some [app g3 (qubits op), app g2 (qubits op), app g1 (qubits op)] := by
  unfold Translated.u3_production
  simp [hp, hc, OQ.Py.mapOpt, h1, h2, h3]

/-- any other number of parameters: the unpacking raises -/
theorem translated_u3_arity (op : ω) (hp : (params op).length ≠ 3) :
    Translated.u3_production params rz ry isCtl gate nctl ctl qubits app self op = none := by
  unfold Translated.u3_production
  rcases h : params op with _ | ⟨a, _ | ⟨b, _ | ⟨c, _ | ⟨d, r⟩⟩⟩⟩ <;> simp_all

end Structure

section EndToEnd
variable {α R : Type}

/-- the translated production at the model's reading of the opaque objects -/
abbrev translatedU3Production (o : Operation α R) : Option (List (Operation α R)) :=
  Translated.u3_production opParams (rzGate : α → Gate α R) ryGate Gate.isControlled opGate gateControls
    (fun g k => g.mfControlled k.toNat) opQubits (fun g qs => Operation.gate g (qs.map Int.toNat)) () o

/-- `u3_replaced_plain` with the translated production as the rule's production: a plain U3(θ,φ,λ) becomes RZ(λ), RY(θ), RZ(φ) -/
theorem translated_u3_replaced_plain (th ph la : α) (m : Option (Mat R)) (qs : List Nat) :
    decomposeOperation [⟨u3Predicate, translatedU3Production⟩] (.gate (.mf "U3" [th, ph, la] m) qs) =
      some [.gate (rzGate la) qs, .gate (ryGate th) qs, .gate (rzGate ph) qs] := by
  rw [show translatedU3Production = u3Production from funext (translated_u3_production_eq (α := α) (R := R) ())]
  exact u3_replaced_plain th ph la m qs

/-- `u3_replaced_controlled` with the translated production: `c ≥ 1` controls are re-applied to each rotation -/
theorem translated_u3_replaced_controlled (th ph la : α) (m : Option (Mat R)) (c : Nat) (hc : 1 ≤ c) (qs : List Nat) :
    decomposeOperation [⟨u3Predicate, translatedU3Production⟩] (.gate (.controlled (.mf "U3" [th, ph, la] m) c) qs) =
      some [.gate (.controlled (rzGate la) c) qs, .gate (.controlled (ryGate th) c) qs,
            .gate (.controlled (rzGate ph) c) qs] := by
  rw [show translatedU3Production = u3Production from funext (translated_u3_production_eq (α := α) (R := R) ())]
  exact u3_replaced_controlled th ph la m c hc qs

end EndToEnd

/-! non-vacuity: gates / operations as integers and lists (`RZ(p) = 100 + p`, `RY(p) = 200 + p`, `g.controlled(k) = 1000·k + g`,
    an operation `[gate, qubit…]`; operation `[g, …]` is "controlled" iff `g ≥ 1000`, then with `g / 1000` controls) -/
example : Translated.u3_production (fun o : List Int => o.take 3) (fun p : Int => 100 + p) (fun p => 200 + p)
    (fun g => decide (g ≥ 1000)) (fun o => o.getD 3 0) (fun g => g / 1000) (fun g k => if k < 1 then none else some (1000 * k + g))
    (fun o => o.drop 4) (fun g qs => g :: qs) () [1, 2, 3, 7, 5, 6] = some [[103, 5, 6], [201, 5, 6], [102, 5, 6]] := by decide
example : Translated.u3_production (fun o : List Int => o.take 3) (fun p : Int => 100 + p) (fun p => 200 + p)
    (fun g => decide (g ≥ 1000)) (fun o => o.getD 3 0) (fun g => g / 1000) (fun g k => if k < 1 then none else some (1000 * k + g))
    (fun o => o.drop 4) (fun g qs => g :: qs) () [1, 2, 3, 2007, 5, 6] = some [[2103, 5, 6], [2201, 5, 6], [2102, 5, 6]] := by
  decide
example : Translated.u3_production (fun o : List Int => o.take 2) (fun p : Int => 100 + p) (fun p => 200 + p)
    (fun g => decide (g ≥ 1000)) (fun o => o.getD 3 0) (fun g => g / 1000) (fun g k => if k < 1 then none else some (1000 * k + g))
    (fun o => o.drop 4) (fun g qs => g :: qs) () [1, 2, 3, 7, 5, 6] = none := by decide
example : translatedU3Production (Operation.gate (Gate.controlled (Gate.mf "U3" [1, 2, 3] none : Gate Nat Nat) 0) [0, 1]) = none := by
  decide
example : translatedU3Production (Operation.other "reset" [0] : Operation Nat Nat) = none := by decide

end OQ.C18
