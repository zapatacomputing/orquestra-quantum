/-
  C05 — PROPERTY THEOREMS: circuits survive JSON serialisation unchanged in structure and meaning.
  Model: OQ/Model/C05.lean.  Helper lemmas: OQ/Lemmas/C05.lean.

  Reading guide.  `C : Codec P E` is the external text codec (`str`, `sympify`, `free_symbols`,
  `f"{exponent}"`, definition `!=`); `SympifyLaw C nrm okName auto` is its assumed law, where
  `nrm p` is what one print/parse cycle returns for `p` (Python `int` → `Integer`, `float` → `Float`,
  a `Float` rounded to its 15 printed digits).  "Equal as numbers or expressions" is therefore:
  the deserialised circuit is `c.map nrm` — *exactly* the original with `nrm` applied to every
  expression, nothing else changed (`roundtrip_structure`), equal to the original when the
  parameters are exactly representable (`roundtrip_eq`), with the same free symbols
  (`roundtrip_freeSymbols`) and the same matrices (`roundtrip_matrix`).  The JSON text / file step
  (`json.dumps`/`loads`) is the identity on these dictionaries (trusted).

  STRENGTH.  The round-trip theorems hold for every circuit the library can build whose symbol names
  are admissible (`okName`) and free of the `x` / `x[3]` clash inside one gate (F13, outside the stated
  domain).  They keep the suffix `_partial` for ONE reason only, finding
  `symbol-name-used-by-expression-text`: the format stores expressions as text, so the law of
  `str`/`sympify` can only be assumed for names the printed text does not also use for something else
  (a symbol called `pi` next to the constant `pi`; a symbol called `Integer`/`Float` next to a number
  literal) – `okName` must exclude those, although they are identifiers and no keywords.  Nothing else
  is excluded: custom gates take any symbolic argument (the defect `custom-gate-symbolic-argument` was
  repaired in 8ad8c91 and the model follows the repaired code).  Finding `python-float-long-repr` excludes
  nothing here: it is the statement that `nrm` is not the identity on 16–17-digit Python floats, i.e. such
  parameters are not "exactly representable" in the sense of `roundtrip_eq`.
-/
import OQ.Lemmas.C05
namespace OQ.C05

variable {P E : Type}

/-- **Hygiene of the generated table** (regenerated from `_builtin_gates` / `_gates` on every run): no
    name of the lookup namespace equals the `Control` / `Exponential` markers, ends with `Dagger` or
    contains `^`; the markers are pairwise distinguishable by the cascade's tests; every built-in gate
    is filed under its own `name`, and it is a factory exactly when it has parameters.  So the only
    obligation left to the user is the one in the property text: custom gate names are not names of
    that namespace. -/
theorem hygiene_of_table : EnvHygienic genEnv where
  ctrl_free := by decide +kernel
  exp_free := by decide +kernel
  no_dagger_name := by decide +kernel
  no_power_name := by decide +kernel
  ctrl_not_dagger := by decide +kernel
  exp_ne_ctrl := by decide +kernel
  exp_not_dagger := by decide +kernel
  ctrl_no_power := by decide +kernel
  exp_no_power := by decide +kernel
  dagger_ne := by decide +kernel
  power_ne := by decide +kernel
  dagger_last_not_power := by decide +kernel
  key_is_name := by decide +kernel
  proto_iff := by decide +kernel

/-- the generated table has the 27 built-in gates -/
theorem table_size : genEnv.gates.length = 27 := by decide

/-- **T-B, symbol table** (`_make_symbols_map`, incl. `name[index]` symbols): when no plain name is the
    base of an indexed one and indexed names with one base have distinct indices, the table is built
    without error, every listed name — plain or `x[3]` — looks up to its own symbol, and nothing else
    is bound (a name whose base is not listed is left to sympify). -/
theorem symbolTable_resolves (names : List Name) (hc : NoBaseClash names) (hi : IndexInj names) :
    ∃ m, makeSymbolsMap names = .ok m ∧ (∀ s ∈ names, resolve m s = some s) ∧
      (∀ k, k ∉ names.map baseOf → alookup m k = none) := by
  obtain ⟨m, hm, inv⟩ := makeSymbolsMap_inv names hc hi
  exact ⟨m, hm, inv.res, inv.unbound⟩

/-- **T-A, one gate**: for every nesting depth and order of controlled / dagger / power / exponential
    wrappers around a built-in or custom gate, the name-driven cascade (built-in lookup, `Control`,
    `endswith Dagger`, `Exponential`, `contains ^`, custom) applied to what `to_dict` wrote rebuilds the
    same gate kind and nesting, the same number of controls, the same exponent, the same definition,
    with `nrm` applied to the parameters – built-in and custom gates alike, numeric, symbolic and
    indexed-symbol arguments.  `defs'` are the deserialised definitions; the hypothesis on them is
    discharged for whole circuits in `fromDict_toDict_partial`.  PARTIAL only through `okName` (see the
    file header: names the printed text uses twice). -/
theorem gate_fromDict_toDict_partial (env : Env) (h : EnvHygienic env) (C : Codec P E) (nrm : P → P)
    (okName auto : Name → Prop) (L : SympifyLaw C nrm okName auto) (defs' : List (CustomDef P))
    (g : Gate P E) (hg : GateOK env C okName auto g)
    (hd : ∀ d ps, g.innermost = .custom d ps → defs'.find? (nameEq d.gateName) = some (d.map nrm)) :
    gateFromDict env C defs' (gateToDict env C g) = .ok (g.map nrm) := by
  induction g with
  | builtin n ps =>
    obtain ⟨⟨gi, hl, hlen⟩, hc, hi, hn⟩ := hg
    rw [gateToDict, gateFromDict, cascade_eq,
      builtin_hit env h C nrm n ps _ gi hl hlen (params_rt_free C nrm okName auto L (.builtin n ps) hc hi hn)]
    rfl
  | custom d ps =>
    obtain ⟨hfree, hc, hi, hfc, hfi, hn⟩ := hg
    -- the arguments are read against the written `free_symbols`, against the formal names only when there are none
    have hm : (ps.map C.ser).mapM (deserializeExpr C (if (Gate.free C (.custom d ps : Gate P E)).isEmpty
        then (d.map nrm).ordering else Gate.free C (.custom d ps : Gate P E))) = .ok (ps.map nrm) := by
      split
      · next he =>
        refine params_rt C nrm okName auto L _ hc hi ps fun p hp s hs => ?_
        have := mem_free C (.custom d ps) hp hs
        rw [List.isEmpty_iff.mp he] at this
        exact nomatch this
      · exact params_rt_free C nrm okName auto L (.custom d ps) hfc hfi hn
    rw [gateToDict, gateFromDict, cascade_eq, builtin_missing env C hfree, special_leaf]
    simp only [orKey, customFromDict, hd d ps rfl, hm, Gate.map]
  | controlled g k ih =>
    rw [gateToDict, gateFromDict]
    apply cascade_special env C defs' h.ctrl_free
    rw [specialFromDict_some, if_pos rfl, ih hg.2 hd]
    simp only [withInner, Except.bind, optKey, mkControlled, if_neg (Int.not_lt.mpr hg.1), Gate.map]
  | dagger g ih =>
    have hs := dagger_name_suffix env (Gate.name env C g)
    rw [gateToDict, gateFromDict, Gate.name]
    apply cascade_special env C defs' (not_mem_of_test _ h.no_dagger_name hs)
    rw [specialFromDict_some, if_neg (ne_of_test _ hs h.ctrl_not_dagger), if_pos hs, ih hg hd]
    rfl
  | exponential g ih =>
    rw [gateToDict, gateFromDict]
    apply cascade_special env C defs' h.exp_free
    rw [specialFromDict_some, if_neg h.exp_ne_ctrl, if_neg (Bool.eq_false_iff.mp h.exp_not_dagger), if_pos rfl, ih hg.2 hd]
    simp only [withInner, Except.bind, mkExponential, free_map C nrm L.free_nrm, hg.1, List.isEmpty_nil, if_true, Gate.map]
  | power g e ih =>
    have hpow := containsSub_append (Gate.name env C g) env.power (C.expoText e)
    rw [gateToDict, gateFromDict, Gate.name]
    apply cascade_special env C defs' (not_mem_of_test (containsSub · env.power) h.no_power_name hpow)
    rw [specialFromDict_some, if_neg (ne_of_test (containsSub · env.power) hpow h.ctrl_no_power),
      if_neg (Bool.eq_false_iff.mp (power_name_not_dagger env h _ _ hg.2.1)),
      if_neg (ne_of_test (containsSub · env.power) hpow h.exp_no_power), if_pos hpow, ih hg.2.2 hd]
    simp only [withInner, Except.bind, optKey, mkPower, free_map C nrm L.free_nrm, hg.1, List.isEmpty_nil, if_true, Gate.map]

/-- **T-A, circuits** (sentence 1): serialising a circuit never fails and deserialising the dictionary
    yields the circuit with `nrm` applied to every expression — same register width (idle qubits,
    empty circuit), same operations in the same order on the same qubit indices, every custom gate
    with its own definition again (collected through wrappers, de-duplicated by name, sorted).
    PARTIAL only through `okName`: the symbol names must not be used by the printed expression for
    something else as well (finding `symbol-name-used-by-expression-text`); missing is exactly that case.
    The other hypotheses of `CircuitOK` are what the constructors guarantee (controls ≥ 1, no free symbols
    under power / exponential, square 2ⁿ definition matrices, `n_qubits` as stored by `Circuit.__init__`),
    the hygiene of custom names (not a name of the lookup namespace; same name ⇒ same definition), the
    absence of the F13 clash and of two indexed names with one base and one index (`x[3]`, `x[03]`), and that
    the printed exponent lacks the last letter of `Dagger` (true of every printed Python number). -/
theorem fromDict_toDict_partial (env : Env) (h : EnvHygienic env) (C : Codec P E) (nrm : P → P)
    (okName auto : Name → Prop) (L : SympifyLaw C nrm okName auto) (c : Circuit P E)
    (hc : CircuitOK env C okName auto c) :
    ∃ d, circuitToDict env C c = .ok d ∧ circuitFromDict env C d = .ok (c.map nrm) := by
  obtain ⟨defs, hdefs, hsub, hsup⟩ := collectDefs_ok C L.defNe_irrefl c.ops hc.consistent
  refine ⟨⟨some c.nQubits, c.ops.map (opToDict env C), defs.map (defToDict C)⟩, by simp only [circuitToDict, hdefs], ?_⟩
  have hd : (defs.map (defToDict C)).mapM (defFromDict C) = .ok (defs.map (CustomDef.map nrm)) :=
    mapM_map_ok _ _ (CustomDef.map nrm) defs fun d hd => def_rt C nrm okName auto L d (hc.defs d (hsub hd))
  have ho : (c.ops.map (opToDict env C)).mapM (opFromDict env C (defs.map (CustomDef.map nrm))) =
      .ok (c.ops.map (Op.map nrm)) := by
    refine mapM_map_ok _ _ (Op.map nrm) _ fun o ho => ?_
    have hg := gate_fromDict_toDict_partial env h C nrm okName auto L (defs.map (CustomDef.map nrm)) o.gate
      (hc.gates o ho) fun d ps hin => by
        -- the definition of a custom gate of the circuit is found again under its name
        have hdm : d ∈ c.ops.filterMap customDefOf := List.mem_filterMap.mpr ⟨o, ho, by simp only [customDefOf, hin]⟩
        rw [List.find?_map]
        exact congrArg (Option.map (CustomDef.map nrm)) (find_unique _ defs hc.consistent hsub d (hsup hdm))
    simp only [opFromDict, opToDict, hg, Op.map]
  simp only [circuitFromDict, hd, ho, mkCircuit_map, hc.ctor]
  rfl

/-- the same for lists of circuits (`to_dict(list)` / `circuitset_from_dict`) -/
theorem circuitset_fromDict_toDict_partial (env : Env) (h : EnvHygienic env) (C : Codec P E) (nrm : P → P)
    (okName auto : Name → Prop) (L : SympifyLaw C nrm okName auto) (cs : List (Circuit P E))
    (hc : ∀ c ∈ cs, CircuitOK env C okName auto c) :
    ∃ ds, circuitsetToDict env C cs = .ok ds ∧
      circuitsetFromDict env C ds = .ok (cs.map (Circuit.map nrm)) :=
  mapM_rt _ _ _ cs fun c hcm => fromDict_toDict_partial env h C nrm okName auto L c (hc c hcm)

/-- **structure is untouched** (sentence 1, "same …"): forgetting the expressions, the round-tripped
    circuit *is* the original — width, operation sequence, gate kinds and wrapper nesting, numbers of
    controls, exponents, custom gate names and parameter orderings, qubit indices, numbers of
    parameters and matrix shapes. -/
theorem roundtrip_structure (nrm : P → P) (c : Circuit P E) :
    (c.map nrm).map (fun _ => ()) = c.map (fun _ => ()) :=
  Circuit.map_map nrm _ c

/-- **equal to the original whenever parameters are exactly representable** (sentence 2, first claim):
    if one print/parse cycle returns each expression of the circuit unchanged, the round trip returns
    the circuit itself. -/
theorem roundtrip_eq (nrm : P → P) (c : Circuit P E)
    (hexact : ∀ o ∈ c.ops, ∀ p ∈ o.gate.allP, nrm p = p) : c.map nrm = c := by
  have ho : ∀ o ∈ c.ops, Op.map nrm o = o := fun o ho => by rw [Op.map, Gate.map_id_of nrm o.gate (hexact o ho)]
  rw [Circuit.map, map_eq_self _ _ ho]

/-- **same free symbols** (sentence 2, second claim), in the same first-appearance order -/
theorem roundtrip_freeSymbols (C : Codec P E) (nrm : P → P) (hf : ∀ p, C.free (nrm p) = C.free p)
    (c : Circuit P E) : Circuit.freeSymbols C (c.map nrm) = Circuit.freeSymbols C c := by
  simp only [Circuit.freeSymbols, Circuit.map, List.flatMap_map, Op.map, free_map C nrm hf]

/-- **same matrix for every assignment of the symbols** (sentence 2, third claim): whatever the
    matrix factories, the control / adjoint / power / exponential constructions and the evaluation
    of expressions are (`S`), if a print/parse cycle preserves the value of every expression under
    every assignment, every operation of the round-tripped circuit has the same matrix on the same
    qubits, for every assignment `σ` — hence so has the circuit, being the ordered product (C01). -/
theorem roundtrip_matrix {V M : Type} (S : Sem P E V M) (nrm : P → P)
    (hv : ∀ p σ, S.eval (nrm p) σ = S.eval p σ) (c : Circuit P E) (σ : Name → V) :
    (c.map nrm).nQubits = c.nQubits ∧
    (c.map nrm).ops.map (fun o => (gateMat S o.gate σ, o.qubits)) =
      c.ops.map (fun o => (gateMat S o.gate σ, o.qubits)) := by
  refine ⟨rfl, ?_⟩
  simp only [Circuit.map, List.map_map]
  apply List.map_congr_left
  intro o _
  simp [Function.comp, Op.map, gateMat_map S nrm hv]

/-! ### the inputs of the repaired finding `custom-gate-symbolic-argument` round-trip -/

/-- stand-in codec of the driver, sympy defining `gamma`, `beta` -/
abbrev XC : Codec PExpr Expo := execCodec ["I".toList] ["gamma".toList, "beta".toList, "cos".toList, "sin".toList, "exp".toList]

def thetaDef : CustomDef PExpr :=
  ⟨"U".toList, [[⟨"cos(theta)".toList, ["theta".toList]⟩, ⟨"-sin(theta)".toList, ["theta".toList]⟩],
                [⟨"sin(theta)".toList, ["theta".toList]⟩, ⟨"cos(theta)".toList, ["theta".toList]⟩]],
   ["theta".toList]⟩

def phaseDef : CustomDef PExpr :=
  ⟨"V".toList, [[⟨"exp(I*gamma)".toList, ["gamma".toList]⟩, ⟨"0".toList, []⟩],
                [⟨"0".toList, []⟩, ⟨"exp(I*beta)".toList, ["beta".toList]⟩]],
   ["gamma".toList, "beta".toList]⟩

/-- `U(gamma)` for a custom `U(theta)`: the symbol sympy's namespace shadows -/
def witnessGamma : Circuit PExpr Expo :=
  ⟨1, [⟨.custom thetaDef [⟨"gamma".toList, ["gamma".toList]⟩], [0]⟩]⟩

/-- `U(x[3])`: an indexed symbol -/
def witnessIndexed : Circuit PExpr Expo :=
  ⟨1, [⟨.custom thetaDef [⟨"x[3]".toList, ["x[3]".toList]⟩], [0]⟩]⟩

/-- `V(gamma, beta)`: the second argument needs the table too -/
def witnessSecond : Circuit PExpr Expo :=
  ⟨1, [⟨.custom phaseDef [⟨"gamma".toList, ["gamma".toList]⟩, ⟨"beta".toList, ["beta".toList]⟩], [0]⟩]⟩

example : (circuitToDict genEnv XC witnessGamma).bind (circuitFromDict genEnv XC) = .ok witnessGamma := by decide +kernel
example : (circuitToDict genEnv XC witnessIndexed).bind (circuitFromDict genEnv XC) = .ok witnessIndexed := by decide +kernel
example : (circuitToDict genEnv XC witnessSecond).bind (circuitFromDict genEnv XC) = .ok witnessSecond := by decide +kernel

/-! ### non-vacuity: concrete non-trivial inputs, evaluated by the kernel -/

/-- every wrapper, nested: `exp(c-c-(X^0.5)†)` next to `RX(x[3] + gamma)` as a built-in gate, idle qubits -/
def sample : Circuit PExpr Expo :=
  ⟨5, [⟨.exponential (.controlled (.dagger (.power (.builtin ['X'] []) ⟨false, 1, 2, "0.5".toList⟩)) 2), [0, 1, 2]⟩,
       ⟨.controlled (.dagger (.builtin ['R', 'X'] [⟨"gamma + x[3]".toList, ["gamma".toList, "x[3]".toList]⟩])) 1, [3, 0]⟩,
       ⟨.dagger (.custom thetaDef [⟨"2*gamma + x[3]".toList, ["gamma".toList, "x[3]".toList]⟩]), [1]⟩,
       ⟨.power (.custom thetaDef [⟨"0.25".toList, []⟩]) ⟨true, 2, 1, "2".toList⟩, [1]⟩]⟩

example : (circuitToDict genEnv XC sample).bind (circuitFromDict genEnv XC) = .ok sample := by decide +kernel

example : Gate.name genEnv XC (.dagger (.power (.builtin ['X'] []) ⟨false, 1, 2, "0.5".toList⟩) : Gate PExpr Expo)
    = "X".toList ++ genEnv.power ++ "0.5".toList ++ '_' :: genEnv.dagger := by decide +kernel

example : (circuitToDict genEnv XC (⟨0, []⟩ : Circuit PExpr Expo)).bind (circuitFromDict genEnv XC) = .ok ⟨0, []⟩ := by
  decide +kernel

example : ∃ m, makeSymbolsMap ["theta".toList, "x[3]".toList, "x[12]".toList] = .ok m ∧
    resolve m "x[12]".toList = some "x[12]".toList ∧ resolve m "x[4]".toList = none := ⟨_, rfl, by decide, by decide⟩

/-- the law and the domain of `fromDict_toDict_partial` are inhabited: a codec satisfying `SympifyLaw`
    (`toyLaw`) and a circuit with wrappers, an indexed symbol and custom gates satisfying `CircuitOK` -/
example : ∃ d, circuitToDict genEnv toyCodec toySample = .ok d ∧
    circuitFromDict genEnv toyCodec d = .ok (toySample.map id) :=
  fromDict_toDict_partial genEnv hygiene_of_table toyCodec id toyOk toyAuto toyLaw toySample toySample_ok

/-- F13 is outside the domain: `x` with `x[3]` makes the table construction raise TypeError -/
example : makeSymbolsMap ["x".toList, "x[3]".toList] = .error .type := by decide +kernel

/-- the hypotheses of `symbolTable_resolves` are satisfiable by a mixed list -/
example : NoBaseClash ["theta".toList, "x[3]".toList] ∧ IndexInj ["theta".toList, "x[3]".toList] := 
  ⟨by decide, by decide⟩

end OQ.C05
