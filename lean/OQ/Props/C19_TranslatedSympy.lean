/- C19 — PROPERTY THEOREMS (translation ties): the two shape tests of `circuits/symbolic/sympy_expressions.py`,
   `is_multiplication_by_reciprocal` and `is_addition_of_negation` (they decide when `expression_from_sympy` emits `div` / `sub`).
   The definitions `OQ.Generated.Translated.*` are REGENERATED from /repo's current source on every run.  sympy objects are OPAQUE
   in the translation; what the functions rely on enters as PARAMETERS: `attr_args` (`e.args`), `ext_isinstance_sympy_Pow` /
   `ext_isinstance_sympy_Mul` (`isinstance(e, sympy.Pow / sympy.Mul)`), `ext_eq_int` (sympy's `e == k` against a Python int).
   The ties instantiate them with the model's reading of a sympy node (`SExpr`): `.args` of a `Pow` is `(base, exponent)`, and
   `e == -1` holds for the numeric leaves of value −1 (`numValue`, sympy 1.9 compares Integer / Rational / Float by value).
   The singledispatch family `expression_from_sympy` itself is NOT translated (it recurses on `expr * (-1)`, not a subterm, and would need
   further sympy externals); its model is the hand-written `fromSympy`. -/
import OQ.Generated.TranslatedC19
import OQ.Props.C19
namespace OQ.C19
open OQ.Generated OQ.Py

/-- `e.args` as the model reads a sympy node -/
def SExpr.args : SExpr → List SExpr
  | .add l => l
  | .mul l => l
  | .pow b e => [b, e]
  | .func _ _ l => l
  | _ => []

def SExpr.isPow : SExpr → Bool
  | .pow _ _ => true
  | _ => false

def SExpr.isMul : SExpr → Bool
  | .mul _ => true
  | _ => false

/-- sympy's `e == k` for a Python int `k` -/
def SExpr.eqInt (e : SExpr) (k : Int) : Bool := numValue e == some (k : Rat)

theorem eqInt_negOne (e : SExpr) : e.eqInt (-(1 : Int)) = isNegOne e := by
  unfold SExpr.eqInt isNegOne
  have : ((-(1 : Int) : Int) : Rat) = -1 := by norm_num
  rw [this]

/-- TRANSLATION TIE: `is_multiplication_by_reciprocal(mul)` (`len(args) == 2 and isinstance(args[1], Pow) and
    args[1].args[1] == -1`, evaluated with Python's short-circuit order) regenerated from the current source never raises and
    holds exactly when the model's `recipView` finds the shape `x * y**(-1)` – for every node. -/
theorem translated_is_multiplication_by_reciprocal_eq (m : SExpr) :
    Translated.is_multiplication_by_reciprocal SExpr.args SExpr.isPow SExpr.isMul SExpr.eqInt m
      = .ok (recipView m.args).isSome := by
  unfold Translated.is_multiplication_by_reciprocal
  generalize m.args = l
  match l with
  | [] => rfl
  | [_] => rfl
  | _ :: _ :: _ :: t =>
    have : ¬ ((t.length : Int) + 1 + 1 + 1 = 2) := by omega
    simp [recipView, this]
  | [a, b] =>
    cases b with
    | pow b e => simp [recipView, SExpr.isPow, SExpr.args, eqInt_negOne]; cases isNegOne e <;> rfl
    | _ => rfl

/-- TRANSLATION TIE: `is_addition_of_negation(add)` (`len(args) == 2 and isinstance(args[1], Mul) and args[1].args[0] == -1`)
    regenerated from the current source holds exactly when the model's `addView` finds the shape `x + (-1)*y`.
    Domain: every node whose second argument is not a `Mul` WITHOUT arguments (sympy never builds one; the Python would raise
    IndexError there, which is the second statement). -/
theorem translated_is_addition_of_negation_eq (m : SExpr) :
    (∀ a0, m.args ≠ [a0, .mul []]) →
    Translated.is_addition_of_negation SExpr.args SExpr.isPow SExpr.isMul SExpr.eqInt m
      = .ok (addView m.args).isSome := by
  unfold Translated.is_addition_of_negation
  generalize m.args = l
  intro h
  match l with
  | [] => rfl
  | [_] => rfl
  | _ :: _ :: _ :: t =>
    have : ¬ ((t.length : Int) + 1 + 1 + 1 = 2) := by omega
    simp [addView, this]
  | [a, b] =>
    cases b with
    | mul args =>
      cases args with
      | nil => exact absurd rfl (h a)
      | cons c rest => simp [addView, SExpr.isMul, SExpr.args, eqInt_negOne]; cases isNegOne c <;> rfl
    | _ => rfl

/-- … the excluded shape: a second argument that is a `Mul` without arguments makes the Python raise IndexError (`args[1].args[0]`) -/
theorem translated_is_addition_of_negation_empty_mul (m a0 : SExpr) (h : m.args = [a0, .mul []]) :
    Translated.is_addition_of_negation SExpr.args SExpr.isPow SExpr.isMul SExpr.eqInt m = .error .IndexError := by
  unfold Translated.is_addition_of_negation
  rw [h]
  rfl

/-! non-vacuity: the TRANSLATED predicates on concrete nodes -/
private def sx : SExpr := .symbol "x"
example : Translated.is_multiplication_by_reciprocal SExpr.args SExpr.isPow SExpr.isMul SExpr.eqInt
    (.mul [sx, .pow sx (.integer (-1))]) = .ok true := by decide +kernel
example : Translated.is_multiplication_by_reciprocal SExpr.args SExpr.isPow SExpr.isMul SExpr.eqInt
    (.mul [sx, .pow sx (.integer 2)]) = .ok false := by decide +kernel
example : Translated.is_multiplication_by_reciprocal SExpr.args SExpr.isPow SExpr.isMul SExpr.eqInt
    (.mul [sx, sx, .pow sx (.integer (-1))]) = .ok false := by decide +kernel
example : Translated.is_addition_of_negation SExpr.args SExpr.isPow SExpr.isMul SExpr.eqInt
    (.add [sx, .mul [.float (-1), sx]]) = .ok true := by decide +kernel
example : Translated.is_addition_of_negation SExpr.args SExpr.isPow SExpr.isMul SExpr.eqInt
    (.add [sx, .mul [.integer 2, sx]]) = .ok false := by decide +kernel
end OQ.C19
