/-
  C17 — PROPERTY THEOREMS: outcome distributions stay normalised; marginals and distances obey
  their laws.   Model: OQ/Model/C17.lean.   Helper lemmas + real-valued definitions: OQ/Lemmas/C17.lean.

  Conventions.  A `distribution_dict` is an insertion-ordered association list `Dict Key`
  (`Key = List Int`); `Valid d w` is the constructor's invariant (non-empty, distinct keys, all of
  length `w`, non-negative entries and values).  `close` is the library's `math.isclose(norm, 1)`;
  every theorem holds for EVERY such predicate (the driver runs `pyIsClose1`).  Floats are exact
  rationals; `exp`/`log` are Mathlib's real functions applied to the exact data of the model.
-/
import OQ.Lemmas.C17
namespace OQ.C17

/-- "always holds … probabilities summing to 1": with normalisation on, the stored values sum to
    exactly 1, or the input already passed the library's own closeness test and was kept as is. -/
theorem normalised_sum_one (close : Rat → Bool) (input : List (RawKey × Rat)) (d : Dict Key)
    (h : construct close true input = .ok d) : d.total = 1 ∨ close d.total = true := by
  obtain ⟨pre, -, hc⟩ := construct_ok close true input d h
  obtain ⟨-, ⟨hc', rfl⟩ | ⟨-, hm, rfl⟩⟩ := (constructPre_eq_ok_iff close true pre d).1 hc
  · exact Or.inr (hc'.resolve_right nofun)
  · exact Or.inl (by rw [total_scale, mul_one_div_cancel (floatMin_pos.trans_le hm).ne'])

/-- the same sentence for Python's `math.isclose(·, 1)`: the stored sum is within relative 1e-9 of 1 -/
theorem normalised_sum_tolerance (input : List (RawKey × Rat)) (d : Dict Key)
    (h : construct pyIsClose1 true input = .ok d) :
    |d.total - 1| ≤ max 1 |d.total| / 1000000000 := by
  rcases normalised_sum_one pyIsClose1 input d h with h1 | h1
  · rw [h1]; simp
  · exact (pyIsClose1_iff d.total).1 h1

/-- the object that is built always satisfies the invariant `Valid` used below -/
theorem construct_valid (close : Rat → Bool) (nz : Bool) (input : List (RawKey × Rat)) (d : Dict Key)
    (h : construct close nz input = .ok d) : ∃ w, Valid d w := by
  obtain ⟨pre, hp, hc⟩ := construct_ok close nz input d h
  exact valid_of_constructPre close nz pre d (preprocess_nodup input [] pre hp List.nodup_nil) hc

/-- "non-negative probabilities": every stored value is ≥ 0 (normalisation on or off) -/
theorem normalised_nonneg (close : Rat → Bool) (nz : Bool) (input : List (RawKey × Rat)) (d : Dict Key)
    (h : construct close nz input = .ok d) : ∀ p ∈ d, 0 ≤ p.2 := by
  obtain ⟨w, hv⟩ := construct_valid close nz input d h
  exact hv.val

/-- "in the same proportions as the input": the stored dictionary has the keys of the preprocessed
    input, in the same order, and every value multiplied by one common positive factor
    (1, or 1/total when a normalisation took place). -/
theorem proportions (close : Rat → Bool) (input : List (RawKey × Rat)) (d : Dict Key)
    (h : construct close true input = .ok d) :
    ∃ pre c, preprocess input [] = .ok pre ∧ 0 < c ∧ (c = 1 ∨ c = 1 / pre.total) ∧
      d = pre.map (fun p => (p.1, p.2 * c)) := by
  obtain ⟨pre, hp, hc⟩ := construct_ok close true input d h
  obtain ⟨-, ⟨-, rfl⟩ | ⟨-, hm, rfl⟩⟩ := (constructPre_eq_ok_iff close true pre d).1 hc
  · exact ⟨pre, 1, hp, one_pos, Or.inl rfl, by simp⟩
  · exact ⟨pre, 1 / pre.total, hp, one_div_pos.2 (floatMin_pos.trans_le hm), Or.inr rfl, rfl⟩

/-- what "the input" is: distinct tuple keys are taken over unchanged, in order -/
theorem preprocess_tuple_keys (d : Dict Key) (hn : d.keys.Nodup) :
    preprocess (d.map (fun p => (RawKey.tup p.1, p.2))) [] = .ok d :=
  preprocess_distinct RawKey.tup d (fun _ _ => rfl) hn

/-- … and distinct digit strings (bitstrings in particular) are read as the tuples of their digits -/
theorem preprocess_digit_strings (d : Dict Key) (hn : d.keys.Nodup) (hd : ∀ k ∈ d.keys, IsDigits k) :
    preprocess (d.map (fun p => (RawKey.str (encDigits p.1), p.2))) [] = .ok d :=
  preprocess_distinct (fun k => RawKey.str (encDigits k)) d
    (fun k hk => preprocessKey_encDigits k (hd k hk)) hn

/-- "rejects empty input" (RuntimeError) -/
theorem rejects_empty (close : Rat → Bool) (nz : Bool) : construct close nz [] = .error .runtime := rfl

/-- "rejects … negative values" (RuntimeError) -/
theorem rejects_negative (close : Rat → Bool) (nz : Bool) (input : List (RawKey × Rat)) (pre : Dict Key)
    (hp : preprocess input [] = .ok pre) (hneg : ∃ p ∈ pre, p.2 < 0) :
    construct close nz input = .error .runtime := by
  refine construct_of_not_isDistribution close nz input pre hp fun hd => ?_
  obtain ⟨p, hp', hlt⟩ := hneg
  exact absurd (((isDistribution_iff pre).1 hd).2.1 p hp') (not_le.mpr hlt)

/-- "rejects … keys of unequal length" (RuntimeError) -/
theorem rejects_unequal_length (close : Rat → Bool) (nz : Bool) (input : List (RawKey × Rat))
    (pre : Dict Key) (hp : preprocess input [] = .ok pre)
    (hlen : ∃ p ∈ pre, ∃ p' ∈ pre, p.1.length ≠ p'.1.length) :
    construct close nz input = .error .runtime := by
  refine construct_of_not_isDistribution close nz input pre hp fun hd => ?_
  obtain ⟨p, hp', p', hp'', hne⟩ := hlen
  exact hne (((isDistribution_iff pre).1 hd).2.2.1 p hp' p' hp'')

/-- exactly which preprocessed inputs are accepted with normalisation on: well-formed ones whose
    total is close to 1 or at least the smallest normal double (a zero / denormal total is a
    `ValueError`) -/
theorem accepted_iff (close : Rat → Bool) (input : List (RawKey × Rat)) (pre : Dict Key)
    (hp : preprocess input [] = .ok pre) :
    (∃ d, construct close true input = .ok d) ↔
      (isDistribution pre = true ∧ (close pre.total = true ∨ floatMin ≤ pre.total)) := by
  simp only [construct_of_preprocess close true input pre hp, constructPre_eq_ok_iff]
  constructor
  · rintro ⟨d, hd, ⟨hc, -⟩ | ⟨-, hm, -⟩⟩
    · exact ⟨hd, Or.inl (hc.resolve_right nofun)⟩
    · exact ⟨hd, Or.inr hm⟩
  · rintro ⟨hd, hc⟩
    by_cases h : close pre.total = true ∨ true = false
    · exact ⟨pre, hd, Or.inl ⟨h, rfl⟩⟩
    · exact ⟨_, hd, Or.inr ⟨h, hc.resolve_left fun h' => h (Or.inl h'), rfl⟩⟩

/-- "the source distribution is left intact": for every receiver and every qubit list, accepted or
    rejected.  (The model mirrors the code, which only reads `self.distribution_dict`.) -/
theorem source_intact (close : Rat → Bool) (self : Dict Key) (qs : List Int) :
    (subdistribution close self qs).1 = self := by
  unfold subdistribution
  split
  · rfl
  · rfl
  · split
    · rfl
    · split
      · rfl
      · split <;> rfl

/-- grouping by a projection: "each projected outcome carries the sum of the probabilities of all
    outcomes projecting to it" – for every projection `g` and every dictionary -/
theorem marginal_sum {κ κ' : Type} [DecidableEq κ'] (g : κ → κ') (d : Dict κ) (x : κ') :
    (groupSum g d).getD x = ((d.filter (fun p => decide (g p.1 = x))).map Prod.snd).sum := by
  rw [groupSum, getD_groupSumAux]
  exact zero_add _

/-- the outcomes of the marginal are exactly the projections of the source outcomes, each once -/
theorem marginal_support {κ κ' : Type} [DecidableEq κ'] (g : κ → κ') (d : Dict κ) :
    (groupSum g d).keys.Nodup ∧ ∀ x, x ∈ (groupSum g d).keys ↔ ∃ k ∈ d.keys, g k = x := by
  refine ⟨nodup_groupSumAux g d [] List.nodup_nil, fun x => ?_⟩
  rw [groupSum, mem_keys_groupSumAux]
  exact or_iff_right List.not_mem_nil

/-- "qubits in the listed order": entry `i` of the projected outcome is the source entry at the
    `i`-th listed qubit -/
theorem marginal_order (qs : List Int) (key : Key) :
    (proj qs key).length = qs.length ∧
      ∀ i (h : i < qs.length), (proj qs key).getD i 0 = key.getD (qs[i]).toNat 0 := by
  refine ⟨length_proj qs key, fun i h => ?_⟩
  rw [proj, List.getD_eq_getElem?_getD, List.getElem?_map, List.getElem?_eq_getElem h]
  rfl

/-- the marginal has the same total as the source (so it is normalised iff the source is) -/
theorem marginal_total {κ κ' : Type} [DecidableEq κ'] (g : κ → κ') (d : Dict κ) :
    (groupSum g d).total = d.total := by
  rw [groupSum, total_groupSumAux]
  exact zero_add _

/-- "The sub-distribution on a list of qubits is the marginal", FULL STRENGTH (all outcome entries,
    no single-digit restriction – the code builds tuple keys since b64c4ba).  For every valid
    receiver of width `w`, every non-empty list of distinct in-range qubits in any order and every
    closeness test, `subdistribution` returns the receiver unchanged and exactly the grouped sums
    over the projection (`marginal_sum`, `marginal_support`, `marginal_order` say what those are),
    which is again a valid distribution, of width `|qs|`. -/
theorem marginal (close : Rat → Bool) (self : Dict Key) (w : Nat) (qs : List Int)
    (hv : Valid self w) (hne : qs ≠ []) (hr : ∀ q ∈ qs, 0 ≤ q ∧ q < w) (hnd : qs.Nodup) :
    subdistribution close self qs = (self, .ok (groupSum (proj qs) self)) ∧
      Valid (groupSum (proj qs) self) qs.length := by
  obtain ⟨hnodup, hkeys⟩ := marginal_support (proj qs) self
  have hin : ∀ pk ∈ self, ∀ q ∈ qs, 0 ≤ q ∧ q < pk.1.length := fun pk hpk q hq => by
    rw [hv.len pk hpk]; exact hr q hq
  have hsrc : ∀ p ∈ groupSum (proj qs) self, ∃ pk ∈ self, proj qs pk.1 = p.1 := fun p hp => by
    obtain ⟨k, hk, e⟩ := (hkeys p.1).1 (List.mem_map.2 ⟨p, hp, rfl⟩)
    obtain ⟨pk, hpk, rfl⟩ := List.mem_map.1 hk
    exact ⟨pk, hpk, e⟩
  obtain ⟨k0, v0, rest, rfl, hk0⟩ := hv.exists_cons
  have hvalid : Valid (groupSum (proj qs) ((k0, v0) :: rest)) qs.length := by
    refine ⟨fun e => ?_, hnodup, fun p hp => ?_, nonneg_groupSumAux _ _ _ hv.val (fun _ h => nomatch h),
      fun p hp x hx => ?_⟩
    · exact List.not_mem_nil (e ▸ (hkeys _).2 ⟨k0, List.mem_cons_self, rfl⟩)
    · obtain ⟨pk, -, e⟩ := hsrc p hp
      rw [← e, length_proj]
    · obtain ⟨pk, hpk, e⟩ := hsrc p hp
      exact hv.ent pk hpk x (mem_proj qs pk.1 (hin pk hpk) x (e ▸ hx))
  refine ⟨?_, hvalid⟩
  obtain ⟨q0, qs', rfl⟩ := List.exists_cons_of_ne_nil hne
  have hmax : ¬ listMaxInt (q0 :: qs') + 1 > (k0.length : Int) := by
    have := (listMaxInt_lt_iff q0 qs' w).2 fun q hq => (hr q hq).2
    omega
  have hdup : ¬ hasDup (q0 :: qs') = true := fun h => (hasDup_iff _).1 h hnd
  have hacc : accumulate (projectKey (q0 :: qs')) ((k0, v0) :: rest) [] =
      some (groupSum (proj (q0 :: qs')) ((k0, v0) :: rest)) := accumulate_eq _ (proj (q0 :: qs')) _ [] fun k hk => by
    obtain ⟨pk, hpk, rfl⟩ := List.mem_map.1 hk
    exact projectKey_inrange _ pk.1 (hin pk hpk)
  simp only [subdistribution, if_neg hmax, if_neg hdup, hacc]
  rw [construct_tup close _ _ _ hvalid (by rw [marginal_total]; exact Bool.eq_false_or_eq_true _)]

/-- an empty qubit list, a repeated qubit and a too large qubit are rejected with `ValueError` -/
theorem subdistribution_rejects (close : Rat → Bool) (self : Dict Key) (w : Nat) (hv : Valid self w)
    (qs : List Int) (hbad : qs = [] ∨ ¬ qs.Nodup ∨ ∃ q ∈ qs, (w : Int) ≤ q) :
    (subdistribution close self qs).2 = .error .value := by
  obtain ⟨k0, v0, rest, rfl, hk0⟩ := hv.exists_cons
  cases qs with
  | nil => rfl
  | cons q0 qs' =>
    simp only [subdistribution]
    by_cases hmax : listMaxInt (q0 :: qs') + 1 > (k0.length : Int)
    · rw [if_pos hmax]
    · rw [if_neg hmax, if_pos]
      rcases hbad with h | h | ⟨q, hq, hge⟩
      · cases h
      · exact (hasDup_iff _).2 h
      · have := (listMaxInt_lt_iff q0 qs' w).1 (by omega) q hq
        omega

/-- key → text → key, PARTIAL: for keys that do not have exactly one entry, or whose entries are
    single digits.  Missing: a one-subsystem key with an entry ≥ 10 (`(12,)` is written as "12" and
    read back as `(1, 2)`), see `key_roundtrip_witness`. -/
theorem key_roundtrip_partial (k : Key) (hk : ∀ e ∈ k, 0 ≤ e) (hd : k.length ≠ 1 ∨ IsDigits k) :
    preprocessKey (RawKey.str (keyToString k)) = .ok k :=
  preprocessKey_keyToString k hk hd

/-- "saving then loading a normalised distribution returns the same keys and probabilities",
    PARTIAL: on the domain of `key_roundtrip_partial` (width ≠ 1, or single-digit entries).
    JSON itself is an assumed identity on (text key ↦ double) objects. -/
theorem save_load_roundtrip_partial (close : Rat → Bool) (d : Dict Key) (w : Nat) (hv : Valid d w)
    (hd : Roundtrippable d w) (hc : close d.total = true) : loadDict close (saveDict d) = .ok d := by
  rw [loadDict_saveDict close d w hv hd]
  exact constructPre_valid close true d w hv (Or.inl hc)

/-- what is written: the keys as comma separated text, values untouched, order kept -/
theorem save_keys_values (d : Dict Key) (w : Nat) (hv : Valid d w) (hd : Roundtrippable d w) :
    saveDict d = d.map (fun p => (keyToString p.1, p.2)) := saveDict_eq d w hv hd

/-- negative witness: the one-subsystem outcome 12 comes back as the two-subsystem outcome (1, 2) -/
theorem key_roundtrip_witness : preprocessKey (RawKey.str (keyToString [12])) = .ok [1, 2] := by
  decide +kernel

/-- negative witness: `{(12,): 1/2, (3,): 1/2}` is saved but cannot be loaded (RuntimeError) -/
theorem save_load_witness :
    loadDict pyIsClose1 (saveDict [([12], 1/2), ([3], 1/2)]) = .error .runtime := by
  decide +kernel

/-- "The squared MMD is … non-negative": for EVERY data (codes, target, measured values) and every
    kernel width σ > 0 -/
theorem mmd_nonneg (σ : ℝ) (hσ : 0 < σ) (data : List Row) : 0 ≤ mmdSingle σ data :=
  quadForm_gauss_nonneg _ (by positivity) data

/-- … and for every list of positive kernel widths (multi-Gaussian kernel) -/
theorem mmd_nonneg_multi (σs : List ℝ) (hσ : ∀ σ ∈ σs, 0 < σ) (data : List Row) :
    0 ≤ mmdMulti σs data := by
  apply quadForm_multi_nonneg
  intro γ hγ
  obtain ⟨σ, hs, rfl⟩ := List.mem_map.1 hγ
  have := hσ σ hs
  positivity

/-- "The squared MMD is symmetric": if it is defined for (p, q) it is defined for (q, p), and the two
    values agree for every kernel – in particular for every σ and every list of σs -/
theorem mmd_symm (p q : Dict Key) (hp : p.keys.Nodup) (hq : q.keys.Nodup) (a : List Row)
    (h : mmdData p q = .ok a) :
    ∃ b, mmdData q p = .ok b ∧ (∀ K, quadForm K b = quadForm K a) ∧
      (∀ σ, mmdSingle σ b = mmdSingle σ a) ∧ (∀ σs, mmdMulti σs b = mmdMulti σs a) := by
  obtain ⟨h1, rfl⟩ := (mmdData_ok_iff p q a).1 h
  have hK := fun K => quadForm_rowsOf_comm K p q hp hq
  exact ⟨_, (mmdData_ok_iff q p _).2 ⟨(hasCodes_comm p q).1 h1, rfl⟩, hK, fun σ => hK _, fun σs => hK _⟩

/-- "… and zero between a distribution and itself" -/
theorem mmd_self (p : Dict Key) (a : List Row) (h : mmdData p p = .ok a) :
    (∀ K, quadForm K a = 0) ∧ (∀ σ, mmdSingle σ a = 0) ∧ (∀ σs, mmdMulti σs a = 0) := by
  obtain ⟨-, rfl⟩ := (mmdData_ok_iff p p a).1 h
  have hK := fun K => quadForm_rowsOf_self K p
  exact ⟨hK, fun σ => hK _, fun σs => hK _⟩

/-- the value does not depend on the (arbitrary) iteration order of Python's `set` of outcomes -/
theorem mmd_order_irrelevant (K : ℝ → ℝ → ℝ) (a b : List Row) (h : a.Perm b) :
    quadForm K a = quadForm K b := quadForm_perm K a b h

/-- the MMD is defined (no `ValueError`) on all pairs of bitstring distributions of width ≥ 1 -/
theorem mmd_defined_on_bits (p q : Dict Key)
    (hp : ∀ k ∈ p.keys, k ≠ [] ∧ ∀ e ∈ k, e = 0 ∨ e = 1)
    (hq : ∀ k ∈ q.keys, k ≠ [] ∧ ∀ e ∈ k, e = 0 ∨ e = 1) : ∃ a, mmdData p q = .ok a :=
  ⟨_, (mmdData_ok_iff p q _).2 ⟨hasCodes_of_bits p q hp hq, rfl⟩⟩

/-- negative witness: on an outcome with an entry ≥ 2 the code's base-2 parse fails, so
    `compute_mmd(d, d)` raises `ValueError` instead of returning 0 -/
theorem mmd_nonbinary_witness : mmdData [([2], 1)] [([2], 1)] = .error .value := by
  decide +kernel

/-- "the clipped negative log-likelihood of a target under a model is at least the target's entropy
    (up to the clipping constant)": for all dictionaries with distinct keys and non-negative values
    and every ε > 0,  NLL_ε(p‖q) ≥ H(p) + (Σp − Σq) − |supp p ∪ supp q|·ε. -/
theorem nll_ge_entropy (ε : ℝ) (hε : 0 < ε) (p q : Dict Key) (hp : p.keys.Nodup) (hq : q.keys.Nodup)
    (hpv : ∀ a ∈ p, 0 ≤ a.2) (hqv : ∀ a ∈ q, 0 ≤ a.2) :
    entropyOf p + ((p.total : ℝ) - (q.total : ℝ)) - ((unionKeys p q).length : ℝ) * ε ≤
      nllOf ε (pairData p q) := by
  have hT : ∀ k, 0 ≤ ((p.getD k : Rat) : ℝ) := fun k => by exact_mod_cast Dict.getD_nonneg p hpv k
  have hM : ∀ k, 0 ≤ ((q.getD k : Rat) : ℝ) := fun k => by exact_mod_cast Dict.getD_nonneg q hqv k
  have main := nll_list (fun k => ((p.getD k : Rat) : ℝ)) (fun k => ((q.getD k : Rat) : ℝ)) ε hε
    (unionKeys p q) hT hM
  -- the three sums over the union of supports are sums over `p`, `p` and `q`
  rw [sum_union_left (fun v => (v : ℝ) * Real.log (v : ℝ)) (by simp) p q hp, sum_union_left (fun v => (v : ℝ)) (by simp) p q hp,
    sum_union_right (fun v => (v : ℝ)) (by simp) p q hp hq, ← cast_total, ← cast_total] at main
  rw [nllOf_pairData, entropyOf]
  linarith

/-- for two normalised distributions: NLL_ε(p‖q) ≥ H(p) − n·ε with n the size of the joint support -/
theorem nll_ge_entropy_normalised (ε : ℝ) (hε : 0 < ε) (p q : Dict Key) (wp wq : Nat)
    (hp : Valid p wp) (hq : Valid q wq) (hp1 : p.total = 1) (hq1 : q.total = 1) :
    entropyOf p - ((unionKeys p q).length : ℝ) * ε ≤ nllOf ε (pairData p q) := by
  have := nll_ge_entropy ε hε p q hp.nodup hq.nodup hp.val hq.val
  rw [hp1, hq1] at this
  simpa using this

/-- the log-likelihood does not depend on the iteration order of the `set` of outcomes either -/
theorem nll_order_irrelevant (ε : ℝ) (a b : List (Rat × Rat)) (h : a.Perm b) : nllOf ε a = nllOf ε b := by
  unfold nllOf
  rw [(h.map _).sum_eq]

/-- "the symmetrised divergence is symmetric" -/
theorem jsd_symm (ε : ℝ) (p q : Dict Key) : jsdOf ε p q = jsdOf ε q p := by
  unfold jsdOf; ring

/-! ## non-vacuity: concrete non-trivial inputs meeting the hypotheses -/

-- mixed string / tuple keys with a collision ("01" and (0,1)), un-normalised weights
example : construct pyIsClose1 true
    [(.str ['0', '1'], 1), (.tup [0, 1], 3), (.str ['1', ',', '1'], 4), (.tup [1, 0], 1)] =
    .ok [([0, 1], 3/8), ([1, 1], 1/2), ([1, 0], 1/8)] := by decide +kernel
example : construct pyIsClose1 true [(.str ['0'], -1), (.str ['1'], 2)] = .error .runtime := by
  decide +kernel
example : construct pyIsClose1 true [(.str ['0'], 1), (.str ['1', '1'], 2)] = .error .runtime := by
  decide +kernel
example : construct pyIsClose1 true [(.str ['0'], 0)] = .error .value := by decide +kernel
example : construct pyIsClose1 true [(.str ['0', 'a'], 1)] = .error .value := by decide +kernel
-- a sum within 1e-9 of 1 is kept as it is, not renormalised
example : construct pyIsClose1 true [(.tup [0], 1/2), (.tup [1], 1/2 + 1/2^31)] =
    .ok [([0], 1/2), ([1], 1/2 + 1/2^31)] := by decide +kernel
-- a valid 3-qubit distribution, marginal onto the reordered proper subset [2, 0]
example : Valid [([0, 1, 1], 1/4), ([1, 0, 1], 1/2), ([1, 1, 1], 1/4)] 3 := by
  refine ⟨by decide, by decide, by decide, by decide +kernel, by decide⟩
example : (subdistribution pyIsClose1 [([0, 1, 1], 1/4), ([1, 0, 1], 1/2), ([1, 1, 1], 1/4)] [2, 0]).2 =
    .ok [([1, 0], 1/4), ([1, 1], 3/4)] := by decide +kernel
example : groupSum (proj [2, 0]) [([0, 1, 1], (1/4 : Rat)), ([1, 0, 1], 1/2), ([1, 1, 1], 1/4)] =
    [([1, 0], 1/4), ([1, 1], 3/4)] := by decide +kernel
example : (subdistribution pyIsClose1 [([0, 1], 1/2), ([1, 0], 1/2)] [1, 1]).2 = .error .value := by
  decide +kernel
-- multi-digit entries stay intact (the former defect `subdistribution-multidigit-entry`, fixed b64c4ba)
example : (subdistribution pyIsClose1 [([12, 3], 1/2), ([1, 23], 1/2)] [0, 1]).2 =
    .ok [([12, 3], 1/2), ([1, 23], 1/2)] := by decide +kernel
example : (subdistribution pyIsClose1 [([12, 0], 1/2), ([3, 0], 1/4), ([12, 7], 1/4)] [0]).2 =
    .ok [([12], 3/4), ([3], 1/4)] := by decide +kernel
example : Valid [([12, 0], 1/2), ([3, 0], 1/4), ([12, 7], 1/4)] 2 := by
  refine ⟨by decide, by decide, by decide, by decide +kernel, by decide⟩
-- save / load on a width-2 distribution with two-digit entries
example : loadDict pyIsClose1 (saveDict [([12, 4], 1/2), ([3, 5], 1/2)]) =
    .ok [([12, 4], 1/2), ([3, 5], 1/2)] := by decide +kernel
example : Roundtrippable [([12, 4], 1/2), ([3, 5], 1/2)] 2 := Or.inl (by decide)
-- MMD / NLL data for distributions with different supports
example : mmdData [([0, 1], 1)] [([1, 0], 1/2), ([1, 1], 1/2)] =
    .ok [(1, 1, 0), (2, 0, 1/2), (3, 0, 1/2)] := by decide +kernel
example : pairData [([0, 1], 1)] [([1, 0], 1/2), ([1, 1], 1/2)] = [(1, 0), (0, 1/2), (0, 1/2)] := by
  decide +kernel

end OQ.C17
