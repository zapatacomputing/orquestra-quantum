/-
  C15 — PROPERTY THEOREMS: estimation returns one correctly weighted result per task, in task order.
  Model: OQ/Model/C15.lean.  Helper lemmas and the specification vocabulary
  (`isMeasured`, `rank`, `sampleMean`, `zEigenvalue`, `RunnerLaw`): OQ/Lemmas/C15.lean.

  The circuit runner `rb`, the wavefunction simulator `wf`, the operator-to-matrix map `opMat` and
  `Circuit.bind` are arbitrary parameters; what is assumed of them is written as a hypothesis.
-/
import OQ.Lemmas.C15
namespace OQ.C15

variable {C : Type}

/-- the two task lists are the measured / not-measured tasks in their original order -/
theorem split_lists (tasks : List (Task C)) :
    (splitTasks tasks).toMeasure = tasks.filter isMeasured ∧
    (splitTasks tasks).notToMeasure = tasks.filter notMeasured := by
  rw [splitTasks_eq]; exact ⟨rfl, rfl⟩

/-- every remembered index points at the task stored beside it, every position of the input is
    remembered in exactly the list its task belongs to, and both index lists are strictly increasing -/
theorem split_indices_remembered (tasks : List (Task C)) :
    (splitTasks tasks).idxMeasure.map (fun i => tasks[i]?) = (splitTasks tasks).toMeasure.map some ∧
    (splitTasks tasks).idxNot.map (fun i => tasks[i]?) = (splitTasks tasks).notToMeasure.map some ∧
    (∀ i, i ∈ (splitTasks tasks).idxMeasure ↔ ∃ h : i < tasks.length, notMeasured tasks[i] = false) ∧
    (∀ i, i ∈ (splitTasks tasks).idxNot ↔ ∃ h : i < tasks.length, notMeasured tasks[i] = true) ∧
    (splitTasks tasks).idxMeasure.Pairwise (· < ·) ∧ (splitTasks tasks).idxNot.Pairwise (· < ·) := by
  rw [splitTasks_eq]
  refine ⟨pos_lookup _ _, pos_lookup _ _, fun i => ?_, fun i => mem_pos _ _ _, pos_pairwise _ _ _, pos_pairwise _ _ _⟩
  simp only [mem_pos, isMeasured_iff]

/-- "returns exactly one result per task": the result list has the length of the task list, for every
    task list and every runner (no assumption on the runner at all) -/
theorem result_length (rb : List C → List (Option Int) → Except Err (List Shots))
    (tasks : List (Task C)) (r : List (Option Vals)) (h : estimateByAveraging rb tasks = .ok r) :
    r.length = tasks.length := by
  obtain ⟨_, _, hl, _⟩ := est_entries rb tasks r h
  exact hl

/-- "at the task's position, whatever mixture of measurable, constant-operator and zero-shot tasks":
    for every interleaving, the entry at position `i` is a value (never `None`), and it is computed from
    task `i` alone – by `evaluate_non_measured` if the task is not measured, otherwise from the
    operator of task `i` and the measurements the runner returned for task `i`'s circuit (its
    position `rank tasks i` in the submitted batch). -/
theorem result_at_index (rb : List C → List (Option Int) → Except Err (List Shots))
    (hlaw : ∀ cs ns meas, rb cs ns = .ok meas → meas.length = cs.length)
    (tasks : List (Task C)) (r : List (Option Vals)) (h : estimateByAveraging rb tasks = .ok r) :
    ∃ meas : List Shots,
      (tasks.filter isMeasured ≠ [] → rb (submittedCircuits tasks) (submittedShots tasks) = .ok meas) ∧
      meas.length = (submittedCircuits tasks).length ∧
      ∀ i (hi : i < tasks.length), ∃ v, r[i]? = some (some v) ∧
        (if notMeasured tasks[i] then evalNonMeasured tasks[i]
         else measuredValue tasks[i].op (meas.getD (rank tasks i) [])) = .ok v := by
  obtain ⟨meas, hb, _, hall⟩ := est_entries rb tasks r h
  obtain ⟨hrb, hnil⟩ := (batch_eq_ok rb tasks meas).mp hb
  have hlen : meas.length = (submittedCircuits tasks).length := by
    by_cases hM : tasks.filter isMeasured = []
    · rw [hnil hM, submittedCircuits, hM]; rfl
    · exact hlaw _ _ _ (hrb hM)
  refine ⟨meas, hrb, hlen, fun i hi => ?_⟩
  cases hnm : notMeasured tasks[i] with
  | true => exact ⟨_, (hall i hi).1 hnm, evalNonMeasured_of_notMeasured _ hnm⟩
  | false =>
    refine (hall i hi).2 hnm ?_
    rw [hlen, submittedCircuits, List.length_map]
    exact rank_lt isMeasured tasks i hi ((isMeasured_iff _).mpr hnm)

/-- "a constant operator yields exactly its constant": wherever a task with a constant operator
    (no term, or only identity terms, simplified or not) stands in the list, and whatever its shot
    count (`None`, 0, negative, positive), its result is the single value Σ coefficients.
    No assumption on the runner. -/
theorem constant_value (rb : List C → List (Option Int) → Except Err (List Shots))
    (tasks : List (Task C)) (r : List (Option Vals)) (h : estimateByAveraging rb tasks = .ok r)
    (i : Nat) (hi : i < tasks.length) (hc : tasks[i].op.isConstant = true) :
    r[i]? = some (some [⟨(tasks[i].op.map (fun t => t.coeff.re)).sum, (tasks[i].op.map (fun t => t.coeff.im)).sum⟩]) := by
  obtain ⟨_, _, _, hall⟩ := est_entries rb tasks r h
  rw [(hall i hi).1 (by rw [notMeasured, hc]; rfl), hc, if_pos rfl, coeffSum_eq]

/-- "a non-constant zero-shot task yields zero": position-independent, for any operator (Ising or not)
    and any runner. -/
theorem zero_shot_value (rb : List C → List (Option Int) → Except Err (List Shots))
    (tasks : List (Task C)) (r : List (Option Vals)) (h : estimateByAveraging rb tasks = .ok r)
    (i : Nat) (hi : i < tasks.length) (hc : tasks[i].op.isConstant = false) (h0 : tasks[i].shots = some 0) :
    r[i]? = some (some [0]) := by
  obtain ⟨_, _, _, hall⟩ := est_entries rb tasks r h
  rw [(hall i hi).1 (by rw [notMeasured, hc, h0]; rfl), hc, if_neg Bool.false_ne_true]

/-- "each result includes the operator's coefficients": the result of a measured task has one value
    per term, in term order, and the value of a term is Re(coefficient) × the sample mean, over the
    shots returned for this task's circuit, of the ±1 outcome of the term's Z-string
    (imaginary parts are dropped by `expectation_values_to_real`). -/
theorem measured_value_weighted (rb : List C → List (Option Int) → Except Err (List Shots))
    (hlaw : ∀ cs ns meas, rb cs ns = .ok meas → meas.length = cs.length)
    (tasks : List (Task C)) (r : List (Option Vals)) (h : estimateByAveraging rb tasks = .ok r)
    (i : Nat) (hi : i < tasks.length) (hm : notMeasured tasks[i] = false) :
    ∃ meas s0 rest, rb (submittedCircuits tasks) (submittedShots tasks) = .ok meas ∧
      meas.getD (rank tasks i) [] = s0 :: rest ∧
      ((∀ t ∈ tasks[i].op, ∀ q ∈ t.qubits, q < s0.length) →
        r[i]? = some (some (tasks[i].op.map
          (fun t => (⟨t.coeff.re * sampleMean t.qubits (s0 :: rest), 0⟩ : GQ))))) := by
  obtain ⟨meas, s0, rest, v, hrb, hs, hv, he⟩ := measured_entry rb tasks hlaw r h i hi hm
  refine ⟨meas, s0, rest, hrb, hs, fun hw => ?_⟩
  rw [measuredValue_eq _ s0 rest (isIsing_of_measuredValue_ok _ _ _ he) hw] at he
  cases he
  exact hv

/-- general form: when the circuit of a measured task prepares the computational basis state `b`
    (`b` is the only outcome of non-zero probability), every value of its result is
    Re(coefficient) × eigenvalue of the term's Z-string at `b` – for EVERY positive shot count and
    every runner obeying the runner law. -/
theorem basis_state_value (rb : List C → List (Option Int) → Except Err (List Shots))
    (supp : C → Bits → Prop) (hlaw : RunnerLaw rb supp)
    (tasks : List (Task C)) (r : List (Option Vals)) (h : estimateByAveraging rb tasks = .ok r)
    (i : Nat) (hi : i < tasks.length) (hc : tasks[i].op.isConstant = false)
    (n : Int) (hn : 0 < n) (hshots : tasks[i].shots = some n)
    (b : Bits) (hprep : ∀ s, supp tasks[i].circuit s → s = b)
    (hbits : ∀ q, b.getD q 0 ≤ 1) (hwidth : ∀ t ∈ tasks[i].op, ∀ q ∈ t.qubits, q < b.length) :
    r[i]? = some (some (tasks[i].op.map (fun t => (⟨t.coeff.re * (zEigenvalue t.qubits b : Int), 0⟩ : GQ)))) := by
  have hm := notMeasured_of_pos_shots tasks[i] n hc hn hshots
  obtain ⟨meas, s0, rest, hrb, hs, hval⟩ := measured_value_weighted rb hlaw.onePer tasks r h i hi hm
  have hall := shots_eq_of_prepares rb tasks supp hlaw meas hrb i hi hm b hprep
  rw [hs] at hall
  rw [hval (by rw [hall s0 List.mem_cons_self]; exact hwidth)]
  congr 2
  apply List.map_congr_left
  intro t _
  rw [sampleMean_basis t.qubits b (s0 :: rest) (List.cons_ne_nil _ _) hall, paritySign_eq _ _ (fun q _ => hbits q)]

/-- "when the circuit prepares a computational basis state the estimated value of every Z-type term is
    exactly coefficient times eigenvalue regardless of shot count": the statement for an operator
    with real coefficients (a Hermitian Ising operator) – value = coefficient · eigenvalue, exactly. -/
theorem basis_state_exact (rb : List C → List (Option Int) → Except Err (List Shots))
    (supp : C → Bits → Prop) (hlaw : RunnerLaw rb supp)
    (tasks : List (Task C)) (r : List (Option Vals)) (h : estimateByAveraging rb tasks = .ok r)
    (i : Nat) (hi : i < tasks.length) (hc : tasks[i].op.isConstant = false)
    (n : Int) (hn : 0 < n) (hshots : tasks[i].shots = some n)
    (b : Bits) (hprep : ∀ s, supp tasks[i].circuit s → s = b)
    (hbits : ∀ q, b.getD q 0 ≤ 1) (hwidth : ∀ t ∈ tasks[i].op, ∀ q ∈ t.qubits, q < b.length)
    (hreal : ∀ t ∈ tasks[i].op, t.coeff.im = 0) :
    r[i]? = some (some (tasks[i].op.map (fun t => t.coeff.smul (zEigenvalue t.qubits b : Int)))) := by
  rw [basis_state_value rb supp hlaw tasks r h i hi hc n hn hshots b hprep hbits hwidth]
  congr 2
  apply List.map_congr_left
  intro t ht
  simp [GQ.smul, hreal t ht]

/-- the hypothesis `RunnerLaw` is satisfiable: the runner the driver executes in the correspondence check
    (BaseCircuitRunner batch validation around the simulator's sampling, whatever the sampler drew for
    superposition states) obeys it, with "non-zero probability" read off the prepared product state. -/
theorem runner_law_satisfiable (recorded : List Shots) :
    RunnerLaw (baseRunBatch (simRun recorded)) simSupp := by
  apply baseRunBatch_law_of
  intro k c n s h x hx b hb
  unfold simRun at h
  split at h
  · cases h
  · rw [hb] at h
    cases h
    exact List.eq_of_mem_replicate hx

/-- on the stated domain the estimation succeeds: if the runner accepts the batch and returns, for each
    measured task, at least one shot wide enough for the task's Ising operator, no exception is raised
    (in particular the `RuntimeError` branch of `evaluate_non_measured_estimation_tasks` is dead). -/
theorem averaging_succeeds (rb : List C → List (Option Int) → Except Err (List Shots))
    (tasks : List (Task C)) (meas : List Shots)
    (hrb : tasks.filter isMeasured ≠ [] → rb (submittedCircuits tasks) (submittedShots tasks) = .ok meas)
    (hlen : meas.length = (submittedCircuits tasks).length)
    (hwf : ∀ i (hi : i < tasks.length), isMeasured tasks[i] = true →
      tasks[i].op.isIsing = true ∧ ∃ s0 rest, meas.getD (rank tasks i) [] = s0 :: rest ∧
        ∀ t ∈ tasks[i].op, ∀ q ∈ t.qubits, q < s0.length) :
    ∃ r, estimateByAveraging rb tasks = .ok r := by
  have hnv := mapE_ok_of_forall (evalNonMeasured (C := C))
    (fun t => [if t.op.isConstant then t.op.coeffSum else 0]) (tasks.filter notMeasured)
    (fun t ht => evalNonMeasured_of_notMeasured t (List.mem_filter.mp ht).2)
  have hmv := mapE_ok_of_forall (fun p : Op × Shots => measuredValue p.1 p.2)
    (fun p => p.1.map fun t => (⟨t.coeff.re * sampleMean t.qubits p.2, 0⟩ : GQ))
    (((tasks.filter isMeasured).map (fun t => t.op)).zip meas) (by
      -- the `k`-th submitted pair is (operator of task `i`, shots at rank `k`) for the task `i` of rank `k`
      rintro ⟨o, s⟩ hp
      obtain ⟨k, hk⟩ := List.getElem?_of_mem hp
      obtain ⟨ho, hs⟩ := List.getElem?_zip_eq_some.mp hk
      rw [List.getElem?_map] at ho
      have hk' : k < (tasks.filter isMeasured).length := by
        rw [← List.length_map (f := fun t => t.circuit), ← submittedCircuits, ← hlen]
        exact (List.getElem?_eq_some_iff.mp hs).1
      obtain ⟨i, hi, hmi, rfl⟩ := rank_surj isMeasured tasks k hk'
      obtain ⟨hI, s0, rest, hs', hw⟩ := hwf i hi hmi
      rw [filter_rank_get isMeasured tasks i hi hmi] at ho
      cases ho
      have : s = s0 :: rest := by
        rw [← hs', rank, List.getD_eq_getElem?_getD, hs]; rfl
      exact this ▸ measuredValue_eq _ s0 rest hI hw)
  have hb := (batch_eq_ok rb tasks meas).mpr
    ⟨hrb, fun he => List.eq_nil_of_length_eq_zero (by rw [hlen, submittedCircuits, he]; rfl)⟩
  rw [estimateByAveraging_eq, hnv, hb]
  exact ⟨_, by rw [Except.bind, Except.bind, hmv]; rfl⟩

/-- "exact expectation values from a simulator equal the state's quadratic form with the operator":
    `calculate_exact_expectation_values` returns one single-valued result per task, in task order,
    and the value for task `i` is the real part of Σₐ Σ_b conj(ψ_a)·A_ab·ψ_b where ψ is the
    wavefunction the simulator returns for task `i`'s circuit and A the matrix of task `i`'s operator
    on the state's qubits. -/
theorem exact_eq_quadratic_form {K : Type} [CommRing K] [Conj K]
    (wf : C → Except Err (Nat × (Nat → K))) (opMat : Op → Nat → Nat → Nat → K) (re : K → K)
    (tasks : List (Task C)) (vs : List (List K)) (h : exactValues wf opMat re tasks = .ok vs) :
    vs.length = tasks.length ∧
    ∀ i (hi : i < tasks.length), ∃ n ψ, wf tasks[i].circuit = .ok (n, ψ) ∧ tasks[i].op.nQubits ≤ n ∧
      vs[i]? = some [re (∑ a ∈ Finset.range (2 ^ n), ∑ b ∈ Finset.range (2 ^ n),
                          conj (ψ a) * opMat tasks[i].op n a b * ψ b)] := by
  obtain ⟨hl, hk⟩ := mapE_getElem? h
  refine ⟨hl, fun i hi => ?_⟩
  obtain ⟨v, hv, he⟩ := hk i _ (List.getElem?_eq_getElem hi)
  cases hw : wf tasks[i].circuit with
  | error e => rw [exactValue, hw] at he; cases he
  | ok p =>
    obtain ⟨n, ψ⟩ := p
    rw [exactValue_of_wf wf opMat re _ n ψ hw] at he
    by_cases hn : n < tasks[i].op.nQubits
    · rw [if_pos hn] at he; cases he
    · rw [if_neg hn] at he
      cases he
      exact ⟨n, ψ, rfl, Nat.le_of_not_lt hn, by rw [hv, expectation_eq]⟩

/-- the two estimators agree on basis states: for the matrix that `get_sparse_operator` denotes
    (Kronecker definition, `opMatrix`) over any commutative ring, an Ising operator and the
    computational basis state of index `x` on `n` qubits, the exact value is
    re(Σ_terms coefficient × eigenvalue at the bits of `x`) – the sum of the per-term values that
    estimation by averaging returns (`basis_state_exact`). -/
theorem exact_basis_ising {K : Type} [CommRing K] [Conj K] (h1 : conj (1 : K) = 1) (h0 : conj (0 : K) = 0)
    (wf : C → Except Err (Nat × (Nat → K))) (iu : K) (ofGQ : GQ → K) (re : K → K)
    (t : Task C) (n x : Nat) (hx : x < 2 ^ n)
    (hwf : wf t.circuit = .ok (n, fun j => if j = x then 1 else 0))
    (hI : t.op.isIsing = true) (hnd : ∀ term ∈ t.op, term.qubits.Nodup)
    (hw : ∀ term ∈ t.op, ∀ q ∈ term.qubits, q < n) :
    exactValue wf (opMatrix iu ofGQ) re t =
      .ok (re ((t.op.map (fun term => ofGQ term.coeff * ((zEigenvalue term.qubits (bitsOf n x) : Int) : K))).sum)) := by
  rw [exactValue_of_wf _ _ _ _ _ _ hwf, if_neg (Nat.not_lt.mpr ((nQubits_le_iff _ _).mpr hw)),
    expectation_basis_ising h1 h0 iu ofGQ t.op n x hx hI hnd hw]

/-- an operator acting beyond the state's qubits is rejected (`ValueError`), never silently truncated -/
theorem exact_rejects_wide {K : Type} [Zero K] [Add K] [Mul K] [Conj K]
    (wf : C → Except Err (Nat × (Nat → K))) (opMat : Op → Nat → Nat → Nat → K) (re : K → K)
    (t : Task C) (n : Nat) (ψ : Nat → K) (hw : wf t.circuit = .ok (n, ψ)) (hn : n < t.op.nQubits) :
    exactValue wf opMat re t = .error .value := by
  rw [exactValue_of_wf _ _ _ _ _ _ hw, if_pos hn]

/-- "binding symbol maps to tasks binds each task's circuit with its own map and changes nothing else":
    with one map per task the call succeeds, the output has exactly one task per input task, task `i`
    carries the circuit of task `i` bound with map `i`, and the operator and the shot count of task `i`
    unchanged – for all task lists and all maps (any `bind`). -/
theorem bind_tasks_pointwise {M : Type} (bind : C → M → C) (tasks : List (Task C)) (maps : List M)
    (hlen : maps.length = tasks.length) :
    ∃ out, evaluateCircuits bind tasks maps = .ok out ∧ out.length = tasks.length ∧
    ∀ i (hi : i < tasks.length) (hi' : i < maps.length),
      out[i]? = some { op := tasks[i].op, circuit := bind tasks[i].circuit maps[i], shots := tasks[i].shots } :=
  evaluateCircuits_ok bind tasks maps maps (broadcastMaps_eq_self _ _ fun h1 => hlen ▸ h1) hlen

/-- a single symbols map is used for every task (the documented broadcast): the call succeeds for every
    task list, returns one task per input task, and task `i` is task `i` bound with that one map. -/
theorem bind_tasks_broadcast {M : Type} (bind : C → M → C) (tasks : List (Task C)) (m : M) :
    ∃ out, evaluateCircuits bind tasks [m] = .ok out ∧ out.length = tasks.length ∧
    ∀ i (hi : i < tasks.length),
      out[i]? = some { op := tasks[i].op, circuit := bind tasks[i].circuit m, shots := tasks[i].shots } := by
  have hl := List.length_replicate (n := tasks.length) (a := m)
  obtain ⟨out, hout, hlen, hget⟩ := evaluateCircuits_ok bind tasks [m] (List.replicate tasks.length m) rfl hl
  refine ⟨out, hout, hlen, fun i hi => ?_⟩
  rw [hget i hi (Nat.lt_of_lt_of_eq hi hl.symm), List.getElem_replicate]

/-- every other length mismatch is rejected with `ValueError`; no task is ever dropped silently. -/
theorem bind_tasks_rejects_mismatch {M : Type} (bind : C → M → C) (tasks : List (Task C)) (maps : List M)
    (h1 : maps.length ≠ 1) (hne : maps.length ≠ tasks.length) :
    evaluateCircuits bind tasks maps = .error .value := by
  rw [evaluateCircuits, broadcastMaps_eq_self _ _ fun h => absurd h h1, if_pos hne]

/-! ### non-vacuity: concrete inputs meeting the hypotheses (and the negative witness) -/

section examples
/-- constant (unsimplified, two terms) · measured on the basis state 101 · zero-shot · empty sum -/
def exTasks : List (Task Circ) :=
  [ ⟨[⟨⟨2, 0⟩, []⟩, ⟨⟨3, 0⟩, []⟩], ⟨3, []⟩, some 3⟩,
    ⟨[⟨⟨2, 0⟩, [(0, .Z)]⟩, ⟨⟨3, 0⟩, [(1, .Z), (2, .Z)]⟩, ⟨⟨4, 0⟩, []⟩], ⟨3, [⟨"X", 0, none⟩, ⟨"X", 2, none⟩]⟩, some 5⟩,
    ⟨[⟨⟨2, 0⟩, [(0, .Z)]⟩], ⟨3, []⟩, some 0⟩,
    ⟨[], ⟨3, []⟩, none⟩ ]

example : estimateByAveraging (baseRunBatch (simRun [])) exTasks =
    .ok [some [⟨5, 0⟩], some [⟨-2, 0⟩, ⟨-3, 0⟩, ⟨4, 0⟩], some [⟨0, 0⟩], some [⟨0, 0⟩]] := by decide +kernel

example : (splitTasks exTasks).idxMeasure = [1] ∧ (splitTasks exTasks).idxNot = [0, 2, 3] := by decide +kernel

example : rank exTasks 1 = 0 ∧ zEigenvalue [1, 2] [1, 0, 1] = -1 ∧ zEigenvalue [0] [1, 0, 1] = -1 := by decide

/-- a sampled (non-basis) measurement: mean of Z0 over 4 shots with one `1` is 1/2 -/
example : measuredValue [⟨⟨3, 1⟩, [(0, .Z)]⟩] [[0, 1], [1, 1], [0, 0], [0, 1]] = .ok [⟨3 / 2, 0⟩] := by decide +kernel

/-- exact value on the basis state 101 (index 5 of 3 qubits): 2·(−1) + 3·(−1) + 4 = −1 -/
example : exactValues productState (opMatrix Cyc8.I cycOfGQ) cycRe [exTasks[1]] = .ok [[⟨-1, 0, 0, 0⟩]] := by
  decide +kernel
example : bitsOf 3 5 = [1, 0, 1] := by decide

/-- errors are modelled, not defaulted -/
example : estimateByAveraging (baseRunBatch (simRun [])) [(⟨[⟨⟨2, 0⟩, [(0, .X)]⟩], ⟨1, []⟩, some 2⟩ : Task Circ)] = .error .type := by
  decide +kernel
example : estimateByAveraging (baseRunBatch (simRun [])) [(⟨[⟨⟨2, 0⟩, [(0, .Z)]⟩], ⟨1, []⟩, none⟩ : Task Circ)] = .error .type := by
  decide +kernel
example : estimateByAveraging (baseRunBatch (simRun [])) [(⟨[⟨⟨2, 0⟩, [(0, .Z)]⟩], ⟨1, []⟩, some (-1)⟩ : Task Circ)] = .error .value := by
  decide +kernel
example : estimateByAveraging (baseRunBatch (simRun [])) [(⟨[⟨⟨2, 0⟩, [(4, .Z)]⟩], ⟨1, []⟩, some 2⟩ : Task Circ)] = .error .index := by
  decide +kernel

/-- binding: each task gets its own map -/
example : (evaluateCircuits Circ.bind
    [⟨[], ⟨1, [⟨"RX", 0, some ⟨0, [("t", 1)]⟩⟩]⟩, some 1⟩, ⟨[], ⟨1, [⟨"RX", 0, some ⟨0, [("t", 1)]⟩⟩]⟩, some 2⟩]
    [[("t", 2)], [("t", 3)]]).toOption.map
      (fun out => out.map (fun t => t.circuit.gates.map (fun g => g.param.map (fun f => f.const))))
    = some [[some 2], [some 3]] := by decide +kernel

/-- three tasks and a single map: all three are bound with it (F: fixed in 05054e7) -/
example : (evaluateCircuits (fun (c : Nat) (m : Nat) => c + m)
    [⟨[], 10, some 1⟩, ⟨[], 20, some 1⟩, ⟨[], 30, some 1⟩] [1]).toOption.map (fun out => out.map (fun t => t.circuit))
    = some [11, 21, 31] := by decide

/-- three tasks and two maps: rejected -/
example : (evaluateCircuits (fun (c : Nat) (m : Nat) => c + m)
    [⟨[], 10, some 1⟩, ⟨[], 20, some 1⟩, ⟨[], 30, some 1⟩] [1, 2]).toOption.isNone = true := by decide
end examples

end OQ.C15
