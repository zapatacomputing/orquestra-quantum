/-
  C06 ⟷ C07 ⟷ C02 — LINK THEOREMS: the hypotheses `Laws S` and `HermOK S g` of C06's theorems
  (`gateMatrix_bind`, `bind_bind_gate`, `circuitMatrix_bind`) are THEOREMS about the concrete matrix semantics
  of C07 and the gate table of C02.  Helper lemmas: OQ/Lemmas/C06_Link.lean.

  The concrete interpretation `cSem I k x : Sem V (CM R)` over any commutative ⋆-ring `R`:
    * matrices are `CM R = Except C07.Err (SqMat R)` – a raised exception or a well-formed square executable matrix;
    * `ctrl n M`  = C07's `ctlMatrix (d·(2^n − 1)) M`   (`Matrix.diag(eye(2^(N+n) − 2^N), M)`, `d = 2^N` the size of `M`);
    * `dag M`     = C07's `adjointWith star M`;   `pow` = C07's `mpow x`, `exp` = the external `x.mexp` (shape-checked);
    * `builtin`   = `OQ.Gates.builtinMatrix k` (the factories C02 and C07 reason about), `ofEntries` = `Mat.ofLists`;
    * `lift` / `mul` = `OQ.Lift.liftMatrix` / `Mat.mul` (shape-checked);
    * `I : Interp V R` says how the VALUE of a parameter expression is read: as the half-angle point of an angle by the
      built-in factories (`toAng`) and as a scalar by custom matrix entries (`toVal`), `I.alg` evaluates expressions.
  At `V = ℝ`, `R = ℂ`, `toAng θ = (cos θ/2, sin θ/2)` this is the real semantics (`realInterp`, theorems `*_real`).

  What is closed:  `Laws (cSem I k x)` holds outright; `HermOK (cSem I k x) g` holds for every gate whose set flags are
  flags the library sets (`LibFlags g`, decidable), from C02's `flag_hermitian`, given the laws of the constants
  (`C02.Laws k`) and that parameter values are real angles (`∀ v, C02.Valid (I.toAng v)`).
-/
import OQ.Props.C06
import OQ.Props.C07
import OQ.Props.C02
import OQ.Lemmas.C06_Link
namespace OQ.C06.Link
open OQ

variable {V R : Type} [CommRing R] [StarRing R]

/-- removes `L : Laws S` (hypothesis of `gateMatrix_bind`, `bind_bind_gate`, `circuitMatrix_bind`): the concrete
    interpretation satisfies the three wrapper laws – the control blocks of C07's `ctlMatrix` merge with the counts
    added, C07's `adjointWith star` is an involution and commutes with the control block – for every reading of the
    parameters, all constants, all externals, and every matrix or exception. -/
theorem concrete_laws (I : Interp V R) (k : Scal R) (x : C07.Ext R) : Laws (cSem I k x) where
  ctrl_ctrl a b X := by
    cases X with
    | error e => rfl
    | ok A => exact congrArg Except.ok (ctl_ctl a b A)
  dag_dag X := by
    cases X with
    | error e => rfl
    | ok A => exact congrArg Except.ok (adj_adj A)
  dag_ctrl n X := by
    cases X with
    | error e => rfl
    | ok A => exact congrArg Except.ok (adj_ctl n A)

/-- what the two wrappers of the concrete interpretation ARE, in the Mathlib view C07's theorems use: the control
    wrapper is the block matrix `diag(1, M)` (`C07.blockDiag`, as in `C07.controlled_matrix_block`) with an identity
    block of size `d·(2^n − 1)`, the dagger wrapper is the conjugate transpose (as in `C07.dagger_adjoint_partial`). -/
theorem concrete_wrappers_meaning (n d : Nat) (A : SqMat R) (hd : A.1.r = d) :
    (ctl n A).1.r = ctlBlock n d + d ∧ ctlBlock n d + d = 2 ^ n * d ∧
    Mat.toM (ctlBlock n d + d) (ctlBlock n d + d) (ctl n A).1 = C07.blockDiag (ctlBlock n d) (Mat.toM d d A.1) ∧
    Mat.toM d d (adj A).1 = (Mat.toM d d A.1).conjTranspose := by
  have hc : A.1.c = d := A.2.2.trans hd
  refine ⟨?_, (ctlBlock_add_self n d).trans (Nat.mul_comm ..), ?_, C07.toM_adjointWith' d A.1 hd hc⟩
  · show ctlBlock n A.1.r + A.1.r = _
    rw [hd]
  · show Mat.toM _ _ (C07.ctlMatrix (ctlBlock n A.1.r) A.1) = _
    rw [hd]
    exact C07.toM_ctlMatrix _ d A.1 hd hc

/-- removes `hh : HermOK S g` (hypothesis of `gateMatrix_bind`, `bind_bind_gate`): for the concrete interpretation
    the `is_hermitian` flags tell the truth on every gate whose set flags are the library's (`LibFlags`) – by C02's
    `flag_hermitian` for the flagged rows of the generated gate table, at all real parameter values. -/
theorem concrete_hermOK (I : Interp V R) (k : Scal R) (x : C07.Ext R) (hk : C02.Laws k)
    (hv : ∀ v, C02.Valid (I.toAng v)) (g : Gate) (hf : LibFlags g) : HermOK (cSem I k x) g := by
  induction g with
  | mf nm fac ps nq herm =>
    cases fac with
    | builtin b =>
      intro hh ps' ρ
      show (cSem I k x).dag ((cSem I k x).builtin b _) = (cSem I k x).builtin b _
      simp only [cSem]
      cases h : Gates.builtinMatrix k b ((ps'.map (Param.eval I.alg ρ)).map I.toAng) with
      | none => rfl
      | some m =>
        simp only [check]
        split
        · rename_i hsq
          obtain ⟨d, hs⟩ := hermitianName_selfadjoint hk b (hf hh) _ (List.forall_mem_map.mpr fun v _ => hv v) m h
          exact congrArg Except.ok (Subtype.ext (adjointWith_eq_self m hsq d hs))
        · rfl
    | custom mat ord => exact fun hh => nomatch (hf : herm = false).symm.trans hh
  | ctrl g n ih | dag g ih | exp g ih | pow g e ih => exact ih hf

/-- the flag table C07 uses is the flag column of the gate table C02 re-extracts from the Python module -/
theorem hermitianNames_eq_table :
    C07.hermitianNames = (Generated.gateTable.filter C02.Row.isHermitian).map C02.Row.name := by
  decide

/-- `gateMatrix_bind` without `L : Laws S` and without `hh : HermOK S g`: for C07's matrix semantics, binding and
    then taking the matrix equals taking the matrix symbolically and substituting afterwards, for every chain of
    `ControlledGate` / `Dagger` wrappers over a built-in or custom factory gate carrying library flags. -/
theorem gateMatrix_bind_concrete (I : Interp V R) (k : Scal R) (x : C07.Ext R) (hk : C02.Laws k)
    (hv : ∀ v, C02.Valid (I.toAng v)) (ρ : String → V) (m : SymMap) (g g' : Gate)
    (hf : LibFlags g) (hc : CustomOK g) (h : g.bind m = .ok g') :
    gateMatrix (cSem I k x) ρ g' = gateMatrix (cSem I k x) (comp I.alg ρ m) g :=
  gateMatrix_bind (cSem I k x) (concrete_laws I k x) ρ m g g' (concrete_hermOK I k x hk hv g hf) hc h

/-- `bind_bind_gate` without `L : Laws S` and without `hh : HermOK S g` -/
theorem bind_bind_gate_concrete (I : Interp V R) (k : Scal R) (x : C07.Ext R) (hk : C02.Laws k)
    (hv : ∀ v, C02.Valid (I.toAng v)) (ρ : String → V) (m1 m2 : SymMap) (hnm : NoMention m1 m2)
    (g g1 g2 : Gate) (hf : LibFlags g) (hc : CustomOK g) (h1 : g.bind m1 = .ok g1) (h2 : g1.bind m2 = .ok g2) :
    ∃ g12, g.bind (m1 ++ m2) = .ok g12 ∧ g12.params = g2.params ∧
      gateMatrix (cSem I k x) ρ g12 = gateMatrix (cSem I k x) ρ g2 :=
  bind_bind_gate (cSem I k x) (concrete_laws I k x) ρ m1 m2 hnm g g1 g2 (concrete_hermOK I k x hk hv g hf) hc h1 h2

/-- the flags of every gate operation of a circuit are library flags -/
def OpLibFlags : Op → Prop
  | .gate g _ => LibFlags g
  | _ => True

/-- `circuitMatrix_bind` without `L : Laws S` and without `hh : ∀ o ∈ c.ops, o.HermOK S`: the unitary of the bound
    circuit (product of C07-matrices lifted by `OQ.Lift.liftMatrix`) is the unitary of the original circuit
    evaluated symbolically and substituted afterwards; width and qubits are kept. -/
theorem circuitMatrix_bind_concrete (I : Interp V R) (k : Scal R) (x : C07.Ext R) (hk : C02.Laws k)
    (hv : ∀ v, C02.Valid (I.toAng v)) (ρ : String → V) (m : SymMap) (c c' : Circuit) (hwf : c.WF)
    (hf : ∀ o ∈ c.ops, OpLibFlags o) (hc : ∀ o ∈ c.ops, o.CustomOK) (h : c.bind m = .ok c') :
    circuitMatrix (cSem I k x) ρ c' = circuitMatrix (cSem I k x) (comp I.alg ρ m) c ∧ c'.nQubits = c.nQubits ∧
      c'.ops.map Op.qubits = c.ops.map Op.qubits := by
  refine circuitMatrix_bind (cSem I k x) (concrete_laws I k x) ρ m c c' hwf ?_ hc h
  intro o ho
  cases o with
  | gate g qs => exact concrete_hermOK I k x hk hv g (hf _ ho)
  | multiPhase ps | reset q => trivial

/-- for every chain of `ControlledGate` (≥ 1 control each) / `Dagger` wrappers whose factory gates return
    `2^num_qubits` square matrices, the matrix of the concrete interpretation is `C07.gateMatrix star x` of the
    corresponding C07 gate object `toC07 … ρ g` (same wrappers, evaluated parameters), exceptions included. -/
theorem concrete_agrees_with_C07 (I : Interp V R) (k : Scal R) (x : C07.Ext R) (ρ : String → V) (g : Gate)
    (hcd : g.isCD = true) (hp : PosCtl g) (hd : DimOK (cSem I k x) ρ g) :
    (gateMatrix (cSem I k x) ρ g).map Subtype.val = C07.gateMatrix star x (toC07 I k x ρ g) ∧
    C07.WellDim (toC07 I k x ρ g) := by
  constructor
  · induction g with
    | mf nm fac ps nq herm =>
      obtain ⟨b, hb, _, hf⟩ := toC07_mf I k x ρ nm fac ps nq herm
      rw [hb, C07.gateMatrix, hf]; rfl
    | ctrl g n ih =>
      obtain ⟨m, rfl⟩ : ∃ m, n = m + 1 := ⟨n - 1, by have := hp.1; omega⟩
      simp only [gateMatrix, toC07, C07.gateMatrix, Nat.add_sub_cancel]
      rw [← ih hcd hp.2 hd]
      cases hg : gateMatrix (cSem I k x) ρ g with
      | error e => rfl
      | ok A =>
        -- the identity block `d·(2^(m+1) − 1)` of `ctl` is C07's `2^(q+m+1) − 2^q` at `d = 2^q`
        show Except.ok (C07.ctlMatrix (ctlBlock (m + 1) A.1.r) A.1) = Except.ok (C07.ctlMatrix _ A.1)
        rw [gateMatrix_rows I k x ρ g hcd hp.2 hd A hg, pow_add, Nat.eq_sub_of_add_eq (ctlBlock_add_self _ _)]
    | dag g ih =>
      simp only [gateMatrix, toC07, C07.gateMatrix]
      rw [← ih hcd hp hd]
      cases gateMatrix (cSem I k x) ρ g <;> rfl
    | exp | pow => cases hcd
  · clear hcd hp
    induction g with
    | mf nm fac ps nq herm =>
      obtain ⟨b, hb, rfl, hf⟩ := toC07_mf I k x ρ nm fac ps nq herm
      rw [hb]
      intro M hM
      rw [hf] at hM
      cases hA : mfMatrix (cSem I k x) ρ fac ps with
      | error e => rw [hA] at hM; cases hM
      | ok A => rw [hA] at hM; cases hM; exact ⟨hd A hA, A.2.2.trans (hd A hA)⟩
    | ctrl g n ih | dag g ih | exp g ih | pow g e ih => exact ih hd

/-- C06's sentence 1 stated on C07's gate objects and C07's `gateMatrix` only: the C07 object of the bound gate at
    `ρ` and the C07 object of the original gate at "substitute, then `ρ`" have the same matrix (or raise the same
    exception).  The shape hypotheses are made on the ORIGINAL gate only; they are shown to carry over to the bound
    gate (`bind` re-associates the chain but keeps every count ≥ 1 and the factory gate). -/
theorem gateMatrix_bind_C07 (I : Interp V R) (k : Scal R) (x : C07.Ext R) (hk : C02.Laws k)
    (hv : ∀ v, C02.Valid (I.toAng v)) (ρ : String → V) (m : SymMap) (g g' : Gate)
    (hf : LibFlags g) (hc : CustomOK g) (hp : PosCtl g) (hd : DimOK (cSem I k x) (comp I.alg ρ m) g)
    (h : g.bind m = .ok g') :
    C07.gateMatrix star x (toC07 I k x ρ g') = C07.gateMatrix star x (toC07 I k x (comp I.alg ρ m) g) := by
  have hp' : PosCtl g' := transparent_posCtl.bind transparent_posCtl (fun _ _ _ _ => id) hp h
  have hd' : DimOK (cSem I k x) ρ g' :=
    (transparent_customOK.and (transparent_dimOK _ _)).bind (transparent_dimOK _ ρ)
      (fun nm fac nq herm hx A hA => hx.2 A (mfMatrix_bind _ ρ m nm fac _ nq herm hx.1 ▸ hA)) ⟨hc, hd⟩ h
  rw [← (concrete_agrees_with_C07 I k x ρ g' (isCD_bind h) hp' hd').1,
    ← (concrete_agrees_with_C07 I k x (comp I.alg ρ m) g (bind_ok_isCD h) hp hd).1,
    gateMatrix_bind_concrete I k x hk hv ρ m g g' hf hc h]

/-- parameter values are real numbers; a built-in factory reads the value `θ` as the angle `θ`
    (point `(cos θ/2, sin θ/2)`, `C02.real_angle_meaning`), a custom matrix entry reads it as the complex number `θ`.
    sympy's `Pow` and named functions on the reals are parameters. -/
noncomputable def realInterp (pw : ℝ → ℝ → ℝ) (fn : String → ℝ → ℝ) : Interp ℝ ℂ where
  alg := { ofRat := fun q => (q : ℝ), add := fun a b => a + b, mul := fun a b => a * b, pow := pw, fn := fn }
  toAng := C02.angR
  toVal := fun θ => (θ : ℂ)

/-- `gateMatrix_bind` at the real semantics with NO assumption on the interpretation left (`Laws`, `HermOK`, the
    laws of the constants and the validity of the angle points are all discharged): for all real assignments. -/
theorem gateMatrix_bind_real (pw : ℝ → ℝ → ℝ) (fn : String → ℝ → ℝ) (x : C07.Ext ℂ) (ρ : String → ℝ) (m : SymMap)
    (g g' : Gate) (hf : LibFlags g) (hc : CustomOK g) (h : g.bind m = .ok g') :
    gateMatrix (cSem (realInterp pw fn) C02.kC x) ρ g' =
      gateMatrix (cSem (realInterp pw fn) C02.kC x) (comp (realInterp pw fn).alg ρ m) g :=
  gateMatrix_bind_concrete (realInterp pw fn) C02.kC x C02.kC_laws (fun θ => C02.angR_valid θ) ρ m g g' hf hc h

/-- `circuitMatrix_bind` at the real semantics with no assumption on the interpretation left -/
theorem circuitMatrix_bind_real (pw : ℝ → ℝ → ℝ) (fn : String → ℝ → ℝ) (x : C07.Ext ℂ) (ρ : String → ℝ)
    (m : SymMap) (c c' : Circuit) (hwf : c.WF) (hf : ∀ o ∈ c.ops, OpLibFlags o) (hc : ∀ o ∈ c.ops, o.CustomOK)
    (h : c.bind m = .ok c') :
    circuitMatrix (cSem (realInterp pw fn) C02.kC x) ρ c' =
      circuitMatrix (cSem (realInterp pw fn) C02.kC x) (comp (realInterp pw fn).alg ρ m) c ∧
    c'.nQubits = c.nQubits ∧ c'.ops.map Op.qubits = c.ops.map Op.qubits :=
  circuitMatrix_bind_concrete (realInterp pw fn) C02.kC x C02.kC_laws (fun θ => C02.angR_valid θ) ρ m c c' hwf hf hc h

/-! ## non-vacuity: concrete inputs meeting the hypotheses, values computed exactly in ℚ(ζ₈) -/
namespace Ex
open OQ.C06.Ex

/-- two angle values: `false` ↦ angle 0, `true` ↦ the angle with half-angle point (3/5, 4/5) -/
def bI : Interp Bool Cyc8 where
  alg := { ofRat := fun _ => false, add := fun a b => a || b, mul := fun a b => a && b, pow := fun a _ => a,
           fn := fun _ a => a }
  toAng := fun b => if b then ⟨Cyc8.ofRat (3/5), Cyc8.ofRat (4/5)⟩ else ⟨Cyc8.ofRat 1, Cyc8.ofRat 0⟩
  toVal := fun b => if b then 1 else 0

private theorem bI_valid : ∀ v, C02.Valid (bI.toAng v) := by
  intro v
  cases v
  · exact C02.cyc8_valid_of_rat 1 0 (by norm_num)
  · exact C02.cyc8_valid_of_rat (3/5) (4/5) (by norm_num)

abbrev S8 := cSem bI Scal.cyc8 (C07.Inst.extNone Cyc8)
def xg : Gate := .mf "X" (.builtin "X") [] 1 true
def rxg : Gate := .mf "RX" (.builtin "RX") [.expr (.sym "x")] 1 false
def env (s : String) : Bool := s = "y"
def view (X : CM Cyc8) : Except C07.Err (List (List Cyc8)) := X.map (fun A => A.1.toLists)

-- the hypotheses are satisfiable: constants, angle values, flags, shapes
example : C02.Laws Scal.cyc8 := C02.cyc8_laws
example : LibFlags (.ctrl (.dag xg) 2) ∧ LibFlags (.ctrl (.dag rxg) 1) ∧ LibFlags (cust [.expr x, .number 2]) := by decide
example : ¬ LibFlags (.mf "RX" (.builtin "RX") [.expr (.sym "x")] 1 true) := by decide
example : PosCtl (.ctrl (.dag rxg) 1) := ⟨by decide, trivial⟩
-- the concrete interpretation computes: X.controlled(1) is CNOT, …
example : view (gateMatrix S8 env (.ctrl xg 1)) = .ok (Gates.cnot (R := Cyc8)).toLists := by decide +kernel
-- … the two control blocks merge (law `ctrl_ctrl` on a concrete matrix), …
example : view (gateMatrix S8 env (.ctrl (.ctrl xg 1) 1)) = view (gateMatrix S8 env (.ctrl xg 2)) := by decide +kernel
-- … the dagger of RX at a non-trivial angle is a different matrix, its double dagger is not, …
example : view (gateMatrix S8 (fun _ => true) (.dag rxg)) ≠ view (gateMatrix S8 (fun _ => true) rxg) := by decide +kernel
example : view (gateMatrix S8 (fun _ => true) (.dag (.dag rxg))) = view (gateMatrix S8 (fun _ => true) rxg) := by
  decide +kernel
-- … a wrong number of parameters is the TypeError of the factory, which the wrappers propagate
example : view (gateMatrix S8 env (.ctrl (.dag (.mf "RX" (.builtin "RX") [] 1 false)) 1)) = .error .type := by decide +kernel
-- bind then evaluate = evaluate at the composed assignment, on a re-associated chain (instance of the theorem)
example : view (gateMatrix S8 env (.ctrl (.dag (.mf "RX" (.builtin "RX") [.expr (.sym "y")] 1 false)) 3)) =
    view (gateMatrix S8 (comp bI.alg env [("x", .expr (.sym "y"))]) (.dag (.ctrl (.ctrl rxg 1) 2))) := by
  have h : (Gate.dag (.ctrl (.ctrl rxg 1) 2)).bind [("x", .expr (.sym "y"))] =
      .ok (.ctrl (.dag (.mf "RX" (.builtin "RX") [.expr (.sym "y")] 1 false)) 3) := by decide +kernel
  exact congrArg view (gateMatrix_bind_concrete bI Scal.cyc8 (C07.Inst.extNone Cyc8) C02.cyc8_laws bI_valid env
    [("x", .expr (.sym "y"))] (.dag (.ctrl (.ctrl rxg 1) 2)) _ (by decide) trivial h)
-- the shape hypothesis of the C07 link holds for the table's `num_qubits`
example : DimOK S8 env (.ctrl (.dag rxg) 1) := by
  intro A hA
  have h : (mfMatrix S8 env (.builtin "RX") [.expr (.sym "x")]).map (fun A => A.1.r) = .ok 2 := by decide +kernel
  rw [hA] at h
  exact Except.ok.inj h

end Ex

end OQ.C06.Link
