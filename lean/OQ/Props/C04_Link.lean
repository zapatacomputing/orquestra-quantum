/-
  C04 — LINK: the theorems of OQ.Props.C04 composed with those of OQ.Props.C09 (`sparse_eq_denote`,
  `sparse_rejects_iff`) and OQ.Props.C01 (`applyAll_eq_circuit_matrix`, `liftMatrix_eq_spec_lift` through
  `opSem` / `circSem`) into end-to-end statements about the EXECUTABLE models:
    * expectation values go through C09's model of `get_sparse_operator` (not the dense `PSum.denote`);
    * states are produced by `Lift.applyAll` (the model of `GateOperation.apply`), not postulated over `Spec.lift`.
  Lemmas: OQ/Lemmas/C04_Link.lean.  Vocabulary defined there:
    colAmps w        column 0 of a state column as the amplitude list given to `Wavefunction(...)`;
    stateOf n w      the same column as a state over bit assignments `BV (Fin n)` (C01's `toBVv`);
    xOp q            the gate operation X on qubit q (matrix `Gates.x`);
    slotQubits qs S' the register qubits qs[j], j ∈ S' (S' a set of the gate's own slots);
    zString S c      the one-term operator c · ∏_{q∈S} Z_q;   xConj q s: s with the sign of the terms containing Z_q flipped;
    indicator n F    the tuple with 1 exactly at the positions in F.
  `hi : k.i * k.i = -1` is the law of the constant `i` that C09's `sparse_eq_denote` needs.
-/
import OQ.Lemmas.C04_Link
set_option linter.unusedSectionVars false
namespace OQ.C04.Link
open OQ OQ.Pauli OQ.Spec Matrix OQ.Lift

section
variable {R : Type} [CommRing R] [StarRing R] [DecidableEq R]

/-- [closes the modelling assumption of C04 "the sparse operator is the Kronecker matrix `PSum.denote`"] for EVERY Pauli
    sum (any letters, well formed: distinct qubit indices per term) and every state of 2ⁿ amplitudes, the value computed
    through C09's model of `get_sparse_operator` (`C09.getExpectationValue`, the code path of
    `get_exact_expectation_values`) is the value of C04's `getExpectationValue` (dense `PSum.denote`), and both raise
    exactly when the operator is wider than the register.  Uses C09 `sparse_eq_denote`, `sparse_rejects_iff`. -/
theorem sparse_path_eq_dense (k : Scal R) (hi : k.i * k.i = -1) (tol : C09.Tol R) (s : PSum R)
    (hwf : C09.SumWF s) (n : Nat) (amps : List R) (hlen : amps.length = 2 ^ n) :
    C09.getExpectationValue k tol s amps false =
      (match getExpectationValue k s amps with
        | .ok v => some v
        | .error _ => none) := by
  unfold C09.getExpectationValue getExpectationValue
  simp only [hlen, Nat.log2_two_pow, Bool.false_eq_true, if_false]
  by_cases hn : n < PSum.nQubits s
  · rw [(C09.sparse_rejects_iff k s n).2 hn, if_pos hn]
  · rw [if_neg hn]
    obtain ⟨M, h1, _, _, h4⟩ := C09.sparse_eq_denote k hi s hwf n (by omega)
    rw [h1]
    simp only
    congr 1
    apply expectation_congr
    intro i j hi' hj
    rw [hlen] at hi' hj
    exact congrFun (congrFun h4 ⟨i, hi'⟩) ⟨j, hj⟩

/-- [C04 `exact_Z_expectation` with the sparse path] for every Z-type operator inside the register (n ≥ width)
    the value computed through `get_sparse_operator` equals Σᵢ |ψᵢ|² · λ_s(bits n i): the eigenvalue read at the tuple
    POSITIONS named by the operator's qubit indices. -/
theorem exact_Z_expectation_sparse (k : Scal R) (hi : k.i * k.i = -1) (tol : C09.Tol R) (n : Nat) (s : PSum R)
    (hs : ZType n s) (amps : List R) (hlen : amps.length = 2 ^ n) :
    C09.getExpectationValue k tol s amps false =
      some (∑ i ∈ Finset.range (2 ^ n), normSq k (amps.getD i 0) * eigenvalue s (bits n i)) := by
  rw [sparse_path_eq_dense k hi tol s (ztype_sumWF n s hs) n amps hlen, exact_Z_expectation k n s hs amps hlen]

/-- [C04 `exact_expectation_eq_distribution_average` with the sparse path] … and it is the eigenvalue average over the
    exact outcome distribution object. -/
theorem exact_expectation_sparse_eq_distribution_average (k : Scal R) (hi : k.i * k.i = -1) (tol : C09.Tol R) (n : Nat)
    (s : PSum R) (hs : ZType n s) (amps : List R) (hlen : amps.length = 2 ^ n) :
    C09.getExpectationValue k tol s amps false =
      some (((exactDistribution k amps).map (fun p => p.2 * eigenvalue s p.1)).sum) := by
  rw [sparse_path_eq_dense k hi tol s (ztype_sumWF n s hs) n amps hlen,
    exact_expectation_eq_distribution_average k n s hs amps hlen]

/-- [C04 `exact_Z_expectation_spec` without its hypothesis `hψ`, with the sparse path] for ANY executable state column `w`
    (2ⁿ × 1), the amplitude list `colAmps w` handed to `Wavefunction(...)` is the specification state
    `stateOf n w` (C01's `toBVv`, MSB-first `bvEquiv`) read at `bv n i`; hence the sparse-path value is
    Σₜ cₜ ⟨ψ| Z_{qubits of t} |ψ⟩ over the qubits `Fin n` on which `Spec.lift` places gates. -/
theorem exact_Z_expectation_spec_sparse (k : Scal R) (hi : k.i * k.i = -1) (hcj : ∀ a, k.cj a = star a) (tol : C09.Tol R) (n : Nat)
    (s : PSum R) (hs : ZType n s) (w : Mat R) (hr : w.r = 2 ^ n) :
    C09.getExpectationValue k tol s (colAmps w) false =
      some ((s.map (fun t => t.coeff * ev (Matrix.diagonal (zsign (qubitSet n (termQubits t)))) (stateOf n w))).sum) := by
  have hlen : (colAmps w).length = 2 ^ n := by rw [colAmps_length, hr]
  rw [sparse_path_eq_dense k hi tol s (ztype_sumWF n s hs) n _ hlen,
    exact_Z_expectation_spec k hcj n s hs _ hlen (stateOf n w) (fun i hi' => amps_state n w hr i hi')]

/-- [the same for the state PRODUCED by the executable application `Lift.applyAll` of valid gate operations to any
    initial column, e.g. `zeroState n`] the sparse-path expectation of a Z-type operator is the specification expectation
    in the state `circSem n gs · ψ₀` – the ordered product of `Spec.lift`ed gates of C01 (`applyAll_eq_circuit_matrix`,
    `liftMatrix_eq_spec_lift`). -/
theorem exact_Z_expectation_exec (k : Scal R) (hi : k.i * k.i = -1) (hcj : ∀ a, k.cj a = star a) (tol : C09.Tol R)
    (n : Nat) (s : PSum R) (hs : ZType n s) (gs : List (Op R)) (hgs : ∀ o ∈ gs, C01.OpValid n o)
    (v : Mat R) (hvr : v.r = 2 ^ n) (hvc : v.c = 1) :
    ∃ w, Lift.applyAll gs v = some w ∧
      C09.getExpectationValue k tol s (colAmps w) false =
        some ((s.map (fun t => t.coeff * ev (Matrix.diagonal (zsign (qubitSet n (termQubits t))))
          (C01.circSem n (gs.map C01.Oper.gate) *ᵥ stateOf n v))).sum) := by
  obtain ⟨w, h1, hr, _, hst⟩ := exec_spec n gs hgs v hvr hvc
  exact ⟨w, h1, by rw [exact_Z_expectation_spec_sparse k hi hcj tol n s hs w hr, hst]⟩

/-- [C04 `gate_off_support_preserves_Z` without σ / `Spec.lift` / ψ hypotheses] appending, through the executable
    `Lift.applyAll`, ANY valid unitary gate operation whose qubit indices do not occur in the Z-type operator leaves the
    sparse-path expectation unchanged: gate qubit indices and operator qubit indices name the same qubits. -/
theorem gate_off_support_preserves_Z_exec (k : Scal R) (hi : k.i * k.i = -1) (hcj : ∀ a, k.cj a = star a)
    (tol : C09.Tol R) (n : Nat) (s : PSum R) (hs : ZType n s) (gs : List (Op R)) (hgs : ∀ o ∈ gs, C01.OpValid n o)
    (o : Op R) (ho : C01.OpValid n o)
    (hU : (Mat.toM (2 ^ o.qs.length) (2 ^ o.qs.length) o.m)ᴴ * Mat.toM (2 ^ o.qs.length) (2 ^ o.qs.length) o.m = 1)
    (hdis : ∀ t ∈ s, ∀ q ∈ o.qs, q ∉ termQubits t)
    (v : Mat R) (hvr : v.r = 2 ^ n) (hvc : v.c = 1) :
    ∃ w w', Lift.applyAll gs v = some w ∧ Lift.applyAll (gs ++ [o]) v = some w' ∧
      C09.getExpectationValue k tol s (colAmps w') false = C09.getExpectationValue k tol s (colAmps w) false := by
  obtain ⟨w, w', h1, h2, hr, hr', hst⟩ := exec_snoc n gs hgs o ho v hvr hvc
  refine ⟨w, w', h1, h2, ?_⟩
  rw [exact_Z_expectation_spec_sparse k hi hcj tol n s hs w' hr', exact_Z_expectation_spec_sparse k hi hcj tol n s hs w hr, hst]
  congr 2
  apply List.map_congr_left
  intro t ht
  rw [gate_off_support_preserves_Z _ _ (toBV_unitary _ _ hU)]
  intro j hmem
  exact hdis t ht _ (List.getElem_mem _) (Finset.mem_filter.mp hmem).2

/-- [C04 `gate_on_support_local` without σ / `Spec.lift` / ψ hypotheses] a valid gate operation `o` applied through the
    executable `Lift.applyAll`, and the Z string on the register qubits `o.qs[j]`, j ∈ S' (operator qubit indices taken
    from the gate's own index list): the sparse-path expectation in the new state is the expectation, in the old state,
    of the Heisenberg-picture operator Mᴴ Z_{S'} M computed on the gate's own qubits and placed on `o.qs` by the same
    partition as the gate. -/
theorem gate_on_support_local_exec (k : Scal R) (hi : k.i * k.i = -1) (hcj : ∀ a, k.cj a = star a)
    (tol : C09.Tol R) (n : Nat) (gs : List (Op R)) (hgs : ∀ o ∈ gs, C01.OpValid n o)
    (o : Op R) (ho : C01.OpValid n o) (S' : Finset (Fin o.qs.length))
    (v : Mat R) (hvr : v.r = 2 ^ n) (hvc : v.c = 1) :
    ∃ w w', Lift.applyAll gs v = some w ∧ Lift.applyAll (gs ++ [o]) v = some w' ∧
      C09.getExpectationValue k tol (zString (slotQubits o.qs S') 1) (colAmps w') false =
        some (ev (lift (C01.sigmaOf o.qs n ho.nodup ho.lt)
          ((C01.toBV o.qs.length o.m)ᴴ * Matrix.diagonal (zsign S') * C01.toBV o.qs.length o.m)) (stateOf n w)) := by
  obtain ⟨w, w', h1, h2, _, hr', hst⟩ := exec_snoc n gs hgs o ho v hvr hvc
  refine ⟨w, w', h1, h2, ?_⟩
  rw [exact_Z_expectation_spec_sparse k hi hcj tol n _
    (zString_ztype n _ (slotQubits_nodup o.qs ho.nodup S') (slotQubits_lt o.qs n ho.lt S') 1) w' hr', hst]
  simp only [zString, List.map_cons, List.map_nil, List.sum_cons, List.sum_nil, add_zero, one_mul, zString_qubits]
  rw [qubitSet_slotQubits o.qs n ho.nodup ho.lt S', gate_on_support_local]

/-- [C04 `x_gate_flips_Z` end to end, all Z-type sums] an X gate on gate-qubit `q` applied through `Lift.applyAll` after
    any valid circuit: the sparse-path expectation of `s` in the new state is the expectation, in the old state, of `s`
    with the sign of exactly those terms flipped whose OPERATOR qubits contain `q` (`xConj q s`). -/
theorem x_gate_conjugates_Z_sum_exec (k : Scal R) (hi : k.i * k.i = -1) (hcj : ∀ a, k.cj a = star a)
    (tol : C09.Tol R) (n : Nat) (s : PSum R) (hs : ZType n s) (gs : List (Op R)) (hgs : ∀ o ∈ gs, C01.OpValid n o)
    (q : Nat) (hq : q < n) (v : Mat R) (hvr : v.r = 2 ^ n) (hvc : v.c = 1) :
    ∃ w w', Lift.applyAll gs v = some w ∧ Lift.applyAll (gs ++ [xOp q]) v = some w' ∧
      C09.getExpectationValue k tol s (colAmps w') false =
        C09.getExpectationValue k tol (xConj q s) (colAmps w) false := by
  obtain ⟨w, w', h1, h2, hr, hr', hst⟩ := exec_snoc n gs hgs (xOp q) (xValid n q hq) v hvr hvc
  refine ⟨w, w', h1, h2, ?_⟩
  rw [exact_Z_expectation_spec_sparse k hi hcj tol n s hs w' hr',
    exact_Z_expectation_spec_sparse k hi hcj tol n (xConj q s) (xConj_ztype n q s hs) w hr,
    hst.trans (congrArg (· *ᵥ _) (lift_x_eq n q hq _ _)), xConj, List.map_map]
  congr 2
  apply List.map_congr_left
  intro t _
  show _ = (_ * t.coeff) * ev (Matrix.diagonal (zsign (qubitSet n (termQubits t)))) _
  rw [x_gate_flips_Z, sigmaX_inl, if_congr (mem_qubitSet n q hq _) rfl rfl]
  ring

/-- [C04 `x_gate_flips_Z` end to end, one Z string] gate qubit q = operator qubit q = tuple position q in
    one statement: before the X gate ⟨Z_S⟩ is Σᵢ |wᵢ|² · (sign read at the POSITIONS S of the tuple `bits n i`); after an
    X gate on GATE qubit `q` (executable `Lift.applyAll`) the sparse-path value of the OPERATOR Z_S is that number times
    −1 exactly when q ∈ S. -/
theorem x_gate_flips_Z_exec (k : Scal R) (hi : k.i * k.i = -1) (hcj : ∀ a, k.cj a = star a)
    (tol : C09.Tol R) (n : Nat) (gs : List (Op R)) (hgs : ∀ o ∈ gs, C01.OpValid n o)
    (q : Nat) (hq : q < n) (marked : List Nat) (hnd : marked.Nodup) (hm : ∀ p ∈ marked, p < n)
    (v : Mat R) (hvr : v.r = 2 ^ n) (hvc : v.c = 1) :
    ∃ w w', Lift.applyAll gs v = some w ∧ Lift.applyAll (gs ++ [xOp q]) v = some w' ∧
      C09.getExpectationValue k tol (zString marked 1) (colAmps w) false =
        some (∑ i ∈ Finset.range (2 ^ n), normSq k (w.get i 0) * ((signOf marked (bits n i) : Int) : R)) ∧
      C09.getExpectationValue k tol (zString marked 1) (colAmps w') false =
        some ((if q ∈ marked then -1 else 1) *
          ∑ i ∈ Finset.range (2 ^ n), normSq k (w.get i 0) * ((signOf marked (bits n i) : Int) : R)) := by
  obtain ⟨w, w', h1, h2, h3⟩ := x_gate_conjugates_Z_sum_exec k hi hcj tol n (zString marked 1)
    (zString_ztype n marked hnd hm 1) gs hgs q hq v hvr hvc
  have hr := exec_dims n gs hgs v hvr hvc h1
  have hval : ∀ c : R, C09.getExpectationValue k tol (zString marked c) (colAmps w) false =
      some (c * ∑ i ∈ Finset.range (2 ^ n), normSq k (w.get i 0) * ((signOf marked (bits n i) : Int) : R)) := by
    intro c
    rw [exact_Z_expectation_sparse k hi tol n _ (zString_ztype n marked hnd hm c) _ (by rw [colAmps_length, hr]),
      Finset.mul_sum]
    congr 1
    apply Finset.sum_congr rfl
    intro i hi'
    rw [colAmps_getD w i (by rw [hr]; exact Finset.mem_range.mp hi'), eigenvalue_zString, mul_left_comm]
  refine ⟨w, w', h1, h2, ?_, ?_⟩
  · rw [hval 1, one_mul]
  · rw [h3, xConj_zString, mul_one, hval]

/-- [C04's model of `get_wavefunction`, `circuitWavefunction`, tied to C01] for every circuit of valid gate operations the
    amplitude list handed to `Wavefunction(...)` is column 0 of the executable result `w`, entry `i` of that list is the
    specification amplitude at the bit assignment `bv n i`, and the specification state is `circSem n gs · |0…0⟩`. -/
theorem circuit_wavefunction_exec (k : Scal R) (isOne : R → Bool) (n : Nat) (gs : List (Op R))
    (hgs : ∀ o ∈ gs, C01.OpValid n o) :
    ∃ w, Lift.applyAll gs (zeroState n) = some w ∧ w.r = 2 ^ n ∧ w.c = 1 ∧
      circuitWavefunction k isOne n gs = some (mkWavefunction k isOne (colAmps w)) ∧
      (∀ i, i < 2 ^ n → (colAmps w).getD i 0 = stateOf n w (bv n i)) ∧
      stateOf n w = C01.circSem n (gs.map C01.Oper.gate) *ᵥ (fun x => if x = (fun _ => false) then 1 else 0) := by
  obtain ⟨w, h1, hr, hc, hst⟩ := exec_spec n gs hgs (zeroState (R := R) n) rfl rfl
  refine ⟨w, h1, hr, hc, ?_, fun i hi => amps_state n w hr i hi, ?_⟩
  · unfold circuitWavefunction
    simp only [nQubits_valid n gs hgs, h1]
    rfl
  · rw [hst, stateOf_zeroState]

/-- [every view of one state, end to end] the circuit of X gates on the distinct GATE qubits `F`, run by the executable
    `circuitWavefunction` (`Lift.applyAll` from `zeroState n`), yields the basis state whose every view is the indicator
    tuple of `F`: amplitude 1 exactly at the index whose MSB-first bits are `indicator n F`; the exact distribution has
    probability 1 at the KEY `indicator n F`; under the law of `rng.choice` (no probability-0 item is drawn) every
    sampled TUPLE is `indicator n F` in both sampling regimes and the count string `indicator n F` collects all shots;
    and for every Z-type OPERATOR the sparse-path exact expectation is its eigenvalue read at the positions of
    `indicator n F`.  (`isOne 1`: the normalisation test of `Wavefunction` accepts total probability 1.) -/
theorem basis_state_views_exec (k : Scal R) (hi : k.i * k.i = -1) (h1 : k.cj 1 = 1) (tol : C09.Tol R)
    (isOne : R → Bool) (hone : isOne 1 = true) (n : Nat) (F : List Nat) (hnd : F.Nodup) (hF : ∀ q ∈ F, q < n) :
    ∃ amps : List R,
      circuitWavefunction k isOne n (F.map xOp) = some (.ok amps) ∧
      (∀ i, i < 2 ^ n → amps.getD i 0 = if bits n i = indicator n F then 1 else 0) ∧
      exactDistribution k amps =
        (List.range (2 ^ n)).map (fun i => (bits n i, if bits n i = indicator n F then (1 : R) else 0)) ∧
      List.lookup (indicator n F) (exactDistribution k amps) = some 1 ∧
      (∀ (nSamples : Int) (draws : List Nat), 1 ≤ nSamples → (draws.length : Int) = nSamples →
        (∀ i ∈ draws, normSq k (amps.getD i 0) ≠ 0) →
          runAndMeasure k amps nSamples draws = .ok (List.replicate draws.length (indicator n F)) ∧
          (getCounts (List.replicate draws.length (indicator n F))).get (tupleToBitstring (indicator n F))
            = draws.length) ∧
      (∀ s : PSum R, ZType n s →
        C09.getExpectationValue k tol s amps false = some (eigenvalue s (indicator n F))) := by
  obtain ⟨w, h2, hr, hc, hA⟩ := exec_x_chain_zero (R := R) n F hnd hF
  have hj := basisIndex_lt n F
  have hb := bits_basisIndex n F
  refine ⟨basisAmps n (basisIndex n F), ?_, fun i hi' => ?_, ?_, hb ▸ basis_lookup k h1 n _ hj, ?_, fun s hs => ?_⟩
  · unfold circuitWavefunction
    simp only [nQubits_valid n _ (xOps_valid n F hF), h2, Option.map_some]
    rw [show (List.range w.r).map (fun i => w.get i 0) = basisAmps (R := R) n (basisIndex n F) from hA,
      basis_mkWavefunction k h1 n _ hj isOne hone]
  · rw [basisAmps, getD_map_range _ 0 hi']
    simp only [bits_eq_indicator_iff n F i hi']
  · rw [basis_distribution k h1 n _ hj]
    exact List.map_congr_left fun i hi' => by simp only [bits_eq_indicator_iff n F i (List.mem_range.mp hi')]
  · intro nSamples draws hs hcount hlaw
    exact ⟨hb ▸ basis_samples k h1 n _ hj nSamples hs draws hcount hlaw, basis_counts _ _⟩
  · rw [exact_Z_expectation_sparse k hi tol n s hs _ (basisAmps_length n _)]
    simp only [basis_normSq k h1 n _ hj, ite_mul, one_mul, zero_mul, Finset.sum_ite_eq', Finset.mem_range, hj, if_true, hb]

/-- [measured = exact on the basis state] for the same circuit, `Measurements.get_expectation_values` on the sampled shots
    returns per-term values whose sum is the sparse-path exact expectation.
    PARTIAL: widths n ≥ 1 only.  Missing: n = 0, where the code raises on shots of the empty register (C04
    `measured_expectation_eq_shot_average_partial`, known finding `width-0-measured-raise`). -/
theorem basis_state_measured_eq_exact_exec_partial (k : Scal R) (hi : k.i * k.i = -1) (h1 : k.cj 1 = 1) (tol : C09.Tol R)
    (isOne : R → Bool) (hone : isOne 1 = true) (ofRat : Rat → R) (hof : ∀ z : Int, ofRat (z : Rat) = (z : R))
    (n : Nat) (hn : 1 ≤ n) (F : List Nat) (hnd : F.Nodup) (hF : ∀ q ∈ F, q < n)
    (s : PSum R) (hs : ZType n s) (nSamples : Int) (hsamp : 1 ≤ nSamples) (draws : List Nat)
    (hcount : (draws.length : Int) = nSamples) :
    ∃ amps : List R, circuitWavefunction k isOne n (F.map xOp) = some (.ok amps) ∧
      ((∀ i ∈ draws, normSq k (amps.getD i 0) ≠ 0) →
        ∃ shots vals e, runAndMeasure k amps nSamples draws = .ok shots ∧
          measuredExpectationValues ofRat s shots = .ok vals ∧
          C09.getExpectationValue k tol s amps false = some e ∧ vals.sum = e) := by
  obtain ⟨amps, hw, hget, _, _, hsam, hexp⟩ := basis_state_views_exec k hi h1 tol isOne hone n F hnd hF
  refine ⟨amps, hw, fun hlaw => ?_⟩
  have hm : 1 ≤ draws.length := by omega
  refine ⟨_, _, _, (hsam nSamples draws hsamp hcount hlaw).1, basis_measured ofRat n hn _ (indicator_length n F) s hs draws.length hm,
    hexp s hs, ?_⟩
  unfold eigenvalue
  congr 1
  apply List.map_congr_left
  intro t _
  rw [hof]

end

/-! ### non-vacuity: concrete inputs meeting the hypotheses (over the Gaussian integers, constants `C09.kG`) -/

open OQ.C09 in
example : kG.i * kG.i = -1 ∧ (∀ a, kG.cj a = star a) ∧ kG.cj 1 = 1 := ⟨by decide, fun _ => rfl, by decide⟩

/-- 2·Z₀Z₂ + 3·Z₁ − Z₂ on three qubits -/
def sZ : PSum GaussianInt := [⟨[(0, P.Z), (2, P.Z)], 2⟩, ⟨[(1, P.Z)], 3⟩, ⟨[(2, P.Z)], -1⟩]

private theorem sZ_ztype : ZType 3 sZ := by decide

-- valid gate operations on 3 qubits, the zero state as initial column, a unitary own matrix
example : ∀ o ∈ [xOp (R := GaussianInt) 0, xOp 2], C01.OpValid 3 o := xOps_valid 3 [0, 2] (by decide)
example : (zeroState (R := GaussianInt) 3).r = 2 ^ 3 ∧ (zeroState (R := GaussianInt) 3).c = 1 := ⟨rfl, rfl⟩
example : (Mat.toM (2 ^ 1) (2 ^ 1) (Gates.x (R := GaussianInt)))ᴴ * Mat.toM (2 ^ 1) (2 ^ 1) Gates.x = 1 := by
  decide +kernel
-- the X gate on qubit 1 is off the support of Z₀Z₂
example : ∀ t ∈ zString (R := GaussianInt) [0, 2] 1, ∀ q ∈ (xOp (R := GaussianInt) 1).qs, q ∉ termQubits t := by decide

-- X₀ X₂ |000⟩ = |101⟩ = index 5, computed by the executable model; every view reads (1, 0, 1)
example : indicator 3 [0, 2] = [1, 0, 1] ∧ basisIndex 3 [0, 2] = 5 := by decide
example : circuitWavefunction C09.kG (fun x => decide (x = 1)) 3 ([0, 2].map xOp) =
    some (.ok [0, 0, 0, 0, 0, 1, 0, 0]) := by decide +kernel
example : C09.getExpectationValue C09.kG C09.Tol.exact sZ [0, 0, 0, 0, 0, 1, 0, 0] false = some 6 ∧
    eigenvalue sZ [1, 0, 1] = 6 := by
  rw [exact_Z_expectation_sparse C09.kG (by decide) _ 3 sZ sZ_ztype _ rfl]
  decide +kernel
example : runAndMeasure C09.kG ([0, 0, 0, 0, 0, 1, 0, 0] : List GaussianInt) 2 [5, 5] = .ok [[1, 0, 1], [1, 0, 1]] := by
  decide +kernel
-- the X gate on qubit 2 flips ⟨Z₀Z₂⟩ (2 ∈ {0,2}) and not ⟨Z₀Z₁⟩: sparse path on X₀|000⟩ = |100⟩ and X₂X₀|000⟩ = |101⟩
example : C09.getExpectationValue C09.kG C09.Tol.exact (zString [0, 2] 1) [0, 0, 0, 0, 1, 0, 0, 0] false = some (-1) ∧
    C09.getExpectationValue C09.kG C09.Tol.exact (zString [0, 2] 1) [0, 0, 0, 0, 0, 1, 0, 0] false = some 1 ∧
    C09.getExpectationValue C09.kG C09.Tol.exact (zString [0, 1] 1) [0, 0, 0, 0, 1, 0, 0, 0] false = some (-1) ∧
    C09.getExpectationValue C09.kG C09.Tol.exact (zString [0, 1] 1) [0, 0, 0, 0, 0, 1, 0, 0] false = some (-1) := by
  rw [exact_Z_expectation_sparse C09.kG (by decide) _ 3 _ (zString_ztype 3 [0, 2] (by decide) (by decide) 1) _ rfl,
    exact_Z_expectation_sparse C09.kG (by decide) _ 3 _ (zString_ztype 3 [0, 2] (by decide) (by decide) 1) _ rfl,
    exact_Z_expectation_sparse C09.kG (by decide) _ 3 _ (zString_ztype 3 [0, 1] (by decide) (by decide) 1) _ rfl,
    exact_Z_expectation_sparse C09.kG (by decide) _ 3 _ (zString_ztype 3 [0, 1] (by decide) (by decide) 1) _ rfl]
  decide +kernel
example : xConj 2 sZ = [⟨[(0, P.Z), (2, P.Z)], -1 * 2⟩, ⟨[(1, P.Z)], 1 * 3⟩, ⟨[(2, P.Z)], -1 * -1⟩] := rfl

-- a two-qubit gate on the qubits (2, 0): its slots {0} name the operator qubit 2, its slots {0, 1} the qubits 2 and 0
example : slotQubits [2, 0] {0} = [2] ∧ slotQubits [2, 0] {0, 1} = [2, 0] := by decide

-- the theorems instantiated at these inputs
example := exact_Z_expectation_sparse C09.kG (by decide) C09.Tol.exact 3 sZ sZ_ztype [0, 0, 0, 0, 0, 1, 0, 0] rfl
example := x_gate_flips_Z_exec C09.kG (by decide) (fun _ => rfl) C09.Tol.exact 3 [xOp 0]
  (xOps_valid 3 [0] (by decide)) 2 (by decide) [0, 2] (by decide) (by decide) (zeroState 3) rfl rfl
example := gate_off_support_preserves_Z_exec C09.kG (by decide) (fun _ => rfl) C09.Tol.exact 3 (zString [0, 2] 1)
  (zString_ztype 3 [0, 2] (by decide) (by decide) 1) [xOp 0] (xOps_valid 3 [0] (by decide)) (xOp 1)
  (xValid 3 1 (by decide)) (by decide +kernel) (by decide) (zeroState 3) rfl rfl
example := basis_state_views_exec C09.kG (by decide) (by decide) C09.Tol.exact (fun x => decide (x = 1)) (by decide)
  3 [0, 2] (by decide) (by decide)

end OQ.C04.Link
