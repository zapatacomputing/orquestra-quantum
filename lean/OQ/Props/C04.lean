/-
  C04 — PROPERTY THEOREMS: every view of a simulated state agrees on which qubit is which.
  Model: OQ/Model/C04.lean.  Lemmas: OQ/Lemmas/C04.lean, OQ/Lemmas/C04_Spec.lean.

  Conventions.  `bits n i` is the MSB-first bit tuple of basis index `i` (qubit 0 = most significant bit, the
  convention of the gate embedding, property C01); `bv n i : BV (Fin n)` is the same thing as a bit assignment of
  the specification (`OQ.Spec.lift` places gates on qubits `ι`).  `signOf marked row` is the eigenvalue ±1 of
  ∏_{q ∈ marked} Z_q read at the POSITIONS `marked` of the tuple / count string `row`.

  All theorems except `measured_expectation_eq_shot_average_partial` hold for EVERY register width, including the degenerate register of width 0 (`Circuit()`): since the
  fix 6292974 the key of `get_outcome_probs` is `format(i, "0nb")[::-1][:n]`, i.e. the empty string for width 0
  (`format(0, "00b")` itself still prints "0"); positive examples for width 0 at the end of the file.
-/
import OQ.Lemmas.C04
namespace OQ.C04
open OQ.Pauli OQ.Spec Matrix

/-- [mechanism `get_outcome_probs`, ALL widths] the i-th entry of `Wavefunction.get_outcome_probs` is keyed by
    the REVERSED MSB-first bits of `i` and holds |amps[i]|². -/
theorem outcome_key_of_index {R : Type} [Zero R] [Mul R] (k : Scal R) (amps : List R) (n : Nat)
    (hlen : amps.length = 2 ^ n) (i : Nat) (hi : i < 2 ^ n) :
    (getOutcomeProbs k amps)[i]? = some ((bits n i).reverse, normSq k (amps.getD i 0)) := by
  rw [getOutcomeProbs_eq k amps n hlen, List.getElem?_map, List.getElem?_range hi]
  rfl

/-- [mechanism `bitstring_to_tuple`] converting a key string to a tuple reverses again: the key of index `i`
    becomes the MSB-first bits of `i`, i.e. position q of the tuple is qubit q. -/
theorem key_to_tuple (n i : Nat) : bitstringToTuple (bits n i).reverse = bits n i :=
  List.reverse_reverse _

/-- [mechanism `itertools.product` order, ALL widths] `dist_key_eq_bits`: the exact outcome distribution
    `get_measurement_outcome_distribution(circuit, None)` is, entry by entry, (MSB-first bits of i, |amps[i]|²). -/
theorem dist_key_eq_bits {R : Type} [Zero R] [Mul R] (k : Scal R) (amps : List R) (n : Nat)
    (hlen : amps.length = 2 ^ n) :
    exactDistribution k amps = (List.range (2 ^ n)).map (fun i => (bits n i, normSq k (amps.getD i 0))) := by
  unfold exactDistribution createDistribution getProbabilities
  rw [List.length_map, hlen, Nat.log2_two_pow, product01_eq, zip_range_map _ _ amps 0 hlen]

/-- [sentence "position q of a measured tuple … refers to the same physical qubit", both sampling regimes, ALL widths]
    `tuple_of_index`: whatever `n_samples ≥ 1` is (fewer or more than 2ⁿ – the two code paths), if `rng.choice` drew
    the indices `draws` (exactly `n_samples` of them, each an index of a basis state), `sample_from_wavefunction`
    returns exactly the tuples `bits n i`: position q holds bit q (qubit 0 most significant) of the drawn basis index. -/
theorem tuple_of_index {R : Type} [Mul R] (k : Scal R) (amps : List R) (n : Nat)
    (hlen : amps.length = 2 ^ n) (nSamples : Int) (hs : 1 ≤ nSamples) (draws : List Nat)
    (hcount : (draws.length : Int) = nSamples) (hdraw : ∀ i ∈ draws, i < 2 ^ n) :
    sampleFromWavefunction k amps nSamples draws = .ok (draws.map (fun i => Drawn.tuple (bits n i))) ∧
    runAndMeasure k amps nSamples draws = .ok (draws.map (bits n)) := by
  have hl : ∀ i ∈ draws, i < ((List.range (2 ^ n)).map (fun i => (bits n i).reverse)).length := by simpa using hdraw
  have hsample : sampleFromWavefunction k amps nSamples draws = .ok (draws.map (fun i => Drawn.tuple (bits n i))) := by
    unfold sampleFromWavefunction
    rw [if_neg (by omega), if_neg (not_not.mpr hcount)]
    simp only [outcome_keys k amps n hlen, sampleBranchLarge_eq _ _ hl, sampleBranchSmall_eq _ _ hl, ite_self]
    congr 1
    apply List.map_congr_left
    intro i hi
    rw [getD_map_range _ _ (hdraw i hi)]
    exact congrArg Drawn.tuple (List.reverse_reverse _)
  refine ⟨hsample, ?_⟩
  unfold runAndMeasure
  rw [if_neg (by omega), hsample]
  simp only
  rw [mapM_eq_pure_map _ (fun d => match d with | .tuple t => t | .sentinel => []) _, List.map_map]
  · rfl
  · intro d hd
    obtain ⟨i, _, rfl⟩ := List.mem_map.mp hd
    rfl

/-- [sentence "this holds whether few or many samples are requested"] `branches_agree`: on every list of key strings
    and every draw of indices of those strings, the convert-first branch (`len < n_samples`) and the convert-after
    branch return the same tuples. -/
theorem branches_agree (strings : List (List Nat)) (draws : List Nat) (h : ∀ i ∈ draws, i < strings.length) :
    sampleBranchLarge strings draws = sampleBranchSmall strings draws := by
  rw [sampleBranchLarge_eq strings draws h, sampleBranchSmall_eq strings draws h]

/-- [sentence "every sampled outcome has … length equal to the register width", ALL widths] and exactly `n_samples`
    outcomes are returned. -/
theorem sample_length {R : Type} [Mul R] (k : Scal R) (amps : List R) (n : Nat)
    (hlen : amps.length = 2 ^ n) (nSamples : Int) (hs : 1 ≤ nSamples) (draws : List Nat)
    (hcount : (draws.length : Int) = nSamples) (hdraw : ∀ i ∈ draws, i < 2 ^ n) :
    ∃ shots, runAndMeasure k amps nSamples draws = .ok shots ∧ (shots.length : Int) = nSamples ∧
      ∀ t ∈ shots, t.length = n := by
  refine ⟨draws.map (bits n), (tuple_of_index k amps n hlen nSamples hs draws hcount hdraw).2, by simpa using hcount, ?_⟩
  intro t ht
  obtain ⟨i, _, rfl⟩ := List.mem_map.mp ht
  exact bits_length n i

/-- [sentence "every sampled outcome has non-zero exact probability", ALL widths] under the law of `rng.choice`
    (an item of probability 0 is never drawn: `hlaw`), every sampled tuple is a key of the exact outcome distribution
    and the probability stored under that key is non-zero (it is |amps[i]|² of the drawn index). -/
theorem sample_nonzero_prob {R : Type} [Zero R] [Mul R] (k : Scal R) (amps : List R) (n : Nat)
    (hlen : amps.length = 2 ^ n) (nSamples : Int) (hs : 1 ≤ nSamples) (draws : List Nat)
    (hcount : (draws.length : Int) = nSamples) (hdraw : ∀ i ∈ draws, i < 2 ^ n)
    (hlaw : ∀ i ∈ draws, normSq k (amps.getD i 0) ≠ 0) :
    ∃ shots, runAndMeasure k amps nSamples draws = .ok shots ∧
      ∀ t ∈ shots, ∃ p, List.lookup t (exactDistribution k amps) = some p ∧ p ≠ 0 := by
  refine ⟨draws.map (bits n), (tuple_of_index k amps n hlen nSamples hs draws hcount hdraw).2, ?_⟩
  intro t ht
  obtain ⟨i, hi, rfl⟩ := List.mem_map.mp ht
  refine ⟨normSq k (amps.getD i 0), ?_, hlaw i hi⟩
  rw [dist_key_eq_bits k amps n hlen]
  exact lookup_bits n _ (hdraw i hi)

/-- [sentence "… sampled measurement tuples and their count strings …"] `counts_key_position`: `get_counts` of the
    sampled tuples maps the digit string of `bits n i` (character q = tuple position q = bit q of i) to the number of
    times index i was drawn; every key is one of the sampled tuples and the counts add up to the number of shots. -/
theorem counts_key_position (n : Nat) (draws : List Nat) (hdraw : ∀ d ∈ draws, d < 2 ^ n) :
    (∀ i, i < 2 ^ n → (getCounts (draws.map (bits n))).get (tupleToBitstring (bits n i)) = draws.count i) ∧
    (∀ p ∈ getCounts (draws.map (bits n)), ∃ i ∈ draws, p.1 = bits n i) ∧
    ((getCounts (draws.map (bits n))).map (·.2)).sum = draws.length := by
  refine ⟨fun i hi => ?_, fun p hp => ?_, by rw [getCounts_total]; simp⟩
  · rw [getCounts_get]; exact count_bits n draws hdraw i hi
  · obtain ⟨i, hi, e⟩ := List.mem_map.mp (getCounts_keys _ p hp)
    exact ⟨i, hi, e.symm⟩

section
variable {R : Type} [CommRing R]

/-- [sentence "the exact expectation of any Z-type operator equals the average of its eigenvalues under the exact
    outcome distribution", first half] `exact_Z_expectation`: for every Z-type operator `s` inside the register,
    `get_expectation_value` (ψ† · S · ψ with the Kronecker matrix, qubit 0 the leftmost factor) returns
    Σᵢ |ψᵢ|² · λ_s(bits n i), where λ_s reads the eigenvalue at the tuple POSITIONS named by the operator's qubit indices. -/
theorem exact_Z_expectation (k : Scal R) (n : Nat) (s : PSum R) (hs : ZType n s) (amps : List R)
    (hlen : amps.length = 2 ^ n) :
    getExpectationValue k s amps =
      .ok (∑ i ∈ Finset.range (2 ^ n), normSq k (amps.getD i 0) * eigenvalue s (bits n i)) := by
  rw [getExpectationValue_ztype k n s hs amps hlen, expectation_ztype k n s hs amps hlen]

/-- [same sentence, second half] … and that number is literally the eigenvalue average over the exact outcome
    distribution object: Σ over its (key, probability) entries of probability · λ_s(key). -/
theorem exact_expectation_eq_distribution_average (k : Scal R) (n : Nat) (s : PSum R) (hs : ZType n s)
    (amps : List R) (hlen : amps.length = 2 ^ n) :
    getExpectationValue k s amps =
      .ok (((exactDistribution k amps).map (fun p => p.2 * eigenvalue s p.1)).sum) := by
  rw [exact_Z_expectation k n s hs amps hlen, dist_key_eq_bits k amps n hlen, List.map_map, sum_map_range]
  rfl

/-- [sentence "expectation values computed from measurements … use the same qubit numbering"]
    `Measurements.get_expectation_values` on shots of width n: the value of each term is its coefficient times the
    average over the shots of the eigenvalue read at the POSITIONS named by the term's qubit indices – the same
    `signOf` as in `exact_Z_expectation`.
    PARTIAL: widths n ≥ 1 only.  Missing: n = 0, where the statement is FALSE of the code – for shots `()` of the empty
    register `_convert_bitstrings_to_vector` does `reshape(-1, 0)` and raises ValueError even for a constant
    operator (negative witness at the end of the file). -/
theorem measured_expectation_eq_shot_average_partial (ofRat : Rat → R) (n : Nat) (hn : 1 ≤ n) (s : PSum R) (hs : ZType n s)
    (shots : List (List Nat)) (hne : shots ≠ []) (hw : ∀ t ∈ shots, t.length = n) :
    measuredExpectationValues ofRat s shots =
      .ok (s.map (fun t => t.coeff *
        ofRat ((((shots.map (signOf (termQubits t))).sum : Int) : Rat) / (shots.length : Rat)))) := by
  unfold measuredExpectationValues
  rw [isIsing_of s (fun t ht => (hs t ht).1)]
  simp only [Bool.not_true, Bool.false_eq_true, if_false]
  apply mapM_eq_pure_map
  intro t ht
  rw [expectationFromFrequencies_counts (termQubits t) n hn shots hne hw (hs t ht).2.2]
  rfl

end

section
variable {R : Type} [CommRing R] [StarRing R] {κ μ ι : Type}
  [Fintype κ] [DecidableEq κ] [Fintype μ] [DecidableEq μ] [Fintype ι] [DecidableEq ι]

omit [StarRing R] in
/-- [tuple position q = operator qubit q] the eigenvalue read at the marked POSITIONS of the tuple of basis index
    `k` is the eigenvalue of the Z-type operator on the QUBITS `marked ⊆ Fin n` at the bit assignment `bv n k` –
    the index type `Fin n` on which `OQ.Spec.lift` places gates. -/
theorem position_is_operator_qubit (n k : Nat) (marked : List Nat) (hnd : marked.Nodup) (hr : ∀ q ∈ marked, q < n) :
    ((signOf marked (bits n k) : Int) : R) = zsign (qubitSet n marked) (bv n k) := by
  -- both sides are ∏_{q < n, q ∈ marked} (−1)^(bit q of k)
  rw [signOf_cast, map_bits_getD n k marked hr, ← sum_ite_mem_list n marked hnd hr, ← Finset.prod_pow_eq_pow_sum]
  unfold zsign qubitSet
  rw [Finset.prod_filter, ← Fin.prod_univ_eq_prod_range (fun q => (-1 : R) ^ (if q ∈ marked then bit n k q else 0)) n]
  apply Finset.prod_congr rfl
  intro q _
  rw [bit_of_bv]
  split_ifs <;> simp

/-- [exact expectation in specification form] for the state ψ over bit assignments with ψ(bv n i) = amps[i] (the
    identification of the amplitude vector with the specification's state, property C01), the value computed by
    `get_expectation_value` on the amplitude list is Σₜ cₜ ⟨ψ| Z_{qubits of t} |ψ⟩. -/
theorem exact_Z_expectation_spec (k : Scal R) (hcj : ∀ a, k.cj a = star a) (n : Nat) (s : PSum R) (hs : ZType n s)
    (amps : List R) (hlen : amps.length = 2 ^ n) (ψ : BV (Fin n) → R)
    (hψ : ∀ i, i < 2 ^ n → amps.getD i 0 = ψ (bv n i)) :
    getExpectationValue k s amps =
      .ok ((s.map (fun t => t.coeff * ev (Matrix.diagonal (zsign (qubitSet n (termQubits t)))) ψ)).sum) := by
  rw [exact_Z_expectation k n s hs amps hlen]
  unfold eigenvalue
  rw [sum_mul_list_sum]
  congr 2
  apply List.map_congr_left
  intro t ht
  rw [ev_diagonal]
  congr 1
  apply sum_range_eq_sum_bv
  intro i hi
  rw [position_is_operator_qubit n i _ (hs t ht).2.1 (hs t ht).2.2, normSq, hcj, hψ i hi]

omit [StarRing R] in
/-- [operator qubit q = gate qubit q] the Z-type operator on the operator-qubits `σ (inl k)`, k ∈ S', IS the lift,
    along the very placement σ used for gates, of the Z-type operator on the gate's own qubits S'. -/
theorem operator_qubit_is_gate_qubit (σ : κ ⊕ μ ≃ ι) (S' : Finset κ) :
    Matrix.diagonal (zsign (R := R) (S'.map ⟨fun k => σ (Sum.inl k), fun a b h => by simpa using h⟩)) =
      lift σ (Matrix.diagonal (zsign S')) := by
  ext x y
  rw [lift_apply, Matrix.diagonal_apply, Matrix.diagonal_apply]
  by_cases hxy : x = y
  · subst hxy
    simp only [zsign, Finset.prod_map, if_true, implies_true]
    rfl
  · rw [if_neg hxy]
    split_ifs with h1 h2
    · exact absurd (ext_of_sigma σ (congrFun h2) h1) hxy
    · rfl
    · rfl

/-- [consequence] a unitary gate on qubits disjoint from a Z-type operator's qubits leaves its expectation unchanged. -/
theorem gate_off_support_preserves_Z (σ : κ ⊕ μ ≃ ι) (M : Matrix (BV κ) (BV κ) R) (hM : Mᴴ * M = 1)
    (S : Finset ι) (hS : ∀ k, σ (Sum.inl k) ∉ S) (ψ : BV ι → R) :
    ev (Matrix.diagonal (zsign S)) (lift σ M *ᵥ ψ) = ev (Matrix.diagonal (zsign S)) ψ := by
  rw [ev_mulVec, Matrix.mul_assoc, zdiag_comm_lift σ M S hS, ← Matrix.mul_assoc, lift_unitary σ M hM,
    Matrix.one_mul]

/-- [consequence] a gate on the operator's own qubits: the Heisenberg-picture operator Mᴴ Z_{S'} M is computed on the
    gate's qubits and placed by the same σ. -/
theorem gate_on_support_local (σ : κ ⊕ μ ≃ ι) (M : Matrix (BV κ) (BV κ) R) (S' : Finset κ) (ψ : BV ι → R) :
    ev (Matrix.diagonal (zsign (S'.map ⟨fun k => σ (Sum.inl k), fun a b h => by simpa using h⟩)))
        (lift σ M *ᵥ ψ) =
      ev (lift σ (Mᴴ * Matrix.diagonal (zsign S') * M)) ψ := by
  rw [ev_mulVec, operator_qubit_is_gate_qubit, ← lift_conjTranspose, ← lift_mul, ← lift_mul]

/-- [consequence, the sharpest test of the numbering] an X gate on gate-qubit q flips the sign of ⟨Z_S⟩ exactly when
    operator-qubit q belongs to S, for every state and every S. -/
theorem x_gate_flips_Z (σ : Unit ⊕ μ ≃ ι) (S : Finset ι) (ψ : BV ι → R) :
    ev (Matrix.diagonal (zsign S)) (lift σ (xGate (R := R)) *ᵥ ψ) =
      (if σ (Sum.inl ()) ∈ S then -1 else 1) * ev (Matrix.diagonal (zsign S)) ψ := by
  -- reindex the sum over assignments by the flip of the gate's qubit
  rw [ev_diagonal, ev_diagonal, Finset.mul_sum]
  let q := σ (Sum.inl ())
  let e : BV ι ≃ BV ι := ⟨flipAt q, flipAt q, flipAt_flipAt q, flipAt_flipAt q⟩
  apply Fintype.sum_equiv e
  intro x
  rw [lift_x_mulVec]
  show _ = _ * (ψ (flipAt q x) * star (ψ (flipAt q x)) * zsign S (flipAt q x))
  rw [zsign_flipAt]
  by_cases h : q ∈ S <;> simp [h, q]

end

/-! ### non-vacuity: concrete non-trivial inputs meeting the hypotheses -/

-- |ψ⟩ = X₀ · RY₂(θ)|000⟩ with cos θ/2 = 4/5: amplitudes 4/5 at index 4 = (1,0,0), 3/5 at index 5 = (1,0,1)
example : (getOutcomeProbs Scal.cyc8 [0, 0, 0, 0, ⟨4/5, 0, 0, 0⟩, ⟨3/5, 0, 0, 0⟩, 0, 0])[4]? =
    some ([0, 0, 1], ⟨16/25, 0, 0, 0⟩) := by decide +kernel
example : (exactDistribution Scal.cyc8 [0, 0, 0, 0, ⟨4/5, 0, 0, 0⟩, ⟨3/5, 0, 0, 0⟩, 0, 0])[5]? =
    some ([1, 0, 1], ⟨9/25, 0, 0, 0⟩) := by decide +kernel
-- fewer samples than basis states (3 < 8) and more (9 > 8): the same tuples for the same drawn indices
example : runAndMeasure Scal.cyc8 [0, 0, 0, 0, ⟨4/5, 0, 0, 0⟩, ⟨3/5, 0, 0, 0⟩, 0, 0] 3 [4, 5, 4] =
    .ok [[1, 0, 0], [1, 0, 1], [1, 0, 0]] := by decide +kernel
example : runAndMeasure Scal.cyc8 [0, 0, 0, 0, ⟨4/5, 0, 0, 0⟩, ⟨3/5, 0, 0, 0⟩, 0, 0] 9 [4, 5, 4, 4, 4, 5, 5, 4, 4] =
    .ok [[1, 0, 0], [1, 0, 1], [1, 0, 0], [1, 0, 0], [1, 0, 0], [1, 0, 1], [1, 0, 1], [1, 0, 0], [1, 0, 0]] := by
  decide +kernel
example : sampleBranchLarge [[0, 0], [1, 0], [0, 1], [1, 1]] [1, 2, 1] =
    sampleBranchSmall [[0, 0], [1, 0], [0, 1], [1, 1]] [1, 2, 1] := by decide
example : getCounts [[1, 0, 0], [1, 0, 1], [1, 0, 0]] = [([1, 0, 0], 2), ([1, 0, 1], 1)] := by decide
-- a Z-type operator meeting `ZType 3`: 2·Z₀Z₂ + 3·Z₁ + ½·Z₂ ;  ⟨·⟩ = 129/50 on the state above
example : ZType (R := Cyc8) 3 [⟨[(0, P.Z), (2, P.Z)], 2⟩, ⟨[(1, P.Z)], 3⟩, ⟨[(2, P.Z)], ⟨1/2, 0, 0, 0⟩⟩] := by
  intro t ht
  simp only [List.mem_cons, List.not_mem_nil, or_false] at ht
  rcases ht with rfl | rfl | rfl <;> exact ⟨by decide, by decide, by decide⟩
example : getExpectationValue Scal.cyc8 [⟨[(0, P.Z), (2, P.Z)], 2⟩, ⟨[(1, P.Z)], 3⟩, ⟨[(2, P.Z)], ⟨1/2, 0, 0, 0⟩⟩]
    [0, 0, 0, 0, ⟨4/5, 0, 0, 0⟩, ⟨3/5, 0, 0, 0⟩, 0, 0] = .ok ⟨129/50, 0, 0, 0⟩ := by decide +kernel
example : expectationFromFrequencies [0, 2] (getCounts [[1, 0, 0], [1, 0, 1], [1, 0, 0]]) = .ok (-1/3) := by
  decide +kernel
example : signOf [0, 2] [1, 0, 1] = 1 ∧ signOf [0, 2] [1, 0, 0] = -1 ∧ signOf [1] [1, 0, 0] = 1 := by decide

-- specification level: a gate placed on qubit 0 of three (`sigma0`), a Z-type operator on qubits {1,2} (disjoint) resp.
-- {0,2} (containing the gate qubit), and a unitary gate matrix
example : sigma0 (Sum.inl ()) = 0 ∧ (∀ k, sigma0 (Sum.inl k) ∉ ({1, 2} : Finset (Fin 3))) ∧
    sigma0 (Sum.inl ()) ∈ ({0, 2} : Finset (Fin 3)) := by decide
example : ((1 : Matrix (BV Unit) (BV Unit) ℤ))ᴴ * 1 = 1 := by simp
example : bv 3 4 = fun q => decide (q = 0) := by decide

/-! ### the register of width 0 (`Circuit()`, amplitude vector `[1]`): positive examples (regression of fix 6292974) -/

-- `format(0, "00b")` itself still prints one digit …
example : formatBin 0 0 = [0] := by decide
-- … but the key of get_outcome_probs is sliced to the register width: the empty string
example : getOutcomeProbs Scal.cyc8 [1] = [([], 1)] := by decide +kernel
-- so a sampled tuple is `()` of length 0 = register width, in both regimes, with counts {"": n} …
example : runAndMeasure Scal.cyc8 [1] 1 [0] = .ok [[]] ∧ runAndMeasure Scal.cyc8 [1] 3 [0, 0, 0] = .ok [[], [], []] := by
  decide +kernel
example : getCounts [[], [], []] = [([], 3)] := by decide
-- … and it is the key of the exact distribution, with probability 1
example : exactDistribution Scal.cyc8 [1] = [([], 1)] ∧ List.lookup [] (exactDistribution Scal.cyc8 [1]) = some 1 := by
  decide +kernel

/-! ### negative witness (width 0, still open): expectation values from measurements of the empty register -/

-- the constant operator 2·I has exact expectation 2 on the width-0 state …
example : getExpectationValue Scal.cyc8 [⟨[], 2⟩] [1] = .ok 2 := by decide +kernel
-- … but computing it from the shots `()` raises (reshape(-1, 0)) instead of returning [2]
example : measuredExpectationValues Cyc8.ofRat [⟨[], (2 : Cyc8)⟩] [[], [], []] = .error Err.value := by decide +kernel

end OQ.C04
