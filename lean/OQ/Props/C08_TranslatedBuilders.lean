/- C08 — PROPERTY THEOREMS (translation tie): the builders of `circuits/_generators.py` (`apply_gate_to_qubits`,
   `create_layer_of_gates`, `add_ancilla_register`) and `Circuit.controlled` / `Circuit.inverse` of `circuits/_circuit.py`.

   `OQ.Generated.Translated.apply_gate_to_qubits` … are REGENERATED from /repo's current Python source on every run
   (harness/translate_t3.py → OQ/Generated/TranslatedC08.lean).  Circuits (γ), operations (ω), gates (κ), gate factories (φ) and
   parameter rows (π) are OPAQUE; what the functions do with them is an explicit parameter of the translated definition:
     `ext_add : γ → ω → γ`           `circuit + operation` (`circuit += op` rebinds the local name – `Circuit` has no `__iadd__`)
     `call_factory_star : φ → π → κ`  `gate_factory(*row)`;  `call_gate : κ → Int → ω`  `gate(qubit)`;  `call_factory : φ → Int → ω`
     `ext_set_order : List Int → PySet Int`   the iteration order of `set(qubit_indices)` (a set is the list of its elements in
                                     iteration order); its law (duplicate-free, same elements) is a hypothesis where needed
     `ext_Circuit0`, `ext_I`, `attr_n_qubits`, `attr_operations`, `attr_gate`, `attr_qubit_indices`, `meth_controlled`, `attr_dagger`, ….
   In the ties the opaque objects are read in the model `OQ.C08`: γ = `Circ G`, ω = `GOp G`, κ = `G`, φ = `(P → G) × G` (the two
   readings of the Union-typed `gate_factory`), π = `P`; qubit indices are Python ints (`Int`), the model's are naturals.
   Domain of every tie: externals that do not raise, qubit indices ≥ 0 (a negative index is outside the model). -/
import OQ.Generated.TranslatedC08
import OQ.Lemmas.C08_TranslatedBuilders
import OQ.Props.C08
namespace OQ.C08
open OQ.Generated

/-- TRANSLATION TIE (`_generators.py:apply_gate_to_qubits`): the function regenerated from the current Python source is the model's
    `applyGateToQubits` (`none` = the `assert len(parameters) == len(unique_qubit_idx)` fails), for EVERY circuit, every list of
    qubit indices, both readings of `gate_factory` (`(factory, fixed)`: a prototype called with `*row`, or a gate), `parameters`
    `None` or any list of rows, and ANY iteration order of `set(qubit_indices)` (`setOrder`, with `order` its reading as natural
    numbers – no law of the order is needed for the tie; `applyGate_count` needs one).  `warn(…)` is skipped by the translation. -/
theorem translated_apply_gate_to_qubits_eq {G P : Type} (setOrder : List Int → List Int) (c : Circ G) (qs : List Int)
    (order : List Nat) (hset : setOrder qs = order.map Int.ofNat) (factory : P → G) (fixed : G) (rows : Option (List P)) :
    Translated.apply_gate_to_qubits setOrder (fun (f : (P → G) × G) (p : P) => f.1 p)
        (fun (g : G) (q : Int) => (⟨g, [q.toNat]⟩ : GOp G)) (fun f q => ⟨f.2, [q.toNat]⟩) appendOp c qs (factory, fixed) rows
      = (applyGateToQubits c order factory fixed rows).toOption := by
  unfold Translated.apply_gate_to_qubits applyGateToQubits
  simp only [hset, ite_self, List.length_map, Nat.cast_inj, beq_iff_eq, List.zip_map_left, List.foldl_map, Prod.map,
    Int.ofNat_eq_natCast, Int.toNat_natCast, id]
  cases rows with
  | none => rfl
  | some ps =>
    by_cases h : ps.length = order.length <;>
      simp only [h, if_true, if_false, ne_eq, not_true_eq_false, not_false_eq_true] <;> rfl

/-- TRANSLATION TIE (`_generators.py:create_layer_of_gates`): `apply_gate_to_qubits(Circuit(), range(n), gate_factory, parameters)`
    regenerated from the current source is the model's `createLayer` (for every `n`, also `n ≤ 0`: `range(n)` is empty). -/
theorem translated_create_layer_of_gates_eq {G P : Type} (setOrder : List Int → List Int) (n : Int)
    (order : List Nat) (hset : setOrder ((List.range n.toNat).map Int.ofNat) = order.map Int.ofNat)
    (factory : P → G) (fixed : G) (rows : Option (List P)) :
    Translated.create_layer_of_gates setOrder (fun (f : (P → G) × G) (p : P) => f.1 p)
        (fun (g : G) (q : Int) => (⟨g, [q.toNat]⟩ : GOp G)) (fun f q => ⟨f.2, [q.toNat]⟩) appendOp (mkCirc [] 0)
        n (factory, fixed) rows
      = (createLayer order factory fixed rows).toOption := by
  unfold Translated.create_layer_of_gates createLayer
  exact translated_apply_gate_to_qubits_eq setOrder _ _ order hset factory fixed rows

/-- TRANSLATION TIE (`_generators.py:add_ancilla_register`): the loop `extended_circuit += I(circuit.n_qubits + i)` regenerated from
    the current source (with `+=` REBINDING the local name: `Circuit` defines no `__iadd__`, checked by the translator) is the
    model's `addAncilla`, for every circuit and every integer count (a negative count adds nothing, as `range` does). -/
theorem translated_add_ancilla_register_eq {G : Type} (iG : G) (c : Circ G) (k : Int) :
    Translated.add_ancilla_register (fun c : Circ G => (c.n : Int)) (fun q => (⟨iG, [q.toNat]⟩ : GOp G)) appendOp c k
      = addAncilla iG c k.toNat := by
  unfold Translated.add_ancilla_register addAncilla
  simp only [List.foldl_map, Int.ofNat_eq_natCast]
  congr 1

/-- TRANSLATION TIE (`_circuit.py:Circuit.controlled`): the loop regenerated from the current source (`op.gate.controlled(1)`,
    indices `i + 1 if i >= control_index else i`, control index first, `Circuit(c_ops)`) is the model's `controlledCirc`, for
    every circuit and every control index `ci ≥ 0`; `ctl` is the opaque `gate.controlled(1)`. -/
theorem translated_circuit_controlled_eq {G : Type} (ctl : G → G) (ci : Nat) (c : Circ G) :
    Translated.circuit_controlled (fun c : Circ G => c.ops) (fun o : GOp G => o.gate)
        (fun o => o.qs.map Int.ofNat) (fun g _ => ctl g) (fun g qs => (⟨g, qs.map Int.toNat⟩ : GOp G))
        (fun ops => mkCirc ops 0) c (ci : Int)
      = controlledCirc ctl ci c := by
  have hq : ∀ qs : List Nat, (qs.map Int.ofNat).map (fun i => if decide (i ≥ (ci : Int)) then i + 1 else i)
      = (qs.map (shiftIdx ci)).map Int.ofNat := by
    intro qs
    rw [List.map_map, List.map_map]
    apply List.map_congr_left
    intro q _
    simp only [Function.comp, shiftIdx, Int.ofNat_eq_natCast, ge_iff_le, Nat.cast_le, decide_eq_true_eq]
    split <;> simp
  unfold Translated.circuit_controlled controlledCirc
  -- the loop `c_ops += [op']` is a `flatMap` of singletons, i.e. a `map`
  simp only [hq]
  rw [← List.flatMap_eq_foldl, ← List.map_eq_flatMap]
  simp only [List.map_cons, Int.toNat_natCast, map_toNat_ofNat]

/-- TRANSLATION TIE (`_circuit.py:Circuit.inverse`): `type(self)(operations=[op.gate.dagger(*op.qubit_indices) for op in
    reversed(self.operations)], n_qubits=self.n_qubits)` regenerated from the current source is the model's `inverse`, for every
    circuit of gate operations (the model's circuits hold gate operations only: `isinstance(op, GateOperation)` is `true`; the
    translated definition returns `none` where the `assert` fails); `dg` is the opaque `gate.dagger`. -/
theorem translated_circuit_inverse_eq {G : Type} (dg : G → G) (c : Circ G) :
    Translated.circuit_inverse (fun c : Circ G => c.ops) (fun c => (c.n : Int)) (fun _ => true) (fun o : GOp G => o.gate)
        (fun o => o.qs.map Int.ofNat) dg (fun g qs => (⟨g, qs.map Int.toNat⟩ : GOp G))
        (fun ops n => mkCirc ops n.toNat) c
      = some (inverse dg c) := by
  unfold Translated.circuit_inverse inverse
  simp [-List.map_map, map_toNat_ofNat]

/-- `applyGate_count` on the translated `apply_gate_to_qubits`: under the CPython law that `set(qubit_indices)` lists every listed
    qubit exactly once (`hnd`, `hmem`), with one row per distinct qubit the call succeeds, the existing operations stay in place,
    exactly one new single-qubit gate per distinct listed qubit is added, the i-th new gate is built from the i-th row, and the
    width grows just enough to contain the new gates. -/
theorem translated_applyGate_count {G P : Type} (setOrder : List Int → List Int) (c : Circ G) (qs : List Nat)
    (factory : P → G) (fixed : G) (ps : List P)
    (hnd : (setOrder (qs.map Int.ofNat)).Nodup) (hmem : ∀ q, q ∈ setOrder (qs.map Int.ofNat) ↔ q ∈ qs.map Int.ofNat)
    (hlen : ps.length = (setOrder (qs.map Int.ofNat)).length) :
    ∃ c', Translated.apply_gate_to_qubits setOrder (fun (f : (P → G) × G) (p : P) => f.1 p)
        (fun (g : G) (q : Int) => (⟨g, [q.toNat]⟩ : GOp G)) (fun f q => ⟨f.2, [q.toNat]⟩) appendOp c (qs.map Int.ofNat)
        (factory, fixed) (some ps) = some c' ∧
      (∃ new, c'.ops = c.ops ++ new ∧ new.length = qs.dedup.length ∧ new.map (fun o => o.gate) = ps.map factory ∧
        (∀ q, (new.filter (fun o => o.qs = [q])).length = if q ∈ qs then 1 else 0)) ∧
      c.n ≤ c'.n ∧ (∀ q ∈ qs, q < c'.n) := by
  obtain ⟨ho, hnd', hmem'⟩ := setOrder_nat (setOrder (qs.map Int.ofNat)) qs hnd hmem
  obtain ⟨c', hc', ⟨new, h1, h2, h3, _, h5⟩, h6, h7⟩ :=
    applyGate_count c qs ((setOrder (qs.map Int.ofNat)).map Int.toNat) factory fixed ps hnd' hmem'
      (by rw [List.length_map]; exact hlen)
  refine ⟨c', ?_, ⟨new, h1, h2, h3, h5⟩, h6, h7⟩
  rw [translated_apply_gate_to_qubits_eq setOrder c _ _ ho, hc']
  rfl

/-- `applyGate_rejects` on the translated code: a parameter array whose number of rows differs from the number of elements of
    `set(qubit_indices)` fails the `assert` -/
theorem translated_applyGate_rejects {G P : Type} (setOrder : List Int → List Int) (c : Circ G) (qs : List Int) (order : List Nat)
    (hset : setOrder qs = order.map Int.ofNat) (factory : P → G) (fixed : G) (ps : List P) (hlen : ps.length ≠ order.length) :
    Translated.apply_gate_to_qubits setOrder (fun (f : (P → G) × G) (p : P) => f.1 p)
        (fun (g : G) (q : Int) => (⟨g, [q.toNat]⟩ : GOp G)) (fun f q => ⟨f.2, [q.toNat]⟩) appendOp c qs (factory, fixed)
        (some ps) = none := by
  rw [translated_apply_gate_to_qubits_eq setOrder c qs order hset, applyGate_rejects c order factory fixed ps hlen]
  rfl

/-- `layer_rows` on the translated `create_layer_of_gates`: under the CPython law that `set(range(n))` iterates in ascending order,
    the layer consists of exactly `n` single-qubit gates, the i-th one built from the i-th row and placed on qubit `i`, and the
    circuit is `n` qubits wide -/
theorem translated_layer_rows {G P : Type} (setOrder : List Int → List Int) (n : Nat)
    (hset : setOrder ((List.range n).map Int.ofNat) = (List.range n).map Int.ofNat)
    (factory : P → G) (fixed : G) (ps : List P) (hlen : ps.length = n) :
    ∃ c', Translated.create_layer_of_gates setOrder (fun (f : (P → G) × G) (p : P) => f.1 p)
        (fun (g : G) (q : Int) => (⟨g, [q.toNat]⟩ : GOp G)) (fun f q => ⟨f.2, [q.toNat]⟩) appendOp (mkCirc [] 0)
        (n : Int) (factory, fixed) (some ps) = some c' ∧
      c'.ops.length = n ∧
      (∀ i (hi : i < n) (h' : i < c'.ops.length), c'.ops[i] = ⟨factory (ps[i]'(by omega)), [i]⟩) ∧
      c'.n = n := by
  obtain ⟨c', hc', h1, h2, h3⟩ := layer_rows n factory fixed ps hlen
  refine ⟨c', ?_, h1, h2, h3⟩
  rw [translated_create_layer_of_gates_eq setOrder (n : Int) (List.range n) (by simpa using hset), hc']
  rfl

/-- `ancilla_width` on the translated `add_ancilla_register`: the circuit is widened by EXACTLY `k` qubits, the existing
    operations stay in place, the new operations are identity gates on the `k` new indices -/
theorem translated_ancilla_width {G : Type} (iG : G) (c : Circ G) (k : Nat) :
    (Translated.add_ancilla_register (fun c : Circ G => (c.n : Int)) (fun q => (⟨iG, [q.toNat]⟩ : GOp G)) appendOp c k).n
      = c.n + k ∧
    (Translated.add_ancilla_register (fun c : Circ G => (c.n : Int)) (fun q => (⟨iG, [q.toNat]⟩ : GOp G)) appendOp c k).ops
      = c.ops ++ (List.range k).map (fun i => ⟨iG, [c.n + i]⟩) := by
  rw [translated_add_ancilla_register_eq]
  exact ancilla_width iG c k

/-- `inverse_shape` on the translated `Circuit.inverse`: same width, reversed operations, each gate replaced by its dagger on
    its original qubits -/
theorem translated_inverse_shape {G : Type} (dg : G → G) (c : Circ G) (hc : c.n = 0 → c.ops = []) :
    ∃ c', Translated.circuit_inverse (fun c : Circ G => c.ops) (fun c => (c.n : Int)) (fun _ => true)
        (fun o : GOp G => o.gate) (fun o => o.qs.map Int.ofNat) dg (fun g qs => (⟨g, qs.map Int.toNat⟩ : GOp G))
        (fun ops n => mkCirc ops n.toNat) c = some c' ∧
      c'.n = c.n ∧ c'.ops = c.ops.reverse.map (fun o => ⟨dg o.gate, o.qs⟩) :=
  ⟨_, translated_circuit_inverse_eq dg c, inverse_shape dg c hc⟩

/-! non-vacuity: circuits as (operation list, width) pairs / the model's records, gates as numbers -/
example : Translated.apply_gate_to_qubits (fun _ => [8, 1, 5]) (fun (f : Nat) (p : Nat) => f + p) (fun g q => (g, q))
      (fun f q => (f, q)) (fun (c : List (Nat × Int)) o => c ++ [o]) [(0, 0)] [5, 1, 8, 1, 5] 100 (some [1, 2, 3])
    = some [(0, 0), (101, 8), (102, 1), (103, 5)] := by decide
example : Translated.apply_gate_to_qubits (fun _ => [8, 1, 5]) (fun (f : Nat) (p : Nat) => f + p) (fun g q => (g, q))
      (fun f q => (f, q)) (fun (c : List (Nat × Int)) o => c ++ [o]) [] [5, 1, 8, 1, 5] 100 (some [1, 2]) = none := by decide
example : Translated.create_layer_of_gates (fun l => l) (fun (f : Nat) (p : Nat) => f + p) (fun g q => (g, q))
      (fun f q => (f, q)) (fun (c : List (Nat × Int)) o => c ++ [o]) [] 3 7 none = some [(7, 0), (7, 1), (7, 2)] := by decide
example : Translated.add_ancilla_register (fun c : Circ Nat => (c.n : Int)) (fun q => (⟨0, [q.toNat]⟩ : GOp Nat)) appendOp
      ⟨[⟨5, [1]⟩], 3⟩ 2 = ⟨[⟨5, [1]⟩, ⟨0, [3]⟩, ⟨0, [4]⟩], 5⟩ := by rfl
example : Translated.circuit_controlled (fun c : Circ Nat => c.ops) (fun o : GOp Nat => o.gate)
      (fun o => o.qs.map Int.ofNat) (fun g _ => g + 100) (fun g qs => (⟨g, qs.map Int.toNat⟩ : GOp Nat))
      (fun ops => mkCirc ops 0) ⟨[⟨5, [0, 2]⟩, ⟨6, [1]⟩], 3⟩ 1 = ⟨[⟨105, [1, 0, 3]⟩, ⟨106, [1, 2]⟩], 4⟩ := by rfl
example : Translated.circuit_inverse (fun c : Circ Nat => c.ops) (fun c => (c.n : Int)) (fun _ => true) (fun o : GOp Nat => o.gate)
      (fun o => o.qs.map Int.ofNat) (fun g => g + 100) (fun g qs => (⟨g, qs.map Int.toNat⟩ : GOp Nat))
      (fun ops n => mkCirc ops n.toNat) ⟨[⟨5, [0, 2]⟩, ⟨6, [1]⟩], 4⟩ = some ⟨[⟨106, [1]⟩, ⟨105, [0, 2]⟩], 4⟩ := by rfl

end OQ.C08
