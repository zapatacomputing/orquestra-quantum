/- C06 — PROPERTY THEOREMS (translation tie of the dataclass `GateOperation`, translator T17 of DESIGN.md).
   `OQ.Generated.TranslatedGates.GateOperation` and its members `params`, `free_symbols`, `bind`, `replace_params` (file
   OQ/Generated/TranslatedGatesMatrix.lean) are REGENERATED on every run from the current source of `GateOperation` in
   `circuits/_gates.py` (harness/translate_t17.py: the dataclass fields in source order, one definition per member rendered
   mechanically from its body over the generated gate inductive of the class translator).  The theorems prove that they ARE the
   `.gate` case of the model's `Op.params / Op.freeSymbols / Op.bind / Op.replaceParams` (OQ/Model/C06.lean), for every gate whose
   control counts are ≥ 1 (`CtlPos`: every gate object that can exist), every qubit tuple, every map / tuple of parameters.
   The externals are instantiated as in C06_TranslatedGates.lean (`ext`: the model's `getFreeSymbols` / `subSymbols`).
   `embOp` is the image of a model operation `Op.gate g qs` in the generated dataclass.  NOT translated:
   the `sub_symbols` / `get_free_symbols` families of `_operations.py` themselves, `Circuit.free_symbols`, `MultiPhaseOperation`,
   `ResetOperation` – their tie remains the differential correspondence of C06. -/
import OQ.Generated.TranslatedGatesMatrix
import OQ.Props.C06_TranslatedGates
namespace OQ.C06
open OQ.Generated
namespace TG

/-- the generated dataclass at the model's parameters -/
abbrev TOp := TranslatedGates.GateOperation Param Factory Rat

/-- the model's gate operation `Op.gate g qs` as an object of the generated dataclass -/
def embOp (g : Gate) (qs : List Nat) : TOp := ⟨emb g, qs.map Int.ofNat⟩

/-- TRANSLATION TIE: `GateOperation.params` (`self.gate.params`) is the model's `Op.params` of a gate operation; every gate. -/
theorem translated_op_params_eq (g : Gate) (qs : List Nat) :
    TranslatedGates.GateOperation.params (embOp g qs) = (Op.gate g qs).params :=
  translated_params_eq g

/-- TRANSLATION TIE: `GateOperation.free_symbols` (`self.gate.free_symbols`) is the model's `Op.freeSymbols`; every gate. -/
theorem translated_op_free_symbols_eq (g : Gate) (qs : List Nat) :
    TranslatedGates.GateOperation.free_symbols ext (embOp g qs) = (Op.gate g qs).freeSymbols :=
  translated_free_symbols_eq g

/-- TRANSLATION TIE: `GateOperation.bind(symbols_map)` (`GateOperation(self.gate.bind(symbols_map), self.qubit_indices)`) is the
    model's `Op.bind` of a gate operation – the bound gate on the SAME qubit tuple, or the gate's exception; every gate with
    `CtlPos`, every map. -/
theorem translated_op_bind_eq (g : Gate) (h : CtlPos g) (qs : List Nat) (m : SymMap) :
    toRes (TranslatedGates.GateOperation.bind ext (embOp g qs) m) = (g.bind m).map (fun g' => embOp g' qs) ∧
    (Op.gate g qs).bind m = (g.bind m).map (fun g' => Op.gate g' qs) := by
  refine ⟨?_, rfl⟩
  simp only [TranslatedGates.GateOperation.bind, embOp, toRes_bind, translated_bind_eq g h m]
  cases g.bind m <;> rfl

/-- TRANSLATION TIE: `GateOperation.replace_params(new_params)` is the model's `Op.replaceParams` of a gate operation; every gate
    with `CtlPos`, every tuple. -/
theorem translated_op_replace_params_eq (g : Gate) (h : CtlPos g) (qs : List Nat) (ps : List Param) :
    toRes (TranslatedGates.GateOperation.replace_params ext (embOp g qs) ps) = (g.replaceParams ps).map (fun g' => embOp g' qs) ∧
    (Op.gate g qs).replaceParams ps = (g.replaceParams ps).map (fun g' => Op.gate g' qs) := by
  refine ⟨?_, rfl⟩
  simp only [TranslatedGates.GateOperation.replace_params, embOp, toRes_bind, translated_replace_params_eq g h ps]
  cases g.replaceParams ps <;> rfl

/-- END-TO-END (towards `freeSymbols_bind` on the translated code): when the TRANSLATED `GateOperation.bind` succeeds, the model's
    `bind` returned the gate the result stands for, and every symbol the TRANSLATED `free_symbols` reports for the bound operation
    is a free symbol of the model's bound operation – the operation `freeSymbols_bind` speaks about (free before and not a key of
    the map, or occurring in a value substituted for a free symbol). -/
theorem translated_op_free_symbols_bind (g : Gate) (h : CtlPos g) (qs : List Nat) (m : SymMap) (t : TOp)
    (ht : TranslatedGates.GateOperation.bind ext (embOp g qs) m = .ok t) (s : String)
    (hs : s ∈ TranslatedGates.GateOperation.free_symbols ext t) :
    ∃ g', g.bind m = .ok g' ∧ t = embOp g' qs ∧ s ∈ (Op.gate g' qs).freeSymbols := by
  obtain ⟨g', hb, rfl⟩ := toRes_eq_map_ok (translated_op_bind_eq g h qs m).1 ht
  exact ⟨g', hb, rfl, by rwa [translated_op_free_symbols_eq] at hs⟩

/-! ### non-vacuity: the TRANSLATED members on concrete objects -/
section Examples
def opx : TOp := ⟨rxs, [2]⟩

example : TranslatedGates.GateOperation.params opx = [sx] := rfl
example : TranslatedGates.GateOperation.free_symbols ext opx = ["x"] := by decide
def view (r : Except TranslatedGates.Err TOp) : Except TranslatedGates.Err (TGate × List Int) := r.map (fun o => (o.gate, o.qubit_indices))
example : view (TranslatedGates.GateOperation.bind ext opx [("x", .number 3)]) = .ok (rx3, [2]) := by decide
example : view (TranslatedGates.GateOperation.bind ext ⟨.Power xg 2, [0]⟩ []) = .error .NotImplementedError := by decide
example : view (TranslatedGates.GateOperation.replace_params ext ⟨.Dagger rxs, [1]⟩ [.number 3]) = .ok (.Dagger rx3, [1]) := by decide
end Examples

end TG
end OQ.C06
