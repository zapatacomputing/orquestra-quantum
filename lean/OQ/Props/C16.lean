/-
  C16 — PROPERTY THEOREMS: time-evolution circuits implement exp(−i t H) term by term, and its derivative.
  Model: OQ/Model/C16.lean (mirrors src/orquestra/quantum/evolution.py).

  Semantics.  `circSem k ang rg.e c` is the matrix of the model circuit `c` on a register `ι` of qubits: the
  product, last operation leftmost, of `gateOn M qs = Spec.lift (qs | rest) M` for the executable gate matrices
  `M` of OQ/Model/Gates.lean.  `pauliString k pa = ⊗_p σ(pa p)` is the Kronecker definition of a Pauli string.
  Ring statements hold over every commutative ⋆-ring with constants satisfying `ScalLaws`
  (i² = −1, 2r² = 1, cj = star, star i = −i, star r = r); `ang` interprets a gate angle as its half-angle point
  and is only required to send the code's `np.pi / 2` to (r, r).  The ℂ statements instantiate
  `ang θ = (cos θ/2, sin θ/2)` for real θ, real coefficients and real times.
-/
import OQ.Lemmas.C16_DerivModel
set_option linter.unusedSectionVars false
namespace OQ.C16
open Matrix OQ.Spec OQ.Pauli

section ring
variable {R : Type} [CommRing R] [StarRing R] {ι : Type} [Fintype ι] [DecidableEq ι] {T : Type}
variable {Q : Type} [One Q] [Mul Q] [Div Q] [Neg Q] [NatCast Q] [DecidableEq Q]

/-- "a constant term gives an empty circuit" — whatever its coefficient and the time. -/
theorem constant_term_empty (alg : TimeAlg Q T) (negl : Q → Bool) (t : Term (Q × Q)) (time : T)
    (h : t.ops = []) : evolutionForTerm alg negl t time = .ok [] := by
  simp [evolutionForTerm_eq, acc, evoCirc, h]

/-- "a term whose coefficient has a non-negligible imaginary part is rejected rather than silently truncated":
    a non-constant term is rejected (ValueError) EXACTLY when its imaginary part is not negligible
    (`negl x` is `abs x ≤ 1e-9`), whatever the sign of the imaginary part; no other error is possible. -/
theorem imag_rejected (alg : TimeAlg Q T) (negl : Q → Bool) (t : Term (Q × Q)) (time : T) (hne : t.ops ≠ []) :
    (negl t.coeff.2 = false → evolutionForTerm alg negl t time = .error .value) ∧
    (∀ e, evolutionForTerm alg negl t time = .error e → negl t.coeff.2 = false ∧ e = .value) := by
  rw [evolutionForTerm_eq, acc_of_ne_nil negl t hne]
  constructor
  · intro h; simp [h]
  · intro e he
    cases hn : negl t.coeff.2 <;> simp [hn] at he
    exact ⟨rfl, he.symm⟩

/-- `basis_change_conj`, one qubit: H·Z·H = X and RX(π/2)ᴴ·Z·RX(π/2) = +Y (the code's sign convention:
    basis change RX(+π/2) before, its Dagger after), for the gate matrices of the library. -/
theorem basis_change_conj (k : Scal R) (hk : ScalLaws k) :
    toB (Gates.h k) * σz * toB (Gates.h k) = pauliB k (some .X) ∧
    (toB (Gates.rx k ⟨k.r, k.r⟩))ᴴ * σz * toB (Gates.rx k ⟨k.r, k.r⟩) = pauliB k (some .Y) ∧
    toB (adjoint2 k (Gates.rx k ⟨k.r, k.r⟩)) = (toB (Gates.rx k ⟨k.r, k.r⟩))ᴴ :=
  ⟨bInv_z_bMat k hk .X, bInv_z_bMat k hk .Y, toB_adjoint2 k hk _⟩

/-- `basis_change_conj`, lifted qubit-wise: the basis-change circuit of a term conjugates Z on the term's support
    into the term's Pauli string, and is undone by its inverse circuit. -/
theorem basis_change_conj_lifted (k : Scal R) (hk : ScalLaws k) (alg : TimeAlg Q T) (ang : T → Ang R)
    (hpi : ang (alg.smul (1 / ((2 : Nat) : Q)) alg.pi) = ⟨k.r, k.r⟩)
    (rg : Register ι) (t : Term (Q × Q)) (hcov : rg.Covers t) (hnd : (t.ops.map (·.1)).Nodup) :
    let qs := sortedQubits t
    circSem k ang rg.e (inverse (basisChange alg t qs)) * Zstr (qs.map rg.e) * circSem k ang rg.e (basisChange alg t qs)
      = pauliString k (fun p => t.opAt (rg.lab p)) ∧
    circSem k ang rg.e (inverse (basisChange alg t qs)) * circSem k ang rg.e (basisChange alg t qs) = 1 :=
  basis_conj k hk alg ang hpi rg t hcov hnd _ (sortedQubits_perm t)

/-- `ladder_is_parity`: for EVERY number of qubits, the CNOT ladder over distinct qubits turns Z on the last
    qubit into Z on all of them (it computes the parity into the last qubit), and its inverse undoes it. -/
theorem ladder_is_parity (k : Scal R) (ang : T → Ang R) (e : ℕ → ι) (qs : List ℕ) (hnd : (qs.map e).Nodup)
    (last : ℕ) (hl : qs.getLast? = some last) :
    circSem k ang e (inverse (ladder qs : Circ T)) * Zstr [e last] * circSem k ang e (ladder qs : Circ T)
      = Zstr (qs.map e) ∧
    circSem k ang e (inverse (ladder qs : Circ T)) * circSem k ang e (ladder qs : Circ T) = 1 :=
  ladder_conj k ang e qs hnd last hl

/-- `zstring_evolution`: ladder, central RZ(θ), ladder undone = cos(θ/2)·1 − i·sin(θ/2)·Z_S for every support size. -/
theorem zstring_evolution (k : Scal R) (ang : T → Ang R) (e : ℕ → ι) (qs : List ℕ) (hnd : (qs.map e).Nodup)
    (last : ℕ) (hl : qs.getLast? = some last) (θ : T) :
    circSem k ang e ((ladder qs : Circ T) ++ [⟨.RZ θ, [last]⟩] ++ inverse (ladder qs))
      = (ang θ).ch • (1 : Matrix (BV ι) (BV ι) R) - (k.i * (ang θ).sh) • Zstr (qs.map e) :=
  zrot_sem k ang e qs hnd last hl θ

/-- `term_evolution`: for EVERY Pauli term (any weight, any letters, any insertion order of the qubits) with an
    accepted coefficient, the circuit's matrix is cos(tc)·1 − i·sin(tc)·P, where (cos tc, sin tc) is the half-angle
    point of the central angle θ = 2·t·c the code computes. -/
theorem term_evolution (k : Scal R) (hk : ScalLaws k) (alg : TimeAlg Q T) (negl : Q → Bool) (ang : T → Ang R)
    (hpi : ang (alg.smul (1 / ((2 : Nat) : Q)) alg.pi) = ⟨k.r, k.r⟩)
    (rg : Register ι) (t : Term (Q × Q)) (hcov : rg.Covers t) (hnd : (t.ops.map (·.1)).Nodup) (hne : t.ops ≠ [])
    (time : T) (c : Circ T) (hc : evolutionForTerm alg negl t time = .ok c) :
    circSem k ang rg.e c
      = (ang (alg.smul t.coeff.1 (alg.smul ((2 : Nat) : Q) time))).ch • (1 : Matrix (BV ι) (BV ι) R)
        - (k.i * (ang (alg.smul t.coeff.1 (alg.smul ((2 : Nat) : Q) time))).sh)
            • pauliString k (fun p => t.opAt (rg.lab p)) := by
  rw [evolutionForTerm_eq, guard_eq_ok] at hc
  obtain ⟨_, rfl⟩ := hc
  rw [evoCirc_sem k hk alg ang hpi rg t hcov hnd, termFactor, if_neg hne]

/-- "For a sum, the circuit equals the product over the requested number of steps of the per-term circuits for
    time t/steps, taken in the order the terms are listed": the accepted results of `time_evolution` are exactly
    the n-fold repetition of the concatenation, in list order, of the per-term circuits at time (1/n)·t — as
    circuits, and hence as matrices (first listed term rightmost, the step to the n-th power). -/
theorem evolution_product_order (k : Scal R) (alg : TimeAlg Q T) (negl : Q → Bool) (ang : T → Ang R) (e : ℕ → ι)
    (h : PSum (Q × Q)) (time : T) (n : ℕ) (hn : 1 ≤ n) (c : Circ T) :
    timeEvolution alg negl h time n = .ok c ↔
      ∃ cs : List (Circ T),
        List.Forall₂ (fun t ct => evolutionForTerm alg negl t (alg.smul (1 / (n : Q)) time) = .ok ct) h cs ∧
        c = (List.replicate n cs.flatten).flatten ∧
        circSem k ang e c = ((cs.reverse.map (circSem k ang e)).prod) ^ n := by
  rw [timeEvolution_eq, guard_eq_ok]
  simp only [forall₂_evolutionForTerm]
  constructor
  · rintro ⟨hacc | hacc, rfl⟩
    · omega
    · exact ⟨_, ⟨hacc, rfl⟩, by rw [List.flatMap_def],
        by rw [circSem_replicate, List.flatMap_def, circSem_flatten, seqProd_eq_prod, List.map_reverse]⟩
  · rintro ⟨_, ⟨hacc, rfl⟩, rfl, _⟩
    exact ⟨Or.inr hacc, by rw [List.flatMap_def]⟩

/-- `_generate_circuit_sequence`: rejected iff position ≥ length; otherwise `length` blocks, the one at `position`
    being the different circuit, all others the repeated one. -/
theorem sequence_spec (rep diff : Circ T) (len pos : ℕ) :
    (len ≤ pos → generateCircuitSequence rep diff len pos = .error .value) ∧
    (pos < len → generateCircuitSequence rep diff len pos
        = .ok ((List.replicate pos rep).flatten ++ diff ++ (List.replicate (len - pos - 1) rep).flatten)) :=
  ⟨fun h => by simp [generateCircuitSequence, h], fun h => generateCircuitSequence_ok rep diff len pos h⟩

/-- `param_shift`, ring identity: for V = c·1 − i·s·P (P hermitian, c and s fixed by conjugation), V′ = −s·1 − i·c·P
    (the derivative of V in its half angle) and V± the rotations by ±π/4 more in the half angle (the code's shift of
    the RZ angle by ±π/2),  V′ᴴ X V + Vᴴ X V′ = V₊ᴴ X V₊ − V₋ᴴ X V₋  for every X.  No P² = 1 is needed. -/
theorem param_shift {m : Type} [Fintype m] [DecidableEq m] (k : Scal R) (hk : ScalLaws k) (P : Matrix m m R)
    (hP : Pᴴ = P) (c s : R) (hc : star c = c) (hs : star s = s) (X : Matrix m m R) :
    (rotM k P (-s) c)ᴴ * X * rotM k P c s + (rotM k P c s)ᴴ * X * rotM k P (-s) c
      = (rotM k P (k.r * (c - s)) (k.r * (c + s)))ᴴ * X * rotM k P (k.r * (c - s)) (k.r * (c + s))
        - (rotM k P (k.r * (c + s)) (k.r * (s - c)))ᴴ * X * rotM k P (k.r * (c + s)) (k.r * (s - c)) :=
  param_shift_core k hk P c s X

/-- Leibniz sum over positions, formal-derivative form over any commutative ⋆-ring: for an n-fold repetition of a
    step ∏ V_j whose factors satisfy the parameter-shift identity, with W the whole product and
    DW = Σ_{positions} r_j · (W with that factor replaced by V_j′) its formal derivative,
    DWᴴ O W + Wᴴ O DW = Σ ±r_j · (W with that factor shifted by ±)ᴴ O (same), for every O. -/
theorem derivative_formal {m : Type} [Fintype m] [DecidableEq m] (n : ℕ) (ds : List (FData m R))
    (hds : ∀ d ∈ ds, d.ShiftOK) (O : Matrix m m R) :
    (dProd n ds)ᴴ * O * seqProd (ds.map (·.V)) ^ n + (seqProd (ds.map (·.V)) ^ n)ᴴ * O * dProd n ds
      = ((shiftList n ds).map (fun y => y.1 • (y.2ᴴ * O * y.2))).sum :=
  leibniz_shift_list (places n ds) _ O (places_spec n ds _ hds)

/-- where `time_evolution_derivatives` is defined (full strength, after the fix `if r == 0: continue`): for n ≥ 1 it
    returns circuits and factors for EVERY Hamiltonian whose non-constant terms pass the imaginary-part guard – zero
    coefficients included (those terms are skipped) – and it fails only when a guard the code actually evaluates
    fails (the guards are evaluated when n > 1 or some term has a non-zero rate r = c/n). -/
theorem derivatives_defined (alg : TimeAlg Q T) (negl : Q → Bool) (h : PSum (Q × Q)) (time : T) (n : ℕ)
    (hn : 1 ≤ n) :
    ((∀ t ∈ h, acc negl t = true) → ∃ l, derivatives alg negl h time n = .ok l) ∧
    ((∃ l, derivatives alg negl h time n = .ok l) ↔
      ((n > 1 ∨ ∃ t ∈ h, rate n t ≠ ((0 : Nat) : Q)) → ∀ t ∈ h, acc negl t = true)) := by
  rw [derivatives_eq alg negl h time n hn]
  exact ⟨fun hacc => ⟨_, if_pos fun _ => hacc⟩, fun ⟨l, hl⟩ => ((guard_eq_ok _ _ _).mp hl).1, fun hacc => ⟨_, if_pos hacc⟩⟩

/-- the order and shape of what is returned: for every position p < n (outer loop) and every term with r = c/n ≠ 0
    and sign ± (inner loops; `singleList` = the splits of the Hamiltonian through `derivTwo`, which is empty for a
    term with r = 0), the factor ±c/n paired with p copies of the plain step, the step with that term's time shifted
    by ±π/(4r), and n − p − 1 more copies of the plain step. -/
theorem derivatives_shape (alg : TimeAlg Q T) (negl : Q → Bool) (h : PSum (Q × Q)) (time : T) (n : ℕ) (hn : 1 ≤ n)
    (l : List (Q × Circ T)) (hl : derivatives alg negl h time n = .ok l) :
    l = (List.range n).flatMap (fun p =>
          (singleList alg time n h).map (fun x => (x.1, spliceCirc (repStep alg time n h) n p x.2))) := by
  rw [derivatives_eq alg negl h time n hn, guard_eq_ok] at hl
  exact hl.2.symm

end ring

section complex
variable {ι : Type} [Fintype ι] [DecidableEq ι]
open Complex

/-- `exp_pauli`: exp(−iθP) = cos θ·1 − i·sin θ·P for every Pauli string P on every register and every real θ. -/
theorem exp_pauli (pa : ι → Option P) (θ : ℝ) :
    NormedSpace.exp ((-(I * θ)) • pauliString Scal.complex pa)
      = (Real.cos θ : ℂ) • (1 : Matrix (BV ι) (BV ι) ℂ) - (I * Real.sin θ) • pauliString Scal.complex pa :=
  exp_pauliString pa θ

/-- "For any Pauli term P with real coefficient c and any time t the evolution circuit's matrix equals
    exp(−i t c P) exactly": model at Q = T = ℝ, gate angles interpreted by the real cosine and sine. -/
theorem term_evolution_exp [DecidableEq ℝ] (negl : ℝ → Bool) (rg : Register ι) (t : Term (ℝ × ℝ))
    (hcov : rg.Covers t) (hnd : (t.ops.map (·.1)).Nodup) (hne : t.ops ≠ [])
    (time : ℝ) (c : Circ ℝ) (hc : evolutionForTerm realAlg negl t time = .ok c) :
    circSem Scal.complex angReal rg.e c
      = NormedSpace.exp ((-(I * ((time * t.coeff.1 : ℝ) : ℂ))) • pauliString Scal.complex (fun p => t.opAt (rg.lab p))) := by
  rw [evolutionForTerm_eq, guard_eq_ok] at hc
  obtain ⟨_, rfl⟩ := hc
  rw [evoCirc_sem Scal.complex scalLaws_complex realAlg angReal angReal_half_pi rg t hcov hnd, termFactor_exp, if_neg hne]

/-- the sum over ℂ: the circuit of `time_evolution` is (∏_k exp(−i (t/n) c_k P_k))ⁿ, the product taken in the
    listed order (first term rightmost); constant terms contribute the identity (empty circuit). -/
theorem evolution_product_exp [DecidableEq ℝ] (negl : ℝ → Bool) (rg : Register ι) (h : PSum (ℝ × ℝ))
    (hcov : ∀ t ∈ h, rg.Covers t) (hnd : ∀ t ∈ h, (t.ops.map (·.1)).Nodup)
    (time : ℝ) (n : ℕ) (hn : 1 ≤ n) (c : Circ ℝ) (hc : timeEvolution realAlg negl h time n = .ok c) :
    circSem Scal.complex angReal rg.e c
      = (((h.map (fun t => if t.ops = [] then (1 : Matrix (BV ι) (BV ι) ℂ) else
            NormedSpace.exp ((-(I * (((1 / (n : ℝ)) * time * t.coeff.1 : ℝ) : ℂ)))
              • pauliString Scal.complex (fun p => t.opAt (rg.lab p))))).reverse).prod) ^ n := by
  rw [timeEvolution_eq, guard_eq_ok] at hc
  obtain ⟨_, rfl⟩ := hc
  rw [circSem_replicate, step_sem Scal.complex scalLaws_complex realAlg angReal angReal_half_pi rg h hcov hnd,
    seqProd_eq_prod]
  simp only [termFactor_exp]
  rfl

/-- "The derivative circuits and factors returned for any number of steps satisfy: the factor-weighted sum of any
    observable's expectation over those circuits equals the derivative with respect to t of its expectation under
    the evolution circuit with the same number of steps."  Real analysis (Mathlib `HasDerivAt`), model at Q = T = ℝ:
    whenever `time_evolution_derivatives` returns (l = the list of (factor, circuit) pairs) and the evolution circuit
    with the same number of steps exists at that time (`hev`; it then exists at every time), for EVERY matrix O
    (hermitian or not) and EVERY vector ψ (normalised or not), with U(s) the matrix of the circuit
    `time_evolution(h, s, n_steps = n)`,
       d/ds ⟨U(s)ψ| O |U(s)ψ⟩ at s = time  =  Σ_{(f, C) ∈ l} f · ⟨Cψ| O |Cψ⟩.
    Terms with coefficient 0 are skipped by the code and contribute 0 to the derivative (their factor is constant).
    `hev` follows from `hl` except in the degenerate case n = 1 with every real part 0, where the code evaluates no
    guard at all (a purely imaginary Hamiltonian: no evolution circuit exists to differentiate). -/
theorem derivative_correct [DecidableEq ℝ] (negl : ℝ → Bool) (rg : Register ι) (h : PSum (ℝ × ℝ))
    (hcov : ∀ t ∈ h, rg.Covers t) (hnd : ∀ t ∈ h, (t.ops.map (·.1)).Nodup)
    (time : ℝ) (n : ℕ) (hn : 1 ≤ n) (C0 : Circ ℝ) (hev : timeEvolution realAlg negl h time n = .ok C0)
    (l : List (ℝ × Circ ℝ)) (hl : derivatives realAlg negl h time n = .ok l)
    (O : Matrix (BV ι) (BV ι) ℂ) (ψ : BV ι → ℂ) :
    ∃ U : ℝ → Matrix (BV ι) (BV ι) ℂ,
      (∀ s, ∃ C, timeEvolution realAlg negl h s n = .ok C ∧ circSem Scal.complex angReal rg.e C = U s) ∧
      HasDerivAt (fun s => star (U s *ᵥ ψ) ⬝ᵥ (O *ᵥ (U s *ᵥ ψ)))
        ((l.map (fun x => (x.1 : ℂ) *
            (star (circSem Scal.complex angReal rg.e x.2 *ᵥ ψ) ⬝ᵥ (O *ᵥ (circSem Scal.complex angReal rg.e x.2 *ᵥ ψ))))).sum)
        time := by
  rw [timeEvolution_eq, guard_eq_ok] at hev
  have hacc : ∀ t ∈ h, acc negl t = true := hev.1.resolve_left (by omega)
  rw [derivatives_eq realAlg negl h time n hn, guard_eq_ok] at hl
  obtain ⟨_, rfl⟩ := hl
  have hg : Good rg h := fun t ht => ⟨hcov t ht, hnd t ht⟩
  exact ⟨Wt rg n h, fun s => ⟨_, by rw [timeEvolution_eq, if_pos (Or.inr hacc)], timeEvolution_sem rg n h hg s⟩,
    derivative_sem rg h hg time n hn O ψ⟩

end complex

/-- Y₂·X₀ (unsorted insertion order, a gap) with coefficient 1/2 at time τ: the circuit the code builds -/
example : evolutionForTerm ratAlg ratNegl ⟨[(2, .Y), (0, .X)], (1/2, 0)⟩ (1, 0) = .ok
    [⟨.H, [0]⟩, ⟨.RX (0, 1/2), [2]⟩, ⟨.CNOT, [0, 2]⟩, ⟨.RZ (1, 0), [2]⟩, ⟨.CNOT, [0, 2]⟩, ⟨.RXdg (0, 1/2), [2]⟩, ⟨.H, [0]⟩] := by
  decide +kernel
/-- the hypotheses of `term_evolution` on that term: distinct qubits, covered by the 3-qubit register, non-constant -/
example : ((([(2, .Y), (0, .X)] : List (ℕ × P))).map (·.1)).Nodup ∧
    (Register.fin 2).Covers (⟨[(2, .Y), (0, .X)], ((1/2 : Rat), (0 : Rat))⟩ : Term (Rat × Rat)) :=
  ⟨by decide, Register.fin_covers 2 _ (by decide)⟩
/-- the constants over ℂ satisfy the laws; π/2 is sent to (1/√2, 1/√2) -/
example : ScalLaws Scal.complex ∧ angReal (realAlg.smul (1 / ((2 : ℕ) : ℝ)) realAlg.pi) = ⟨Scal.complex.r, Scal.complex.r⟩ :=
  ⟨scalLaws_complex, angReal_half_pi⟩
/-- rejected: negative and positive imaginary parts; accepted: exactly the threshold 1e-9; constant ⇒ empty -/
example : evolutionForTerm ratAlg ratNegl ⟨[(0, .Z)], (1, -1)⟩ (1, 0) = .error .value := by decide +kernel
example : evolutionForTerm ratAlg ratNegl ⟨[(0, .Z)], (1, 1/100000000)⟩ (1, 0) = .error .value := by decide +kernel
example : evolutionForTerm ratAlg ratNegl ⟨[(0, .Z)], (1, -1/1000000000)⟩ (1, 0) = .ok [⟨.RZ (2, 0), [0]⟩] := by decide +kernel
example : evolutionForTerm ratAlg ratNegl ⟨[], (2, 1)⟩ (1, 0) = .ok [] := by decide +kernel
/-- two terms, two steps: per-term circuits at time t/2, listed order, repeated twice -/
example : timeEvolution ratAlg ratNegl [⟨[(0, .X)], (1, 0)⟩, ⟨[(0, .Z)], (3, 0)⟩] (2, 0) 2 = .ok
    [⟨.H, [0]⟩, ⟨.RZ (2, 0), [0]⟩, ⟨.H, [0]⟩, ⟨.RZ (6, 0), [0]⟩,
     ⟨.H, [0]⟩, ⟨.RZ (2, 0), [0]⟩, ⟨.H, [0]⟩, ⟨.RZ (6, 0), [0]⟩] := by decide +kernel
/-- sequence: position 1 of 3 -/
example : generateCircuitSequence [⟨GateK.H, [0]⟩] [⟨(GateK.CNOT : GateK (Rat × Rat)), [0, 1]⟩] 3 1
    = .ok [⟨.H, [0]⟩, ⟨.CNOT, [0, 1]⟩, ⟨.H, [0]⟩] := by decide +kernel
example : generateCircuitSequence [⟨GateK.H, [0]⟩] [⟨(GateK.CNOT : GateK (Rat × Rat)), [0, 1]⟩] 2 2 = .error .value := by
  decide +kernel

/-- derivative circuits for Z₀ + 2·I with two steps: 8 circuits, factors ±1/2, ±1 per position (the constant term's
    two circuits coincide, so they cancel) -/
example : (derivatives ratAlg ratNegl [⟨[(0, .Z)], (1, 0)⟩, ⟨[], (2, 0)⟩] (2, 0) 2).toOption.map
      (fun l => l.map (·.1)) = some [1/2, -1/2, 1, -1, 1/2, -1/2, 1, -1] := by decide +kernel
example : (derivatives ratAlg ratNegl [⟨[(0, .X)], (1, 0)⟩] (2, 0) 1) = .ok
    [(1, [⟨.H, [0]⟩, ⟨.RZ (4, 1/2), [0]⟩, ⟨.H, [0]⟩]), (-1, [⟨.H, [0]⟩, ⟨.RZ (4, -1/2), [0]⟩, ⟨.H, [0]⟩])] := by
  decide +kernel
/-- zero coefficients (fixed 9211baa: formerly ZeroDivisionError): the term is skipped – no circuits, no factors –
    while it still appears (as RZ(0)) inside the circuits of the other terms -/
example : derivatives ratAlg ratNegl [⟨[(0, .Z)], (0, 0)⟩] (1, 0) 1 = .ok [] := by decide +kernel
example : (derivatives ratAlg ratNegl [⟨[(0, .X)], (1, 0)⟩, ⟨[(1, .Z)], (0, 0)⟩] (1, 0) 2).toOption.map
      (fun l => l.map (fun x => (x.1, x.2.length))) = some [(1/2, 8), (-1/2, 8), (1/2, 8), (-1/2, 8)] := by
  decide +kernel
/-- an imaginary part is rejected by the derivative function as well (through `time_evolution_for_term`) -/
example : derivatives ratAlg ratNegl [⟨[(0, .X)], (1, -1)⟩] (1, 0) 1 = .error .value := by decide +kernel

/-- the hypotheses of `derivative_correct` are met over ℝ by X₀Y₁ + ½·Z₁ + 0·Z₀ (a zero coefficient) with two steps,
    at every time: the derivative circuits are returned, the evolution circuit exists, the register covers the terms -/
example [DecidableEq ℝ] (time : ℝ) :
    (∃ l, derivatives realAlg (fun _ => true)
        [⟨[(0, .X), (1, .Y)], (1, 0)⟩, ⟨[(1, .Z)], (1/2, 0)⟩, ⟨[(0, .Z)], (0, 0)⟩] time 2 = .ok l) ∧
    (∃ C0, timeEvolution realAlg (fun _ => true)
        [⟨[(0, .X), (1, .Y)], (1, 0)⟩, ⟨[(1, .Z)], (1/2, 0)⟩, ⟨[(0, .Z)], (0, 0)⟩] time 2 = .ok C0) ∧
    (∀ t ∈ ([⟨[(0, .X), (1, .Y)], (1, 0)⟩, ⟨[(1, .Z)], (1/2, 0)⟩, ⟨[(0, .Z)], (0, 0)⟩] : PSum (ℝ × ℝ)),
      (Register.fin 1).Covers t ∧ (t.ops.map (·.1)).Nodup) := by
  refine ⟨?_, ?_, ?_⟩
  · exact (derivatives_defined realAlg (fun _ => true) _ time 2 (by norm_num)).1 (fun t _ => by simp [acc])
  · exact ⟨_, by rw [timeEvolution_eq, if_pos (Or.inr fun t _ => by simp [acc])]⟩
  · intro t ht
    simp only [List.mem_cons, List.not_mem_nil, or_false] at ht
    rcases ht with rfl | rfl | rfl <;> exact ⟨Register.fin_covers 1 _ (by decide), by decide⟩

end OQ.C16
