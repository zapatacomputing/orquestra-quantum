/- C07 — PROPERTY THEOREMS (translation tie of the `matrix` PROPERTIES of the gate classes, work package T17).
   `OQ.Generated.TranslatedGates.Gate.matrix` (file OQ/Generated/TranslatedGatesMatrix.lean) is REGENERATED on every run from the
   current source of `MatrixFactoryGate.matrix`, `ControlledGate.matrix`, `Dagger.matrix`, `Exponential.matrix`, `Power.matrix` of
   `circuits/_gates.py` (harness/translate_t17.py: ONE function by cases on the class over the inductive of the class translator,
   each case rendered mechanically from that class's property body; the sympy operations `matrix_factory(*params)`, `sympy.eye`,
   `sympy.Matrix.diag`, `.adjoint()`, `.exp()`, `**` are the fields of the PARAMETER record `MExt`, each may raise, calls bound in
   Python's evaluation order), together with the dataclass `GateOperation` and its `lifted_matrix`.
   The theorems prove that this regenerated function IS the hand-written model `gateMatrix` of OQ/Model/C07.lean (the object every
   matrix theorem of C07 speaks about) for ALL gates, under the instantiation `mext` of the sympy operations by the model's matrix
   operations (OQ/Model/C07_T17.lean): an edit of one of the five `matrix` bodies (other block order, a dropped
   `.adjoint()`, another dimension of the identity block, …) changes the generated definition and the equality stops checking.

   ASSUMED about sympy (= the instantiation `mext`): `sympy.eye(n)` is the n×n identity, `Matrix.diag(A, B)` the block-diagonal matrix
   `diagBlocks A B`, `.adjoint()` the conjugate transpose, `M ** e` the model's `mpow` (repeated product for integer `e ≥ 0`, of the
   external inverse for `e < 0`, the external `mfrac` otherwise) and `.exp()` the external `mexp`; the laws of `minv` / `mfrac` / `mexp`
   are the hypotheses `ExtLaws` / `ExpLaw` of the end-to-end theorems, exactly as in Props/C07.lean.  `2 ** num_qubits` is rendered
   `2 ^ Int.toNat num_qubits` (trusted for `num_qubits ≥ 0`; every embedded gate has a natural number of qubits).
   The structural methods are used under `noSymbols` as in C07_TranslatedGates.lean (the numeric model has no symbols).
   Not translated: `GateOperation.apply`. -/
import OQ.Lemmas.C07_TranslatedMatrix
import OQ.Props.C07_TranslatedGates
namespace OQ.C07
open OQ.Generated Matrix
namespace TG

section Tie
variable {P R : Type} [Zero R] [One R] [Add R] [Mul R]

/-- TRANSLATION TIE: the property `.matrix` of all five classes (`matrix_factory(*params)`; `Matrix.diag(eye(2**n_total − 2**n_wrapped),
    wrapped.matrix)`; `wrapped.matrix.adjoint()`; `wrapped.matrix.exp()`; `wrapped.matrix ** exponent`), regenerated from the source, is
    the model's `gateMatrix` – same matrix, or the same exception at the same place; EVERY gate, every conjugation `cj`, every
    external record `x` (no hypothesis on the externals), under the instantiation `mext`. -/
theorem translated_matrix_eq (cj : R → R) (x : Ext R) (ls ln : LiftFn R) (g : Gate P R) :
    TranslatedGates.Gate.matrix (mext cj x ls ln) (emb g) = gateMatrix cj x g := by
  induction g with
  | base b => rfl
  | controlled g k ih =>
    have hq : TranslatedGates.Gate.num_qubits (TranslatedGates.Gate.ControlledGate (emb g) ((k : Int) + 1)) =
        ((g.numQubits + (k + 1) : Nat) : Int) := translated_num_qubits_eq (.controlled g k)
    simp only [emb, TranslatedGates.Gate.matrix, gateMatrix, ih, hq, translated_num_qubits_eq]
    simp only [mext, ok_bind, eye_dim]
    cases gateMatrix cj x g with
    | error e => rfl
    | ok M => simp only [ok_bind, diagBlocks_identity]
  | dagger g ih => simp only [emb, TranslatedGates.Gate.matrix, gateMatrix, ih]; rfl
  | power g e ih => simp only [emb, TranslatedGates.Gate.matrix, gateMatrix, ih]; rfl
  | exponential g ih => simp only [emb, TranslatedGates.Gate.matrix, gateMatrix, ih]; rfl

/-- the tie reaches EVERY object of the generated classes that the constructor guards let through (`emb_surjective_on_valid`): its
    translated `.matrix` is the model's matrix of the model gate it is the image of -/
theorem translated_matrix_on_valid (cj : R → R) (x : Ext R) (ls ln : LiftFn R) (t : TGate P R) (h : TValid t) :
    ∃ g : Gate P R, emb g = t ∧ TranslatedGates.Gate.matrix (mext cj x ls ln) t = gateMatrix cj x g := by
  obtain ⟨g, hg⟩ := emb_surjective_on_valid t h
  exact ⟨g, hg, hg ▸ translated_matrix_eq cj x ls ln g⟩

end Tie

section Lifted
variable {P F E S M Mx X : Type}

/-- `GateOperation.lifted_matrix(num_qubits)` ON THE TRANSLATED CODE, for every gate, every instantiation of the externals: the gate's
    (translated) matrix is computed, and the branch `if self.gate.free_symbols` only selects WHICH embedding routine receives it together
    with the operation's qubit indices and the width – `_lift_matrix_numpy` exactly when the gate has no free symbols. -/
theorem translated_lifted_matrix_eq (x : TranslatedGates.Ext P S M) (y : TranslatedGates.MExt P F E Mx X)
    (t : TranslatedGates.Gate P F E) (qs : List Int) (n : Int) :
    TranslatedGates.GateOperation.lifted_matrix x y ⟨t, qs⟩ n =
      Except.bind (TranslatedGates.Gate.matrix y t) (fun m =>
        if (TranslatedGates.Gate.free_symbols x t).isEmpty then y.ext_lift_numpy m qs n else y.ext_lift_sympy m qs n) := by
  simp only [TranslatedGates.GateOperation.lifted_matrix]
  generalize TranslatedGates.Gate.free_symbols x t = fs
  generalize TranslatedGates.Gate.matrix y t = r
  cases fs <;> cases r <;> rfl

end Lifted

section EndToEnd
variable {P R : Type} [CommRing R] [StarRing R] {x : Ext R}

/-- `GateOperation.lifted_matrix` of the numeric model (no symbols): the NUMERIC embedding of the model's gate matrix -/
theorem translated_lifted_matrix_numeric (ls ln : LiftFn R) (g : Gate P R) (qs : List Int) (n : Int) :
    TranslatedGates.GateOperation.lifted_matrix (noSymbols P) (mext star x ls ln) ⟨emb g, qs⟩ n =
      Except.bind (gateMatrix star x g) (fun m => ln m qs n) := by
  rw [translated_lifted_matrix_eq, translated_free_symbols_eq, translated_matrix_eq]
  rfl

/-- END-TO-END ON THE CODE AS IT IS NOW (`controlled_matrix_block`): for every method-built gate `g` whose factories return
    `2^n × 2^n` matrices, the matrix computed by the TRANSLATED `.matrix` of the gate returned by the TRANSLATED `.controlled(m+1)`
    is the identity on the first `2^n (2^(m+1) − 1)` basis states followed by the TRANSLATED `.matrix` of `g` in the last block
    (including the merge of the control counts when `g` is already a `ControlledGate`). -/
theorem translated_controlled_block (ls ln : LiftFn R) (hx : ExtLaws x) (g : Gate P R) (hcn : g.Canon) (hw : WellDim g) (m : Nat)
    (t : TGate P R) (M M' : Mat R)
    (ht : TranslatedGates.Gate.controlled (noSymbols P) (emb g) ((m : Int) + 1) = .ok t)
    (hM : TranslatedGates.Gate.matrix (mext star x ls ln) (emb g) = .ok M)
    (hM' : TranslatedGates.Gate.matrix (mext star x ls ln) t = .ok M') :
    let d := 2 ^ g.numQubits
    let d0 := 2 ^ g.numQubits * (2 ^ (m + 1) - 1)
    M'.r = d0 + d ∧ M'.c = d0 + d ∧ ∀ i j, i < d0 + d → j < d0 + d →
      M'.get i j = if i < d0 ∧ j < d0 then (if i = j then 1 else 0)
        else if d0 ≤ i ∧ d0 ≤ j then M.get (i - d0) (j - d0) else 0 := by
  rw [translated_controlled_pos] at ht
  cases ht
  rw [translated_matrix_eq] at hM hM'
  exact controlled_matrix_block hx g hcn hw m M M' hM hM'

/-- END-TO-END (`dagger_adjoint_partial`): the TRANSLATED `.matrix` of the gate returned by the TRANSLATED `.dagger` is the conjugate
    transpose of the TRANSLATED `.matrix` of the gate – PARTIAL exactly as the model-level theorem: gates without a fractional
    `Power` (`NoFrac`; with one the sentence is false of the code, finding F16), truthful `is_hermitian` flags, `exp(Aᴴ) = exp(A)ᴴ`. -/
theorem translated_dagger_adjoint_partial (ls ln : LiftFn R) (hx : ExtLaws x)
    (Ex : ∀ d, Matrix (Fin d) (Fin d) R → Matrix (Fin d) (Fin d) R) (hE : ExpLaw x Ex) (hEs : ∀ d A, Ex d Aᴴ = (Ex d A)ᴴ)
    (g : Gate P R) (hw : WellDim g) (hnf : NoFrac g) (hh : HermOK g) (t : TGate P R) (M M' : Mat R) (D : Nat)
    (ht : TranslatedGates.Gate.dagger (noSymbols P) (emb g) = .ok t)
    (hM : TranslatedGates.Gate.matrix (mext star x ls ln) (emb g) = .ok M)
    (hM' : TranslatedGates.Gate.matrix (mext star x ls ln) t = .ok M') (hr : M.r = D) (hc : M.c = D) :
    M'.r = D ∧ M'.c = D ∧ Mat.toM D D M' = (Mat.toM D D M)ᴴ := by
  rw [translated_dagger_eq] at ht
  cases ht
  rw [translated_matrix_eq] at hM hM'
  exact dagger_adjoint_partial hx Ex hE hEs g hw hnf hh M M' D hM hM' hr hc

/-- END-TO-END (`ipow_matrix`): for an integer exponent `n ≥ 0` the TRANSLATED `.matrix` of the gate returned by the TRANSLATED
    `.power(n)` is the `n`-fold product of the TRANSLATED `.matrix` of the gate; every gate (the power is pushed under the controls). -/
theorem translated_ipow_matrix (ls ln : LiftFn R) (hx : ExtLaws x) (g : Gate P R) (e : Rat) (he : e.den = 1) (hn : 0 ≤ e.num)
    (t : TGate P R) (M M' : Mat R) (D : Nat)
    (ht : TranslatedGates.Gate.power (noSymbols P) (emb g) e = .ok t)
    (hM : TranslatedGates.Gate.matrix (mext star x ls ln) (emb g) = .ok M)
    (hM' : TranslatedGates.Gate.matrix (mext star x ls ln) t = .ok M') (hr : M.r = D) (hc : M.c = D) :
    M'.r = D ∧ M'.c = D ∧ Mat.toM D D M' = Mat.toM D D M ^ e.num.toNat := by
  rw [translated_power_eq] at ht
  cases ht
  rw [translated_matrix_eq] at hM hM'
  exact ipow_matrix hx g e he hn M M' D hM hM' hr hc

/-- END-TO-END (`ipow_neg_matrix`): for a negative integer exponent, the `|n|`-fold product of a two-sided inverse. -/
theorem translated_ipow_neg_matrix (ls ln : LiftFn R) (hx : ExtLaws x) (g : Gate P R) (e : Rat) (he : e.den = 1) (hn : e.num < 0)
    (t : TGate P R) (M M' : Mat R) (D : Nat)
    (ht : TranslatedGates.Gate.power (noSymbols P) (emb g) e = .ok t)
    (hM : TranslatedGates.Gate.matrix (mext star x ls ln) (emb g) = .ok M)
    (hM' : TranslatedGates.Gate.matrix (mext star x ls ln) t = .ok M') (hr : M.r = D) (hc : M.c = D) :
    M'.r = D ∧ M'.c = D ∧ ∃ W : Matrix (Fin D) (Fin D) R,
      W * Mat.toM D D M = 1 ∧ Mat.toM D D M * W = 1 ∧ Mat.toM D D M' = W ^ (-e.num).toNat := by
  rw [translated_power_eq] at ht
  cases ht
  rw [translated_matrix_eq] at hM hM'
  exact ipow_neg_matrix hx g e he hn M M' D hM hM' hr hc

/-- END-TO-END (`root_matrix`): for the exponent `1/q` a matrix whose `q`-th power is the TRANSLATED `.matrix` of the gate (the `q`-th
    root law is the hypothesis `ExtLaws.root` on sympy's fractional power). -/
theorem translated_root_matrix (ls ln : LiftFn R) (hx : ExtLaws x) (g : Gate P R) (e : Rat) (he : e.num = 1) (hq : 2 ≤ e.den)
    (t : TGate P R) (M M' : Mat R) (D : Nat)
    (ht : TranslatedGates.Gate.power (noSymbols P) (emb g) e = .ok t)
    (hM : TranslatedGates.Gate.matrix (mext star x ls ln) (emb g) = .ok M)
    (hM' : TranslatedGates.Gate.matrix (mext star x ls ln) t = .ok M') (hr : M.r = D) (hc : M.c = D) :
    M'.r = D ∧ M'.c = D ∧ Mat.toM D D M' ^ e.den = Mat.toM D D M := by
  rw [translated_power_eq] at ht
  cases ht
  rw [translated_matrix_eq] at hM hM'
  exact root_matrix hx g e he hq M M' D hM hM' hr hc

end EndToEnd

/-- END-TO-END (`exp_matrix`): when sympy's `.exp()` is the matrix exponential, the TRANSLATED `.matrix` of the gate returned by the
    TRANSLATED `.exp` is the matrix exponential of the TRANSLATED `.matrix` of the gate (over ℂ). -/
theorem translated_exp_matrix {P : Type} {x : Ext ℂ} (ls ln : LiftFn ℂ) (hE : ExpLaw x (fun _ A => NormedSpace.exp A))
    (g : Gate P ℂ) (t : TGate P ℂ) (M M' : Mat ℂ) (D : Nat)
    (ht : TranslatedGates.Gate.exp (noSymbols P) (emb g) = .ok t)
    (hM : TranslatedGates.Gate.matrix (mext star x ls ln) (emb g) = .ok M)
    (hM' : TranslatedGates.Gate.matrix (mext star x ls ln) t = .ok M') (hr : M.r = D) (hc : M.c = D) :
    Mat.toM D D M' = NormedSpace.exp (Mat.toM D D M) := by
  rw [translated_exp_eq] at ht
  cases ht
  rw [translated_matrix_eq] at hM hM'
  exact exp_matrix hE g M M' D hM hM' hr hc

/-! ### non-vacuity: the TRANSLATED `matrix` on concrete objects -/
section Examples
open Inst

/-- the embedding routines as markers (not called by `.matrix`) -/
def noLift : LiftFn ℤ := fun _ _ _ => .error (.ext "lift")
abbrev yZ : TranslatedGates.MExt Unit (List Unit → Except Err (Mat ℤ)) Rat (Mat ℤ) Err := mext id (extNone ℤ) noLift noLift
def mrows (r : Except Err (Mat ℤ)) : Option (List (List ℤ)) := r.toOption.map Mat.toLists
def raises (e : Err) (r : Except Err (Mat ℤ)) : Bool := match r with
  | .error e' => e' == e
  | .ok _ => false

-- V = [[1,2],[3,4]] under one control: identity block first, V in the last block
example : mrows (TranslatedGates.Gate.matrix yZ (emb (v.ctlP 0))) =
    some [[1, 0, 0, 0], [0, 1, 0, 0], [0, 0, 1, 2], [0, 0, 3, 4]] := by decide +kernel
-- dagger: the transpose (integers); power 2: the square
example : mrows (TranslatedGates.Gate.matrix yZ (emb v.daggerM)) = some [[1, 3], [2, 4]] := by decide +kernel
example : mrows (TranslatedGates.Gate.matrix yZ (emb (v.powerM 2))) = some [[7, 10], [15, 22]] := by decide +kernel
-- a raising external is propagated (negative power: the inverse is external), exp likewise
example : raises .noninv (TranslatedGates.Gate.matrix yZ (emb (v.powerM (-1)))) = true := by decide +kernel
example : (TranslatedGates.Gate.matrix yZ (emb v.expM)).toOption.isNone = true := by decide +kernel
-- the hypotheses of the end-to-end theorems are satisfiable on the translated code
example : ∃ t M M', ExtLaws (extNone ℤ) ∧ (v.ctlP 0).Canon ∧ WellDim (v.ctlP 0) ∧
    TranslatedGates.Gate.controlled (noSymbols Unit) (emb (v.ctlP 0)) ((1 : Nat) + 1) = .ok t ∧
    TranslatedGates.Gate.matrix yZ (emb (v.ctlP 0)) = .ok M ∧ TranslatedGates.Gate.matrix yZ t = .ok M' :=
  ⟨_, _, _, extNone_laws ℤ, canon_reachable _ [.controlled 0], v_wellDim, translated_controlled_pos _ 1,
    translated_matrix_eq id _ _ _ _, translated_matrix_eq id _ _ _ _⟩
-- lifted_matrix: the numeric routine is the one that is called when there are no symbols
example : raises (.ext "lift") (TranslatedGates.GateOperation.lifted_matrix (noSymbols Unit) yZ ⟨emb v, [0]⟩ 1) = true := by
  decide +kernel
end Examples

end TG
end OQ.C07
