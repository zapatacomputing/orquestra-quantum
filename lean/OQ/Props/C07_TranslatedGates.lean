/- C07 — PROPERTY THEOREMS (translation tie of the gate CLASSES).
   `OQ.Generated.TranslatedGates` is REGENERATED on every run from the current source of the dataclasses `MatrixFactoryGate`,
   `ControlledGate`, `Dagger`, `Exponential`, `Power` of `circuits/_gates.py` (harness/translate_cls.py: one inductive constructor
   per class with the dataclass fields in source order, one Lean function per method / property defined by cases on the class,
   each case rendered mechanically from that class's method body, constructor calls through `mk_<Class>` = `__post_init__`).
   The theorems below prove that these regenerated rules ARE the hand-written model `OQ/Model/C07.lean` (the object every other
   theorem of C07 speaks about), for ALL gates and all arguments; an edit of a method body, of a `__post_init__` guard or of the
   field list changes the generated definitions and these equalities stop checking at build time.

   Reading guide.  `emb` embeds the model's gate tree into the generated `Gate P F E` (`F` := the model's factory type, `E` := `Rat`;
   the model stores `num_control_qubits − 1 : Nat`, the code stores the count itself; `num_qubits` is a `Nat` in the model).
   The numeric model of C07 has no symbols: the externals are INSTANTIATED by `noSymbols` (`get_free_symbols := fun _ => []`,
   so the `Power` / `Exponential` constructor guards never fire) – that instantiation is the assumption under which the model's
   total `powerM` / `expM` / `daggerM` are the code (with symbols the guard is part of C06's model, see C06_TranslatedGates).
   `toModel` only renames the exception classes (`ValueError ↦ Err.value`); it is injective, so an equation
   `toModel r = (model result).map emb` determines `r`.  Not translated: `name`, `__str__`, `__eq__`, `__call__`; `matrix` is tied in
   C07_TranslatedMatrix.lean. -/
import OQ.Lemmas.C07_TranslatedGates
import OQ.Props.C07
namespace OQ.C07
open OQ.Generated
namespace TG
variable {P R : Type}

/-- TRANSLATION TIE: the property `.params` of all five classes (field of `MatrixFactoryGate`, forwarded by the wrappers),
    regenerated from the source, is the model's `Gate.params`; every gate. -/
theorem translated_params_eq (g : Gate P R) : TranslatedGates.Gate.params (emb g) = g.params := by
  induction g with
  | base b => rfl
  | _ => assumption

/-- TRANSLATION TIE: `.num_qubits` (`ControlledGate`: `wrapped.num_qubits + num_control_qubits`, other wrappers forward) is the
    model's `Gate.numQubits`; every gate. -/
theorem translated_num_qubits_eq (g : Gate P R) : TranslatedGates.Gate.num_qubits (emb g) = (g.numQubits : Int) := by
  induction g with
  | base b => rfl
  | controlled g k ih => simp only [emb, TranslatedGates.Gate.num_qubits, Gate.numQubits, ih]; push_cast; ring
  | _ => assumption

/-- `.free_symbols` (`get_free_symbols(self.params)` on every class, inherited from the protocol where not overridden) under the
    instantiation `noSymbols`: empty for every object of the generated classes – the hypothesis of the numeric model, stated as
    the instantiation it is. -/
theorem translated_free_symbols_eq (t : TGate P R) : TranslatedGates.Gate.free_symbols (noSymbols P) t = [] :=
  free_symbols_none t

/-- TRANSLATION TIE: the constructor call `ControlledGate(g, n)` with `__post_init__` (`ValueError` when `n < 1`) is the model's
    `mkControlled`; every gate, every Python int `n`. -/
theorem translated_mk_ControlledGate_eq (g : Gate P R) (n : Int) :
    toModel (TranslatedGates.mk_ControlledGate (emb g) n) = (Gate.mkControlled g n).map emb := by
  unfold TranslatedGates.mk_ControlledGate Gate.mkControlled
  by_cases h : n < 1
  · rw [if_pos h, if_pos h]; rfl
  · rw [if_neg h, if_neg h]
    refine congrArg Except.ok (?_ : TranslatedGates.Gate.ControlledGate (emb g) n = emb (.controlled g (n - 1).toNat))
    rw [emb]; congr 1; omega

/-- TRANSLATION TIE: `.power(exponent)` of all five classes (`ControlledGate.power` pushes the power under the controls and
    re-wraps through the constructor, the others return `Power(self, exponent)`) is the model's `powerM`; every gate, every
    exponent; under `noSymbols` the `Power.__post_init__` guard does not fire. -/
theorem translated_power_eq (g : Gate P R) (e : Rat) :
    TranslatedGates.Gate.power (noSymbols P) (emb g) e = .ok (emb (g.powerM e)) := by
  induction g with
  | controlled g k ih => simp [emb, TranslatedGates.Gate.power, Gate.powerM, ih, mk_ControlledGate_pos]
  | _ => simp [emb, TranslatedGates.Gate.power, Gate.powerM, mk_Power_ok]

/-- TRANSLATION TIE: `.exp` (`Exponential(self)` on every class) is the model's `expM`; every gate (under `noSymbols`). -/
theorem translated_exp_eq (g : Gate P R) :
    TranslatedGates.Gate.exp (noSymbols P) (emb g) = .ok (emb g.expM) := by
  cases g <;> simp [emb, TranslatedGates.Gate.exp, Gate.expM, mk_Exponential_ok]

/-- TRANSLATION TIE: `.dagger` (`self if self.is_hermitian else Dagger(self)`; `ControlledGate(wrapped.dagger, k)`; `Dagger` →
    `wrapped_gate`; `Exponential` → `wrapped.dagger.exp`; `Power` → `wrapped.dagger.power(exponent)`) is the model's `daggerM`;
    every gate (under `noSymbols`). -/
theorem translated_dagger_eq (g : Gate P R) :
    TranslatedGates.Gate.dagger (noSymbols P) (emb g) = .ok (emb g.daggerM) := by
  induction g with
  | base b =>
    rcases b with ⟨nm, f, ps, nq, h⟩
    cases h <;> simp [emb, TranslatedGates.Gate.dagger, Gate.daggerM, TranslatedGates.mk_Dagger]
  | _ =>
    simp [emb, TranslatedGates.Gate.dagger, Gate.daggerM, *, mk_ControlledGate_pos, translated_power_eq, translated_exp_eq]

set_option linter.unusedTactic false in
set_option linter.unreachableTactic false in
/-- TRANSLATION TIE: `.controlled(n)` of all five classes, for EVERY Python int `n` including the rejected ones (`ValueError` of
    `ControlledGate.__post_init__`; on a `ControlledGate` the counts are added first; `Dagger` / `Power` re-associate through the
    wrapped gate), is the model's checked `ctlI`; every gate. -/
theorem translated_controlled_eq (g : Gate P R) (n : Int) :
    toModel (TranslatedGates.Gate.controlled (noSymbols P) (emb g) n) = (g.ctlI n).map emb := by
  induction g with
  | base b => exact translated_mk_ControlledGate_eq (.base b) n
  | controlled g k ih =>
    simp only [emb, TranslatedGates.Gate.controlled, Gate.ctlI]
    -- the sum of the counts, in whichever order the source writes it
    convert translated_mk_ControlledGate_eq g ((k : Int) + 1 + n) using 3
    all_goals ring
  | dagger g ih | power g _ ih =>
    simp only [emb, TranslatedGates.Gate.controlled, Gate.ctlI, toModel_bind, ih]
    cases g.ctlI n <;> simp [translated_dagger_eq, translated_power_eq]
  | exponential g ih => exact translated_mk_ControlledGate_eq (.exponential g) n

/-- the tie of `.controlled` on the accepted counts: `.controlled(m + 1)` on the translated rules is the model's `ctlP`
    (about which the matrix theorems of C07 speak) -/
theorem translated_controlled_pos (g : Gate P R) (m : Nat) :
    TranslatedGates.Gate.controlled (noSymbols P) (emb g) ((m : Int) + 1) = .ok (emb (g.ctlP m)) := by
  apply toModel_eq_ok
  rw [translated_controlled_eq, Gate.ctlI_succ]
  rfl

/-- TRANSLATION TIE: `.replace_params(new_params)` of all five classes (`dataclasses.replace(self, params=…)` on the factory gate,
    "replace in the wrapped gate and re-apply the modifier METHOD" on the wrappers) is the model's `replaceParams`; every gate,
    every tuple (under `noSymbols`). -/
theorem translated_replace_params_eq (g : Gate P R) (ps : List P) :
    TranslatedGates.Gate.replace_params (noSymbols P) (emb g) ps = .ok (emb (g.replaceParams ps)) := by
  induction g with
  | base b => rfl
  | _ =>
    simp [emb, TranslatedGates.Gate.replace_params, Gate.replaceParams, *, translated_controlled_pos, translated_dagger_eq,
      translated_power_eq, translated_exp_eq]

/-- `toModel` loses nothing: the equations above determine the result of the translated method -/
theorem toModel_injective {α} {r1 r2 : Except TranslatedGates.Err α} (h : toModel r1 = toModel r2) : r1 = r2 := by
  cases r1 with
  | ok a => exact (toModel_eq_ok h.symm).symm
  | error e => cases r2 with
    | ok b => exact toModel_eq_ok h
    | error e' => cases e <;> cases e' <;> simp_all [toModel, errOf]

/-- the embedding reaches every object of the generated classes that the constructor guards let through (all control counts ≥ 1, a
    natural number of qubits on the factory gate): the ties above are statements about ALL such objects -/
theorem emb_surjective_on_valid (t : TGate P R) (h : TValid t) : ∃ g : Gate P R, emb g = t := by
  induction t with
  | MatrixFactoryGate nm f ps nq herm =>
    exact ⟨.base ⟨nm, f, ps, nq.toNat, herm⟩, by rw [emb, Int.toNat_of_nonneg h]⟩
  | ControlledGate t k ih =>
    obtain ⟨g, rfl⟩ := ih h.2
    exact ⟨.controlled g (k - 1).toNat, by rw [emb]; congr 1; have := h.1; omega⟩
  | Dagger t ih => obtain ⟨g, rfl⟩ := ih h; exact ⟨.dagger g, rfl⟩
  | Exponential t ih => obtain ⟨g, rfl⟩ := ih h; exact ⟨.exponential g, rfl⟩
  | Power t e ih => obtain ⟨g, rfl⟩ := ih h; exact ⟨.power g e, rfl⟩

/-- one call of a modifier method with a valid argument, by the TRANSLATED rules -/
def tApply : Gate.Mod → TGate P R → Except TranslatedGates.Err (TGate P R)
  | .dagger, t => TranslatedGates.Gate.dagger (noSymbols P) t
  | .controlled m, t => TranslatedGates.Gate.controlled (noSymbols P) t ((m : Int) + 1)
  | .power e, t => TranslatedGates.Gate.power (noSymbols P) t e
  | .exp, t => TranslatedGates.Gate.exp (noSymbols P) t

/-- a chain of modifier calls, left to right, by the TRANSLATED rules (the first exception ends it) -/
def tChain : TGate P R → List Gate.Mod → Except TranslatedGates.Err (TGate P R)
  | t, [] => .ok t
  | t, m :: ms => Except.bind (tApply m t) (fun t' => tChain t' ms)

/-- one modifier call by the translated rules on an embedded gate is the model's `Mod.apply` (the four method ties in one) -/
theorem tApply_emb (m : Gate.Mod) (g : Gate P R) : tApply m (emb g) = .ok (emb (m.apply g)) := by
  cases m with
  | dagger => exact translated_dagger_eq g
  | controlled k => exact translated_controlled_pos g k
  | power e => exact translated_power_eq g e
  | exp => exact translated_exp_eq g

/-- any chain of modifier calls computed by the TRANSLATED rules never raises (valid counts, no symbols) and returns the gate the
    model's methods build -/
theorem translated_chain_eq (g : Gate P R) (ms : List Gate.Mod) :
    tChain (emb g) ms = .ok (emb (Gate.applyChain g ms)) := by
  induction ms generalizing g with
  | nil => rfl
  | cons m ms ih =>
    simp only [tChain, tApply_emb, ok_bind, ih]
    rfl

/-- the number of control qubits a modifier adds -/
def extraQubits : Gate.Mod → Nat
  | .controlled m => m + 1
  | _ => 0

/-- END-TO-END ON THE CODE AS IT IS NOW ("the modified gate reports the implied number of qubits"): `num_qubits` of ANY chain of
    `.dagger` / `.controlled(m+1)` / `.power(e)` / `.exp` calls over a factory gate, computed by the TRANSLATED methods and the
    TRANSLATED property, is the base gate's number plus the sum of the control counts (`numQubits_dagger_power_exp`,
    `Gate.numQubits_ctlP` through the tie). -/
theorem translated_chain_num_qubits (b : Base P R) (ms : List Gate.Mod) :
    ∃ t, tChain (P := P) (R := R) (.MatrixFactoryGate b.name b.factory b.params (b.numQubits : Int) b.hermitian) ms = .ok t ∧
      TranslatedGates.Gate.num_qubits t = (b.numQubits : Int) + ((ms.map extraQubits).sum : Nat) := by
  refine ⟨emb (Gate.applyChain (.base b) ms), translated_chain_eq (.base b) ms, ?_⟩
  rw [translated_num_qubits_eq]
  have step : ∀ (m : Gate.Mod) (g : Gate P R), (m.apply g).numQubits = g.numQubits + extraQubits m := by
    intro m g
    cases m with
    | dagger => exact Gate.numQubits_daggerM g
    | controlled k => exact Gate.numQubits_ctlP g k
    | power e => exact Gate.numQubits_powerM g e
    | exp => rfl
  have key : ∀ g : Gate P R, (Gate.applyChain g ms).numQubits = g.numQubits + (ms.map extraQubits).sum := by
    induction ms with
    | nil => intro g; rfl
    | cons m ms ih => intro g; rw [List.map_cons, List.sum_cons, ← Nat.add_assoc, ← step]; exact ih (m.apply g)
  rw [key]; rfl

/-- END-TO-END (`numQubits_controlled` on the translated rules): whenever the TRANSLATED `.controlled(n)` accepts (any Python int
    `n`, including the merge with an existing `ControlledGate`), the TRANSLATED `num_qubits` of the result is `n` more. -/
theorem translated_num_qubits_controlled (g : Gate P R) (n : Int) (t : TGate P R)
    (h : TranslatedGates.Gate.controlled (noSymbols P) (emb g) n = .ok t) :
    TranslatedGates.Gate.num_qubits t = TranslatedGates.Gate.num_qubits (emb g) + n := by
  obtain ⟨g', hc, rfl⟩ := (map_eq_ok _ _ _).1 ((translated_controlled_eq g n).symm.trans (congrArg toModel h))
  rw [translated_num_qubits_eq, translated_num_qubits_eq]
  exact numQubits_controlled g g' n hc

/-- END-TO-END (last sentence of C07 on the translated rules, `replaceParams_commutes`): for every chain of modifier calls, the
    TRANSLATED `replace_params(ps)` of the TRANSLATED chain over a factory gate is the TRANSLATED chain over the factory gate built
    with `ps` – replacing parameters commutes with the modifiers. -/
theorem translated_replace_params_commutes (b : Base P R) (ms : List Gate.Mod) (ps : List P) :
    Except.bind (tChain (P := P) (R := R) (.MatrixFactoryGate b.name b.factory b.params (b.numQubits : Int) b.hermitian) ms)
        (fun t => TranslatedGates.Gate.replace_params (noSymbols P) t ps) =
      tChain (.MatrixFactoryGate b.name b.factory ps (b.numQubits : Int) b.hermitian) ms := by
  have h1 := translated_chain_eq (.base b) ms
  have h2 := translated_chain_eq (.base { b with params := ps }) ms
  simp only [emb] at h1 h2
  rw [h1, h2, ok_bind, translated_replace_params_eq, replaceParams_commutes]

/-- END-TO-END (`dagger_involutive` on the translated rules): for every gate the modifier methods can build from a factory gate,
    the TRANSLATED `.dagger` applied twice returns the gate itself. -/
theorem translated_dagger_involutive (b : Base P R) (ms : List Gate.Mod) :
    ∃ t, tChain (P := P) (R := R) (.MatrixFactoryGate b.name b.factory b.params (b.numQubits : Int) b.hermitian) ms = .ok t ∧
      Except.bind (TranslatedGates.Gate.dagger (noSymbols P) t) (TranslatedGates.Gate.dagger (noSymbols P)) = .ok t := by
  refine ⟨emb (Gate.applyChain (.base b) ms), translated_chain_eq (.base b) ms, ?_⟩
  rw [translated_dagger_eq, ok_bind, translated_dagger_eq, dagger_involutive _ (canon_reachable b ms)]

/-- END-TO-END (`power_controlled` on the translated rules): `g.power(e).controlled(m+1)` and `g.controlled(m+1).power(e)`
    computed by the TRANSLATED methods are the same gate, for every gate. -/
theorem translated_power_controlled (g : Gate P R) (e : Rat) (m : Nat) :
    Except.bind (TranslatedGates.Gate.power (noSymbols P) (emb g) e)
        (fun t => TranslatedGates.Gate.controlled (noSymbols P) t ((m : Int) + 1)) =
      Except.bind (TranslatedGates.Gate.controlled (noSymbols P) (emb g) ((m : Int) + 1))
        (fun t => TranslatedGates.Gate.power (noSymbols P) t e) := by
  rw [translated_power_eq, translated_controlled_pos, ok_bind, ok_bind, translated_controlled_pos, translated_power_eq,
    power_controlled]

/-! ### non-vacuity: the TRANSLATED definitions on concrete objects -/
section Examples

/-- a hermitian `X`-like factory gate and a non-hermitian `T`-like one, over integer parameters and an opaque factory -/
abbrev XGate := TranslatedGates.Gate Int String Rat
def xg : XGate := .MatrixFactoryGate "X" "x_matrix" [] 1 true
def tg : XGate := .MatrixFactoryGate "T" "t_matrix" [] 1 false
def rx (p : Int) : XGate := .MatrixFactoryGate "RX" "rx_matrix" [p] 1 false
def ns : TranslatedGates.Ext Int Empty Unit := ⟨fun _ => [], fun p _ => p⟩
abbrev XRes := Except TranslatedGates.Err XGate

example : (TranslatedGates.Gate.controlled ns tg 2).toOption.map TranslatedGates.Gate.num_qubits = some 3 := by decide
example : (TranslatedGates.Gate.controlled ns tg 0).toOption.map TranslatedGates.Gate.num_qubits = none := by decide
example : ((TranslatedGates.Gate.controlled ns tg 2).bind (fun t => TranslatedGates.Gate.controlled ns t 3)).toOption.map
    TranslatedGates.Gate.num_qubits = some 6 := by decide
example : TranslatedGates.Gate.controlled ns tg 0 = (.error .ValueError : XRes) := rfl
example : TranslatedGates.Gate.dagger ns xg = (.ok xg : XRes) := rfl
example : TranslatedGates.Gate.dagger ns tg = (.ok (.Dagger tg) : XRes) := rfl
example : (TranslatedGates.Gate.dagger ns tg).bind (TranslatedGates.Gate.dagger ns) = (.ok tg : XRes) := rfl
example : (TranslatedGates.Gate.power ns tg (1/2)).bind (TranslatedGates.Gate.dagger ns) =
    (.ok (.Power (.Dagger tg) (1/2)) : XRes) := rfl
example : TranslatedGates.Gate.controlled ns (.Dagger tg) 2 = (.ok (.ControlledGate (.Dagger tg) 2) : XRes) := rfl
example : TranslatedGates.Gate.replace_params ns (.ControlledGate (.Dagger (rx 7)) 2) [9] =
    (.ok (.ControlledGate (.Dagger (rx 9)) 2) : XRes) := rfl
example : TValid (P := Int) (R := Int) (.ControlledGate (.MatrixFactoryGate "X" (fun _ => .error .type) [] 1 true) 2) := by
  simp [TValid]
end Examples

end TG
end OQ.C07
