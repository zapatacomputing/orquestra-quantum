/-
  C02 — PROPERTY THEOREMS: every built-in gate is a valid unitary that keeps its textbook identities.
  Model: OQ/Model/Gates.lean (the 27 matrix factories), OQ/Model/C02.lean (gate table, `.matrix`, `.dagger`),
  OQ/Generated/GateTable.lean (re-extracted from the Python module on every run).
  Helper lemmas: OQ/Lemmas/C02.lean, C02_Complex.lean (R = ℂ, real angles), C02_Cyc8.lean (R = ℚ(ζ₈), the driver's ring).

  Reading guide.  `k : Scal R` are the constants (i, 1/√2, e^{iπ/4}, 1/2) with the laws `Laws k`; an angle θ
  enters as the point `a = (cos θ/2, sin θ/2)` with the laws `Valid a` (on the circle, real coordinates).
  Every generic theorem holds over every commutative ⋆-ring; `real_*` are the corollaries at R = ℂ for ALL
  real angles, `driver_*` the corollaries for the exact values the model driver computes.
-/
import OQ.Lemmas.C02
import OQ.Lemmas.C02_Complex
import OQ.Lemmas.C02_Cyc8

namespace OQ.C02
open OQ OQ.Mat Matrix OQ.Generated

/-- "all 27 built-in gates": the gates bound in `_builtin_gates.py` are exactly the 27 names the model covers,
    in definition order, and no name occurs twice -/
theorem table_names :
    gateTable.map Row.name = Gates.builtinNames ∧ gateTable.length = 27 ∧ (gateTable.map Row.name).Nodup := by
  decide +kernel

/-- "the gate's matrix can be computed, is square of dimension two to the number of qubits the gate declares":
    for every row of the generated table and ANY parameter values of the right number (no law needed) -/
theorem builtin_dim {R : Type} [Zero R] [One R] [Add R] [Mul R] [Neg R] (k : Scal R) :
    ∀ row ∈ gateTable, ∀ ps : List (Ang R), ps.length = (Row.numParams row) →
      ∃ M, gateMatrix gateTable k (Row.name row) ps = .ok M ∧ M.r = 2 ^ (Row.numQubits row) ∧ M.c = 2 ^ (Row.numQubits row) := by
  table_rows
  all_goals first
    | exact forall_len0 ⟨_, rfl, rfl, rfl⟩
    | exact forall_len1 (fun _ => ⟨_, rfl, rfl, rfl⟩)
    | exact forall_len2 (fun _ _ => ⟨_, rfl, rfl, rfl⟩)
    | exact forall_len3 (fun _ _ _ => ⟨_, rfl, rfl, rfl⟩)

/-- the only ways `<gate>.matrix` fails: an unknown name (KeyError of `builtin_gate_by_name`) or a number of
    bound parameters different from the factory's signature (TypeError) -/
theorem matrix_errors {R : Type} [Zero R] [One R] [Add R] [Mul R] [Neg R] (k : Scal R) (ps : List (Ang R)) :
    (∀ name, name ∉ gateTable.map Row.name → gateMatrix gateTable k name ps = .error .key) ∧
    (∀ row ∈ gateTable, ps.length ≠ (Row.numParams row) → gateMatrix gateTable k (Row.name row) ps = .error .type) := by
  constructor
  · intro name hn
    have : lookup gateTable name = none := by
      unfold lookup
      rw [List.find?_eq_none]
      intro r hr hbeq
      exact hn (List.mem_map.mpr ⟨r, hr, by simpa [Row.name] using hbeq⟩)
    unfold gateMatrix; rw [this]
  · intro row hrow hne
    unfold gateMatrix
    rw [show lookup gateTable (Row.name row) = some row from lookup_row row hrow]
    simp only [hne, ne_eq, not_false_eq_true, if_true]

variable {R : Type} [CommRing R] [StarRing R] {k : Scal R}

/-- "for every built-in gate and every real value of its parameters the matrix … is unitary":
    every row of the generated table, every valid angle point, both `Mᴴ M = 1` and `M Mᴴ = 1` -/
theorem builtin_unitary (hk : Laws k) :
    ∀ row ∈ gateTable, ∀ ps : List (Ang R), ps.length = (Row.numParams row) → (∀ a ∈ ps, Valid a) →
      ∃ M, gateMatrix gateTable k (Row.name row) ps = .ok M ∧ IsUnitaryOf (2 ^ (Row.numQubits row)) M := by
  intro row hrow ps hl hv
  obtain ⟨M, hM, hU, _⟩ := builtin_row hk row hrow ps hl (List.forall_iff_forall_mem.mpr hv)
  exact ⟨M, hM, hU⟩

/-- "the delay gate is the identity" – for EVERY duration (the parameter is not an angle and carries no law) -/
theorem delay_identity {S : Type} [CommRing S] (k : Scal S) (d : Ang S) :
    gateMatrix gateTable k "Delay" [d] = .ok Gates.delay ∧ toM 2 2 (Gates.delay (R := S)) = 1 := by
  refine ⟨rfl, ?_⟩
  simp only [Gates.delay, Gates.i, toM_m2, Matrix.one_fin_two]

/-- "a gate flagged self-adjoint really equals its own conjugate transpose": every FLAGGED row of the generated
    table, all parameter values -/
theorem flag_hermitian (hk : Laws k) :
    ∀ row ∈ gateTable, (Row.isHermitian row) = true →
      ∀ ps : List (Ang R), ps.length = (Row.numParams row) → (∀ a ∈ ps, Valid a) →
      ∃ M, gateMatrix gateTable k (Row.name row) ps = .ok M ∧ IsSelfAdjointOf (2 ^ (Row.numQubits row)) M := by
  intro row hrow hf ps hl hv
  obtain ⟨M, hM, _, hS⟩ := builtin_row hk row hrow ps hl (List.forall_iff_forall_mem.mpr hv)
  exact ⟨M, hM, hS hf⟩

/-- conversely the fixed gates that are NOT flagged (S, T, SX, ISWAP) are not self-adjoint, in any ring with
    2 ≠ 0: their flags could not have been set -/
theorem unflagged_fixed_not_selfadjoint (hk : Laws k) (h2 : (2 : R) ≠ 0) :
    (toM 2 2 (Gates.s k))ᴴ ≠ toM 2 2 (Gates.s k) ∧ (toM 2 2 (Gates.t k))ᴴ ≠ toM 2 2 (Gates.t k) ∧
    (toM 2 2 (Gates.sx k))ᴴ ≠ toM 2 2 (Gates.sx k) ∧ (toM 4 4 (Gates.iswap k))ᴴ ≠ toM 4 4 (Gates.iswap k) :=
  ⟨s_not_selfadjoint hk h2, t_not_selfadjoint hk h2, sx_not_selfadjoint hk h2, iswap_not_selfadjoint hk h2⟩

/-- `.dagger` trusts the flag and is right to: for every row, `<gate>.dagger.matrix` (the gate itself when
    flagged, `matrix.adjoint()` otherwise) is the conjugate transpose of `<gate>.matrix` -/
theorem dagger_matrix [Conj R] (hc : ∀ x : R, conj x = star x) (hk : Laws k) :
    ∀ row ∈ gateTable, ∀ ps : List (Ang R), ps.length = (Row.numParams row) → (∀ a ∈ ps, Valid a) →
      daggerIsSelf gateTable (Row.name row) = some (Row.isHermitian row) ∧
      ∃ M D, gateMatrix gateTable k (Row.name row) ps = .ok M ∧ daggerMatrix gateTable k (Row.name row) ps = .ok D ∧
        D.r = 2 ^ (Row.numQubits row) ∧ D.c = 2 ^ (Row.numQubits row) ∧
        toM (2 ^ (Row.numQubits row)) (2 ^ (Row.numQubits row)) D = (toM (2 ^ (Row.numQubits row)) (2 ^ (Row.numQubits row)) M)ᴴ := by
  intro row hrow ps hlen hv
  have hflag : isHermitian gateTable (Row.name row) = some (Row.isHermitian row) :=
    congrArg (Option.map Row.isHermitian) (lookup_row row hrow)
  obtain ⟨M, hM, ⟨hr, hcM, _⟩, hS⟩ := builtin_row hk row hrow ps hlen (List.forall_iff_forall_mem.mpr hv)
  refine ⟨hflag, M, ?_⟩
  unfold daggerMatrix
  rw [hM, hflag]
  cases hf : Row.isHermitian row with
  | true => exact ⟨M, rfl, rfl, hr, hcM, (hS hf).star_eq.symm⟩
  | false =>
    refine ⟨M.adjoint, rfl, rfl, hcM, hr, ?_⟩
    have := toM_adjoint hc M
    rwa [hr, hcM] at this

/-- "angle a followed by angle b equals angle a+b" for the ten one-parameter families
    RX RY RZ RH PHASE CPHASE XX YY ZZ XY, for ALL angle points (no circle law needed); `Ang.add` is the
    addition of angles (see `real_angle_add`).  The order does not matter: `ang_group`. -/
theorem rot_mul (hk : Laws k) (a b : Ang R) :
    toM 2 2 (Gates.rx k a) * toM 2 2 (Gates.rx k b) = toM 2 2 (Gates.rx k (Ang.add a b)) ∧
    toM 2 2 (Gates.ry a) * toM 2 2 (Gates.ry b) = toM 2 2 (Gates.ry (Ang.add a b)) ∧
    toM 2 2 (Gates.rz k a) * toM 2 2 (Gates.rz k b) = toM 2 2 (Gates.rz k (Ang.add a b)) ∧
    toM 2 2 (Gates.rh k a) * toM 2 2 (Gates.rh k b) = toM 2 2 (Gates.rh k (Ang.add a b)) ∧
    toM 2 2 (Gates.phase k a) * toM 2 2 (Gates.phase k b) = toM 2 2 (Gates.phase k (Ang.add a b)) ∧
    toM 4 4 (Gates.cphase k a) * toM 4 4 (Gates.cphase k b) = toM 4 4 (Gates.cphase k (Ang.add a b)) ∧
    toM 4 4 (Gates.xx k a) * toM 4 4 (Gates.xx k b) = toM 4 4 (Gates.xx k (Ang.add a b)) ∧
    toM 4 4 (Gates.yy k a) * toM 4 4 (Gates.yy k b) = toM 4 4 (Gates.yy k (Ang.add a b)) ∧
    toM 4 4 (Gates.zz k a) * toM 4 4 (Gates.zz k b) = toM 4 4 (Gates.zz k (Ang.add a b)) ∧
    toM 4 4 (Gates.xy k a) * toM 4 4 (Gates.xy k b) = toM 4 4 (Gates.xy k (Ang.add a b)) := by
  refine ⟨rx_mul hk.ii a b, ?_, ?_, ?_, phase_mul hk.ii a b, ?_, ?_, ?_, ?_, ?_⟩
  · simp only [Gates.ry, toM_m2, Ang.add, Matrix.mul_fin_two]
    exact lit2_ext (by ring) (by ring) (by ring) (by ring)
  · simp only [Gates.rz, toM_m2, diag_mul, ehm_add hk.ii, ehp_add hk.ii]
  · -- with `u = i r sh`, both diagonal entries come down to `2 u_a u_b + sh_a sh_b = 0`
    simp only [Gates.rh, toM_m2, Matrix.mul_fin_two, ehp_add hk.ii]
    simp only [Ang.add]
    exact lit2_ext
      (by linear_combination (a.ehp k * b.ehp k * (a.sh * b.sh)) * (k.i * k.i * hk.rr + hk.ii))
      (by ring) (by ring)
      (by linear_combination (a.ehp k * b.ehp k * (a.sh * b.sh)) * (k.i * k.i * hk.rr + hk.ii))
  · simp only [toM_cphase, blockSum_mul, one_mul, phase_mul hk.ii]
  · simp only [toM_xx, blockSum_mul, rx_mul hk.ii]
  · simp only [toM_yy, blockSum_mul, rx_mul hk.ii, ang_neg_add]
  · simp only [toM_zz, toM_m2, blockSum_mul, diag_mul, ehm_add hk.ii, ehp_add hk.ii]
  · simp only [toM_xy, blockSum_mul, one_mul, rx_mul hk.ii, ang_neg_add]

omit [StarRing R] in
/-- "angle 0 is the identity" for the same ten families -/
theorem rot_zero (k : Scal R) :
    toM 2 2 (Gates.rx k Ang.zero) = 1 ∧ toM 2 2 (Gates.ry (R := R) Ang.zero) = 1 ∧
    toM 2 2 (Gates.rz k Ang.zero) = 1 ∧ toM 2 2 (Gates.rh k Ang.zero) = 1 ∧
    toM 2 2 (Gates.phase k Ang.zero) = 1 ∧ toM 4 4 (Gates.cphase k Ang.zero) = 1 ∧
    toM 4 4 (Gates.xx k Ang.zero) = 1 ∧ toM 4 4 (Gates.yy k Ang.zero) = 1 ∧
    toM 4 4 (Gates.zz k Ang.zero) = 1 ∧ toM 4 4 (Gates.xy k Ang.zero) = 1 := by
  refine ⟨rx_zero, ?_, ?_, ?_, phase_zero, ?_, ?_, ?_, ?_, ?_⟩
  · simp only [Gates.ry, toM_m2, Ang.zero, neg_zero, Matrix.one_fin_two]
  · simp only [Gates.rz, toM_m2, ehm_zero, ehp_zero, Matrix.one_fin_two]
  · simp only [Gates.rh, toM_m2, ehp_zero]
    simp only [Ang.zero, mul_zero, neg_zero, add_zero, mul_one, Matrix.one_fin_two]
  · simp only [toM_cphase, phase_zero, blockSum_one]
  · simp only [toM_xx, rx_zero, blockSum_one]
  · simp only [toM_yy, ang_neg_zero, rx_zero, blockSum_one]
  · simp only [toM_zz, toM_m2, ehm_zero, ehp_zero, ← Matrix.one_fin_two, blockSum_one]
  · simp only [toM_xy, ang_neg_zero, rx_zero, blockSum_one]

/-- addition of angle points is commutative and associative, `Ang.zero` is neutral and `Ang.neg` gives the
    inverse on the circle – so `rot_mul` / `rot_zero` make each family a commutative group (`G(-a) G(a) = 1`) -/
theorem ang_group (a b c : Ang R) :
    Ang.add a b = Ang.add b a ∧ Ang.add (Ang.add a b) c = Ang.add a (Ang.add b c) ∧
    Ang.add Ang.zero a = a ∧ (Valid a → Ang.add (Ang.neg a) a = Ang.zero) := by
  refine ⟨?_, ?_, ?_, ?_⟩
  · simp only [Ang.add, Ang.mk.injEq]; constructor <;> ring
  · simp only [Ang.add, Ang.mk.injEq]; constructor <;> ring
  · cases a; simp only [Ang.add, Ang.zero, Ang.mk.injEq]; constructor <;> ring
  · intro ha
    have := ha.circle
    simp only [Ang.add, Ang.neg, Ang.zero, Ang.mk.injEq]
    constructor
    · linear_combination this
    · ring

/-- S·S = Z -/
theorem s_mul_s (hk : Laws k) : toM 2 2 (Gates.s k) * toM 2 2 (Gates.s k) = toM 2 2 (Gates.z (R := R)) := by
  simp only [Gates.s, Gates.z, toM_m2, diag_mul, mul_one, hk.ii]

/-- T·T = S -/
theorem t_mul_t (hk : Laws k) : toM 2 2 (Gates.t k) * toM 2 2 (Gates.t k) = toM 2 2 (Gates.s k) := by
  simp only [Gates.t, Gates.s, toM_m2, diag_mul, mul_one, hk.zz]

/-- SX·SX = X -/
theorem sx_mul_sx (hk : Laws k) : toM 2 2 (Gates.sx k) * toM 2 2 (Gates.sx k) = toM 2 2 (Gates.x (R := R)) := by
  simp only [Gates.sx, Gates.x, toM_m2, Matrix.mul_fin_two]
  exact lit2_ext (by linear_combination (2 * k.half * k.half) * hk.ii)
    (by linear_combination (-2 * k.half * k.half) * hk.ii + (2 * k.half + 1) * hk.hh)
    (by linear_combination (-2 * k.half * k.half) * hk.ii + (2 * k.half + 1) * hk.hh)
    (by linear_combination (2 * k.half * k.half) * hk.ii)

/-- H·Z·H = X -/
theorem h_z_h (hk : Laws k) :
    toM 2 2 (Gates.h k) * toM 2 2 (Gates.z (R := R)) * toM 2 2 (Gates.h k) = toM 2 2 (Gates.x (R := R)) := by
  simp only [Gates.h, Gates.z, Gates.x, toM_m2, Matrix.mul_fin_two]
  exact lit2_ext (by ring) (by linear_combination hk.rr) (by linear_combination hk.rr) (by ring)

/-- the two-qubit basis index of (qubit 0 = `c`, qubit 1 = `t`): qubit 0 is the most significant bit -/
def idx2 (c t : Fin 2) : Fin 4 := ⟨2 * c.val + t.val, by omega⟩

/-- the controlled version of a one-qubit matrix: `ControlledGate.matrix = diag(eye(2), U)` -/
def controlled1 (U : Matrix (Fin 2) (Fin 2) R) : Matrix (Fin 4) (Fin 4) R :=
  Matrix.reindex finSumFinEquiv finSumFinEquiv (Matrix.fromBlocks 1 0 0 U)

omit [StarRing R] in
/-- the block form means: nothing happens unless qubit 0 (the control) is 1, then `U` acts on qubit 1 -/
theorem controlled1_apply (U : Matrix (Fin 2) (Fin 2) R) (c t c' t' : Fin 2) :
    controlled1 U (idx2 c t) (idx2 c' t') =
      if c = c' then (if c = 1 then U t t' else if t = t' then 1 else 0) else 0 := by
  rw [Matrix.eta_fin_two U]
  show blockSum finSumFinEquiv 1 _ _ _ = _
  rw [Matrix.one_fin_two, ctrl_lit]
  fin_cases c <;> fin_cases t <;> fin_cases c' <;> fin_cases t' <;> rfl

omit [StarRing R] in
/-- "CNOT and CZ are the controlled X and Z": block form diag(1, X), diag(1, Z) – exactly what
    `X.controlled(1).matrix`, `Z.controlled(1).matrix` build -/
theorem cnot_cz_controlled :
    toM 4 4 (Gates.cnot (R := R)) = controlled1 (toM 2 2 Gates.x) ∧
    toM 4 4 (Gates.cz (R := R)) = controlled1 (toM 2 2 Gates.z) :=
  ⟨toM_cnot, toM_cz⟩

omit [StarRing R] in
/-- "SWAP exchanges qubits", on basis states: SWAP|c d⟩ = |d c⟩ -/
theorem swap_basis (a b c d : Fin 2) :
    toM 4 4 (Gates.swap (R := R)) (idx2 a b) (idx2 c d) = if a = d ∧ b = c then 1 else 0 := by
  simp only [Gates.swap, toM_m4]
  fin_cases a <;> fin_cases b <;> fin_cases c <;> fin_cases d <;> rfl

omit [StarRing R] in
/-- "SWAP exchanges qubits", on operators: conjugating `A ⊗ B` (A on qubit 0, B on qubit 1, `np.kron` order)
    with SWAP gives `B ⊗ A`, for ALL one-qubit matrices A, B -/
theorem swap_conj_kron (A B : Mat R) (hA : A.r = 2) (hA' : A.c = 2) (hB : B.r = 2) (hB' : B.c = 2) :
    toM 4 4 (Gates.swap (R := R)) * toM 4 4 (A.kron B) * toM 4 4 (Gates.swap (R := R)) = toM 4 4 (B.kron A) := by
  rw [toM_swap_perm, PEquiv.toMatrix_toPEquiv_mul, PEquiv.mul_toMatrix_toPEquiv, Equiv.symm_swap]
  ext i j
  simp only [submatrix_apply, id, toM_kron22 A B hA hA' hB hB', toM_kron22 B A hB hB' hA hA', swap_div, swap_mod]
  exact mul_comm _ _

/-! ## what holds for the remaining parametric gates (U3, GPi, GPi2, MS): unitarity (above), and -/

/-- `u3_matrix` is defined as `rz(φ)·ry(θ)·rz(λ) / exp(-i(φ+λ)/2)` and then passed through `sympy.simplify`;
    the closed form the model uses IS that product (so nothing is assumed about `simplify` beyond soundness) -/
theorem u3_is_rz_ry_rz (hk : Laws k) {th ph la : Ang R} (h2 : Valid ph) (h3 : Valid la) :
    (ph.ehp k * la.ehp k) • (toM 2 2 (Gates.rz k ph) * toM 2 2 (Gates.ry th) * toM 2 2 (Gates.rz k la)) =
      toM 2 2 (Gates.u3 k th ph la) :=
  u3_product hk.ii h2.circle h3.circle

/-- GPi is an involution: GPi(φ)·GPi(φ) = 1 (it is self-adjoint and unitary) -/
theorem gpi_mul_gpi (hk : Laws k) {a : Ang R} (ha : Valid a) :
    toM 2 2 (Gates.gpi k a) * toM 2 2 (Gates.gpi k a) = 1 := by
  have h := (gpi_unitary hk ha).star_mul_self
  rwa [(gpi_selfadjoint hk ha).star_eq] at h

/-- the model's angle point of a real θ is the code's `cos(θ/2)`, `sin(θ/2)`, `exp(±iθ/2)`, `exp(±iθ)`;
    the constants are `1j`, `1/sqrt(2)`, `exp(1j*pi/4)`, `1/2` -/
theorem real_angle_meaning (θ : ℝ) :
    (angR θ).ch = Complex.cos ((θ : ℂ) / 2) ∧ (angR θ).sh = Complex.sin ((θ : ℂ) / 2) ∧
    (angR θ).ehp kC = Complex.exp ((θ : ℂ) / 2 * Complex.I) ∧
    (angR θ).ehm kC = Complex.exp (-((θ : ℂ) / 2 * Complex.I)) ∧
    (angR θ).eip kC = Complex.exp ((θ : ℂ) * Complex.I) ∧
    (angR θ).eim kC = Complex.exp (-((θ : ℂ) * Complex.I)) ∧
    kC.i = Complex.I ∧ kC.r = ((1 / Real.sqrt 2 : ℝ) : ℂ) ∧
    kC.z = Complex.exp ((Real.pi / 4 : ℝ) * Complex.I) ∧ kC.half = 1 / 2 :=
  ⟨angR_ch θ, angR_sh θ, angR_ehp θ, angR_ehm θ, angR_eip θ, angR_eim θ, rfl, rfl, rfl, rfl⟩

/-- addition, zero and negation of angle points ARE addition, zero and negation of real angles -/
theorem real_angle_add (a b : ℝ) :
    Ang.add (angR a) (angR b) = angR (a + b) ∧ angR 0 = Ang.zero ∧ Ang.neg (angR a) = angR (-a) :=
  ⟨angR_add a b, angR_zero, angR_neg a⟩

/-- every built-in gate at every list of REAL parameter values: matrix computable, 2^n × 2^n, unitary -/
theorem real_unitary :
    ∀ row ∈ gateTable, ∀ θs : List ℝ, θs.length = Row.numParams row →
      ∃ M, gateMatrix gateTable kC (Row.name row) (θs.map angR) = .ok M ∧ IsUnitaryOf (2 ^ Row.numQubits row) M := by
  intro row hrow θs hl
  exact builtin_unitary kC_laws row hrow _ (by simpa using hl) (valid_map_angR θs)

/-- every FLAGGED gate at every list of real parameter values equals its own conjugate transpose; the
    unflagged fixed gates do not -/
theorem real_flag_hermitian :
    (∀ row ∈ gateTable, Row.isHermitian row = true → ∀ θs : List ℝ, θs.length = Row.numParams row →
      ∃ M, gateMatrix gateTable kC (Row.name row) (θs.map angR) = .ok M ∧ IsSelfAdjointOf (2 ^ Row.numQubits row) M) ∧
    ((toM 2 2 (Gates.s kC))ᴴ ≠ toM 2 2 (Gates.s kC) ∧ (toM 2 2 (Gates.t kC))ᴴ ≠ toM 2 2 (Gates.t kC) ∧
     (toM 2 2 (Gates.sx kC))ᴴ ≠ toM 2 2 (Gates.sx kC) ∧ (toM 4 4 (Gates.iswap kC))ᴴ ≠ toM 4 4 (Gates.iswap kC)) := by
  refine ⟨?_, unflagged_fixed_not_selfadjoint kC_laws two_ne_zero⟩
  intro row hrow hf θs hl
  exact flag_hermitian kC_laws row hrow hf _ (by simpa using hl) (valid_map_angR θs)

/-- the group law for every pair of REAL angles a, b: G(a)·G(b) = G(a+b), and G(0) = 1 (hence G(-a)·G(a) = 1) -/
theorem real_rot_add (a b : ℝ) :
    (toM 2 2 (Gates.rx kC (angR a)) * toM 2 2 (Gates.rx kC (angR b)) = toM 2 2 (Gates.rx kC (angR (a + b))) ∧
     toM 2 2 (Gates.ry (angR a)) * toM 2 2 (Gates.ry (angR b)) = toM 2 2 (Gates.ry (angR (a + b))) ∧
     toM 2 2 (Gates.rz kC (angR a)) * toM 2 2 (Gates.rz kC (angR b)) = toM 2 2 (Gates.rz kC (angR (a + b))) ∧
     toM 2 2 (Gates.rh kC (angR a)) * toM 2 2 (Gates.rh kC (angR b)) = toM 2 2 (Gates.rh kC (angR (a + b))) ∧
     toM 2 2 (Gates.phase kC (angR a)) * toM 2 2 (Gates.phase kC (angR b)) = toM 2 2 (Gates.phase kC (angR (a + b))) ∧
     toM 4 4 (Gates.cphase kC (angR a)) * toM 4 4 (Gates.cphase kC (angR b)) = toM 4 4 (Gates.cphase kC (angR (a + b))) ∧
     toM 4 4 (Gates.xx kC (angR a)) * toM 4 4 (Gates.xx kC (angR b)) = toM 4 4 (Gates.xx kC (angR (a + b))) ∧
     toM 4 4 (Gates.yy kC (angR a)) * toM 4 4 (Gates.yy kC (angR b)) = toM 4 4 (Gates.yy kC (angR (a + b))) ∧
     toM 4 4 (Gates.zz kC (angR a)) * toM 4 4 (Gates.zz kC (angR b)) = toM 4 4 (Gates.zz kC (angR (a + b))) ∧
     toM 4 4 (Gates.xy kC (angR a)) * toM 4 4 (Gates.xy kC (angR b)) = toM 4 4 (Gates.xy kC (angR (a + b)))) ∧
    (toM 2 2 (Gates.rx kC (angR 0)) = 1 ∧ toM 2 2 (Gates.ry (angR 0)) = 1 ∧
     toM 2 2 (Gates.rz kC (angR 0)) = 1 ∧ toM 2 2 (Gates.rh kC (angR 0)) = 1 ∧
     toM 2 2 (Gates.phase kC (angR 0)) = 1 ∧ toM 4 4 (Gates.cphase kC (angR 0)) = 1 ∧
     toM 4 4 (Gates.xx kC (angR 0)) = 1 ∧ toM 4 4 (Gates.yy kC (angR 0)) = 1 ∧
     toM 4 4 (Gates.zz kC (angR 0)) = 1 ∧ toM 4 4 (Gates.xy kC (angR 0)) = 1) := by
  have h := rot_mul kC_laws (angR a) (angR b)
  have z := rot_zero kC
  rw [angR_add] at h
  rw [← angR_zero] at z
  exact ⟨h, z⟩

/-- the fixed relations over ℂ (S·S=Z, T·T=S, SX·SX=X, H·Z·H=X) -/
theorem real_fixed_relations :
    toM 2 2 (Gates.s kC) * toM 2 2 (Gates.s kC) = toM 2 2 Gates.z ∧
    toM 2 2 (Gates.t kC) * toM 2 2 (Gates.t kC) = toM 2 2 (Gates.s kC) ∧
    toM 2 2 (Gates.sx kC) * toM 2 2 (Gates.sx kC) = toM 2 2 Gates.x ∧
    toM 2 2 (Gates.h kC) * toM 2 2 Gates.z * toM 2 2 (Gates.h kC) = toM 2 2 Gates.x :=
  ⟨s_mul_s kC_laws, t_mul_t kC_laws, sx_mul_sx kC_laws, h_z_h kC_laws⟩

/-- every matrix the driver returns for a gate at rational circle points is EXACTLY unitary, and its
    `.dagger` matrix is exactly the conjugate transpose -/
theorem driver_unitary :
    ∀ row ∈ gateTable, ∀ ps : List (Rat × Rat), ps.length = Row.numParams row →
      (∀ p ∈ ps, p.1 * p.1 + p.2 * p.2 = 1) →
      ∃ M D, gateMatrix gateTable Scal.cyc8 (Row.name row) (ps.map fun p => ⟨Cyc8.ofRat p.1, Cyc8.ofRat p.2⟩) = .ok M ∧
        IsUnitaryOf (2 ^ Row.numQubits row) M ∧
        daggerMatrix gateTable Scal.cyc8 (Row.name row) (ps.map fun p => ⟨Cyc8.ofRat p.1, Cyc8.ofRat p.2⟩) = .ok D ∧
        toM (2 ^ Row.numQubits row) (2 ^ Row.numQubits row) D = (toM (2 ^ Row.numQubits row) (2 ^ Row.numQubits row) M)ᴴ := by
  intro row hrow ps hl hp
  have hv := valid_map_ofRat ps hp
  obtain ⟨M, hM, hU⟩ := builtin_unitary cyc8_laws row hrow _ (by simpa using hl) hv
  obtain ⟨_, M', D, hM', hD, _, _, hDM⟩ := dagger_matrix cyc_conj_eq_star cyc8_laws row hrow _ (by simpa using hl) hv
  rw [hM] at hM'; cases hM'
  exact ⟨M, D, hM, hU, hD, hDM⟩

/-! ## non-vacuity: the hypotheses are satisfiable and the statements bite on concrete inputs -/

example : Laws kC := kC_laws
example : Laws Scal.cyc8 := cyc8_laws
example : (2 : Cyc8) ≠ 0 := cyc8_two_ne_zero
example (θ : ℝ) : Valid (angR θ) := angR_valid θ
example : Valid (⟨Cyc8.ofRat (3/5), Cyc8.ofRat (4/5)⟩ : Ang Cyc8) := cyc8_valid_of_rat _ _ (by norm_num)
example : ("U3", 1, 3, false) ∈ gateTable ∧ ("MS", 2, 2, false) ∈ gateTable ∧ ("GPi", 1, 1, true) ∈ gateTable := by decide
/-- RX(a)·RX(b) = RX(a+b) at the half-angle points (3/5,4/5), (5/13,12/13): exact evaluation in ℚ(ζ₈) -/
example : ((Gates.rx Scal.cyc8 ⟨Cyc8.ofRat (3/5), Cyc8.ofRat (4/5)⟩).mul
            (Gates.rx Scal.cyc8 ⟨Cyc8.ofRat (5/13), Cyc8.ofRat (12/13)⟩)).toLists =
          (Gates.rx Scal.cyc8 (Ang.add ⟨Cyc8.ofRat (3/5), Cyc8.ofRat (4/5)⟩ ⟨Cyc8.ofRat (5/13), Cyc8.ofRat (12/13)⟩)).toLists := by
  decide +kernel
/-- … and the point is not trivial: RX there is not the identity -/
example : (Gates.rx Scal.cyc8 ⟨Cyc8.ofRat (3/5), Cyc8.ofRat (4/5)⟩).toLists ≠ (Gates.i (R := Cyc8)).toLists := by
  decide +kernel
/-- MS at two rational points is exactly unitary (executable adjoint and product) -/
example : (((Gates.ms Scal.cyc8 ⟨Cyc8.ofRat (3/5), Cyc8.ofRat (4/5)⟩ ⟨Cyc8.ofRat (5/13), Cyc8.ofRat (12/13)⟩).adjoint).mul
            (Gates.ms Scal.cyc8 ⟨Cyc8.ofRat (3/5), Cyc8.ofRat (4/5)⟩ ⟨Cyc8.ofRat (5/13), Cyc8.ofRat (12/13)⟩)).toLists =
          (Mat.identity (R := Cyc8) 4).toLists := by
  decide +kernel
/-- S, T, SX, ISWAP are not self-adjoint in ℚ(ζ₈) (executable adjoint) -/
example : (Gates.s Scal.cyc8).adjoint.toLists ≠ (Gates.s Scal.cyc8).toLists ∧
          (Gates.t Scal.cyc8).adjoint.toLists ≠ (Gates.t Scal.cyc8).toLists ∧
          (Gates.sx Scal.cyc8).adjoint.toLists ≠ (Gates.sx Scal.cyc8).toLists ∧
          (Gates.iswap Scal.cyc8).adjoint.toLists ≠ (Gates.iswap Scal.cyc8).toLists := by
  decide +kernel
/-- the error branches are reachable -/
example : gateMatrix gateTable Scal.cyc8 "RX" [] = .error .type ∧
          gateMatrix gateTable Scal.cyc8 "FOO" [] = .error .key := ⟨rfl, rfl⟩

end OQ.C02
