/-
  Specification backbone: the n-qubit space is indexed by bit assignments `BV ι = ι → Bool`;
  `lift σ M` places a gate matrix `M` on the qubits `κ` (embedded by the partition `σ : κ ⊕ μ ≃ ι`)
  and acts as the identity on the remaining qubits `μ`.
-/
import Mathlib.Data.Matrix.Mul
import Mathlib.LinearAlgebra.Matrix.Kronecker
import Mathlib.LinearAlgebra.Matrix.Reindex
import Mathlib.LinearAlgebra.Matrix.ConjTranspose
import Mathlib.Logic.Equiv.Fin.Basic
import Mathlib.Logic.Equiv.Prod
import Mathlib.Data.Fintype.Pi
import Mathlib.Data.Fintype.Sum
import Mathlib.Tactic.Ring

namespace OQ.Spec
open Matrix Kronecker

abbrev BV (ι : Type) := ι → Bool

variable {R : Type} [CommRing R] {κ μ ι : Type}
  [Fintype κ] [DecidableEq κ] [Fintype μ] [DecidableEq μ] [Fintype ι] [DecidableEq ι]

/-- split the register along a partition of the qubits -/
def splitBV (σ : κ ⊕ μ ≃ ι) : BV ι ≃ BV κ × BV μ :=
  (Equiv.arrowCongr σ.symm (Equiv.refl Bool)).trans (Equiv.sumArrowEquivProdArrow κ μ Bool)

/-- gate `M` on the qubits `κ` (placed by σ), identity on the rest -/
def lift (σ : κ ⊕ μ ≃ ι) (M : Matrix (BV κ) (BV κ) R) : Matrix (BV ι) (BV ι) R :=
  Matrix.reindex (splitBV σ).symm (splitBV σ).symm (kroneckerMap (· * ·) M (1 : Matrix (BV μ) (BV μ) R))

omit [Fintype κ] [DecidableEq κ] [DecidableEq μ] [Fintype ι] [DecidableEq ι] in
theorem lift_eq (σ : κ ⊕ μ ≃ ι) (M : Matrix (BV κ) (BV κ) R) :
    lift σ M = (M ⊗ₖ (1 : Matrix (BV μ) (BV μ) R)).submatrix (splitBV σ) (splitBV σ) := rfl

theorem lift_mul (σ : κ ⊕ μ ≃ ι) (A B : Matrix (BV κ) (BV κ) R) :
    lift σ (A * B) = lift σ A * lift σ B := by
  rw [lift_eq, lift_eq, lift_eq, submatrix_mul_equiv, ← mul_kronecker_mul, one_mul]

theorem lift_apply (σ : κ ⊕ μ ≃ ι) (M : Matrix (BV κ) (BV κ) R) (x y : BV ι) :
    lift σ M x y = if (∀ m, x (σ (Sum.inr m)) = y (σ (Sum.inr m)))
      then M (fun k => x (σ (Sum.inl k))) (fun k => y (σ (Sum.inl k))) else 0 := by
  rw [lift_eq, submatrix_apply, kroneckerMap_apply, one_apply, mul_ite, mul_one, mul_zero]
  exact if_congr funext_iff rfl rfl

theorem lift_one (σ : κ ⊕ μ ≃ ι) : lift σ (1 : Matrix (BV κ) (BV κ) R) = 1 := by
  rw [lift_eq, one_kronecker_one, submatrix_one_equiv]

theorem lift_add (σ : κ ⊕ μ ≃ ι) (A B : Matrix (BV κ) (BV κ) R) :
    lift σ (A + B) = lift σ A + lift σ B := by
  rw [lift_eq, add_kronecker]; rfl

theorem lift_smul (σ : κ ⊕ μ ≃ ι) (c : R) (A : Matrix (BV κ) (BV κ) R) :
    lift σ (c • A) = c • lift σ A := by
  rw [lift_eq, smul_kronecker]; rfl

theorem lift_conjTranspose [StarRing R] (σ : κ ⊕ μ ≃ ι) (A : Matrix (BV κ) (BV κ) R) :
    lift σ Aᴴ = (lift σ A)ᴴ := by
  rw [lift_eq, lift_eq, conjTranspose_submatrix, conjTranspose_kronecker, conjTranspose_one]

end OQ.Spec
