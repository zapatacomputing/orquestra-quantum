/- C08, spec level: gates lifted along embeddings (`liftE` = `Spec.lift` on the image of an embedding), widening,
   and the control-qubit construction `ctrlAt` with its algebra. -/
import OQ.Spec.Lift
import Mathlib.Logic.Equiv.Set
import Mathlib.Logic.Equiv.Option
import Mathlib.Data.Fintype.Option
import Mathlib.Data.Fintype.Sets
import Mathlib.Data.Matrix.Basis

set_option linter.unusedSectionVars false

namespace OQ.C08
open Matrix OQ.Spec
open Classical

variable {R : Type} [CommRing R] {κ ι ι' : Type} [Fintype κ] [DecidableEq κ] [Fintype ι] [DecidableEq ι]
  [Fintype ι'] [DecidableEq ι']

/-- the partition of the register `ι` into the image of the embedding `e` and the rest -/
noncomputable def sigmaOf (e : κ ↪ ι) : κ ⊕ ↥(Set.range e)ᶜ ≃ ι :=
  (Equiv.sumCongr (Equiv.ofInjective e e.injective) (Equiv.refl _)).trans (Equiv.Set.sumCompl (Set.range e))

/-- gate `M` on the qubits `e 0, e 1, …` of the register `ι` (in this order), identity elsewhere -/
noncomputable def liftE (e : κ ↪ ι) (M : Matrix (BV κ) (BV κ) R) : Matrix (BV ι) (BV ι) R :=
  lift (sigmaOf e) M

theorem liftE_apply (e : κ ↪ ι) (M : Matrix (BV κ) (BV κ) R) (x y : BV ι) :
    liftE e M x y = if (∀ i, i ∉ Set.range e → x i = y i) then M (x ∘ e) (y ∘ e) else 0 := by
  unfold liftE
  rw [lift_apply]
  have h1 : (∀ m : ↥(Set.range e)ᶜ, x (sigmaOf e (Sum.inr m)) = y (sigmaOf e (Sum.inr m))) ↔
      (∀ i, i ∉ Set.range e → x i = y i) := by
    constructor
    · intro h i hi; simpa [sigmaOf] using h ⟨i, hi⟩
    · intro h m; simpa [sigmaOf] using h m.1 m.2
  have h2 : ∀ z : BV ι, (fun k => z (sigmaOf e (Sum.inl k))) = z ∘ e := fun z => by funext k; simp [sigmaOf]
  simp only [h1, h2]

theorem liftE_mul (e : κ ↪ ι) (A B : Matrix (BV κ) (BV κ) R) : liftE e (A * B) = liftE e A * liftE e B :=
  lift_mul _ A B
theorem liftE_one (e : κ ↪ ι) : liftE e (1 : Matrix (BV κ) (BV κ) R) = 1 := lift_one _
theorem liftE_conjTranspose [StarRing R] (e : κ ↪ ι) (A : Matrix (BV κ) (BV κ) R) :
    liftE e Aᴴ = (liftE e A)ᴴ := lift_conjTranspose _ A

theorem liftE_liftE (e₁ : κ ↪ ι) (e₂ : ι ↪ ι') (M : Matrix (BV κ) (BV κ) R) :
    liftE e₂ (liftE e₁ M) = liftE (e₁.trans e₂) M := by
  ext x y
  -- off the image of `e₁.trans e₂` = off the image of `e₂`, or on it at a place off the image of `e₁`
  have h : (∀ i, i ∉ Set.range (e₁.trans e₂) → x i = y i) ↔
      (∀ i, i ∉ Set.range e₂ → x i = y i) ∧ ∀ j, j ∉ Set.range e₁ → (x ∘ e₂) j = (y ∘ e₂) j := by
    constructor
    · intro h
      exact ⟨fun i hi => h i (by rintro ⟨a, rfl⟩; exact hi ⟨e₁ a, rfl⟩),
        fun j hj => h _ (by rintro ⟨a, ha⟩; exact hj ⟨a, e₂.injective ha⟩)⟩
    · rintro ⟨h2, h1⟩ i hi
      by_cases hi2 : i ∈ Set.range e₂
      · obtain ⟨j, rfl⟩ := hi2
        exact h1 j (by rintro ⟨a, rfl⟩; exact hi ⟨a, rfl⟩)
      · exact h2 i hi2
  simp only [liftE_apply, h, ite_and]
  rfl

def P0 : Matrix Bool Bool R := Matrix.of fun a b => if a = false ∧ b = false then 1 else 0
def P1 : Matrix Bool Bool R := Matrix.of fun a b => if a = true ∧ b = true then 1 else 0

theorem P0_eq : (P0 : Matrix Bool Bool R) = Matrix.single false false 1 := by
  ext a b; simp only [P0, Matrix.single, Matrix.of_apply, eq_comm]
theorem P1_eq : (P1 : Matrix Bool Bool R) = Matrix.single true true 1 := by
  ext a b; simp only [P1, Matrix.single, Matrix.of_apply, eq_comm]

theorem P0_mul_P0 : (P0 : Matrix Bool Bool R) * P0 = P0 := by
  rw [P0_eq, Matrix.single_mul_single_same, mul_one]
theorem P1_mul_P1 : (P1 : Matrix Bool Bool R) * P1 = P1 := by
  rw [P1_eq, Matrix.single_mul_single_same, mul_one]
theorem P0_mul_P1 : (P0 : Matrix Bool Bool R) * P1 = 0 := by
  rw [P0_eq, P1_eq, Matrix.single_mul_single_of_ne _ _ _ _ (by decide)]
theorem P1_mul_P0 : (P1 : Matrix Bool Bool R) * P0 = 0 := by
  rw [P0_eq, P1_eq, Matrix.single_mul_single_of_ne _ _ _ _ (by decide)]
theorem P0_add_P1 : (P0 : Matrix Bool Bool R) + P1 = 1 := by
  ext a b; cases a <;> cases b <;> simp [P0, P1]

/-- split an assignment of the outer register into the control bit and the inner register -/
def splitC (τ : Option ι ≃ ι') : BV ι' ≃ Bool × BV ι :=
  (Equiv.arrowCongr τ.symm (Equiv.refl Bool)).trans (Equiv.piOptionEquivProd (β := fun _ => Bool))

/-- `|0⟩⟨0|_c ⊗ 1 + |1⟩⟨1|_c ⊗ A`: the identity when the control qubit `τ none` is 0, `A` on the
    remaining qubits `τ (some ·)` when it is 1 -/
noncomputable def ctrlAt (τ : Option ι ≃ ι') (A : Matrix (BV ι) (BV ι) R) : Matrix (BV ι') (BV ι') R :=
  Matrix.reindex (splitC τ).symm (splitC τ).symm
    (kroneckerMap (· * ·) (P0 : Matrix Bool Bool R) (1 : Matrix (BV ι) (BV ι) R)
      + kroneckerMap (· * ·) (P1 : Matrix Bool Bool R) A)

theorem ctrlAt_apply (τ : Option ι ≃ ι') (A : Matrix (BV ι) (BV ι) R) (x y : BV ι') :
    ctrlAt τ A x y =
      if x (τ none) = y (τ none) then
        (if x (τ none) = true then A (fun i => x (τ (some i))) (fun i => y (τ (some i)))
         else (1 : Matrix (BV ι) (BV ι) R) (fun i => x (τ (some i))) (fun i => y (τ (some i))))
      else 0 := by
  simp only [ctrlAt, splitC, Matrix.reindex_apply, Matrix.submatrix_apply, Equiv.symm_symm,
    Matrix.add_apply, kroneckerMap_apply, Equiv.trans_apply, Equiv.piOptionEquivProd_apply,
    Equiv.arrowCongr_apply, Function.comp, Equiv.coe_refl, id]
  cases hx : x (τ none) <;> cases hy : y (τ none) <;> simp [P0, P1]

theorem ctrlAt_mul (τ : Option ι ≃ ι') (A B : Matrix (BV ι) (BV ι) R) :
    ctrlAt τ A * ctrlAt τ B = ctrlAt τ (A * B) := by
  unfold ctrlAt
  rw [Matrix.reindex_apply, Matrix.reindex_apply, Matrix.reindex_apply, Matrix.submatrix_mul_equiv, Matrix.add_mul,
    Matrix.mul_add, Matrix.mul_add, ← Matrix.mul_kronecker_mul, ← Matrix.mul_kronecker_mul, ← Matrix.mul_kronecker_mul,
    ← Matrix.mul_kronecker_mul, P0_mul_P0, P0_mul_P1, P1_mul_P0, P1_mul_P1, Matrix.zero_kronecker, Matrix.zero_kronecker,
    add_zero, zero_add, Matrix.one_mul]

theorem ctrlAt_one (τ : Option ι ≃ ι') : ctrlAt τ (1 : Matrix (BV ι) (BV ι) R) = 1 := by
  unfold ctrlAt
  rw [← Matrix.add_kronecker, P0_add_P1, Matrix.one_kronecker_one, Matrix.reindex_apply, Matrix.submatrix_one_equiv]

end OQ.C08
