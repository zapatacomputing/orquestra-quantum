/-
  C07 ⟷ C02 — helper lemmas for OQ/Props/C07_Link.lean.
  * `Gate.All`: one generic "every node of the wrapper tree satisfies …" predicate, closed under the modifier METHODS
    (`Builtin`, `BuiltinInt`, `UShape`, `Pure` are instances of it, and it implies `WellDim`, `HermOK`, `NoFrac`).
  * the bridge between the base factory of the C07 model (`Base.builtin`) and `C02.gateMatrix` on the generated table.
  * unitarity is kept by `diag(1, ·)`, conjugate transpose, non-negative powers and (two-sided) inverses.
-/
import OQ.Lemmas.C07
import OQ.Props.C02
namespace OQ.C07
open Matrix OQ.Generated
open OQ.C02 (Row Laws Valid IsUnitaryOf IsSelfAdjointOf)

namespace Gate
variable {P R : Type}

/-- every base gate satisfies `pb`, every `Power` exponent `pe`, and `px` holds if an `Exponential` occurs -/
def All (pb : Base P R → Prop) (pe : Rat → Prop) (px : Prop) : Gate P R → Prop
  | base b => pb b
  | controlled g _ => All pb pe px g
  | dagger g => All pb pe px g
  | power g e => pe e ∧ All pb pe px g
  | exponential g => px ∧ All pb pe px g

variable {pb : Base P R → Prop} {pe : Rat → Prop} {px : Prop}

theorem all_powerM (g : Gate P R) (e : Rat) (he : pe e) (h : All pb pe px g) : All pb pe px (g.powerM e) := by
  induction g with
  | controlled y k ih => exact ih h
  | _ => exact ⟨he, h⟩

theorem all_daggerM (g : Gate P R) (h : All pb pe px g) : All pb pe px g.daggerM := by
  induction g with
  | base b => unfold daggerM; split <;> exact h
  | controlled y k ih => exact ih h
  | dagger y => exact h
  | power y e ih => exact all_powerM _ e h.1 (ih h.2)
  | exponential y ih => exact ⟨h.1, ih h.2⟩

theorem all_ctlP (g : Gate P R) (m : Nat) (h : All pb pe px g) : All pb pe px (g.ctlP m) := by
  induction g with
  | dagger y ih => exact all_daggerM _ (ih h)
  | power y e ih => exact all_powerM _ e h.1 (ih h.2)
  | _ => exact h

theorem all_expM (g : Gate P R) (hx : px) (h : All pb pe px g) : All pb pe px g.expM := ⟨hx, h⟩

theorem all_mono {pb' : Base P R → Prop} {pe' : Rat → Prop} {px' : Prop}
    (hb : ∀ b, pb b → pb' b) (he : ∀ e, pe e → pe' e) (hx : px → px') (g : Gate P R)
    (h : All pb pe px g) : All pb' pe' px' g := by
  induction g with
  | base b => exact hb b h
  | controlled _ _ ih | dagger _ ih => exact ih h
  | power y e ih => exact ⟨he e h.1, ih h.2⟩
  | exponential y ih => exact ⟨hx h.1, ih h.2⟩

/-- which modifier calls are allowed in a chain -/
def Mod.Sat (pe : Rat → Prop) (px : Prop) : Mod → Prop
  | .dagger => True
  | .controlled _ => True
  | .power e => pe e
  | .exp => px

/-- for a chain written out, whether its calls are allowed is decided by evaluation -/
instance (pe : Rat → Prop) (px : Prop) [DecidablePred pe] [Decidable px] : DecidablePred (Mod.Sat pe px)
  | .dagger | .controlled _ => isTrue trivial
  | .power e => inferInstanceAs (Decidable (pe e))
  | .exp => inferInstanceAs (Decidable px)

theorem all_apply (m : Mod) (hm : m.Sat pe px) (g : Gate P R) (h : All pb pe px g) : All pb pe px (m.apply g) := by
  cases m with
  | dagger => exact all_daggerM g h
  | controlled k => exact all_ctlP g k h
  | power e => exact all_powerM g e hm h
  | exp => exact all_expM g hm h

theorem all_applyChain (ms : List Mod) (hms : ∀ m ∈ ms, m.Sat pe px) (g : Gate P R) (h : All pb pe px g) :
    All pb pe px (applyChain g ms) :=
  applyChain_induction (fun m g hm => all_apply m hm g) ms hms g h

end Gate

section Instances
variable {P R : Type} {pb : Base P R → Prop} {pe : Rat → Prop} {px : Prop}

theorem wellDim_of_all [Zero R] (hb : ∀ b, pb b → WellDim (.base b)) (g : Gate P R) (h : Gate.All pb pe px g) :
    WellDim g := by
  induction g with
  | base b => exact hb b h
  | controlled _ _ ih | dagger _ ih => exact ih h
  | power _ _ ih | exponential _ ih => exact ih h.2

theorem hermOK_of_all [CommRing R] [StarRing R] (hb : ∀ b, pb b → HermOK (.base b)) (g : Gate P R)
    (h : Gate.All pb pe px g) : HermOK g := by
  induction g with
  | base b => exact hb b h
  | controlled _ _ ih | dagger _ ih => exact ih h
  | power _ _ ih | exponential _ ih => exact ih h.2

theorem noFrac_of_all [CommRing R] [StarRing R] (he : ∀ e, pe e → e.den = 1) (g : Gate P R) (h : Gate.All pb pe px g) : NoFrac g := by
  induction g with
  | base b => trivial
  | controlled _ _ ih | dagger _ ih => exact ih h
  | power y e ih => exact ⟨he e h.1, ih h.2⟩
  | exponential y ih => exact ih h.2

theorem all_of_noFrac [CommRing R] [StarRing R] (g : Gate P R) (h : NoFrac g) :
    Gate.All (fun _ => True) (fun e => e.den = 1) True g := by
  induction g with
  | base b => trivial
  | controlled _ _ ih | dagger _ ih => exact ih h
  | power y e ih => exact ⟨h.1, ih h.2⟩
  | exponential y ih => exact ⟨trivial, ih h⟩

end Instances

/-- `Base.builtin` takes `is_hermitian` and `num_qubits` from two lists written in OQ/Model/C07.lean; they agree with
    every row of `OQ.Generated.gateTable` (which is re-extracted from `_builtin_gates.py` on every run) -/
theorem table_agree : ∀ row ∈ gateTable,
    hermitianNames.contains (Row.name row) = Row.isHermitian row ∧ builtinNumQubits (Row.name row) = Row.numQubits row := by
  decide

section Bridge
variable {R : Type} [CommRing R] [StarRing R]

def angs (ps : List (Param R)) : List (Ang R) := ps.map Param.toAng

omit [StarRing R] in
theorem builtin_factory_ok_iff (k : Scal R) (row : Row) (hrow : row ∈ gateTable) (ps : List (Param R))
    (hl : ps.length = Row.numParams row) (M : Mat R) :
    (Base.builtin k (Row.name row) ps).factory (Base.builtin k (Row.name row) ps).params = .ok M ↔
      C02.gateMatrix gateTable k (Row.name row) (angs ps) = .ok M := by
  unfold C02.gateMatrix
  rw [show C02.lookup gateTable (Row.name row) = some row from C02.lookup_row row hrow]
  simp only [Base.builtin, angs, List.length_map, hl, ne_eq, not_true_eq_false, if_false]
  cases Gates.builtinMatrix k (Row.name row) (ps.map Param.toAng) <;> simp

/-- a base gate of the C07 model that IS a built-in gate of the library: a name of the generated table, the number
    of parameters of its matrix factory, every parameter a valid angle point (cos θ/2, sin θ/2 of a real θ) -/
def BuiltinBase (k : Scal R) (b : Base (Param R) R) : Prop :=
  ∃ row ∈ gateTable, ∃ ps : List (Param R), b = Base.builtin k (Row.name row) ps ∧
    ps.length = Row.numParams row ∧ ∀ p ∈ ps, Valid p.toAng

/-- every base gate below the modifiers is a built-in gate (any exponents, `exp` allowed) -/
def Builtin (k : Scal R) : Gate (Param R) R → Prop := Gate.All (BuiltinBase k) (fun _ => True) True

/-- built-in bases, only INTEGER powers (what `dagger_adjoint_partial` needs below a dagger) -/
def BuiltinInt (k : Scal R) : Gate (Param R) R → Prop := Gate.All (BuiltinBase k) (fun e => e.den = 1) True

/-- built-in bases under dagger / controlled / integer power only (the modifiers that keep unitarity) -/
def UShape (k : Scal R) : Gate (Param R) R → Prop := Gate.All (BuiltinBase k) (fun e => e.den = 1) False

/-- built-in bases under dagger / controlled / NON-NEGATIVE integer power only: no sympy external is ever called -/
def Pure (k : Scal R) : Gate (Param R) R → Prop := Gate.All (BuiltinBase k) (fun e => e.den = 1 ∧ 0 ≤ e.num) False

theorem builtin_of_int {k : Scal R} (g : Gate (Param R) R) (h : BuiltinInt k g) : Builtin k g :=
  Gate.all_mono (fun _ h => h) (fun _ _ => trivial) id g h
theorem int_of_ushape {k : Scal R} (g : Gate (Param R) R) (h : UShape k g) : BuiltinInt k g :=
  Gate.all_mono (fun _ h => h) (fun _ h => h) (fun h => h.elim) g h
theorem ushape_of_pure {k : Scal R} (g : Gate (Param R) R) (h : Pure k g) : UShape k g :=
  Gate.all_mono (fun _ h => h) (fun _ h => h.1) id g h

theorem BuiltinBase.spec {k : Scal R} {b : Base (Param R) R} (hb : BuiltinBase k b) :
    ∃ row ∈ gateTable, ∃ as : List (Ang R), as.length = Row.numParams row ∧ (∀ a ∈ as, Valid a) ∧
      b.numQubits = Row.numQubits row ∧ b.hermitian = Row.isHermitian row ∧
      ∀ M, b.factory b.params = .ok M ↔ C02.gateMatrix gateTable k (Row.name row) as = .ok M := by
  obtain ⟨row, hrow, ps, rfl, hl, hv⟩ := hb
  refine ⟨row, hrow, angs ps, by simpa [angs] using hl, ?_, (table_agree row hrow).2, (table_agree row hrow).1,
    builtin_factory_ok_iff k row hrow ps hl⟩
  intro a ha
  obtain ⟨p, hp, rfl⟩ := List.mem_map.mp ha
  exact hv p hp

theorem wellDim_base (k : Scal R) (b : Base (Param R) R) (hb : BuiltinBase k b) : WellDim (.base b) := by
  obtain ⟨row, hrow, as, hl, _, hq, _, hM⟩ := hb.spec
  intro M h
  obtain ⟨M', hM', hr, hc⟩ := C02.builtin_dim k row hrow as hl
  cases ((hM M).1 h).symm.trans hM'
  rw [hq]; exact ⟨hr, hc⟩

theorem hermOK_base {k : Scal R} (hk : Laws k) (b : Base (Param R) R) (hb : BuiltinBase k b) : HermOK (.base b) := by
  obtain ⟨row, hrow, as, hl, hv, _, hf, hM⟩ := hb.spec
  intro hflag M d h hr hc
  obtain ⟨M', hM', hr', _, hsa⟩ := C02.flag_hermitian hk row hrow (hf.symm.trans hflag) as hl hv
  cases ((hM M).1 h).symm.trans hM'
  obtain rfl : d = _ := hr.symm.trans hr'
  exact hsa

theorem unitary_base {k : Scal R} (hk : Laws k) (b : Base (Param R) R) (hb : BuiltinBase k b) (M : Mat R)
    (hM : b.factory b.params = .ok M) : IsUnitaryOf (2 ^ b.numQubits) M := by
  obtain ⟨row, hrow, as, hl, hv, hq, _, hM'⟩ := hb.spec
  obtain ⟨M', h', hU⟩ := C02.builtin_unitary hk row hrow as hl hv
  cases ((hM' M).1 hM).symm.trans h'
  rw [hq]; exact hU

theorem ok_base (k : Scal R) (b : Base (Param R) R) (hb : BuiltinBase k b) : ∃ M, b.factory b.params = .ok M := by
  obtain ⟨row, hrow, as, hl, _, _, _, hM⟩ := hb.spec
  obtain ⟨M, h, _⟩ := C02.builtin_dim k row hrow as hl
  exact ⟨M, (hM M).2 h⟩

end Bridge

section Unitary
variable {R : Type} [CommRing R] [StarRing R]

/-- `A` is unitary (both products) -/
def IsU {d : Nat} (A : Matrix (Fin d) (Fin d) R) : Prop := Aᴴ * A = 1 ∧ A * Aᴴ = 1

theorem isU_blockDiag (d0 : Nat) {d : Nat} (A : Matrix (Fin d) (Fin d) R) (h : IsU A) : IsU (blockDiag d0 A) := by
  constructor
  · rw [← blockDiag_conjTranspose, ← blockDiag_mul, h.1, blockDiag_one]
  · rw [← blockDiag_conjTranspose, ← blockDiag_mul, h.2, blockDiag_one]

theorem isU_conjTranspose {d : Nat} (A : Matrix (Fin d) (Fin d) R) (h : IsU A) : IsU Aᴴ := by
  rw [IsU, Matrix.conjTranspose_conjTranspose]; exact h.symm

theorem isU_pow {d : Nat} (A : Matrix (Fin d) (Fin d) R) (h : IsU A) (n : Nat) : IsU (A ^ n) :=
  pow_mem (show A ∈ unitary _ from h) n

/-- a left inverse of a unitary is its conjugate transpose, so a negative power is a power of that -/
theorem isU_intPow {d : Nat} {n : Int} {A B : Matrix (Fin d) (Fin d) R} (h : IntPow n A B) (hA : IsU A) : IsU B := by
  by_cases hn : 0 ≤ n
  · rw [(IntPow.of_nonneg hn).1 h]; exact isU_pow A hA _
  · obtain ⟨W, w1, _, rfl⟩ := (IntPow.of_neg (not_le.1 hn)).1 h
    rw [left_inv_eq_right_inv w1 hA.2]
    exact isU_pow _ (isU_conjTranspose A hA) _

theorem isUnitaryOf_iff (d : Nat) (M : Mat R) : IsUnitaryOf d M ↔ M.r = d ∧ M.c = d ∧ IsU (Mat.toM d d M) := Iff.rfl

end Unitary

section Lift
variable {R : Type} [CommRing R] [StarRing R] {x : Ext R}

theorem ctl_unitary (d0 d : Nat) (Y : Mat R) (h : IsUnitaryOf d Y) : IsUnitaryOf (d0 + d) (ctlMatrix d0 Y) := by
  obtain ⟨hr, hc, hU⟩ := h
  refine ⟨congrArg _ hr, congrArg _ hc, ?_⟩
  show IsU _
  rw [toM_ctlMatrix d0 d Y hr hc]
  exact isU_blockDiag d0 _ hU

theorem adjoint_unitary (d : Nat) (Y : Mat R) (h : IsUnitaryOf d Y) : IsUnitaryOf d (adjointWith star Y) := by
  obtain ⟨hr, hc, hU⟩ := h
  refine ⟨hc, hr, ?_⟩
  show IsU _
  rw [toM_adjointWith' d Y hr hc]
  exact isU_conjTranspose _ hU

theorem mpow_int_unitary (hx : ExtLaws x) (d : Nat) (Y M : Mat R) (e : Rat) (he : e.den = 1) (h : IsUnitaryOf d Y)
    (hM : mpow x Y e = .ok M) : IsUnitaryOf d M := by
  obtain ⟨hr, hc, hU⟩ := h
  obtain ⟨a, b⟩ := mpow_dims hx Y M e d hr hc hM
  exact ⟨a, b, isU_intPow (mpow_int hx he hr hc hM) hU⟩

end Lift

section Complex
open OQ.C02 (kC angR kC_laws angR_valid)

/-- `NAME(θ₁, …)` for real angles: the C07 base gate over ℂ with C02's constants `kC` and angle points `angR θ` -/
noncomputable def realBase (name : String) (θs : List ℝ) : Base (Param ℂ) ℂ :=
  Base.builtin kC name (θs.map fun θ => Param.ang (angR θ))

theorem real_builtinBase (row : Row) (hrow : row ∈ gateTable) (θs : List ℝ) (hl : θs.length = Row.numParams row) :
    BuiltinBase kC (realBase (Row.name row) θs) := by
  refine ⟨row, hrow, _, rfl, by simpa using hl, ?_⟩
  intro p hp
  obtain ⟨θ, _, rfl⟩ := List.mem_map.mp hp
  exact angR_valid θ

end Complex

section DriverRing
open OQ.C02 (cyc8_valid_of_rat)

/-- the driver's parameters: rational points (c, s) of the unit circle as angle points of ℚ(ζ₈) -/
def ratParams (qs : List (Rat × Rat)) : List (Param Cyc8) :=
  qs.map fun p => Param.ang ⟨Cyc8.ofRat p.1, Cyc8.ofRat p.2⟩

theorem driver_builtinBase (row : Row) (hrow : row ∈ gateTable) (qs : List (Rat × Rat))
    (hl : qs.length = Row.numParams row) (hq : ∀ p ∈ qs, p.1 * p.1 + p.2 * p.2 = 1) :
    BuiltinBase Scal.cyc8 (Base.builtin Scal.cyc8 (Row.name row) (ratParams qs)) := by
  refine ⟨row, hrow, _, rfl, by simpa [ratParams] using hl, ?_⟩
  intro p hp
  obtain ⟨q, hqm, rfl⟩ := List.mem_map.mp hp
  exact cyc8_valid_of_rat _ _ (hq q hqm)

end DriverRing

namespace Inst
section
variable (R : Type) [CommRing R]

open Classical in
/-- an `Ext` whose `inv` is a TRUE inverse: it answers with some two-sided inverse of the same shape whenever one
    exists and raises otherwise (the other two externals always raise) -/
noncomputable def extInv : Ext R :=
  { minv := fun A =>
      if h : ∃ B : Mat R, B.r = A.r ∧ B.c = A.c ∧ A.c = A.r ∧
          Mat.toM A.r A.r B * Mat.toM A.r A.r A = 1 ∧ Mat.toM A.r A.r A * Mat.toM A.r A.r B = 1
      then .ok (Classical.choose h) else .error .noninv
    mfrac := fun _ _ => .error (.ext "none")
    mexp := fun _ => .error (.ext "none") }

theorem extInv_spec (A B : Mat R) (h : (extInv R).minv A = .ok B) :
    B.r = A.r ∧ B.c = A.c ∧ A.c = A.r ∧
      Mat.toM A.r A.r B * Mat.toM A.r A.r A = 1 ∧ Mat.toM A.r A.r A * Mat.toM A.r A.r B = 1 := by
  simp only [extInv] at h
  split at h
  · rename_i hex
    cases h
    exact Classical.choose_spec hex
  · cases h

theorem extInv_laws : ExtLaws (extInv R) :=
  { inv_dim := by intro A B h; obtain ⟨a, b, _⟩ := extInv_spec R A B h; exact ⟨a, b⟩
    inv_mul := by
      intro d A B hr _ h
      obtain ⟨_, _, _, a, b⟩ := extInv_spec R A B h
      subst hr; exact ⟨a, b⟩
    frac_dim := by intro A e B h; cases h
    root := by intro d A e B _ _ _ _ h; cases h
    exp_dim := by intro A B h; cases h }

theorem extInv_exp (E) : ExpLaw (extInv R) E := by
  intro d A B _ _ h; cases h

end

theorem extInv_ok_of_unitary {R : Type} [CommRing R] [StarRing R] (d : Nat) (M : Mat R) (h : IsUnitaryOf d M) :
    ∃ Mi, (extInv R).minv M = .ok Mi := by
  obtain ⟨rfl, hc, h1, h2⟩ := h
  rw [← toM_adjointWith' _ M rfl hc] at h1 h2
  exact ⟨_, dif_pos ⟨adjointWith star M, hc, hc.symm, hc, h1, h2⟩⟩

theorem mpow_neg_ok {R : Type} [Zero R] [One R] [Add R] [Mul R] (x : Ext R) (M Mi : Mat R) (e : Rat)
    (he : e.den = 1) (hn : e.num < 0) (h : x.minv M = .ok Mi) : mpow x M e = .ok (npow Mi (-e.num).toNat) := by
  have : ¬ (0 ≤ e.num) := by omega
  simp only [mpow, he, if_true, ipow, this, if_false, h]
  rfl

section
/-- RX at the half-angle point (3/5, 4/5), exact in ℚ(ζ₈) -/
def rxPt : Param Cyc8 := .ang ⟨Cyc8.ofRat (3/5), Cyc8.ofRat (4/5)⟩
def rxBase : Base (Param Cyc8) Cyc8 := Base.builtin Scal.cyc8 "RX" [rxPt]
def xBase : Base (Param Cyc8) Cyc8 := Base.builtin Scal.cyc8 "X" []

theorem rxBase_builtin : BuiltinBase Scal.cyc8 rxBase :=
  driver_builtinBase ("RX", 1, 1, false) (by decide +kernel) [(3/5, 4/5)] rfl (List.forall_mem_singleton.2 (by norm_num))

theorem xBase_builtin : BuiltinBase Scal.cyc8 xBase :=
  driver_builtinBase ("X", 1, 0, true) (by decide +kernel) [] rfl fun _ h => absurd h List.not_mem_nil

/-- `RX(θ).controlled(1).power(2)`: a `ControlledGate` around a `Power` around a base gate that is NOT flagged -/
def gEx : Gate (Param Cyc8) Cyc8 := Gate.applyChain (.base rxBase) [.controlled 0, .power 2]

theorem gEx_pure : Pure Scal.cyc8 gEx :=
  Gate.all_applyChain _ (by decide) _ rxBase_builtin

end

end Inst

end OQ.C07
