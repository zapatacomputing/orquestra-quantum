/- C08 linking lemmas: the spec semantics `Uc` / `opDen` of OQ/Lemmas/C08.lean related to the executable embedding
   (`Lift.toUnitary`, characterised in OQ/Props/C01.lean) and the built-in gate facts of OQ/Props/C02.lean. -/
import OQ.Props.C08
import OQ.Props.C01
import OQ.Props.C02
import OQ.Lemmas.C07_Link
set_option linter.unusedSectionVars false

namespace OQ.C08.Link
open Matrix OQ.Spec OQ.C08 OQ.C02 OQ.Generated
open Classical

variable {R : Type} [CommRing R] [StarRing R]

theorem idxL_eq_sub (n : Nat) (qs : List Nat) (hq : ∀ q ∈ qs, q < n) (x : BV (Fin n)) :
    idxL n qs x = C01.sub n qs ((C01.bvEquiv n).symm x).val := by
  unfold idxL bitsL C01.sub
  refine congrArg _ (List.map_congr_left fun q hq' => ?_)
  rw [dif_pos (hq q hq'), C01.bit_eq_testBit, C01.bit_bv n x ⟨q, hq q hq'⟩]
  cases x ⟨q, hq q hq'⟩ <;> rfl

/-- `len` is `qs.length`, kept apart so that `qs` can be a list whose length only reduces propositionally, such as
    `List.range` -/
theorem symm_bv_idxL (n : Nat) (qs : List Nat) (len : Nat) (hlen : qs.length = len) (hd : qs.Nodup)
    (hq : ∀ q ∈ qs, q < n) (x : BV (Fin n)) :
    ((C01.bvEquiv len).symm (fun j : Fin len => x ⟨qs[j.val]'(hlen ▸ j.2), hq _ (List.getElem_mem _)⟩)).val
      = idxL n qs x := by
  subst hlen
  exact (C01.sub_sigmaOf qs n hd hq x).trans (idxL_eq_sub n qs hq x).symm

theorem opSem_eq_opDen (n : Nat) (m : Mat R) (qs : List Nat) (h : C01.OpValid n (⟨m, qs⟩ : Lift.Op R)) :
    C01.opSem n (⟨m, qs⟩ : Lift.Op R) = opDen n m qs := by
  ext x y
  rw [C01.opSem_apply n _ h]
  unfold opDen
  simp only [C01.toBV_apply]
  rw [symm_bv_idxL n qs _ rfl h.nodup h.lt x, symm_bv_idxL n qs _ rfl h.nodup h.lt y]

theorem mapM_cons_opt {α β : Type} (f : α → Option β) (a : α) (as : List α) :
    (a :: as).mapM f = (f a).bind (fun b => (as.mapM f).map (fun bs => b :: bs)) := by
  rw [List.mapM_cons]
  cases f a <;> cases as.mapM f <;> rfl

/-- the per-operation step of `toOps` -/
def opOf (k : Scal R) (x : Ext R) (o : GOp (Gate R)) : Option (Lift.Op R) :=
  (Gate.matrix k x o.gate).bind (fun m =>
    if m.r = 2 ^ o.qs.length ∧ m.c = 2 ^ o.qs.length then some (⟨m, o.qs⟩ : Lift.Op R) else none)

theorem toOps_eq (k : Scal R) (x : Ext R) (c : Circ (Gate R)) : toOps k x c = c.ops.mapM (opOf k x) := rfl

theorem opValid_iff (n : Nat) (m : Mat R) (qs : List Nat) :
    C01.OpValid n (⟨m, qs⟩ : Lift.Op R) ↔ qs ≠ [] ∧ OpWF n m qs :=
  ⟨fun h => ⟨h.ne, h.nodup, h.lt, h.mr, h.mc⟩, fun h => ⟨h.1, h.2.1, h.2.2.1, h.2.2.2.1, h.2.2.2.2⟩⟩

theorem opDen?_eq_opSem (k : Scal R) (x : Ext R) (n : Nat) (o : GOp (Gate R)) (hne : o.qs ≠ []) :
    opDen? k x n o = (opOf k x o).bind (fun p => if C01.OpValid n p then some (C01.opSem n p) else none) := by
  unfold opDen? opOf
  cases Gate.matrix k x o.gate with
  | none => rfl
  | some m =>
    simp only [Option.bind_some]
    by_cases hd : m.r = 2 ^ o.qs.length ∧ m.c = 2 ^ o.qs.length
    · rw [if_pos hd, Option.bind_some]
      by_cases hv : C01.OpValid n ⟨m, o.qs⟩
      · rw [if_pos hv, if_pos ((opValid_iff n m o.qs).mp hv).2, opSem_eq_opDen n m o.qs hv]
      · rw [if_neg hv, if_neg (fun hw => hv ((opValid_iff n m o.qs).mpr ⟨hne, hw⟩))]
    · rw [if_neg hd, if_neg (fun hw : OpWF n m o.qs => hd hw.2.2)]; rfl

theorem Uc_eq_circSem (k : Scal R) (x : Ext R) (n : Nat) (ops : List (GOp (Gate R))) (hq : ∀ o ∈ ops, o.qs ≠ []) :
    Uc k x n ops = (ops.mapM (opOf k x)).bind (fun L =>
      if ∀ p ∈ L, C01.OpValid n p then some (C01.circSem n (L.map C01.Oper.gate)) else none) := by
  induction ops with
  | nil => simp [Uc, C01.circSem_nil]
  | cons o rest ih =>
    obtain ⟨ho, hrest⟩ := List.forall_mem_cons.mp hq
    rw [mapM_cons_opt, Uc, ih hrest, opDen?_eq_opSem k x n o ho]
    cases opOf k x o with
    | none => cases (rest.mapM (opOf k x)).bind _ <;> rfl
    | some p =>
      cases rest.mapM (opOf k x) with
      | none => rfl
      | some L =>
        simp only [Option.bind_some, Option.map_some, List.forall_mem_cons, List.map_cons, C01.circSem_cons, C01.operSem]
        by_cases hL : ∀ q ∈ L, C01.OpValid n q
        · rw [if_pos hL]
          by_cases hp : C01.OpValid n p
          · rw [if_pos hp, if_pos ⟨hp, hL⟩]; rfl
          · rw [if_neg hp, if_neg (fun h : _ ∧ ∀ q ∈ L, C01.OpValid n q => hp h.1)]; rfl
        · rw [if_neg hL, if_neg (fun h : _ ∧ ∀ q ∈ L, C01.OpValid n q => hL h.2)]; rfl

theorem mapM_opOf (k : Scal R) (x : Ext R) (ops : List (GOp (Gate R))) (L : List (Lift.Op R))
    (h : ops.mapM (opOf k x) = some L) :
    (L = [] → ops = []) ∧ ∀ p ∈ L, p.m.r = 2 ^ p.qs.length ∧ p.m.c = 2 ^ p.qs.length := by
  induction ops generalizing L with
  | nil =>
    simp only [List.mapM_nil, Option.pure_def, Option.some.injEq] at h
    subst h
    exact ⟨fun _ => rfl, fun _ h => nomatch h⟩
  | cons o rest ih =>
    rw [mapM_cons_opt] at h
    simp only [Option.bind_eq_some_iff, Option.map_eq_some_iff] at h
    obtain ⟨p, hp, L', hL', rfl⟩ := h
    refine ⟨(fun h0 => nomatch h0), fun q hq => ?_⟩
    rcases List.mem_cons.mp hq with rfl | hq
    · simp only [opOf, Option.bind_eq_some_iff, Option.ite_none_right_eq_some, Option.some.injEq] at hp
      obtain ⟨m, _, hd, rfl⟩ := hp
      exact hd
    · exact (ih L' hL').2 q hq

theorem toUnitary_none_of_invalid (n : Nat) (L : List (Lift.Op R)) (p : Lift.Op R) (hp : p ∈ L)
    (hv : ¬ C01.OpValid n p) : C01.toUnitary ⟨n, L.map C01.Oper.gate⟩ = none := by
  obtain ⟨s, t, hst⟩ := List.append_of_mem (List.mem_reverse.mpr (List.mem_map_of_mem (f := C01.Oper.gate) hp))
  have hnone : C01.Oper.lifted n (C01.Oper.gate p) = none :=
    Option.not_isSome_iff_eq_none.mp (mt (C01.gateLift_isSome_iff n p).mp hv)
  unfold C01.toUnitary
  rw [hst, C01.mapM_none_of_mem _ _ hnone]

/-- what `to_unitary()` asks of the operations: there is one, and each names a qubit -/
def ExecOps {G : Type} (ops : List (GOp G)) : Prop := ops ≠ [] ∧ ∀ o ∈ ops, o.qs ≠ []

theorem ExecOps.map {G : Type} {ops : List (GOp G)} (h : ExecOps ops) (f : GOp G → GOp G)
    (hf : ∀ o ∈ ops, (f o).qs ≠ []) : ExecOps (ops.map f) :=
  ⟨fun h0 => h.1 (List.map_eq_nil_iff.mp h0), fun o ho => by
    obtain ⟨o', ho', rfl⟩ := List.mem_map.mp ho; exact hf o' ho'⟩

theorem ExecOps.append {G : Type} {a b : List (GOp G)} (ha : ExecOps a) (hb : ∀ o ∈ b, o.qs ≠ []) : ExecOps (a ++ b) :=
  ⟨fun h0 => ha.1 (List.append_eq_nil_iff.mp h0).1, fun o ho => (List.mem_append.mp ho).elim (ha.2 o) (hb o)⟩

theorem ExecOps.inverse {G : Type} (dg : G → G) {c : Circ G} (h : ExecOps c.ops) : ExecOps (inverse dg c).ops :=
  ExecOps.map ⟨fun h0 => h.1 (List.reverse_eq_nil_iff.mp h0), fun o ho => h.2 o (List.mem_reverse.mp ho)⟩ _
    (fun o ho => h.2 o (List.mem_reverse.mp ho))

theorem appendCirc_n {G : Type} (c d : Circ G) (h : max c.n d.n ≠ 0) : (appendCirc c d).n = max c.n d.n :=
  mkCirc_n_of_ne _ _ h

/-- for a non-empty circuit whose operations each name at least one qubit, the executable
    `Circuit.to_unitary()` of the C08 model, viewed over bit assignments, IS the spec action `Uc` – including
    the error cases – and the returned matrix is `2^n × 2^n` (the width enters through an equation, which avoids
    dependent casts at the callers) -/
theorem unitary_eq_Uc (k : Scal R) (x : Ext R) (c : Circ (Gate R)) (n : Nat) (hn : c.n = n) (h : ExecOps c.ops) :
    (unitary k x c).map (C01.toBV n) = Uc k x n c.ops ∧
    ∀ U, unitary k x c = some U → U.r = 2 ^ n ∧ U.c = 2 ^ n := by
  subst hn
  unfold unitary
  rw [toOps_eq, Uc_eq_circSem k x c.n c.ops h.2]
  cases hL : c.ops.mapM (opOf k x) with
  | none => exact ⟨rfl, fun U hU => nomatch hU⟩
  | some L =>
    obtain ⟨hnil, hd⟩ := mapM_opOf k x c.ops L hL
    simp only [Option.bind_some]
    rw [C01.lift_toUnitary_eq c.n L hd]
    by_cases hv : ∀ p ∈ L, C01.OpValid c.n p
    · obtain ⟨U, hU, hr, hc, hs⟩ := C01.toUnitary_ordered_product c.n L (fun h0 => h.1 (hnil h0)) hv
      rw [hU, if_pos hv, Option.map_some, hs]
      exact ⟨rfl, fun U' hU' => by cases hU'; exact ⟨hr, hc⟩⟩
    · rw [if_neg hv]
      push Not at hv
      obtain ⟨p, hp, hpv⟩ := hv
      rw [toUnitary_none_of_invalid c.n L p hp hpv]
      exact ⟨rfl, fun U hU => nomatch hU⟩

/-- the `num_qubits` / `is_hermitian` data hard-wired in the C08 model agree with the generated gate table -/
theorem builtin_flags_table :
    ∀ row ∈ gateTable, builtinNq (Row.name row) = Row.numQubits row ∧ builtinHerm (Row.name row) = Row.isHermitian row := by
  decide

theorem builtinMatrix_canon (k : Scal R) (name : String) (ps : List (Ang R)) (m : Mat R)
    (h : Gates.builtinMatrix k name ps = some m) : Canon m := by
  unfold Gates.builtinMatrix at h
  split at h
  case h_28 => cases h
  all_goals cases h; exact canon_ofLists _

/-- a base gate object as `builtinGate` builds it: a row of the gate table, the right number of parameters, each a
    point of the circle with real coordinates (= a real angle) -/
def IsBuiltin (k : Scal R) (g : Gate R) : Prop :=
  ∃ row ∈ gateTable, ∃ ps : List (Ang R), ps.length = Row.numParams row ∧ (∀ a ∈ ps, Valid a) ∧
    builtinGate k (Row.name row) ps = some g

theorem isBuiltin_data (k : Scal R) (g : Gate R) (h : IsBuiltin k g) :
    ∃ row ∈ gateTable, ∃ ps : List (Ang R), ∃ m, ps.length = Row.numParams row ∧ (∀ a ∈ ps, Valid a) ∧
      gateMatrix gateTable k (Row.name row) ps = .ok m ∧ Canon m ∧
      g = .base (Row.name row) m (Row.numQubits row) (Row.isHermitian row) := by
  obtain ⟨row, hrow, ps, hlen, hv, hg⟩ := h
  unfold builtinGate at hg
  cases hm : Gates.builtinMatrix k (Row.name row) ps with
  | none => rw [hm] at hg; cases hg
  | some m =>
    rw [hm] at hg
    simp only [Option.map_some, Option.some.injEq] at hg
    have hgm : gateMatrix gateTable k (Row.name row) ps = .ok m := by
      unfold gateMatrix
      rw [show lookup gateTable (Row.name row) = some row from lookup_row row hrow]
      simp only [hlen, ne_eq, not_true_eq_false, if_false, hm]
    refine ⟨row, hrow, ps, m, hlen, hv, hgm, builtinMatrix_canon k _ ps m hm, ?_⟩
    · rw [← hg, (builtin_flags_table row hrow).1, (builtin_flags_table row hrow).2]

theorem adj_eq_of_selfadjoint (k : Scal R) (hk : k.cj = star) (d : Nat) (m : Mat R) (hcan : Canon m)
    (h : IsSelfAdjointOf d m) : Gate.adj k m = m := by
  obtain ⟨hr, hc, hsa⟩ := h
  apply Mat.ext_get (Gate.canon_adj _ _) hcan (hc.trans hr.symm) (hr.trans hc.symm)
  intro i j hi hj
  rw [Gate.adj_get k hk]
  exact congrFun (congrFun hsa ⟨i, hc ▸ hi⟩) ⟨j, hr ▸ hj⟩

theorem isBuiltin_regular {k : Scal R} (hk : Laws k) (g : Gate R) (h : IsBuiltin k g) : Gate.Regular k g := by
  obtain ⟨row, hrow, ps, m, hlen, hv, hm, hcan, rfl⟩ := isBuiltin_data k g h
  obtain ⟨M, hM, hr, hc⟩ := builtin_dim k row hrow ps hlen
  rw [hm] at hM; cases hM
  refine Gate.Regular.base _ _ _ _ hcan hr hc ?_
  intro hf
  obtain ⟨M, hM, hsa⟩ := flag_hermitian hk row hrow hf ps hlen hv
  rw [hm] at hM; cases hM
  exact adj_eq_of_selfadjoint k hk.cj _ m hcan hsa

/-- regular gates over BUILT-IN bases: any nesting of controlled / dagger / exponential / integer power around a
    built-in gate at real parameter values.  No hypothesis on flags, sizes or arrays is left. -/
inductive RegularB (k : Scal R) : Gate R → Prop
  | base (g : Gate R) : IsBuiltin k g → RegularB k g
  | ctrl (g : Gate R) (c : Nat) : RegularB k g → RegularB k (.ctrl g c)
  | dag (g : Gate R) : RegularB k g → RegularB k (.dag g)
  | exp (g : Gate R) : RegularB k g → RegularB k (.exp g)
  | pow (g : Gate R) (e : Rat) : RegularB k g → e.den = 1 → RegularB k (.pow g e)

theorem regularB_regular {k : Scal R} (hk : Laws k) (g : Gate R) (h : RegularB k g) : Gate.Regular k g := by
  induction h with
  | base g hb => exact isBuiltin_regular hk g hb
  | ctrl g c _ ih => exact Gate.Regular.ctrl g c ih
  | dag g _ ih => exact Gate.Regular.dag g ih
  | exp g _ ih => exact Gate.Regular.exp g ih
  | pow g e _ he ih => exact Gate.Regular.pow g e ih he

theorem toBV_conjTranspose (n : Nat) (A : Mat R) :
    (C01.toBV n A)ᴴ = Matrix.reindex (C01.bvEquiv n) (C01.bvEquiv n) (Mat.toM (2 ^ n) (2 ^ n) A)ᴴ := by
  unfold C01.toBV; rw [Matrix.conjTranspose_reindex]

theorem reindex_one (n : Nat) :
    Matrix.reindex (C01.bvEquiv n) (C01.bvEquiv n) (1 : Matrix (Fin (2 ^ n)) (Fin (2 ^ n)) R) = 1 := by
  rw [Matrix.reindex_apply, Matrix.submatrix_one_equiv]

theorem map_toM {n : Nat} {a : Option (Mat R)} {b : Option (Matrix (Fin (2 ^ n)) (Fin (2 ^ n)) R)}
    (h : a.map (C01.toBV n) = b.map (Matrix.reindex (C01.bvEquiv n) (C01.bvEquiv n))) :
    a.map (Mat.toM (2 ^ n) (2 ^ n)) = b :=
  Option.map_injective (Matrix.reindex (C01.bvEquiv n) (C01.bvEquiv n)).injective ((Option.map_map _ _ _).trans h)

theorem idxL_range (kq : Nat) (u : BV (Fin kq)) :
    idxL kq (List.range kq) u = ((C01.bvEquiv kq).symm u).val := by
  rw [← symm_bv_idxL kq (List.range kq) kq List.length_range List.nodup_range (fun q hq => List.mem_range.mp hq) u]
  congr 2; funext j; congr 1; exact Fin.ext (by simp)

theorem gateDen_eq_toBV (kq : Nat) (m : Mat R) : gateDen kq m = C01.toBV kq m := by
  ext u v
  rw [gateDen_apply, C01.toBV_apply, idxL_range, idxL_range]

theorem gateDen_unitary (kq : Nat) (m : Mat R) (h : IsUnitaryOf (2 ^ kq) m) :
    (gateDen kq m)ᴴ * gateDen kq m = 1 := by
  rw [gateDen_eq_toBV, toBV_conjTranspose]
  unfold C01.toBV
  simp only [Matrix.reindex_apply]
  rw [Matrix.submatrix_mul_equiv, h.2.2.1, Matrix.submatrix_one_equiv]

theorem adj_unitary (k : Scal R) (hk : k.cj = star) (d : Nat) (m : Mat R) (h : IsUnitaryOf d m) :
    IsUnitaryOf d (Gate.adj k m) := by
  rw [Gate.adj_eq_adjointWith, hk]
  exact C07.adjoint_unitary d m h

theorem ctrlMat_unitary (e d : Nat) (m : Mat R) (h : IsUnitaryOf d m) : IsUnitaryOf (e + d) (Gate.ctrlMat e m) :=
  C07.ctl_unitary e d m h

/-- unitary gates over built-in bases: any nesting of controlled / dagger around a built-in gate at real parameter
    values (`Exponential` is not unitary in general – `exp(X)` is not – and the assumed laws of sympy's `**` say
    nothing about unitarity, so those two wrappers are excluded here) -/
inductive UnitaryB (k : Scal R) : Gate R → Prop
  | base (g : Gate R) : IsBuiltin k g → UnitaryB k g
  | ctrl (g : Gate R) (c : Nat) : UnitaryB k g → UnitaryB k (.ctrl g c)
  | dag (g : Gate R) : UnitaryB k g → UnitaryB k (.dag g)

theorem unitaryB_regularB {k : Scal R} (g : Gate R) (h : UnitaryB k g) : RegularB k g := by
  induction h with
  | base g hb => exact RegularB.base g hb
  | ctrl g c _ ih => exact RegularB.ctrl g c ih
  | dag g _ ih => exact RegularB.dag g ih

theorem unitaryB_dagger {k : Scal R} (g : Gate R) (h : UnitaryB k g) : UnitaryB k (Gate.dagger g) := by
  induction h with
  | base g hb =>
    obtain ⟨row, hrow, ps, m, hlen, hv, hm, hcan, rfl⟩ := isBuiltin_data k g hb
    cases hh : Row.isHermitian row with
    | true => rw [hh] at hb; simpa [Gate.dagger] using UnitaryB.base _ hb
    | false => rw [hh] at hb; simpa [Gate.dagger] using UnitaryB.dag _ (UnitaryB.base _ hb)
  | ctrl g c _ ih => exact UnitaryB.ctrl _ c ih
  | dag g h _ => exact h

theorem unitaryB_matrix_indep {k : Scal R} (x x' : Ext R) (g : Gate R) (h : UnitaryB k g) :
    Gate.matrix k x g = Gate.matrix k x' g := by
  induction h with
  | base g hb =>
    obtain ⟨row, hrow, ps, m, hlen, hv, hm, hcan, rfl⟩ := isBuiltin_data k g hb
    rfl
  | ctrl g c _ ih => simp only [Gate.matrix, ih]
  | dag g _ ih => simp only [Gate.matrix, ih]

/-- `.dagger` denotes the adjoint on `UnitaryB` gates – for ANY external (none is consulted) -/
theorem unitaryB_dagger_faithful {k : Scal R} (hk : Laws k) (x : Ext R) (g : Gate R) (h : UnitaryB k g) :
    Gate.matrix k x (Gate.dagger g) = (Gate.matrix k x g).map (Gate.adj k) := by
  have := Gate.dagger_faithful k hk.cj xNone (xNone_laws k) g (regularB_regular hk g (unitaryB_regularB g h))
  rw [unitaryB_matrix_indep x xNone g h, unitaryB_matrix_indep x xNone _ (unitaryB_dagger g h)]
  exact this

theorem foldl_max_lt_iff (l : List Nat) (a b : Nat) : l.foldl max a < b ↔ a < b ∧ ∀ q ∈ l, q < b :=
  ⟨fun h => ⟨(le_foldl_max l a).1.trans_lt h, fun q hq => ((le_foldl_max l a).2 q hq).trans_lt h⟩,
   fun h => (List.forall_mem_cons (p := (· < b))).mpr h _ (foldl_max_mem l a)⟩

theorem sizeByOps_le_iff {G : Type} {ops : List (GOp G)} (h : ExecOps ops) (b : Nat) :
    sizeByOps ops ≤ b ↔ ∀ o ∈ ops, ∀ q ∈ o.qs, q < b := by
  obtain ⟨o, ho⟩ := List.exists_mem_of_ne_nil _ h.1
  obtain ⟨q, hq⟩ := List.exists_mem_of_ne_nil _ (h.2 o ho)
  rw [sizeByOps, if_neg (mt List.isEmpty_iff.mp h.1), Nat.succ_le_iff, foldl_max_lt_iff]
  simp only [List.mem_flatMap, forall_exists_index, and_imp]
  exact ⟨fun h o ho q hq => h.2 q o ho hq, fun h => ⟨Nat.zero_lt_of_lt (h o ho q hq), fun q o ho hq => h o ho q hq⟩⟩

/-- `hn`: the width is the width by operations, the default of `Circuit(ops)` -/
theorem controlledCirc_width {G : Type} (ctl : G → G) (ci : Nat) (circ : Circ G) (hne : circ.ops ≠ [])
    (hq : ∀ o ∈ circ.ops, o.qs ≠ []) (hn : circ.n = sizeByOps circ.ops) (hci : ci ≤ circ.n) :
    (controlledCirc ctl ci circ).n = circ.n + 1 := by
  have he : ExecOps circ.ops := ⟨hne, hq⟩
  have he' := he.map (fun o => ⟨ctl o.gate, ci :: o.qs.map (shiftIdx ci)⟩) (fun o _ => List.cons_ne_nil _ _)
  have hold := (sizeByOps_le_iff he circ.n).mp hn.ge
  have hnew := (sizeByOps_le_iff he' _).mp (Nat.le_refl _)
  have hle := (sizeByOps_le_iff he' (circ.n + 1)).mpr
  simp only [List.forall_mem_map, List.forall_mem_cons] at hnew hle
  show sizeByOps (circ.ops.map _) = _
  generalize sizeByOps (circ.ops.map _) = S at hnew hle ⊢
  apply Nat.le_antisymm
  · exact hle fun o ho => ⟨by omega, fun q hq' => by have := hold o ho q hq'; unfold shiftIdx; split <;> omega⟩
  · -- every old index `q` has a new index above it: `q + 1` itself, or the control when `q < ci`
    obtain ⟨o, ho⟩ := List.exists_mem_of_ne_nil _ hne
    have := (sizeByOps_le_iff he (S - 1)).mpr fun o ho q hq' => by
      have h1 := (hnew o ho).1
      have h2 := (hnew o ho).2 q hq'
      unfold shiftIdx at h2; split at h2 <;> omega
    have := (hnew o ho).1
    omega

end OQ.C08.Link
