/- Lists of qubit indices: smallest and largest index, and when `_permutation_making_qubits_adjacent` passes the
   permutation check of `_permutation_matrix`. -/
import OQ.Model.Lift
import OQ.Lemmas.Fold
import Mathlib.Data.List.Perm.Basic
import Mathlib.Data.List.Range
import Mathlib.Data.List.Nodup
import Mathlib.Data.List.Perm.Subperm

namespace OQ.C01
open OQ.Lift

theorem listMin_le (qs : List Nat) : ∀ q ∈ qs, listMin qs ≤ q := by
  cases qs with
  | nil => simp
  | cons x xs => exact List.forall_mem_cons.mpr ((le_foldl_min_iff xs x _).mp le_rfl)

theorem le_listMax (qs : List Nat) : ∀ q ∈ qs, q ≤ listMax qs := by
  cases qs with
  | nil => simp
  | cons x xs => exact List.forall_mem_cons.mpr (le_foldl_max xs x)

theorem listMax_mem (qs : List Nat) (h : qs ≠ []) : listMax qs ∈ qs := by
  cases qs with
  | nil => exact absurd rfl h
  | cons x xs => exact foldl_max_mem xs x

theorem length_le_span (qs : List Nat) (hd : qs.Nodup) : qs.length ≤ listMax qs - listMin qs + 1 := by
  have hsub : ∀ q ∈ qs, q ∈ (List.range (listMax qs - listMin qs + 1)).map (fun k => k + listMin qs) := by
    intro q hq
    have h1 := listMin_le qs q hq
    have h2 := le_listMax qs q hq
    exact List.mem_map.mpr ⟨q - listMin qs, List.mem_range.mpr (by omega), by omega⟩
  simpa using (List.subperm_of_subset hd hsub).length_le

theorem mem_window (qs : List Nat) : ∀ q ∈ qs, listMin qs ≤ q ∧ q < listMin qs + (listMax qs - listMin qs + 1) := by
  intro q hq
  have := listMin_le qs q hq
  have := le_listMax qs q hq
  omega

/-! indices of a window of `span` positions starting at `s`, shifted to start at 0 (as `_lift_matrix` hands them to
    `_permutation_making_qubits_adjacent`) -/

theorem shifted_lt (qs : List Nat) (s span : Nat) (h : ∀ q ∈ qs, s ≤ q ∧ q < s + span) :
    ∀ j ∈ qs.map (fun q => q - s), j < span := by
  intro j hj
  obtain ⟨q, hq, rfl⟩ := List.mem_map.mp hj
  have := h q hq
  omega

theorem shifted_nodup_iff (qs : List Nat) (s span : Nat) (h : ∀ q ∈ qs, s ≤ q ∧ q < s + span) :
    (qs.map (fun q => q - s)).Nodup ↔ qs.Nodup := by
  refine ⟨List.Nodup.of_map _, List.Nodup.map_on fun a ha b hb hab => ?_⟩
  have := h a ha
  have := h b hb
  omega

theorem isPermutation_of_perm (order : List Nat) (h : order.Perm (List.range order.length)) :
    isPermutation order = true := by
  unfold isPermutation
  rw [List.all_eq_true]
  intro i hi
  have := (List.perm_iff_count.mp h) i
  rw [List.count_range, if_pos (List.mem_range.mp hi)] at this
  simp [this]

theorem permMakingAdjacent_perm (sh : List Nat) (span : Nat) (hd : sh.Nodup) (hlt : ∀ j ∈ sh, j < span) :
    (permMakingAdjacent sh span).Perm (List.range span) := by
  rw [List.perm_iff_count]
  intro a
  unfold permMakingAdjacent
  rw [List.count_append, List.count_range, hd.count]
  by_cases ha : a ∈ sh
  · have : List.count a (List.filter (fun i => !sh.contains i) (List.range span)) = 0 := by
      rw [List.count_eq_zero]
      intro hmem
      simpa [ha] using (List.mem_filter.mp hmem).2
    rw [if_pos ha, if_pos (hlt a ha), this]
  · rw [if_neg ha, Nat.zero_add, List.count_filter (by simp [ha]), List.count_range]

theorem permMakingAdjacent_split (sh : List Nat) (span : Nat) (hd : sh.Nodup) (hlt : ∀ j ∈ sh, j < span) :
    ∃ rest, permMakingAdjacent sh span = sh ++ rest ∧ (sh ++ rest).length = span ∧ ∀ j, j ∈ rest ↔ j < span ∧ j ∉ sh :=
  ⟨_, rfl, (permMakingAdjacent_perm sh span hd hlt).length_eq.trans List.length_range, fun j => by
    rw [List.mem_filter, List.mem_range]; simp⟩

/-- with a repeated index the check fails: every position of the span is listed, the repeated one twice -/
theorem isPermutation_false_of_dup (sh : List Nat) (span : Nat) (hlt : ∀ j ∈ sh, j < span) (hdup : ¬ sh.Nodup) :
    isPermutation (permMakingAdjacent sh span) = false := by
  rw [List.nodup_iff_count_le_one] at hdup
  push Not at hdup
  obtain ⟨j, hj⟩ := hdup
  have hjm : j ∈ sh := List.count_pos_iff.mp (by omega)
  have hsub : List.range span ⊆ permMakingAdjacent sh span := by
    intro i hi
    by_cases hm : i ∈ sh
    · exact List.mem_append_left _ hm
    · exact List.mem_append_right _ (List.mem_filter.mpr ⟨hi, by simp [hm]⟩)
  have hlen : span ≤ (permMakingAdjacent sh span).length := by
    simpa using (List.subperm_of_subset List.nodup_range hsub).length_le
  have hcount : 1 < List.count j (permMakingAdjacent sh span) := by
    unfold permMakingAdjacent
    rw [List.count_append]; omega
  unfold isPermutation
  rw [List.all_eq_false]
  exact ⟨j, List.mem_range.mpr (lt_of_lt_of_le (hlt j hjm) hlen), by simp only [beq_iff_eq]; omega⟩

end OQ.C01
