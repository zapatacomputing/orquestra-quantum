/- C08, circuit level: the denotation `Uc` of the model's operation lists over bit assignments; what the adjoint of
   the gate matrix, a control in front and a wider register do to the denotation of one operation, and the lemmas
   that carry such facts to lists; the equations of the builders. -/
import OQ.Lemmas.C08_Gate
import OQ.Lemmas.C08_Spec
import OQ.Lemmas.C01_Bits
import OQ.Lemmas.Fold
import Mathlib.Data.Fin.SuccPred
import Mathlib.Data.List.Perm.Basic
import Mathlib.Data.List.Dedup
import Mathlib.Data.Option.NAry
import Mathlib.Logic.Equiv.Fin.Basic
set_option linter.unusedSectionVars false

namespace OQ.C08
open Matrix OQ.Spec
open Classical

variable {R : Type} [CommRing R] [StarRing R]

def bit (b : Bool) : Nat := if b then 1 else 0

def bitsL (n : Nat) (qs : List Nat) (x : BV (Fin n)) : List Nat :=
  qs.map (fun q => if h : q < n then bit (x ⟨q, h⟩) else 0)

/-- row/column index of the gate matrix: first listed qubit = most significant bit
    (`Lift.bitsToIndex`, the convention of `_unitary_tools.py`) -/
def idxL (n : Nat) (qs : List Nat) (x : BV (Fin n)) : Nat := Lift.bitsToIndex (bitsL n qs x)

/-- gate matrix `m` on the qubits `qs` of an `n`-qubit register, pointwise (the `lift_apply` form):
    assignments that agree off `qs` ⇒ the entry of `m` at the restricted assignments, otherwise 0 -/
noncomputable def opDen (n : Nat) (m : Mat R) (qs : List Nat) : Matrix (BV (Fin n)) (BV (Fin n)) R :=
  fun x y => if (∀ i : Fin n, i.val ∉ qs → x i = y i) then m.get (idxL n qs x) (idxL n qs y) else 0

/-- the operation is well formed on `n` qubits: distinct in-range qubits, matrix of size `2^|qs|` -/
def OpWF (n : Nat) (m : Mat R) (qs : List Nat) : Prop :=
  qs.Nodup ∧ (∀ q ∈ qs, q < n) ∧ m.r = 2 ^ qs.length ∧ m.c = 2 ^ qs.length

noncomputable def opDen? (k : Scal R) (x : Ext R) (n : Nat) (o : GOp (Gate R)) :
    Option (Matrix (BV (Fin n)) (BV (Fin n)) R) :=
  (Gate.matrix k x o.gate).bind (fun m => if OpWF n m o.qs then some (opDen n m o.qs) else none)

/-- the action of a list of operations on `n` qubits (first operation = rightmost factor);
    `none` when some operation is ill formed or sympy raises.  The empty list acts as the identity. -/
noncomputable def Uc (k : Scal R) (x : Ext R) (n : Nat) :
    List (GOp (Gate R)) → Option (Matrix (BV (Fin n)) (BV (Fin n)) R)
  | [] => some 1
  | o :: rest => (Uc k x n rest).bind (fun a => (opDen? k x n o).map (fun l => a * l))

theorem opDen?_eq_some_iff (k : Scal R) (x : Ext R) (n : Nat) (o : GOp (Gate R))
    (l : Matrix (BV (Fin n)) (BV (Fin n)) R) :
    opDen? k x n o = some l ↔ ∃ m, Gate.matrix k x o.gate = some m ∧ OpWF n m o.qs ∧ opDen n m o.qs = l := by
  simp only [opDen?, Option.bind_eq_some_iff, Option.ite_none_right_eq_some, Option.some.injEq]

theorem opDen?_map {n n' : Nat} (k : Scal R) (x : Ext R) (φ : Mat R → Mat R)
    (F : Matrix (BV (Fin n)) (BV (Fin n)) R → Matrix (BV (Fin n')) (BV (Fin n')) R) {g g' : Gate R} {qs qs' : List Nat}
    (hm : Gate.matrix k x g' = (Gate.matrix k x g).map φ)
    (hwf : ∀ m, Gate.matrix k x g = some m → (OpWF n' (φ m) qs' ↔ OpWF n m qs))
    (hden : ∀ m, Gate.matrix k x g = some m → OpWF n m qs → opDen n' (φ m) qs' = F (opDen n m qs)) :
    opDen? k x n' ⟨g', qs'⟩ = (opDen? k x n ⟨g, qs⟩).map F := by
  simp only [opDen?, hm]
  cases hg : Gate.matrix k x g with
  | none => rfl
  | some m =>
    simp only [Option.map_some, Option.bind_some, hwf m hg]
    by_cases hw : OpWF n m qs
    · simp only [hw, if_true, Option.map_some, hden m hg hw]
    · simp only [hw, if_false, Option.map_none]

/-- the `bind` / `map` of the definition read as an `Option.map₂`, so that the lemmas on `Option.map₂` apply to
    `Uc k x n (o :: rest)` -/
theorem Uc_cons (k : Scal R) (x : Ext R) (n : Nat) (o : GOp (Gate R)) (rest : List (GOp (Gate R))) :
    Uc k x n (o :: rest) = Option.map₂ (· * ·) (Uc k x n rest) (opDen? k x n o) := rfl

theorem Uc_singleton (k : Scal R) (x : Ext R) (n : Nat) (o : GOp (Gate R)) : Uc k x n [o] = opDen? k x n o :=
  Option.map₂_left_identity Matrix.one_mul _

theorem opWF_of_Uc (k : Scal R) (x : Ext R) (n : Nat) (ops : List (GOp (Gate R)))
    (U : Matrix (BV (Fin n)) (BV (Fin n)) R) (h : Uc k x n ops = some U) :
    ∀ o ∈ ops, ∃ m, Gate.matrix k x o.gate = some m ∧ OpWF n m o.qs := by
  induction ops generalizing U with
  | nil => exact fun _ h => nomatch h
  | cons o rest ih =>
    obtain ⟨a, l, ha, hl, -⟩ := Option.map₂_eq_some_iff.mp h
    obtain ⟨m, hm, hw, -⟩ := (opDen?_eq_some_iff k x n o l).mp hl
    exact List.forall_mem_cons.mpr ⟨⟨m, hm, hw⟩, ih a ha⟩

theorem Uc_append (k : Scal R) (x : Ext R) (n : Nat) (a b : List (GOp (Gate R))) :
    Uc k x n (a ++ b) = Option.map₂ (· * ·) (Uc k x n b) (Uc k x n a) := by
  induction a with
  | nil => exact (Option.map₂_right_identity Matrix.mul_one _).symm
  | cons o rest ih => rw [List.cons_append, Uc_cons, Uc_cons, ih, Option.map₂_assoc Matrix.mul_assoc]

theorem Uc_map_hom {n n' : Nat} (k : Scal R) (x : Ext R)
    (F : Matrix (BV (Fin n)) (BV (Fin n)) R → Matrix (BV (Fin n')) (BV (Fin n')) R) (h1 : F 1 = 1)
    (hmul : ∀ a b, F (a * b) = F a * F b) (f : GOp (Gate R) → GOp (Gate R)) (ops : List (GOp (Gate R)))
    (h : ∀ o ∈ ops, opDen? k x n' (f o) = (opDen? k x n o).map F) :
    Uc k x n' (ops.map f) = (Uc k x n ops).map F := by
  induction ops with
  | nil => exact congrArg some h1.symm
  | cons o rest ih =>
    obtain ⟨ho, hrest⟩ := List.forall_mem_cons.mp h
    rw [List.map_cons, Uc_cons, Uc_cons, ih hrest, ho]
    exact (Option.map_map₂_distrib hmul).symm

theorem bit_lt (b : Bool) : bit b < 2 := by cases b <;> decide

theorem bit_inj {a b : Bool} (h : bit a = bit b) : a = b := by
  revert h; cases a <;> cases b <;> decide

theorem bitsL_lt (n : Nat) (qs : List Nat) (x : BV (Fin n)) : ∀ b ∈ bitsL n qs x, b < 2 := by
  intro b hb
  obtain ⟨q, _, rfl⟩ := List.mem_map.mp hb
  split
  · exact bit_lt _
  · exact Nat.two_pos

theorem bitsL_length (n : Nat) (qs : List Nat) (x : BV (Fin n)) : (bitsL n qs x).length = qs.length :=
  List.length_map _

theorem idxL_lt (n : Nat) (qs : List Nat) (x : BV (Fin n)) : idxL n qs x < 2 ^ qs.length :=
  bitsL_length n qs x ▸ C01.bitsToIndex_lt (bitsL n qs x) (bitsL_lt n qs x)

theorem idxL_cons (n q : Nat) (hq : q < n) (qs : List Nat) (x : BV (Fin n)) :
    idxL n (q :: qs) x = bit (x ⟨q, hq⟩) * 2 ^ qs.length + idxL n qs x := by
  unfold idxL
  rw [← bitsL_length n qs x, ← C01.bitsToIndex_cons]
  simp only [bitsL, List.map_cons, hq, dite_true]

theorem idxL_eq_iff (n : Nat) (qs : List Nat) (hq : ∀ q ∈ qs, q < n) (x y : BV (Fin n)) :
    idxL n qs x = idxL n qs y ↔ ∀ i : Fin n, i.val ∈ qs → x i = y i := by
  have hbits : bitsL n qs x = bitsL n qs y ↔ ∀ i : Fin n, i.val ∈ qs → x i = y i := by
    simp only [bitsL, List.map_inj_left]
    constructor
    · intro h i hi
      have := h i.val hi
      simp only [i.2, dite_true] at this
      exact bit_inj this
    · intro h q hq'
      simp only [hq q hq', dite_true, h ⟨q, hq q hq'⟩ hq']
  rw [← hbits]
  exact ⟨C01.bitsToIndex_inj _ _ (by rw [bitsL_length, bitsL_length]) (bitsL_lt n qs x) (bitsL_lt n qs y),
    congrArg Lift.bitsToIndex⟩

theorem one_apply_idxL (n : Nat) (qs : List Nat) (hq : ∀ q ∈ qs, q < n) (u v : BV (Fin n)) :
    (1 : Matrix (BV (Fin n)) (BV (Fin n)) R) u v =
      if (∀ i : Fin n, i.val ∉ qs → u i = v i) then (if idxL n qs u = idxL n qs v then 1 else 0) else 0 := by
  have : u = v ↔ (∀ i : Fin n, i.val ∉ qs → u i = v i) ∧ idxL n qs u = idxL n qs v := by
    rw [idxL_eq_iff n qs hq, funext_iff]
    exact ⟨fun h => ⟨fun i _ => h i, fun i _ => h i⟩, fun h i => if hi : i.val ∈ qs then h.2 i hi else h.1 i hi⟩
  rw [Matrix.one_apply, ← ite_and]
  exact if_congr this rfl rfl

theorem idxL_map {n n' : Nat} (f : Nat → Nat) (e : Fin n → Fin n') (he : ∀ i, (e i).val = f i.val) (qs : List Nat)
    (hq : ∀ q ∈ qs, q < n) (x : BV (Fin n')) : idxL n' (qs.map f) x = idxL n qs (x ∘ e) := by
  unfold idxL bitsL
  rw [List.map_map]
  congr 1
  apply List.map_congr_left
  intro q hq'
  have h1 := hq q hq'
  have h2 : f q < n' := he ⟨q, h1⟩ ▸ (e ⟨q, h1⟩).2
  simp only [Function.comp, h1, h2, dite_true]
  congr 2
  exact Fin.ext (he ⟨q, h1⟩).symm

theorem opDen_adj (k : Scal R) (hk : k.cj = star) (n : Nat) (m : Mat R) (qs : List Nat) :
    opDen n (Gate.adj k m) qs = (opDen n m qs)ᴴ := by
  ext x y
  simp only [opDen, Matrix.conjTranspose_apply, Gate.adj_get k hk, apply_ite star, star_zero]
  exact if_congr (forall_congr' fun i => imp_congr_right fun _ => eq_comm) rfl rfl

theorem opWF_adj (k : Scal R) (n : Nat) (m : Mat R) (qs : List Nat) :
    OpWF n (Gate.adj k m) qs ↔ OpWF n m qs := by
  simp only [OpWF, Gate.adj_r, Gate.adj_c]; tauto

theorem shiftIdx_ne (ci q : Nat) : shiftIdx ci q ≠ ci := by unfold shiftIdx; split <;> omega
theorem shiftIdx_inj (ci a b : Nat) (h : shiftIdx ci a = shiftIdx ci b) : a = b := by
  unfold shiftIdx at h; split at h <;> split at h <;> omega
theorem shiftIdx_lt_iff (ci q n : Nat) (hc : ci ≤ n) : shiftIdx ci q < n + 1 ↔ q < n := by
  unfold shiftIdx; split <;> omega

theorem succAbove_val (n : Nat) (c : Fin (n + 1)) (i : Fin n) : (c.succAbove i).val = shiftIdx c.val i.val := by
  simp only [Fin.succAbove, shiftIdx, Fin.lt_def, Fin.val_castSucc, apply_ite Fin.val, Fin.val_succ, ← Nat.not_le, ite_not]

theorem idxL_ctrl (n : Nat) (c : Fin (n + 1)) (qs : List Nat) (hq : ∀ q ∈ qs, q < n) (x : BV (Fin (n + 1))) :
    idxL (n + 1) (c.val :: qs.map (shiftIdx c.val)) x
      = bit (x c) * 2 ^ qs.length + idxL n qs (fun i => x (c.succAbove i)) := by
  rw [idxL_cons _ _ c.2, List.length_map, idxL_map _ c.succAbove (succAbove_val n c) qs hq]
  rfl

theorem cond_ctrl (n : Nat) (c : Fin (n + 1)) (qs : List Nat) (x y : BV (Fin (n + 1))) :
    (∀ i : Fin (n + 1), i.val ∉ c.val :: qs.map (shiftIdx c.val) → x i = y i) ↔
    (∀ j : Fin n, j.val ∉ qs → x (c.succAbove j) = y (c.succAbove j)) := by
  -- the control itself is listed; every other qubit is `c.succAbove j`, listed iff `j` is
  rw [Fin.forall_iff_succAbove c]
  simp only [List.mem_cons_self, not_true_eq_false, false_imp_iff, true_and, succAbove_val, List.mem_cons, shiftIdx_ne,
    false_or, List.mem_map_of_injective (shiftIdx_inj c.val)]

theorem ctrlMat_get_bit (d : Nat) (m : Mat R) (p q : Bool) (a b : Nat) (ha : a < d) (hb : b < d) :
    (Gate.ctrlMat d m).get (bit p * d + a) (bit q * d + b) =
      if p = q then (if p = true then m.get a b else if a = b then 1 else 0) else 0 := by
  rw [Gate.ctrlMat_get]
  cases p <;> cases q <;>
    simp only [bit, Bool.false_eq_true, reduceCtorEq, if_true, if_false, Nat.zero_mul, Nat.one_mul, Nat.zero_add]
  · rw [if_pos (Or.inl ha)]
  · rw [if_pos (Or.inl ha), if_neg (by omega)]
  · rw [if_pos (Or.inr hb), if_neg (by omega)]
  · rw [if_neg (by omega), Nat.add_sub_cancel_left, Nat.add_sub_cancel_left]

theorem opDen_ctrl (n : Nat) (c : Fin (n + 1)) (m : Mat R) (qs : List Nat) (hw : OpWF n m qs) :
    opDen (n + 1) (Gate.ctrlMat (2 ^ qs.length) m) (c.val :: qs.map (shiftIdx c.val))
      = ctrlAt (finSuccEquiv' c).symm (opDen n m qs) := by
  ext x y
  have e : ∀ z : BV (Fin (n + 1)), (fun i => z ((finSuccEquiv' c).symm (some i))) = fun i => z (c.succAbove i) :=
    fun _ => rfl
  rw [ctrlAt_apply, e x, e y, finSuccEquiv'_symm_none, one_apply_idxL n qs hw.2.1]
  unfold opDen
  rw [idxL_ctrl n c qs hw.2.1 x, idxL_ctrl n c qs hw.2.1 y,
    ctrlMat_get_bit _ m _ _ _ _ (idxL_lt n qs _) (idxL_lt n qs _)]
  by_cases hP : ∀ j : Fin n, j.val ∉ qs → x (c.succAbove j) = y (c.succAbove j)
  · rw [if_pos ((cond_ctrl n c qs x y).mpr hP)]
    beta_reduce
    rw [if_pos hP, if_pos hP]
  · rw [if_neg (fun h => hP ((cond_ctrl n c qs x y).mp h))]
    beta_reduce
    rw [if_neg hP, if_neg hP, ite_self, ite_self]

theorem opWF_ctrl (n : Nat) (c : Fin (n + 1)) (m : Mat R) (qs : List Nat) (d : Nat) (h1 : m.r = d) (h2 : m.c = d) :
    OpWF (n + 1) (Gate.ctrlMat d m) (c.val :: qs.map (shiftIdx c.val)) ↔ OpWF n m qs := by
  have hnd : (c.val :: qs.map (shiftIdx c.val)).Nodup ↔ qs.Nodup := by
    rw [List.nodup_cons, List.nodup_map_iff (fun a b => shiftIdx_inj _ a b), List.mem_map]
    exact and_iff_right (fun ⟨q, _, hq⟩ => shiftIdx_ne _ _ hq)
  have hrange : (∀ q ∈ c.val :: qs.map (shiftIdx c.val), q < n + 1) ↔ (∀ q ∈ qs, q < n) := by
    simp only [List.mem_cons, List.mem_map, forall_eq_or_imp, c.2, true_and, forall_exists_index, and_imp,
      forall_apply_eq_imp_iff₂, shiftIdx_lt_iff _ _ _ (Nat.le_of_lt_succ c.2)]
  have hdim : d + d = 2 ^ (c.val :: qs.map (shiftIdx c.val)).length ↔ d = 2 ^ qs.length := by
    rw [List.length_cons, List.length_map, Nat.pow_succ]; omega
  unfold OpWF
  rw [hnd, hrange, Gate.ctrlMat_r, Gate.ctrlMat_c, h1, h2, hdim]

/-- the gate matrix over the bit assignments of its own `kq`-qubit register (qubit 0 = most significant bit) -/
noncomputable def gateDen (kq : Nat) (m : Mat R) : Matrix (BV (Fin kq)) (BV (Fin kq)) R :=
  opDen kq m (List.range kq)

/-- the listed qubits as an embedding of the gate's register into the circuit's -/
def embOf (n : Nat) (qs : List Nat) (hnd : qs.Nodup) (hq : ∀ q ∈ qs, q < n) : Fin qs.length ↪ Fin n :=
  ⟨fun i => ⟨qs[i.val], hq _ (List.getElem_mem _)⟩, by
    intro a b hab
    simp only [Fin.mk.injEq] at hab
    exact Fin.ext ((List.Nodup.getElem_inj_iff hnd).mp hab)⟩

theorem gateDen_apply (kq : Nat) (m : Mat R) (u v : BV (Fin kq)) :
    gateDen kq m u v = m.get (idxL kq (List.range kq) u) (idxL kq (List.range kq) v) :=
  if_pos (fun i hi => absurd (List.mem_range.mpr i.2) hi)

theorem mem_range_embOf (n : Nat) (qs : List Nat) (hnd : qs.Nodup) (hq : ∀ q ∈ qs, q < n) (i : Fin n) :
    i ∈ Set.range (embOf n qs hnd hq) ↔ i.val ∈ qs := by
  constructor
  · rintro ⟨j, rfl⟩; exact List.getElem_mem _
  · intro h
    obtain ⟨j, hj, hji⟩ := List.getElem_of_mem h
    exact ⟨⟨j, hj⟩, Fin.ext hji⟩

theorem idxL_emb (n : Nat) (qs : List Nat) (hnd : qs.Nodup) (hq : ∀ q ∈ qs, q < n) (x : BV (Fin n)) :
    idxL qs.length (List.range qs.length) (x ∘ embOf n qs hnd hq) = idxL n qs x := by
  unfold idxL bitsL
  congr 1
  apply List.ext_getElem
  · simp
  · intro j h1 h2
    have hj : j < qs.length := by simpa using h1
    simp only [List.getElem_map, List.getElem_range, hj, dite_true, hq _ (List.getElem_mem hj), Function.comp, embOf]
    rfl

/-- the pointwise denotation used in this file IS the shared spec `lift` -/
theorem opDen_eq_lift (n : Nat) (m : Mat R) (qs : List Nat) (hnd : qs.Nodup) (hq : ∀ q ∈ qs, q < n) :
    opDen n m qs = liftE (embOf n qs hnd hq) (gateDen qs.length m) := by
  ext x y
  rw [liftE_apply, gateDen_apply, idxL_emb, idxL_emb]
  simp only [opDen, mem_range_embOf]

theorem opDen_unitary (n : Nat) (m : Mat R) (qs : List Nat) (hw : OpWF n m qs)
    (hu : (gateDen qs.length m)ᴴ * gateDen qs.length m = 1) :
    (opDen n m qs)ᴴ * opDen n m qs = 1 := by
  rw [opDen_eq_lift n m qs hw.1 hw.2.1, ← liftE_conjTranspose, ← liftE_mul, hu, liftE_one]

theorem Uc_unitary (k : Scal R) (x : Ext R) (n : Nat) (ops : List (GOp (Gate R)))
    (hu : ∀ o ∈ ops, ∀ m, Gate.matrix k x o.gate = some m →
      (gateDen o.qs.length m)ᴴ * gateDen o.qs.length m = 1)
    (U : Matrix (BV (Fin n)) (BV (Fin n)) R) (h : Uc k x n ops = some U) : Uᴴ * U = 1 := by
  induction ops generalizing U with
  | nil => cases h; rw [Matrix.conjTranspose_one, Matrix.one_mul]
  | cons o rest ih =>
    obtain ⟨ho, hrest⟩ := List.forall_mem_cons.mp hu
    obtain ⟨a, l, ha, hl, rfl⟩ := Option.map₂_eq_some_iff.mp h
    obtain ⟨m, hm, hw, rfl⟩ := (opDen?_eq_some_iff k x n o l).mp hl
    rw [Matrix.conjTranspose_mul, Matrix.mul_assoc, ← Matrix.mul_assoc aᴴ, ih hrest a ha, Matrix.one_mul,
      opDen_unitary n m o.qs hw (ho m hm)]

theorem range_castAdd (n k : Nat) (i : Fin (n + k)) : i ∈ Set.range (Fin.castAddEmb (n := n) k) ↔ i.val < n :=
  ⟨fun ⟨j, hj⟩ => hj ▸ j.2, fun h => ⟨⟨i.val, h⟩, Fin.ext rfl⟩⟩

theorem OpWF.widen {n : Nat} {m : Mat R} {qs : List Nat} (hw : OpWF n m qs) (j : Nat) : OpWF (n + j) m qs :=
  ⟨hw.1, fun q hq => Nat.lt_add_right j (hw.2.1 q hq), hw.2.2⟩

theorem opDen_widen (n j : Nat) (m : Mat R) (qs : List Nat) (hw : OpWF n m qs) :
    opDen (n + j) m qs = liftE (Fin.castAddEmb j) (opDen n m qs) := by
  rw [opDen_eq_lift n m qs hw.1 hw.2.1, liftE_liftE, opDen_eq_lift (n + j) m qs hw.1 (hw.widen j).2.1]
  rfl

theorem Uc_widen (k : Scal R) (x : Ext R) (n j : Nat) (ops : List (GOp (Gate R)))
    (U : Matrix (BV (Fin n)) (BV (Fin n)) R) (h : Uc k x n ops = some U) :
    Uc k x (n + j) ops = some (liftE (Fin.castAddEmb j) U) := by
  induction ops generalizing U with
  | nil => cases h; exact congrArg some (liftE_one _).symm
  | cons o rest ih =>
    obtain ⟨a, l, ha, hl, rfl⟩ := Option.map₂_eq_some_iff.mp h
    obtain ⟨m, hm, hw, rfl⟩ := (opDen?_eq_some_iff k x n o l).mp hl
    simp only [Uc, ih a ha, (opDen?_eq_some_iff k x (n + j) o _).mpr ⟨m, hm, hw.widen j, opDen_widen n j m o.qs hw⟩,
      Option.bind_some, Option.map_some, liftE_mul]

theorem i_get (a b : Nat) (ha : a < 2) (hb : b < 2) : (Gates.i : Mat R).get a b = if a = b then 1 else 0 := by
  rw [show (Gates.i : Mat R) = Mat.ofFn 2 2 (fun i j => ([[1, 0], [0, 1]].getD i []).getD j 0) from rfl,
    Mat.get_ofFn _ _ _ _ _ ha hb]
  obtain rfl | rfl : a = 0 ∨ a = 1 := by omega
  all_goals obtain rfl | rfl : b = 0 ∨ b = 1 := by omega
  all_goals rfl

theorem opDen_i (n q : Nat) (hq : q < n) : opDen n (Gates.i : Mat R) [q] = 1 := by
  ext x y
  rw [one_apply_idxL n [q] (by simpa using hq)]
  unfold opDen
  rw [i_get _ _ (idxL_lt n [q] x) (idxL_lt n [q] y)]

theorem Uc_identities {α : Type} (k : Scal R) (x : Ext R) (n : Nat) (q : α → Nat) (l : List α) (hl : ∀ a ∈ l, q a < n) :
    Uc k x n (l.map (fun a => (⟨iGate, [q a]⟩ : GOp (Gate R)))) = some 1 := by
  induction l with
  | nil => rfl
  | cons a l ih =>
    obtain ⟨hq, hl'⟩ := List.forall_mem_cons.mp hl
    have : opDen? k x n ⟨iGate, [q a]⟩ = some 1 := (opDen?_eq_some_iff k x n _ 1).mpr
      ⟨_, rfl, ⟨List.nodup_singleton _, by simpa using hq, rfl, rfl⟩, opDen_i n (q a) hq⟩
    simp only [List.map_cons, Uc, ih hl', this, Option.bind_some, Option.map_some, Matrix.mul_one]

section builders
variable {G : Type}

theorem mkCirc_ops (ops : List (GOp G)) (d : Nat) : (mkCirc ops d).ops = ops := rfl

theorem mkCirc_n_of_ne (ops : List (GOp G)) (d : Nat) (hd : d ≠ 0) : (mkCirc ops d).n = d := if_pos hd

theorem appendOp_eq (c : Circ G) (o : GOp G) : appendOp c o = ⟨c.ops ++ [o], max c.n (o.qs.foldl max 0 + 1)⟩ :=
  congrArg (Circ.mk _) (if_pos (by omega))

theorem foldl_appendOp (L : List (GOp G)) (c : Circ G) :
    L.foldl appendOp c = ⟨c.ops ++ L, L.foldl (fun w o => max w (o.qs.foldl max 0 + 1)) c.n⟩ := by
  induction L generalizing c with
  | nil => rw [List.foldl_nil, List.foldl_nil, List.append_nil]
  | cons o L ih => rw [List.foldl_cons, ih, appendOp_eq, List.foldl_cons, List.append_assoc, List.singleton_append]

theorem foldl_max_single (qs : List Nat) (w : Nat) :
    (qs.foldl (fun w q => max w (([q] : List Nat).foldl max 0 + 1)) w) = qs.foldl (fun w q => max w (q + 1)) w := by
  simp only [List.foldl_cons, List.foldl_nil, Nat.zero_max]

theorem foldl_appendOp_single {α : Type} (g : α → G) (q : α → Nat) (L : List α) (c : Circ G) :
    L.foldl (fun acc a => appendOp acc ⟨g a, [q a]⟩) c
      = ⟨c.ops ++ L.map (fun a => ⟨g a, [q a]⟩), (L.map q).foldl (fun w q => max w (q + 1)) c.n⟩ := by
  have := foldl_appendOp (L.map (fun a => (⟨g a, [q a]⟩ : GOp G))) c
  rw [List.foldl_map] at this
  rw [this, ← foldl_max_single, List.foldl_map, List.foldl_map]

theorem foldl_max_ge (qs : List Nat) (w : Nat) :
    w ≤ qs.foldl (fun w q => max w (q + 1)) w ∧ ∀ q ∈ qs, q < qs.foldl (fun w q => max w (q + 1)) w := by
  rw [← List.foldl_map]
  have h := le_foldl_max (qs.map (· + 1)) w
  exact ⟨h.1, fun q hq => h.2 (q + 1) (List.mem_map_of_mem hq)⟩

theorem foldl_max_range (w n : Nat) :
    ((List.range n).map (fun i => w + i)).foldl (fun w q => max w (q + 1)) w = w + n := by
  induction n with
  | zero => rfl
  | succ n ih =>
    rw [List.range_succ, List.map_append, List.foldl_append, ih]
    exact Nat.max_eq_right (Nat.le_succ (w + n))

theorem foldl_max_range_zero (n : Nat) : (List.range n).foldl (fun w q => max w (q + 1)) 0 = n := by
  simpa only [Nat.zero_add, List.map_id'] using foldl_max_range 0 n

theorem enum_length (qs order : List Nat) (hnd : order.Nodup) (hmem : ∀ q, q ∈ order ↔ q ∈ qs) :
    order.length = qs.dedup.length :=
  ((List.perm_ext_iff_of_nodup hnd (List.nodup_dedup qs)).mpr (fun a => by rw [hmem a, List.mem_dedup])).length_eq

theorem enum_count (qs order : List Nat) (hnd : order.Nodup) (hmem : ∀ q, q ∈ order ↔ q ∈ qs) (q : Nat) :
    order.count q = if q ∈ qs then 1 else 0 := by
  by_cases hq : q ∈ qs
  · rw [if_pos hq, List.count_eq_one_of_mem hnd ((hmem q).mpr hq)]
  · rw [if_neg hq, List.count_eq_zero_of_not_mem (fun h => hq ((hmem q).mp h))]

end builders

end OQ.C08
