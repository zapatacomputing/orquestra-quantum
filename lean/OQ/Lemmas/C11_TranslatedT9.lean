/- the Python prelude (`OQ/Exec/Py.lean`, T9 block) against the model's notions of coefficients, exceptions and loops -/
import OQ.Generated.TranslatedC11
import OQ.Lemmas.C11
import OQ.Lemmas.Fold
namespace OQ.C11
open OQ.Py

theorem foldl_append_singleton {α β : Type} (f : α → β) (l : List α) (acc : List β) :
    l.foldl (fun st x => st ++ [f x]) acc = acc ++ l.map f := by
  induction l generalizing acc with
  | nil => simp
  | cons x xs ih => simp [ih]

/-- a model coefficient as the Python number it stands for, and back -/
def toNum : Coef → Num
  | .real r => .real r
  | .cplx a b => .cplx a b
def ofNum : Num → Coef
  | .real r => .real r
  | .cplx a b => .cplx a b
@[simp] theorem ofNum_toNum (c : Coef) : ofNum (toNum c) = c := by cases c <;> rfl
@[simp] theorem toNum_ofNum (z : Num) : toNum (ofNum z) = z := by cases z <;> rfl
@[simp] theorem toNum_re (c : Coef) : (toNum c).re = c.re := by cases c <;> rfl
@[simp] theorem toNum_im (c : Coef) : (toNum c).im = c.im := by cases c <;> rfl

/-- the model's single error (`ValueError`) as the Python exception class -/
def liftE {α : Type} : Except Err α → Except Exc α
  | .ok v => .ok v
  | .error _ => .error .ValueError

/-- the model's `Option` results (`none` = `ValueError`) -/
def liftO {α : Type} : Option α → Except Exc α
  | some v => .ok v
  | none => .error .ValueError

theorem foldlExc_liftE {σ α : Type} (g : σ → α → Except Err σ) (l : List α) (acc : σ) :
    foldlExc (fun s x => liftE (g s x)) acc l = liftE (l.foldlM g acc) := by
  induction l generalizing acc with
  | nil => rfl
  | cons x xs ih =>
    simp only [foldlExc, List.foldlM_cons]
    cases h : g acc x with
    | error e => cases e; rfl
    | ok v => exact ih v

theorem mapExc_liftO {α β : Type} (g : α → Option β) (l : List α) :
    mapExc (fun x => liftO (g x)) l = liftO (l.mapM g) := by
  induction l with
  | nil => rfl
  | cons x xs ih =>
    simp only [mapExc, List.mapM_cons, ih]
    cases h : g x with
    | none => rfl
    | some v =>
      cases h2 : xs.mapM g with
      | none => rfl
      | some vs => rfl

theorem liftE_bind {α β : Type} (m : Except Err α) (f : α → β) :
    (liftE m).bind (fun r => Except.ok (f r)) = liftE (m >>= fun r => pure (f r)) := by
  cases m with
  | error e => cases e; rfl
  | ok v => rfl

end OQ.C11
