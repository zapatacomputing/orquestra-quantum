/- The prelude's `for` loops that may raise (`foldlE` over `indexE`, `listSet`, `listRemoveE`, `dictGetE`, `dictSet`) against the
   model's `bumpAt`, `roundedSamples`, `representing`: what the translation ties of `utils.scale_and_discretize` and
   `Measurements.get_measurements_representing_distribution` rest on.  Each loop of the two functions is an instance of one rule,
   `foldlE_sim`: a body that does not raise while an invariant holds runs to the end and computes the pure fold. -/
import OQ.Lemmas.C13_Iter
import OQ.Lemmas.PyT4
namespace OQ.C13
open OQ.Py OQ.Generated

theorem foldlE_map_congr {σ α β : Type} (f : σ → α → Except Exc4 σ) (f' : σ → β → Except Exc4 σ) (e : β → α) (ys : List β)
    (h : ∀ s, ∀ y ∈ ys, f s (e y) = f' s y) (s : σ) : foldlE f s (ys.map e) = foldlE f' s ys := by
  induction ys generalizing s with
  | nil => rfl
  | cons y ys ih =>
    simp only [List.map_cons, foldlE, h s y List.mem_cons_self, ih (fun s y hy => h s y (List.mem_cons_of_mem _ hy))]

theorem foldlE_sim {σ τ α : Type} (f : σ → α → Except Exc4 σ) (g : τ → α → τ) (r : τ → σ) (I : τ → List α → Prop)
    (step : ∀ t x xs, I t (x :: xs) → f (r t) x = .ok (r (g t x)) ∧ I (g t x) xs) :
    ∀ xs t, I t xs → foldlE f (r t) xs = .ok (r (xs.foldl g t)) := by
  intro xs
  induction xs with
  | nil => intro t _; rfl
  | cons x xs ih =>
    intro t h
    obtain ⟨h1, h2⟩ := step t x xs h
    rw [foldlE, h1]
    exact ih _ h2

theorem foldlE_pure {σ α : Type} (g : σ → α → σ) (xs : List α) (s : σ) :
    foldlE (fun s x => .ok (g s x)) s xs = .ok (xs.foldl g s) :=
  foldlE_sim _ g id (fun _ _ => True) (fun _ _ _ _ => ⟨rfl, trivial⟩) xs s trivial

theorem foldlE_range_index {σ α : Type} (xs : List α) (body : σ → α → Except Exc4 σ) (s : σ) : ∀ k, k ≤ xs.length →
    foldlE (fun st i => (indexE xs i).bind (body st)) s ((List.range k).map Int.ofNat) = foldlE body s (xs.take k) := by
  intro k
  induction k with
  | zero => intro _; rfl
  | succ k ih =>
    intro hk
    rw [List.range_succ, List.map_append, foldlE_append, ih (by omega), List.take_succ_eq_append_getElem hk, foldlE_append]
    congr 1; funext s'
    simp only [List.map_cons, List.map_nil, foldlE]
    rw [show Int.ofNat k = (k : Int) from rfl, indexE_nat xs k hk]; rfl

theorem foldlE_keys {κ ν σ : Type} [BEq κ] [LawfulBEq κ] (d : Dict κ ν) (hn : (dictKeys d).Nodup)
    (body : σ → κ → ν → Except Exc4 σ) (s : σ) :
    foldlE (fun st k => (dictGetE d k).bind (body st k)) s (dictKeys d) = foldlE (fun st p => body st p.1 p.2) s d :=
  foldlE_map_congr _ _ _ d (fun st p hp => by rw [dictGetE_of_mem d hn p.1 p.2 hp]; rfl) s

theorem foldl_append_flatMap {α β : Type} (h : α → List β) (xs : List α) (init : List β) :
    xs.foldl (fun acc x => acc ++ h x) init = init ++ xs.flatMap h := by
  induction xs generalizing init with
  | nil => simp
  | cons x xs ih => rw [List.foldl_cons, ih, List.flatMap_cons, List.append_assoc]

theorem foldl_dictSet_fresh {κ ν ν' : Type} [BEq κ] [LawfulBEq κ] (h : κ × ν → ν') (todo : Dict κ ν) (done : Dict κ ν')
    (hfresh : (dictKeys done ++ dictKeys todo).Nodup) :
    todo.foldl (fun acc p => dictSet acc p.1 (h p)) done = done ++ todo.map (fun p => (p.1, h p)) := by
  induction todo generalizing done with
  | nil => simp
  | cons p todo ih =>
    have hp : p.1 ∉ dictKeys done := fun hm =>
      (List.nodup_append.mp hfresh).2.2 _ hm p.1 List.mem_cons_self rfl
    rw [List.foldl_cons, dictSet_of_not_mem done p.1 (h p) hp, ih _ (by simpa [dictKeys] using hfresh)]
    simp

/-- `np.floor` on an exact value -/
def npFloor (q : Rat) : Rat := ((ratFloor q : Int) : Rat)

def castL (l : List Int) : List Rat := l.map (fun (k : Int) => (k : Rat))

theorem castL_bump (l : List Int) (m : Nat) (h : m < l.length) :
    (castL l).set m ((castL l)[m]'(by simpa [castL] using h) + 1) = castL (bumpAt l m) := by
  simp only [castL]
  rw [bumpAt_eq_modify, List.modify_eq_set, List.getElem?_eq_getElem h, Option.getD_some, List.map_set, List.getElem_map,
    Int.cast_add, Int.cast_one]

theorem castL_sum (l : List Int) : (castL l).sum = ((l.sum : Int) : Rat) := (map_list_sum (Int.castRingHom Rat) l).symm

theorem mapE_toInt_castL (toInt : Rat → Int) (hint : ∀ k : Int, toInt (k : Rat) = k) (l : List Int) :
    mapE (fun (v : Rat) => (Except.ok (toInt v) : Except Exc4 Int)) (castL l) = .ok l := by
  rw [mapE_ok, castL, List.map_map]
  exact congrArg Except.ok ((List.map_congr_left (fun a _ => hint a)).trans (List.map_id _))

/-- `result[i] += 1` runs on the floats that hold the floors (`np.floor` returns floats), hence `castL` on both sides -/
theorem foldlE_bump (ys : List Int) (fl : List Int) (hr : ∀ i ∈ ys, 0 ≤ i ∧ i < fl.length) :
    foldlE (fun (st : List Rat) (y : Int) =>
        (indexE st y).bind (fun v => .ok (listSet st y (v + ((1 : Int) : Rat))))) (castL fl) ys
      = .ok (castL ((ys.map Int.toNat).foldl bumpAt fl)) := by
  rw [List.foldl_map]
  refine foldlE_sim _ (fun t (y : Int) => bumpAt t y.toNat) castL (fun t ys => ∀ i ∈ ys, 0 ≤ i ∧ i < (t.length : Int))
    (fun t y ys h => ⟨?_, fun i hi => by rw [bumpAt_length]; exact h i (List.mem_cons_of_mem _ hi)⟩) ys fl hr
  obtain ⟨h0, h1⟩ := h y List.mem_cons_self
  obtain ⟨m, rfl⟩ := Int.eq_ofNat_of_zero_le h0
  have hm : m < t.length := by omega
  show (indexE (castL t) m).bind _ = _
  rw [indexE_nat (castL t) m (by simpa [castL] using hm), bind_ok, listSet_nat, Int.toNat_natCast, ← castL_bump t m hm,
    Int.cast_one]

/-- the order in which `scale_and_discretize` hands out the left-over units: `np.argsort(remainders)[::-1]` -/
def bumpOrder (argsort : List Rat → List Int) (values : List Rat) (total : Int) : List Nat :=
  ((argsort (shareRemainders values total)).reverse).map Int.toNat

section bumpOrder
variable (argsort : List Rat → List Int) (values : List Rat) (total : Int)
  (hrange : ∀ i ∈ argsort (shareRemainders values total), 0 ≤ i ∧ i < values.length)
include hrange

theorem bumpOrder_lt : ∀ i ∈ bumpOrder argsort values total, i < values.length := by
  intro i hi
  obtain ⟨a, ha, rfl⟩ := List.mem_map.mp hi
  have := hrange a (List.mem_reverse.mp ha); omega

theorem bumpOrder_nodup (hnodup : (argsort (shareRemainders values total)).Nodup) :
    (bumpOrder argsort values total).Nodup := by
  refine List.Nodup.map_on (fun a ha b hb hab => ?_) (List.nodup_reverse.mpr hnodup)
  have h1 := hrange a (List.mem_reverse.mp ha)
  have h2 := hrange b (List.mem_reverse.mp hb)
  omega

end bumpOrder

theorem bumpOrder_length (argsort : List Rat → List Int) (values : List Rat) (total : Int) :
    (bumpOrder argsort values total).length = (argsort (shareRemainders values total)).length := by
  rw [bumpOrder, List.length_map, List.length_reverse]

abbrev Outcome := List Int

theorem foldlE_remove_times (x : Outcome) (k : Nat) (l : List Outcome) (h : k ≤ l.count x) :
    foldlE (fun (st : List Outcome) (_ : Int) =>
      Except.bind (listRemoveE st x) (fun st' => Except.ok st')) l ((List.range k).map Int.ofNat)
    = .ok ((List.range k).foldl (fun a _ => a.erase x) l) := by
  rw [foldlE_map_congr _ _ _ _ (fun _ _ _ => rfl)]
  refine foldlE_sim _ _ (fun t => t) (fun t ys => ys.length ≤ t.count x) (fun t y ys h => ?_) _ l (by simpa using h)
  have hx : x ∈ t := List.count_pos_iff.mp (by rw [List.length_cons] at h; omega)
  refine ⟨by simp [listRemoveE, hx], ?_⟩
  rw [List.count_erase_self]; rw [List.length_cons] at h; omega

def toExtra (s : Dict Outcome Int) : List (Outcome × Nat) := s.map (fun p => (p.1, p.2.toNat))

theorem toExtra_keys (s : Dict Outcome Int) : (toExtra s).map (fun p => p.1) = dictKeys s := by
  simp [toExtra, dictKeys, Function.comp_def]

/-- the elimination loop: `for sample in samples: for _ in range(samples[sample]): l.remove(sample)`; the invariant is that
    of the model (`present_erase`): what is still to be removed is present often enough -/
theorem foldlE_eliminate (s : Dict Outcome Int) (hn : (dictKeys s).Nodup)
    (acc : List Outcome) (hc : ∀ p ∈ s, p.2.toNat ≤ acc.count p.1) :
    foldlE (fun (st : List Outcome) (sample : Outcome) =>
      Except.bind (dictGetE s sample) (fun c =>
      Except.bind (foldlE (fun (st : List Outcome) (_ : Int) =>
        Except.bind (listRemoveE st sample) (fun st' => Except.ok st')) st ((List.range (Int.toNat c)).map Int.ofNat))
        (fun st => Except.ok st))) acc (dictKeys s)
    = .ok ((toExtra s).foldl (fun acc p => (List.range p.2).foldl (fun a _ => a.erase p.1) acc) acc) := by
  rw [foldlE_keys s hn, toExtra, List.foldl_map]
  refine foldlE_sim _ _ (fun t => t)
    (fun t todo => ((toExtra todo).map (fun p => p.1)).Nodup ∧ ∀ q ∈ toExtra todo, q.2 ≤ t.count q.1) ?_ s acc
    ⟨by rw [toExtra_keys]; exact hn, fun q hq => ?_⟩
  · intro t p todo ⟨hk, hc⟩
    refine ⟨?_, (List.nodup_cons.mp hk).2, present_erase (p.1, p.2.toNat) (toExtra todo) t hk hc⟩
    rw [foldlE_remove_times p.1 p.2.toNat t (hc _ List.mem_cons_self)]; rfl
  · obtain ⟨p, hp, rfl⟩ := List.mem_map.mp hq
    exact hc p hp

/-- the weights of the leftover distribution: `0.5 - abs(0.5 - (p * n) % 1)` per outcome -/
def leftoverDict (fmod : Rat → Rat → Rat) (dist : Dict Outcome Rat) (n : Int) : Dict Outcome Rat :=
  dist.map (fun p => (p.1, (1 : Rat) / 2 - absNum ((1 : Rat) / 2 - fmod (p.2 * (n : Rat)) 1)))

/-- what the random stage hands to the final loops: the sampler's draw when shots are added, the corrected draw of
    `_check_sample_elimination` when shots are removed -/
def drawn (sample : Dict Outcome Rat → Int → Dict Outcome Int)
    (elim : Dict Outcome Int → List Outcome → Dict Outcome Rat → Dict Outcome Int)
    (dist : Dict Outcome Rat) (n : Int) (L : Dict Outcome Rat) : Dict Outcome Int :=
  let base := roundedSamples dist n
  let s := sample L (absInt (n - (base.length : Int)))
  if n - (base.length : Int) > 0 then s else elim s base L

theorem toExtra_drawn (sample : Dict Outcome Rat → Int → Dict Outcome Int)
    (elim : Dict Outcome Int → List Outcome → Dict Outcome Rat → Dict Outcome Int)
    (dist : Dict Outcome Rat) (n : Int) (L : Dict Outcome Rat)
    (hs : ∀ L k, (dictKeys (sample L k)).Nodup)
    (he : ∀ s b L, (dictKeys (elim s b L)).Nodup ∧ ∀ p ∈ elim s b L, p.2.toNat ≤ b.count p.1) :
    ((toExtra (drawn sample elim dist n L)).map (fun p => p.1)).Nodup ∧
      (n < (roundedSamples dist n).length →
        ∀ p ∈ toExtra (drawn sample elim dist n L), p.2 ≤ (roundedSamples dist n).count p.1) := by
  rw [toExtra_keys, drawn]
  split
  · exact ⟨hs L _, fun hlt => by omega⟩
  · refine ⟨(he _ _ L).1, fun _ p hp => ?_⟩
    obtain ⟨q, hq, rfl⟩ := List.mem_map.mp hp
    exact (he _ _ L).2 q hq

theorem ok_of_ite_bind {α β : Type} {c : Prop} [Decidable c] {a : β} {m : Except Exc4 α} {k : α → β} (P : β → Prop)
    (h1 : c → P a) (h2 : ¬ c → ∀ x, P (k x)) {r : β}
    (h : (if c then .ok a else m.bind (fun x => .ok (k x))) = Except.ok r) : P r := by
  split at h
  · next hc => cases h; exact h1 hc
  · next hc =>
    cases m with
    | error e => cases h
    | ok x => cases h; exact h2 hc x

end OQ.C13
