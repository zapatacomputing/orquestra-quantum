/- C08 linking: concrete data for the non-vacuity examples of OQ/Props/C08_Link.lean (built-in gate objects over the
   driver's ring ℚ(ζ₈) exactly as `builtinGate` builds them, circuits meeting every hypothesis). -/
import OQ.Lemmas.C08_Link
namespace OQ.C08.LinkExamples
open OQ OQ.C08 OQ.C08.Link OQ.C02 OQ.Generated Matrix

/-- built-in gate objects exactly as `builtinGate` builds them, over the driver's ring ℚ(ζ₈) -/
def bX : Gate Cyc8 := .base "X" Gates.x 1 true

def bS : Gate Cyc8 := .base "S" (Gates.s Scal.cyc8) 1 false

def bCN : Gate Cyc8 := .base "CNOT" Gates.cnot 2 true

/-- RX at the half-angle point (3/5, 4/5) -/
def bRX : Gate Cyc8 := .base "RX" (Gates.rx Scal.cyc8 ⟨Cyc8.ofRat (3/5), Cyc8.ofRat (4/5)⟩) 1 false

theorem bX_builtin : IsBuiltin Scal.cyc8 bX := ⟨("X", 1, 0, true), by decide, [], rfl, List.forall_mem_nil _, rfl⟩

theorem bS_builtin : IsBuiltin Scal.cyc8 bS := ⟨("S", 1, 0, false), by decide, [], rfl, List.forall_mem_nil _, rfl⟩

theorem bCN_builtin : IsBuiltin Scal.cyc8 bCN := ⟨("CNOT", 2, 0, true), by decide, [], rfl, List.forall_mem_nil _, rfl⟩

theorem bRX_builtin : IsBuiltin Scal.cyc8 bRX :=
  ⟨("RX", 1, 1, false), by decide, [⟨Cyc8.ofRat (3/5), Cyc8.ofRat (4/5)⟩], rfl, by
    intro a ha; simp only [List.mem_singleton] at ha; subst ha
    exact cyc8_valid_of_rat _ _ (by norm_num), rfl⟩

/-- X on 2, c-S† on (3,0), CNOT^1 on (1,3), RX on 0: unordered / gapped qubits, a self-adjoint gate, a wrapped gate,
    an integer power, a parametric gate -/
def cL : Circ (Gate Cyc8) :=
  mkCirc [⟨bX, [2]⟩, ⟨.ctrl (.dag bS) 1, [3, 0]⟩, ⟨.pow bCN 1, [1, 3]⟩, ⟨bRX, [0]⟩] 0

theorem cL_regularB : ∀ o ∈ cL.ops, RegularB Scal.cyc8 o.gate := by
  intro o ho
  simp only [cL, mkCirc_ops, List.mem_cons, List.not_mem_nil, or_false] at ho
  rcases ho with rfl | rfl | rfl | rfl
  · exact .base _ bX_builtin
  · exact .ctrl _ _ (.dag _ (.base _ bS_builtin))
  · exact .pow _ _ (.base _ bCN_builtin) (by decide)
  · exact .base _ bRX_builtin

theorem cL_ne : cL.ops ≠ [] := List.cons_ne_nil _ _

theorem cL_qs : ∀ o ∈ cL.ops, o.qs ≠ [] := by decide

theorem cL_wf : cL.n = 0 → cL.ops = [] := by decide

def bH : Gate Cyc8 := .base "H" (Gates.h Scal.cyc8) 1 true

theorem bH_builtin : IsBuiltin Scal.cyc8 bH := ⟨("H", 1, 0, true), by decide, [], rfl, List.forall_mem_nil _, rfl⟩

/-- a circuit of unitary built-ins under controlled / dagger: S on 1, c-S† on (1,0), CNOT on (1,0), H on 0 -/
def c2 : Circ (Gate Cyc8) := mkCirc [⟨bS, [1]⟩, ⟨.ctrl (.dag bS) 1, [1, 0]⟩, ⟨bCN, [1, 0]⟩, ⟨bH, [0]⟩] 0

theorem c2_unitaryB : ∀ o ∈ c2.ops, UnitaryB Scal.cyc8 o.gate := by
  intro o ho
  simp only [c2, mkCirc_ops, List.mem_cons, List.not_mem_nil, or_false] at ho
  rcases ho with rfl | rfl | rfl | rfl
  · exact .base _ bS_builtin
  · exact .ctrl _ _ (.dag _ (.base _ bS_builtin))
  · exact .base _ bCN_builtin
  · exact .base _ bH_builtin

theorem c2_ne : c2.ops ≠ [] := List.cons_ne_nil _ _

theorem c2_qs : ∀ o ∈ c2.ops, o.qs ≠ [] := by decide

/-- the one-qubit circuit S, H (small enough for kernel evaluation of the executable model in ℚ(ζ₈)) -/
def c1 : Circ (Gate Cyc8) := mkCirc [⟨bS, [0]⟩, ⟨bH, [0]⟩] 0

end OQ.C08.LinkExamples
