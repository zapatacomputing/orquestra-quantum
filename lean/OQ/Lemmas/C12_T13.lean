/- The T13 translation ties of the `Wavefunction` class (`OQ/Props/C12_TranslatedWf.lean`) rest on this file: the LAWS assumed of
   the numpy / sympy externals (`Laws`, a hypothesis of every tie, with the model's stand-ins as a witness), `bin(n).count("1")` as
   the Hamming weight, the model's assignments as the write alone (`rawSet`) followed by re-check and rollback (`commit`), and the
   other model-side facts the ties use. -/
import OQ.Lemmas.C12
import OQ.Lemmas.Py
import OQ.Lemmas.PyT13
import OQ.Model.C12_T13Run
namespace OQ.C12.T13
open OQ.Generated OQ.PyT OQ.C12
open OQ.Py (bin binDigits binDigitsFuel digitChar bin_ofNat)

/-- THE ASSUMED LAWS of the externals of the translated `Wavefunction` class, in the model's terms (the model's own assumptions about
    numpy 2 / sympy 1.9, see `TRUSTED` in harness/props/c12.py), for the tolerance test `close`:
    * `complex(e)` raises TypeError exactly on a symbolic entry; `isinstance(·, np.ndarray)` / `isinstance(·, Matrix)` tell the two
      kinds of storage apart; `free_symbols` (the attribute of a Matrix – an ndarray has none –, or `getattr` with default `set()` on
      either) is truthy iff some entry is symbolic;
    * `np.sum(np.abs(x) ** 2)` of a symbol-free object is the sum of the squared magnitudes, `np.abs(x) ** 2` entrywise;
      `np.isclose(·, 1.0)` is `close`; `· > 1.0` is `1 < ·`; iterating an object yields its entries; `np.array(numbers, complex128)` of
      numeric entries is a 1-d array of them;
    * `len` is the number of entries; `np.array(arg, dtype=complex)` raises TypeError iff an entry is symbolic and otherwise makes a
      NEW array of the argument's shape; `Matrix(arg)` makes a Matrix of the entries;
    * `.copy()` is an equal NEW object; `x[...] = old` makes an NDARRAY `x` equal to `old` (nothing is assumed for a Matrix, where
      sympy raises IndexError); `x[key] = val` is `rawSet` (numpy / sympy write semantics; a write that raises has written nothing)
      for an int key with a scalar value and for a bare slice key;
    * `.subs(map)` substitutes simultaneously in every entry of a Matrix; handing a vector to the constructor again keeps its shape;
    * `np.array(M, dtype=complex128).flatten()` raises TypeError iff an entry is symbolic (else: the 1-d array of the entries) and
      `np.array(M, dtype=object).flatten()` of a symbolic Matrix keeps the entries; `_get_ordering(n)` raises TypeError for `n = 0`
      and is `ordering n` otherwise; `np.asarray(x)[ordering]` gathers (IndexError if an index is out of range). -/
structure Laws (close : Rat → Bool) (ext : MExt) : Prop where
  complex_of : ∀ e, ext.complex_of e = if e.isNum then .ok () else .error .TypeError
  isinstance_ndarray : ∀ s, ext.isinstance_ndarray s = isArr s
  isinstance_Matrix : ∀ s, ext.isinstance_Matrix s = !isArr s
  attr_free_symbols : ∀ v, ext.truthy_FS (ext.attr_free_symbols (.mat v)) = !allNum v
  getattr_free_symbols : ∀ s, ext.truthy_FS (ext.getattr_free_symbols s) = !allNum s.entries
  np_abs_sq : ∀ s, ext.np_abs_sq s = absSq s
  np_sum : ∀ l, ext.np_sum (some l) = l.sum
  np_isclose_one : ∀ q, ext.np_isclose_one q = close q
  gt_one : ∀ q, ext.gt_one q = decide (1 < q)
  iter_vector : ∀ s, ext.iter_vector s = s.entries
  np_array_c128 : ∀ l, l.all Lin.isNum = true → ext.np_array_c128 l = .ok (.arr1 (l.map (·.c)))
  len_input : ∀ p, ext.len_input p = (p.2.length : Int)
  len_vector : ∀ s, ext.len_vector s = (s.length : Int)
  np_array_complex : ∀ p, ext.np_array_complex p =
    if allNum p.2 then .ok (if p.1 then .arr2 (p.2.map (·.c)) else .arr1 (p.2.map (·.c))) else .error .TypeError
  sympy_Matrix : ∀ p, ext.sympy_Matrix p = .ok (.mat p.2)
  copy : ∀ s, ext.copy s = s
  setitem : ∀ s k x, (∀ i l, ¬ (k = .int i ∧ x = .list l)) → ext.setitem s k x = rawSet s k x
  setitem_all : ∀ s old, isArr s = true → ext.setitem_all s old = (old, .ok ())
  subs : ∀ v m, ext.subs (.mat v) m = .mat (v.map (Lin.subst m))
  as_input : ∀ s, ext.as_input s = asInput s
  flatten_c128 : ∀ s, ext.np_array_dtype_flatten s ext.np_complex128 =
    if allNum s.entries then .ok (.arr1 (s.entries.map (·.c))) else .error .TypeError
  flatten_object : ∀ s, allNum s.entries = false → ext.np_array_object_flatten s = .ok s
  get_ordering : ∀ n : Nat, ext.get_ordering (n : Int) = if n = 0 then .error .TypeError else .ok (ordering n)
  asarray_take : ∀ s ord, ext.asarray_take s ord = match readAt s.entries ord with
    | none => .error .IndexError
    | some w => .ok (withEntries s w)

/-- the laws are satisfiable: the model's stand-ins (the ones the driver runs against the real class) satisfy them -/
theorem modelExt_laws (close : Rat → Bool) : Laws close (modelExt close) where
  complex_of := fun _ => rfl
  isinstance_ndarray := fun _ => rfl
  isinstance_Matrix := fun _ => rfl
  attr_free_symbols := fun _ => rfl
  getattr_free_symbols := fun _ => rfl
  np_abs_sq := fun _ => rfl
  np_sum := fun _ => rfl
  np_isclose_one := fun _ => rfl
  gt_one := fun _ => rfl
  iter_vector := fun _ => rfl
  np_array_c128 := fun _ h => if_pos h
  len_input := fun _ => rfl
  len_vector := fun _ => rfl
  np_array_complex := fun _ => rfl
  sympy_Matrix := fun _ => rfl
  copy := fun _ => rfl
  setitem := fun _ _ _ _ => rfl
  setitem_all := fun _ _ hs => if_pos hs
  subs := fun _ _ => rfl
  as_input := fun _ => rfl
  flatten_c128 := fun _ => rfl
  flatten_object := fun _ _ => rfl
  get_ordering := fun n => by cases n <;> rfl
  asarray_take := fun _ _ => rfl

theorem count_digitChar {b : Nat} (hb : b < 2) : [digitChar b].count '1' = b := by
  obtain rfl | rfl : b = 0 ∨ b = 1 := by omega
  all_goals decide

theorem count_binDigitsFuel (f i : Nat) (hi : i ≤ f) : ((binDigitsFuel f i).map digitChar).count '1' = popcount i := by
  induction f generalizing i with
  | zero => obtain rfl := Nat.le_zero.mp hi; decide
  | succ f ih =>
    -- `i = 2 * (i / 2) + i % 2`: the last digit counts `i % 2`, the digits before it are those of `i / 2`
    have hb : i % 2 < 2 := Nat.mod_lt _ Nat.two_pos
    rw [← Nat.div_add_mod i 2, popcount_double _ _ hb, Nat.div_add_mod, binDigitsFuel]
    split
    · rename_i h2
      rw [Nat.div_eq_of_lt h2, popcount_zero, Nat.zero_add, Nat.mod_eq_of_lt h2]; exact count_digitChar h2
    · rw [List.map_append, List.count_append, ih _ (by omega)]; exact congrArg _ (count_digitChar hb)

theorem countChar_bin (n : Nat) : countChar (bin (n : Int)) '1' = (popcount n : Int) := by
  rw [bin_ofNat, countChar, List.count_cons_of_ne (by decide), List.count_cons_of_ne (by decide), binDigits,
    count_binDigitsFuel n n (le_refl _)]

theorem rawSetArr_error (twoD : Bool) (v : List QI) (k : Key) (x : SliceVal) (e : Exc)
    (h : (rawSetArr twoD v k x).2 = .error e) : (rawSetArr twoD v k x).1 = v := by
  revert h
  unfold rawSetArr
  split
  · split
    · exact fun _ => rfl
    · split
      · exact fun _ => rfl
      · exact nofun
  · exact fun _ => rfl
  · dsimp only
    split
    · exact fun _ => rfl
    · exact nofun

theorem rawSetMat_error (v : List Lin) (k : Key) (x : SliceVal) (e : Exc)
    (h : (rawSetMat v k x).2 = .error e) : (rawSetMat v k x).1 = v := by
  revert h
  unfold rawSetMat
  split
  · split
    · exact fun _ => rfl
    · exact nofun
  · exact fun _ => rfl
  · dsimp only
    split
    · exact nofun
    · exact fun _ => rfl
  · dsimp only
    split
    · exact nofun
    · exact fun _ => rfl

/-- numpy broadcasting raises only TypeError or ValueError, which `errOf` and `errBack` carry to the translated side and back -/
theorem errBack_errOf_broadcast {twoD : Bool} {n : Nat} {val : SliceVal} {e : Err} (h : broadcast twoD n val = .error e) :
    errBack (errOf e) = e := by
  unfold broadcast at h
  cases val with
  | scalar x => dsimp only at h; split at h <;> cases h; rfl
  | list xs =>
    dsimp only at h
    split at h
    · cases h; rfl
    · split at h
      · cases h
      · split at h
        · cases h
        · cases h; rfl

/-- what `__setitem__` makes of the write alone: `w` is what the write left of the stored `v` and whether it raised. An exception
    of the write is passed on; otherwise the re-check `good` decides between the written value and `v` back with a ValueError -/
def commit {α : Type} (good : α → Bool) (v : α) (w : α × Except Exc Unit) : α × Outcome :=
  match w.2 with
  | .error e => (w.1, .err (errBack e))
  | .ok _ => if good w.1 then (w.1, .ok) else (v, .err .value)

theorem commit_map {α β : Type} {good : α → Bool} {good' : β → Bool} (mk : α → β) (h : ∀ w, good' (mk w) = good w)
    {v : α} {w : α × Except Exc Unit} {r : α × Outcome} (hr : r = commit good v w) :
    (mk r.1, r.2) = commit good' (mk v) (mk w.1, w.2) := by
  subst hr
  unfold commit
  cases w.2 with
  | error e => rfl
  | ok u => dsimp only; rw [h]; cases good w.1 <;> rfl

theorem setIntArr_eq (close : Rat → Bool) (twoD : Bool) (v : List QI) (i : Int) (val : Lin) :
    setIntArr close v i val = commit (fun w => close ((w.map QI.normSq).sum)) v (rawSetArr twoD v (.int i) (.scalar val)) := by
  simp only [setIntArr, rawSetArr]
  cases normIndex v.length i with
  | none => rfl
  | some p => cases val.isNum <;> rfl

theorem setSliceArr_eq (close : Rat → Bool) (twoD : Bool) (v : List QI) (st sp : Option Int) (val : SliceVal) :
    setSliceArr close twoD v (clampIdx v.length st 0) (clampIdx v.length sp v.length) val =
      commit (fun w => close ((w.map QI.normSq).sum)) v (rawSetArr twoD v (.slice st sp) val) := by
  simp only [setSliceArr, rawSetArr]
  cases hb : broadcast twoD _ val with
  | error e => exact congrArg (fun e => (v, Outcome.err e)) (errBack_errOf_broadcast hb).symm
  | ok vals => rfl

theorem setIntMat_eq (close : Rat → Bool) (v : List Lin) (i : Int) (val : Lin) :
    setIntMat close v i val = commit (checkNorm close) v (rawSetMat v (.int i) (.scalar val)) := by
  simp only [setIntMat, rawSetMat]
  cases normIndex v.length i <;> rfl

theorem setSliceMat_eq (close : Rat → Bool) (v : List Lin) (st sp : Option Int) (val : SliceVal) :
    setSliceMat close v (clampIdx v.length st 0) (clampIdx v.length sp v.length) val =
      commit (checkNorm close) v (rawSetMat v (.slice st sp) val) := by
  -- both are one `if`, and `commit` goes into its branches
  cases val with
  | list xs => rw [setSliceMat, rawSetMat, apply_ite (commit (checkNorm close) v)]; rfl
  | scalar x => rw [setSliceMat, rawSetMat, apply_ite (commit (checkNorm close) v)]; rfl

theorem step_setInt (close : Rat → Bool) (s : Store) (i : Int) (val : Lin) :
    step close s (.setInt i val) = commit (fun s => checkNorm close s.entries) s (rawSet s (.int i) (.scalar val)) := by
  cases s with
  | arr1 v => exact commit_map Store.arr1 (checkNorm_arr close) (setIntArr_eq close false v i val)
  | arr2 v => exact commit_map Store.arr2 (checkNorm_arr close) (setIntArr_eq close true v i val)
  | mat v => exact commit_map Store.mat (fun _ => rfl) (setIntMat_eq close v i val)

theorem step_setSlice (close : Rat → Bool) (s : Store) (a b : Option Int) (val : SliceVal) :
    step close s (.setSlice a b val) = commit (fun s => checkNorm close s.entries) s (rawSet s (.slice a b) val) := by
  cases s with
  | arr1 v => exact commit_map Store.arr1 (checkNorm_arr close) (setSliceArr_eq close false v a b val)
  | arr2 v => exact commit_map Store.arr2 (checkNorm_arr close) (setSliceArr_eq close true v a b val)
  | mat v => exact commit_map Store.mat (fun _ => rfl) (setSliceMat_eq close v a b val)

theorem all_isNum_filter (v : List Lin) : (v.filter Lin.isNum).all Lin.isNum = true := by
  simp [List.all_eq_true]

theorem absSq_arr1 (w : List QI) : absSq (.arr1 w) = some (w.map QI.normSq) := by
  rw [absSq, arr1_entries, allNum_ofNum, if_pos rfl, List.map_map]; rfl

theorem withEntries_asInput (s : Store) (w : List Lin) (hw : allNum s.entries = true → allNum w = true) :
    asInput (withEntries s w) = (s.col, w) := by
  cases s with
  | arr1 v | arr2 v => simp only [withEntries, asInput]; rw [map_c_ofNum w (hw (allNum_ofNum v))]; rfl
  | mat v => rfl

end OQ.C12.T13
