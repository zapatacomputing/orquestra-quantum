/-
  C18 — helper lemmas: rule chaining over `Option` and what it preserves, global phases, controlled matrices as
  block-diagonal matrices, placements through `OQ.Spec.lift`, the action of an operation.  The U3 ring identity is
  C02's `u3_product`.
-/
import OQ.Model.C18
import OQ.Lemmas.Bridge
import OQ.Lemmas.C02
import OQ.Spec.Lift
import Mathlib.Algebra.Star.Basic
import Mathlib.LinearAlgebra.Matrix.ConjTranspose
import Mathlib.LinearAlgebra.Matrix.Notation
set_option linter.unusedSectionVars false
namespace OQ.C18
open Matrix OQ.Spec

section Chain
variable {α β Op : Type}

theorem flatMapM_eq_some_nil (f : α → Option (List β)) : flatMapM f [] = some [] := rfl

theorem flatMapM_cons (f : α → Option (List β)) (a : α) (as : List α) :
    flatMapM f (a :: as) = (f a).bind (fun l => (flatMapM f as).bind (fun r => some (l ++ r))) := by
  simp only [flatMapM]
  cases f a <;> simp only [Option.bind_none, Option.bind_some]
  cases flatMapM f as <;> rfl

theorem flatMapM_cons_eq_some {f : α → Option (List β)} {a : α} {as : List α} {out : List β} :
    flatMapM f (a :: as) = some out ↔ ∃ l, f a = some l ∧ ∃ r, flatMapM f as = some r ∧ l ++ r = out := by
  simp only [flatMapM_cons, Option.bind_eq_some_iff, Option.some.injEq]

theorem flatMapM_append (f : α → Option (List β)) (xs ys : List α) :
    flatMapM f (xs ++ ys) = (flatMapM f xs).bind (fun l => (flatMapM f ys).bind (fun r => some (l ++ r))) := by
  induction xs with
  | nil => exact (Option.bind_fun_some _).symm
  | cons a as ih =>
    simp only [List.cons_append, flatMapM_cons, ih, Option.bind_assoc, Option.bind_some, List.append_assoc]

theorem flatMapM_total (f : α → List β) (xs : List α) :
    flatMapM (fun a => some (f a)) xs = some (xs.flatMap f) := by
  induction xs with
  | nil => rfl
  | cons a as ih => rw [flatMapM_cons, ih]; rfl

theorem flatMapM_congr (f g : α → Option (List β)) (xs : List α) (h : ∀ a ∈ xs, f a = g a) :
    flatMapM f xs = flatMapM g xs := by
  induction xs with
  | nil => rfl
  | cons a as ih =>
    rw [flatMapM_cons, flatMapM_cons, h a List.mem_cons_self, ih fun b hb => h b (List.mem_cons_of_mem _ hb)]

theorem flatMapM_flatMapM (f : α → Option (List β)) {γ : Type} (g : β → Option (List γ)) (xs : List α) :
    (flatMapM f xs).bind (flatMapM g) = flatMapM (fun a => (f a).bind (flatMapM g)) xs := by
  induction xs with
  | nil => rfl
  | cons a as ih =>
    rw [flatMapM_cons, flatMapM_cons, ← ih]
    cases f a with
    | none => rfl
    | some l =>
      cases flatMapM f as with
      | none => simp only [Option.bind_some, Option.bind_none, Option.bind_fun_none]
      | some r => exact flatMapM_append g l r

theorem applyRule_eq_some {r : Rule Op} {op : Op} {l : List Op} :
    applyRule r op = some l ↔
      r.predicate op = some true ∧ r.production op = some l ∨ r.predicate op = some false ∧ l = [op] := by
  unfold applyRule
  rcases r.predicate op with _ | _ | _ <;> simp [eq_comm]

theorem decomposeOperation_nil (op : Op) : decomposeOperation ([] : List (Rule Op)) op = some [op] := rfl

theorem decomposeOperation_cons (r : Rule Op) (rs : List (Rule Op)) (op : Op) :
    decomposeOperation (r :: rs) op = (applyRule r op).bind (decomposeOperations rs) := by
  simp only [decomposeOperation, decomposeOperations]
  cases applyRule r op <;> rfl

theorem decomposeOperations_nil (ops : List Op) : decomposeOperations ([] : List (Rule Op)) ops = some ops :=
  (flatMapM_total (fun a => [a]) ops).trans (congrArg some (List.flatMap_singleton' ops))

theorem decomposeOperations_cons (r : Rule Op) (rs : List (Rule Op)) (ops : List Op) :
    decomposeOperations (r :: rs) ops = (flatMapM (applyRule r) ops).bind (decomposeOperations rs) := by
  unfold decomposeOperations
  rw [flatMapM_flatMapM]
  exact flatMapM_congr _ _ _ fun a _ => decomposeOperation_cons r rs a

/-- A relation between an operation list and what it is rewritten to, of the kind a decomposition preserves:
    it holds when nothing is rewritten, along successive rewritings, and piecewise along concatenation. -/
structure Rewrites (P : List Op → List Op → Prop) : Prop where
  refl : ∀ l, P l l
  trans : ∀ {a b c}, P a b → P b c → P a c
  append : ∀ {a a' b b'}, P a a' → P b b' → P (a ++ b) (a' ++ b')

theorem Rewrites.flatMapM {P : List Op → List Op → Prop} (hP : Rewrites P) {f : Op → Option (List Op)}
    (hf : ∀ a l, f a = some l → P [a] l) : ∀ {xs out : List Op}, flatMapM f xs = some out → P xs out
  | [], _, h => by cases h; exact hP.refl []
  | a :: as, _, h => by
    obtain ⟨l, hl, r, hr, rfl⟩ := flatMapM_cons_eq_some.mp h
    exact hP.append (hf a l hl) (hP.flatMapM hf hr)

theorem Rewrites.decompose {P : List Op → List Op → Prop} (hP : Rewrites P) :
    ∀ (rules : List (Rule Op)),
      (∀ r ∈ rules, ∀ op out, r.predicate op = some true → r.production op = some out → P [op] out) →
      ∀ {ops out : List Op}, decomposeOperations rules ops = some out → P ops out
  | [], _, ops, _, h => by rw [decomposeOperations_nil] at h; cases h; exact hP.refl ops
  | r :: rs, hr, _, _, h => by
    rw [decomposeOperations_cons] at h
    obtain ⟨mid, hmid, h⟩ := Option.bind_eq_some_iff.mp h
    refine hP.trans (hP.flatMapM (fun a l hl => ?_) hmid)
      (hP.decompose rs (fun r' hr' => hr r' (List.mem_cons_of_mem _ hr')) h)
    rcases applyRule_eq_some.mp hl with ⟨hp, hq⟩ | ⟨_, rfl⟩
    · exact hr r List.mem_cons_self a l hp hq
    · exact hP.refl [a]

end Chain

section Phase
variable {R : Type} [CommRing R] [StarRing R] {n : Type} [Fintype n] [DecidableEq n]

def IsPhase (p : R) : Prop := p * star p = 1

theorem IsPhase.mul {p q : R} (hp : IsPhase p) (hq : IsPhase q) : IsPhase (p * q) := by
  unfold IsPhase at *
  rw [star_mul', mul_mul_mul_comm, hp, hq, one_mul]

def PhaseEq (U V : Matrix n n R) : Prop := ∃ p : R, IsPhase p ∧ U = p • V

theorem PhaseEq.refl (U : Matrix n n R) : PhaseEq U U :=
  ⟨1, by rw [IsPhase, star_one, one_mul], (one_smul _ _).symm⟩

theorem PhaseEq.trans {U V W : Matrix n n R} (h1 : PhaseEq U V) (h2 : PhaseEq V W) : PhaseEq U W := by
  obtain ⟨p, hp, rfl⟩ := h1
  obtain ⟨q, hq, rfl⟩ := h2
  exact ⟨p * q, hp.mul hq, by rw [smul_smul]⟩

theorem PhaseEq.mul {U V U' V' : Matrix n n R} (h1 : PhaseEq U U') (h2 : PhaseEq V V') :
    PhaseEq (U * V) (U' * V') := by
  obtain ⟨p, hp, rfl⟩ := h1
  obtain ⟨q, hq, rfl⟩ := h2
  exact ⟨p * q, hp.mul hq, by rw [Matrix.smul_mul, Matrix.mul_smul, smul_smul]⟩

end Phase

section Den
variable {R : Type} [CommRing R] [StarRing R] {n : Type} [Fintype n] [DecidableEq n] {Op : Type}

/-- action of an operation list given the action `D` of each operation: the FIRST operation acts first,
    i.e. is the rightmost factor (`Circuit.to_unitary` multiplies the reversed list) -/
def denoteBy (D : Op → Option (Matrix n n R)) : List Op → Option (Matrix n n R)
  | [] => some 1
  | op :: rest => (D op).bind (fun a => (denoteBy D rest).bind (fun b => some (b * a)))

theorem denoteBy_append (D : Op → Option (Matrix n n R)) (xs ys : List Op) :
    denoteBy D (xs ++ ys) =
      (denoteBy D xs).bind (fun a => (denoteBy D ys).bind (fun b => some (b * a))) := by
  induction xs with
  | nil => simp only [List.nil_append, denoteBy, Option.bind_some, mul_one, Option.bind_fun_some]
  | cons x xs ih =>
    simp only [List.cons_append, denoteBy, ih, Option.bind_assoc, Option.bind_some, mul_assoc]

theorem denoteBy_singleton (D : Op → Option (Matrix n n R)) (op : Op) : denoteBy D [op] = D op := by
  simp only [denoteBy, Option.bind_some, one_mul, Option.bind_fun_some]

/-- a rule is sound on the operations satisfying `Good`: what it produces acts like the operation it replaces
    up to one global phase, and stays inside `Good` -/
def Rule.Sound (D : Op → Option (Matrix n n R)) (Good : Op → Prop) (r : Rule Op) : Prop :=
  ∀ op, Good op → r.predicate op = some true → ∀ out, r.production op = some out →
    (∀ o ∈ out, Good o) ∧ ∀ U, D op = some U → ∃ U', denoteBy D out = some U' ∧ PhaseEq U U'

theorem phaseEq_rewrites (D : Op → Option (Matrix n n R)) (Good : Op → Prop) :
    Rewrites fun l l' => (∀ o ∈ l, Good o) →
      (∀ o ∈ l', Good o) ∧ ∀ U, denoteBy D l = some U → ∃ U', denoteBy D l' = some U' ∧ PhaseEq U U' where
  refl l hg := ⟨hg, fun U hU => ⟨U, hU, .refl U⟩⟩
  trans h1 h2 hg := by
    obtain ⟨g1, d1⟩ := h1 hg
    obtain ⟨g2, d2⟩ := h2 g1
    refine ⟨g2, fun U hU => ?_⟩
    obtain ⟨U1, hU1, p1⟩ := d1 U hU
    obtain ⟨U2, hU2, p2⟩ := d2 U1 hU1
    exact ⟨U2, hU2, p1.trans p2⟩
  append h1 h2 hg := by
    obtain ⟨g1, d1⟩ := h1 fun o ho => hg o (List.mem_append_left _ ho)
    obtain ⟨g2, d2⟩ := h2 fun o ho => hg o (List.mem_append_right _ ho)
    refine ⟨fun o ho => (List.mem_append.mp ho).elim (g1 o) (g2 o), fun U hU => ?_⟩
    simp only [denoteBy_append, Option.bind_eq_some_iff, Option.some.injEq] at hU
    obtain ⟨x, hx, y, hy, rfl⟩ := hU
    obtain ⟨x', hx', px⟩ := d1 x hx
    obtain ⟨y', hy', py⟩ := d2 y hy
    exact ⟨y' * x', by rw [denoteBy_append, hx', hy']; rfl, py.mul px⟩

end Den

section GatesM
variable {R : Type} [CommRing R]

theorem m2_r (a b c d : R) : (Gates.m2 a b c d).r = 2 := rfl
theorem m2_c (a b c d : R) : (Gates.m2 a b c d).c = 2 := rfl

/-- the law of the ring constants the U3 identity needs -/
structure ScalLaws (k : Scal R) : Prop where
  ii : k.i * k.i = -1

def Ang.OnCircle (a : Ang R) : Prop := a.ch * a.ch + a.sh * a.sh = 1

end GatesM

section Ctrl
variable {R : Type} [CommRing R]

theorem ctrl_r (k : Nat) (m : Mat R) : (ctrlMatrix k m).r = m.r * 2 ^ k := rfl
theorem ctrl_c (k : Nat) (m : Mat R) : (ctrlMatrix k m).c = m.r * 2 ^ k := rfl

theorem ctrl_get (k : Nat) (m : Mat R) (i j : Nat) (hi : i < m.r * 2 ^ k) (hj : j < m.r * 2 ^ k) :
    (ctrlMatrix k m).get i j =
      if i < m.r * 2 ^ k - m.r ∨ j < m.r * 2 ^ k - m.r then (if i = j then 1 else 0)
      else m.get (i - (m.r * 2 ^ k - m.r)) (j - (m.r * 2 ^ k - m.r)) := by
  unfold ctrlMatrix
  rw [Mat.get_ofFn _ _ _ _ _ hi hj]

/-- `diag(1, M)`: an identity block of size `o` above `M`, the `o + d` indices named by `Fin D` through `e` -/
def ctrlBlock {o d D : Nat} (e : Fin o ⊕ Fin d ≃ Fin D) (M : Matrix (Fin d) (Fin d) R) : Matrix (Fin D) (Fin D) R :=
  Matrix.reindex e e (Matrix.fromBlocks 1 0 0 M)

theorem ctrlBlock_mul {o d D : Nat} (e : Fin o ⊕ Fin d ≃ Fin D) (A B : Matrix (Fin d) (Fin d) R) :
    ctrlBlock e (A * B) = ctrlBlock e A * ctrlBlock e B := by
  simp only [ctrlBlock, Matrix.reindex_apply, Matrix.submatrix_mul_equiv, Matrix.fromBlocks_multiply,
    Matrix.mul_zero, Matrix.zero_mul, Matrix.mul_one, add_zero, zero_add]

theorem ctrlBlock_eq_smul {o d D : Nat} (e : Fin o ⊕ Fin d ≃ Fin D) (ho : 0 < o) {U W : Matrix (Fin d) (Fin d) R}
    {p : R} (h : ctrlBlock e U = p • ctrlBlock e W) : p = 1 ∧ U = W := by
  have key : ∀ x y, Matrix.fromBlocks 1 0 0 U x y = p * Matrix.fromBlocks 1 0 0 W x y := fun x y => by
    simpa [ctrlBlock] using congrFun (congrFun h (e x)) (e y)
  have hp : p = 1 := by simpa using (key (.inl ⟨0, ho⟩) (.inl ⟨0, ho⟩)).symm
  exact ⟨hp, by ext a b; simpa [hp] using key (.inr a) (.inr b)⟩

/-- the matrix of a controlled gate is `diag(1, M)`: for wrapped matrices with `d` rows, one identification `e`
    of the `d · 2^k` indices with `o + d` serves all of them -/
theorem ctrlMatrix_block (k d D : Nat) (hD : D = d * 2 ^ k) :
    ∃ (o : Nat) (e : Fin o ⊕ Fin d ≃ Fin D), o + d = D ∧
      ∀ m : Mat R, m.r = d → Mat.toM D D (ctrlMatrix k m) = ctrlBlock e (Mat.toM d d m) := by
  have hle : d ≤ d * 2 ^ k := Nat.le_mul_of_pos_right d (Nat.two_pow_pos k)
  have ho : D - d + d = D := by omega
  refine ⟨D - d, finSumFinEquiv.trans (finCongr ho), ho, fun m hr => ?_⟩
  subst hr hD
  have hl : ∀ a, ((finSumFinEquiv.trans (finCongr ho)) (Sum.inl a) : Nat) = a := fun _ => rfl
  have hr : ∀ b, ((finSumFinEquiv.trans (finCongr ho)) (Sum.inr b) : Nat) = m.r * 2 ^ k - m.r + b := fun _ => rfl
  ext i j
  obtain ⟨i, rfl⟩ := (finSumFinEquiv.trans (finCongr ho)).surjective i
  obtain ⟨j, rfl⟩ := (finSumFinEquiv.trans (finCongr ho)).surjective j
  simp only [ctrlBlock, Matrix.reindex_apply, Matrix.submatrix_apply, Equiv.symm_apply_apply, Mat.toM]
  rw [ctrl_get k m _ _ (Fin.is_lt _) (Fin.is_lt _)]
  rcases i with a | a <;> rcases j with b | b <;> simp only [hl, hr]
  · simp only [Fin.is_lt, or_self, if_true, Matrix.fromBlocks_apply₁₁, Matrix.one_apply, Fin.ext_iff]
  · rw [if_pos (Or.inl a.2), if_neg (by omega)]; rfl
  · rw [if_pos (Or.inr b.2), if_neg (by omega)]; rfl
  · rw [if_neg (by omega), Nat.add_sub_cancel_left, Nat.add_sub_cancel_left]; rfl

end Ctrl

theorem ctrl_u3_toM {R : Type} [CommRing R] (k : Scal R) (hi : k.i * k.i = -1) (th ph la : Ang R)
    (hph : ph.ch * ph.ch + ph.sh * ph.sh = 1) (hla : la.ch * la.ch + la.sh * la.sh = 1)
    (hone : ph.ehp k * la.ehp k = 1) (c D : Nat) (hD : D = 2 * 2 ^ c) :
    Mat.toM D D (ctrlMatrix c (Gates.u3 k th ph la)) =
      Mat.toM D D (ctrlMatrix c (Gates.rz k ph)) * Mat.toM D D (ctrlMatrix c (Gates.ry th)) *
        Mat.toM D D (ctrlMatrix c (Gates.rz k la)) := by
  obtain ⟨o, e, -, he⟩ := ctrlMatrix_block (R := R) c 2 D hD
  have h3 := C02.u3_product hi (th := th) hph hla
  rw [hone, one_smul] at h3
  rw [he _ rfl, he _ rfl, he _ rfl, he _ rfl, ← h3, ctrlBlock_mul, ctrlBlock_mul]

section Place
variable {R : Type} [CommRing R] {ι : Type} [Fintype ι] [DecidableEq ι]

/-- "gate matrix `M` (of dimension `2^|qs|`) on the qubit tuple `qs` of the register `ι`", reduced to the two
    laws the phase argument needs; every placement through `OQ.Spec.lift` is one (`Placement.ofLift`). -/
structure Placement (R : Type) [CommRing R] (ι : Type) [Fintype ι] [DecidableEq ι] where
  emb : (qs : List Nat) → Matrix (Fin (2 ^ qs.length)) (Fin (2 ^ qs.length)) R → Matrix (BV ι) (BV ι) R
  emb_mul : ∀ qs A B, emb qs (A * B) = emb qs A * emb qs B
  emb_smul : ∀ qs (c : R) A, emb qs (c • A) = c • emb qs A

/-- the data `OQ.Spec.lift` needs for a tuple of `m` qubits: which qubits (`σ`) and how the `2^m` gate indices
    are read as bit assignments of them (`e`) -/
structure LiftData (ι : Type) (m : Nat) where
  κ : Type
  μ : Type
  [fκ : Fintype κ]
  [dκ : DecidableEq κ]
  [fμ : Fintype μ]
  [dμ : DecidableEq μ]
  σ : κ ⊕ μ ≃ ι
  e : Fin (2 ^ m) ≃ BV κ

attribute [instance] LiftData.fκ LiftData.dκ LiftData.fμ LiftData.dμ

def LiftData.emb {m : Nat} (d : LiftData ι m) (M : Matrix (Fin (2 ^ m)) (Fin (2 ^ m)) R) :
    Matrix (BV ι) (BV ι) R :=
  lift d.σ (Matrix.reindex d.e d.e M)

theorem LiftData.emb_mul {m : Nat} (d : LiftData ι m) (A B : Matrix (Fin (2 ^ m)) (Fin (2 ^ m)) R) :
    d.emb (A * B) = d.emb A * d.emb B := by
  unfold LiftData.emb
  rw [← lift_mul, Matrix.reindex_apply, Matrix.reindex_apply, Matrix.reindex_apply, Matrix.submatrix_mul_equiv]

theorem LiftData.emb_smul {m : Nat} (d : LiftData ι m) (c : R) (A : Matrix (Fin (2 ^ m)) (Fin (2 ^ m)) R) :
    d.emb (c • A) = c • d.emb A := by
  unfold LiftData.emb
  rw [← lift_smul]
  rfl

/-- the spec semantics: every qubit tuple is placed through `OQ.Spec.lift` by some `LiftData`
    (tuples that cannot be placed – repeated or out-of-range indices – get the zero map; circuits using them
    have no unitary in the code either) -/
def Placement.ofLift (pl : (qs : List Nat) → Option (LiftData ι qs.length)) : Placement R ι where
  emb := fun qs M => match pl qs with
    | some d => d.emb M
    | none => 0
  emb_mul := by
    intro qs A B
    cases pl qs with
    | none => simp
    | some d => exact d.emb_mul A B
  emb_smul := by
    intro qs c A
    cases pl qs with
    | none => simp
    | some d => exact d.emb_smul c A

end Place

section Sound
variable {R : Type} [CommRing R] [StarRing R] {ι : Type} [Fintype ι] [DecidableEq ι]

/-- action of one operation on the register: its gate matrix, of the dimension matching its qubit tuple, placed
    by `E`; `none` for a non-gate operation, a gate without matrix or of the wrong dimension -/
def denoteOp (E : Placement R ι) (k : Scal R) : Operation (Ang R) R → Option (Matrix (BV ι) (BV ι) R)
  | .other _ _ => none
  | .gate g qs =>
    match gateMatrix k g with
    | none => none
    | some m =>
      if m.r = 2 ^ qs.length ∧ m.c = 2 ^ qs.length
      then some (E.emb qs (Mat.toM (2 ^ qs.length) (2 ^ qs.length) m)) else none

/-- action of an operation list (first operation acts first) -/
def denote (E : Placement R ι) (k : Scal R) (ops : List (Operation (Ang R) R)) :
    Option (Matrix (BV ι) (BV ι) R) :=
  denoteBy (denoteOp E k) ops

/-- the angle is a real angle: its half-angle point is on the unit circle and is fixed by conjugation -/
def RealAng (a : Ang R) : Prop := a.ch * a.ch + a.sh * a.sh = 1 ∧ star a.ch = a.ch ∧ star a.sh = a.sh

def isCtrlU3 {α : Type} : Operation α R → Bool
  | .gate (.controlled w _) _ => w.name == "U3"
  | _ => false

def RealParams : Operation (Ang R) R → Prop
  | .gate g _ => ∀ a ∈ g.params, RealAng a
  | .other _ _ => True

/-- a gate called "U3" – as the gate of the operation or as the wrapped gate of a `ControlledGate` – is the
    built-in U3 (not a custom gate that reuses the name) -/
def BuiltinU3 {α : Type} : Operation α R → Prop
  | .gate (.mf n _ m) _ => n = "U3" → m = none
  | .gate (.controlled (.mf n _ m) _) _ => n = "U3" → m = none
  | _ => True

/-- for a controlled U3(θ,φ,λ) the phase e^{i(φ+λ)/2} is 1 -/
def CtrlPhaseTrivial (k : Scal R) (op : Operation (Ang R) R) : Prop :=
  isCtrlU3 op = true → ∀ g qs th ph la, op = .gate g qs → g.params = [th, ph, la] → ph.ehp k * la.ehp k = 1

/-- the domain on which the U3 rule is proved sound -/
def U3Good (k : Scal R) (op : Operation (Ang R) R) : Prop :=
  RealParams op ∧ BuiltinU3 op ∧ CtrlPhaseTrivial k op

theorem ctrlPhaseTrivial_of_plain (k : Scal R) {op : Operation (Ang R) R} (h : isCtrlU3 op = false) :
    CtrlPhaseTrivial k op :=
  fun hc => absurd (h.symm.trans hc) Bool.false_ne_true

theorem forall_mem_three {α : Type} {P : α → Prop} {a b c : α} (ha : P a) (hb : P b) (hc : P c) : ∀ o ∈ [a, b, c], P o :=
  List.forall_mem_cons.mpr ⟨ha, List.forall_mem_cons.mpr ⟨hb, List.forall_mem_singleton.mpr hc⟩⟩

theorem dagger_name_ne (s : String) : s ++ "_Dagger" ≠ "U3" := by
  intro h
  have := congrArg String.length h
  rw [String.length_append, show "_Dagger".length = 7 by decide, show "U3".length = 2 by decide] at this
  omega

theorem realAng_phase (k : Scal R) (hi : k.i * k.i = -1) (hs : star k.i = -k.i) (a : Ang R) (ha : RealAng a) :
    IsPhase (a.ehp k) := by
  have : star (a.ehp k) = a.ehm k := by
    unfold Ang.ehp Ang.ehm
    rw [star_add, star_mul', hs, ha.2.1, ha.2.2, neg_mul]
  rw [IsPhase, this]
  exact C02.ehp_mul_ehm hi ha.1

theorem denoteOp_gate_eq_some {E : Placement R ι} {k : Scal R} {g : Gate (Ang R) R} {qs : List Nat}
    {U : Matrix (BV ι) (BV ι) R} :
    denoteOp E k (.gate g qs) = some U ↔ ∃ m, gateMatrix k g = some m ∧
      (m.r = 2 ^ qs.length ∧ m.c = 2 ^ qs.length) ∧ E.emb qs (Mat.toM _ _ m) = U := by
  rcases hm : gateMatrix k g with _ | m <;> simp [denoteOp, hm]

/-- `hM` is asked at every `D = d` because it is used at `D = 2 ^ qs.length`, which equals `d` only by `hU`. -/
theorem denote_three (E : Placement R ι) (k : Scal R) (g₁ g₂ g₃ : Gate (Ang R) R) (m m₁ m₂ m₃ : Mat R) (d : Nat)
    {g : Gate (Ang R) R} {qs : List Nat} {p : R} {U : Matrix (BV ι) (BV ι) R}
    (hU : denoteOp E k (.gate g qs) = some U) (hg : gateMatrix k g = some m ∧ m.r = d)
    (h₁ : gateMatrix k g₁ = some m₁ ∧ m₁.r = d ∧ m₁.c = d)
    (h₂ : gateMatrix k g₂ = some m₂ ∧ m₂.r = d ∧ m₂.c = d)
    (h₃ : gateMatrix k g₃ = some m₃ ∧ m₃.r = d ∧ m₃.c = d)
    (hM : ∀ D, D = d → Mat.toM D D m = p • (Mat.toM D D m₃ * Mat.toM D D m₂ * Mat.toM D D m₁)) :
    ∃ U', denoteBy (denoteOp E k) [.gate g₁ qs, .gate g₂ qs, .gate g₃ qs] = some U' ∧ U = p • U' := by
  obtain ⟨m', hm', hd, rfl⟩ := denoteOp_gate_eq_some.mp hU
  obtain rfl : m = m' := Option.some.inj (hg.1.symm.trans hm')
  have hq : 2 ^ qs.length = d := hd.1.symm.trans hg.2
  have hden : ∀ {gᵢ mᵢ}, gateMatrix k gᵢ = some mᵢ ∧ mᵢ.r = d ∧ mᵢ.c = d →
      denoteOp E k (.gate gᵢ qs) = some (E.emb qs (Mat.toM _ _ mᵢ)) := fun h =>
    denoteOp_gate_eq_some.mpr ⟨_, h.1, ⟨h.2.1.trans hq.symm, h.2.2.trans hq.symm⟩, rfl⟩
  refine ⟨E.emb qs (Mat.toM _ _ m₃) * E.emb qs (Mat.toM _ _ m₂) * E.emb qs (Mat.toM _ _ m₁), ?_, ?_⟩
  · simp only [denoteBy, hden h₁, hden h₂, hden h₃, Option.bind_some, one_mul]
  · rw [hM _ hq, E.emb_smul, E.emb_mul, E.emb_mul]

/-- `hM` is C02's `u3_product`, with `p = e^{i(φ+λ)/2}` -/
theorem u3_plain_sound (E : Placement R ι) (k : Scal R) (th ph la : Ang R) {p : R}
    (hM : Mat.toM 2 2 (Gates.u3 k th ph la) =
      p • (Mat.toM 2 2 (Gates.rz k ph) * Mat.toM 2 2 (Gates.ry th) * Mat.toM 2 2 (Gates.rz k la))) (qs : List Nat)
    (U : Matrix (BV ι) (BV ι) R) (hU : denoteOp E k (.gate (.mf "U3" [th, ph, la] none) qs) = some U) :
    ∃ U', denoteBy (denoteOp E k)
        [.gate (rzGate la) qs, .gate (ryGate th) qs, .gate (rzGate ph) qs] = some U' ∧ U = p • U' :=
  denote_three E k _ _ _ (Gates.u3 k th ph la) (Gates.rz k la) (Gates.ry th) (Gates.rz k ph) 2 hU
    ⟨rfl, rfl⟩ ⟨rfl, rfl, rfl⟩ ⟨rfl, rfl, rfl⟩ ⟨rfl, rfl, rfl⟩ fun D hD => by subst hD; exact hM

theorem realAng_of_params (g : Gate (Ang R) R) (qs : List Nat) (h : RealParams (.gate g qs)) (a : Ang R)
    (ha : a ∈ g.params) : RealAng a := h a ha

theorem u3Good_rot (k : Scal R) (n : String) (a : Ang R) (ha : RealAng a) (hn : n ≠ "U3") (qs : List Nat) :
    U3Good k (.gate (.mf n [a] none) qs) ∧ ∀ c, U3Good k (.gate (.controlled (.mf n [a] none) c) qs) := by
  have hp : ∀ b ∈ [a], RealAng b := fun b hb => List.mem_singleton.mp hb ▸ ha
  exact ⟨⟨hp, fun h => absurd h hn, fun h => Bool.noConfusion h⟩,
    fun c => ⟨hp, fun h => absurd h hn, fun h => absurd (beq_iff_eq.mp h) hn⟩⟩

theorem realParams_of {P : Ang R → Prop} (hP : ∀ a, P a → RealAng a) {ops : List (Operation (Ang R) R)}
    (h : ∀ op ∈ ops, ∀ g qs, op = .gate g qs → ∀ a ∈ g.params, P a) : ∀ op ∈ ops, RealParams op
  | .other _ _, _ => trivial
  | .gate g qs, hop => fun a ha => hP a (h _ hop g qs rfl a ha)

end Sound

section Production
variable {α R : Type}

theorem u3Production_eq_some {g : Gate α R} {qs : List Nat} {out : List (Operation α R)}
    (h : u3Production (.gate g qs) = some out) :
    ∃ th ph la, g.params = [th, ph, la] ∧
      ((∃ w c, g = .controlled w c ∧ 1 ≤ c ∧ out =
          [.gate (.controlled (rzGate la) c) qs, .gate (.controlled (ryGate th) c) qs,
           .gate (.controlled (rzGate ph) c) qs]) ∨
        g.isControlled = false ∧ out = [.gate (rzGate la) qs, .gate (ryGate th) qs, .gate (rzGate ph) qs]) := by
  simp only [u3Production] at h
  split at h
  · rename_i th ph la hps
    refine ⟨th, ph, la, hps, ?_⟩
    cases g with
    | controlled w c =>
      cases c with
      | zero => cases h
      | succ c => cases h; exact .inl ⟨w, _, rfl, Nat.succ_pos c, rfl⟩
    | mf n ps m => cases h; exact .inr ⟨rfl, rfl⟩
    | dagger w => cases h; exact .inr ⟨rfl, rfl⟩
  · cases h

end Production

end OQ.C18
