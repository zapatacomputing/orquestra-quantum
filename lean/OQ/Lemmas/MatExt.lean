/- Equality of executable matrices: `Mat.ofFn` reads its function only inside the bounds, and a matrix whose backing array
   has exactly `r * c` entries is `ofFn` of its own entries. -/
import OQ.Lemmas.Bridge

namespace OQ.Mat
variable {R : Type}

theorem ofFn_congr (r c : Nat) (f g : Nat → Nat → R) (h : ∀ i j, i < r → j < c → f i j = g i j) :
    ofFn r c f = ofFn r c g := by
  unfold ofFn
  congr 2
  funext k
  have hc : 0 < c := Nat.pos_of_ne_zero fun h0 => by have := k.2; simp [h0] at this
  exact h _ _ ((Nat.div_lt_iff_lt_mul hc).2 k.2) (Nat.mod_lt _ hc)

theorem ofFn_get_self [Zero R] (A : Mat R) (h : A.a.size = A.r * A.c) : ofFn A.r A.c A.get = A := by
  obtain ⟨r, c, a⟩ := A
  unfold ofFn
  congr 1
  refine Array.ext (by simp [h]) fun i h1 h2 => ?_
  have hi : i < r * c := by simpa using h1
  have hc : 0 < c := Nat.pos_of_lt_mul_left hi
  have hd : i / c < r := (Nat.div_lt_iff_lt_mul hc).2 hi
  simp [get, hd, Nat.mod_lt _ hc, Nat.div_add_mod', Array.getD, h2]

theorem ext_get [Zero R] {A B : Mat R} (hA : A.a.size = A.r * A.c) (hB : B.a.size = B.r * B.c)
    (hr : A.r = B.r) (hc : A.c = B.c) (h : ∀ i j, i < A.r → j < A.c → A.get i j = B.get i j) : A = B := by
  rw [← ofFn_get_self A hA, ← ofFn_get_self B hB, ← hr, ← hc]
  exact ofFn_congr _ _ _ _ h

end OQ.Mat
