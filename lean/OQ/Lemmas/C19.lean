/- C19 — what the property theorems of `OQ/Props/C19.lean` rest on.  The value `evalS S e` of a sympy expression in a field;
   one step of `expression_from_sympy` as a view (`Leaf`: answered at once; `Branch`: a dialect key called on the conversions of
   smaller subexpressions, `fromF_succ_cases`), with one fact per branch for each of the inductions over the fuel; the scanner
   `splitGo` of the sort keys on a run of one class and on an embedded digit group; every key has the shape
   text, (number, text)*. -/
import OQ.Model.C19
import Mathlib.Algebra.Field.Basic
import Mathlib.Algebra.BigOperators.Group.List.Basic
import Mathlib.Data.Rat.Cast.Defs
import Mathlib.Tactic.Ring
namespace OQ.C19

/-- interpretation of everything that is not field arithmetic -/
structure Sem (V : Type) where
  iu : V
  pw : V → V → V
  sq : V → V
  app : Bool → String → List V → V
  ext : String → V
  rho : String → V

variable {V : Type} [Field V]

def numV (S : Sem V) : NNum → V
  | .int n => (n : V)
  | .flt q => (q : V)
  | .cplx re im => (re : V) + (im : V) * S.iu
  | .ext t => S.ext t

def fieldOps (S : Sem V) : Ops V :=
  { add := (· + ·), mul := (· * ·), sub := (· - ·), div := (· / ·), pow := S.pw, sqrt := S.sq,
    fn := fun name a => S.app false name [a], num := numV S, sym := S.rho }

mutual
def evalS (S : Sem V) : SExpr → V
  | .integer n => (n : V)
  | .rational q => (q : V)
  | .float q => (q : V)
  | .imag => S.iu
  | .numOther t => S.ext t
  | .native n => numV S n
  | .symbol s => S.rho s
  | .add args => (evalList S args).sum
  | .mul args => (evalList S args).prod
  | .pow b e => S.pw (evalS S b) (evalS S e)
  | .func undef name args => S.app undef name (evalList S args)
  | .other t => S.ext t
def evalList (S : Sem V) : List SExpr → List V
  | [] => []
  | a :: as => evalS S a :: evalList S as
end

theorem evalList_eq_map (S : Sem V) (l : List SExpr) : evalList S l = l.map (evalS S) := by
  induction l with
  | nil => rfl
  | cons a as ih => rw [evalList, ih, List.map_cons]

theorem evalS_add (S : Sem V) (args : List SExpr) : evalS S (.add args) = (args.map (evalS S)).sum := by
  rw [evalS, evalList_eq_map]

theorem evalS_mul (S : Sem V) (args : List SExpr) : evalS S (.mul args) = (args.map (evalS S)).prod := by
  rw [evalS, evalList_eq_map]

theorem supportedList_eq_all (l : List SExpr) : supportedList l = l.all supported := by
  induction l with
  | nil => rfl
  | cons a as ih => rw [supportedList, ih, List.all_cons]

theorem cleanList_eq_all (l : List SExpr) : cleanList l = l.all clean := by
  induction l with
  | nil => rfl
  | cons a as ih => rw [cleanList, ih, List.all_cons]

theorem supported_add (args : List SExpr) : supported (.add args) = (!args.isEmpty && args.all supported) := by
  rw [supported, supportedList_eq_all]

theorem supported_mul (args : List SExpr) : supported (.mul args) = (!args.isEmpty && args.all supported) := by
  rw [supported, supportedList_eq_all]

theorem clean_add (args : List SExpr) : clean (.add args) = args.all clean := by
  rw [clean, cleanList_eq_all]

theorem clean_mul (args : List SExpr) : clean (.mul args) = args.all clean := by
  rw [clean, cleanList_eq_all]

theorem forall_mem_pair {α : Type} {p : α → Prop} {a b : α} : (∀ x ∈ [a, b], p x) ↔ p a ∧ p b := by
  simp

theorem mem_size_lt {a : SExpr} {l : List SExpr} (h : a ∈ l) : a.size < 1 + SExpr.sizeList l := by
  induction l with
  | nil => cases h
  | cons b bs ih =>
    rw [SExpr.sizeList]
    rcases List.mem_cons.mp h with rfl | h'
    · omega
    · have := ih h'; omega

theorem size_pos (e : SExpr) : 0 < e.size := by
  cases e <;> simp only [SExpr.size] <;> omega

/-! `isNegOne e = true` and `isHalf e = true` are by definition hypotheses of the form `(numValue e == some q) = true`. -/

theorem numValue_eval (S : Sem V) {e : SExpr} {q : Rat} (h : (numValue e == some q) = true) : evalS S e = (q : V) := by
  rw [beq_iff_eq] at h
  unfold numValue at h
  split at h <;> cases h <;> simp [evalS, numV]

theorem numValue_supported {e : SExpr} {q : Rat} (h : (numValue e == some q) = true) : supported e = true := by
  rw [beq_iff_eq] at h
  unfold numValue at h
  split at h <;> cases h <;> rfl

theorem addView_some {args : List SExpr} {a0 a1 : SExpr} (h : addView args = some (a0, a1)) :
    ∃ c rest, args = [a0, a1] ∧ a1 = .mul (c :: rest) ∧ isNegOne c = true := by
  unfold addView at h
  split at h
  · split at h
    · next hc => cases h; exact ⟨_, _, rfl, rfl, hc⟩
    · cases h
  · cases h

theorem recipView_some {args : List SExpr} {a0 b : SExpr} (h : recipView args = some (a0, b)) :
    ∃ e, args = [a0, .pow b e] ∧ isNegOne e = true := by
  unfold recipView at h
  split at h
  · split at h
    · next hc => cases h; exact ⟨_, rfl, hc⟩
    · cases h
  · cases h

/-- what the theorems need of sympy's `expr * (-1)` on a product with leading coefficient −1 -/
structure NegLaw (neg : SExpr → SExpr) : Prop where
  size_le : ∀ c rest, isNegOne c = true → (neg (.mul (c :: rest))).size ≤ (SExpr.mul (c :: rest)).size
  supp_fwd : ∀ c rest, isNegOne c = true → supported (.mul (c :: rest)) = true →
    supported (neg (.mul (c :: rest))) = true
  supp_back : ∀ c rest, isNegOne c = true → supported (neg (.mul (c :: rest))) = true →
    supported (.mul (c :: rest)) = true
  clean_fwd : ∀ c rest, isNegOne c = true → clean (.mul (c :: rest)) = true →
    clean (neg (.mul (c :: rest))) = true

def NegVal (neg : SExpr → SExpr) (S : Sem V) : Prop :=
  ∀ c rest, isNegOne c = true → evalS S (neg (.mul (c :: rest))) = - evalS S (.mul (c :: rest))

theorem negMul_of_not_integer {c : SExpr} (h : ∀ n, c ≠ .integer n) (rest : List SExpr) :
    negMul (.mul (c :: rest)) = .mul (.float 1 :: rest) := by
  cases c with
  | integer n => exact absurd rfl (h n)
  | _ => rfl

/-- `negMul` looks at the coefficient of a product only to see whether it is an `Integer`: whatever the coefficient is, the
    result stands for the product of the remaining factors (as `1`, the sole factor, `Mul rest` or `Mul (1.0 :: rest)`) -/
theorem negMul_mul (c : SExpr) (rest : List SExpr) :
    (negMul (.mul (c :: rest))).size ≤ 2 + SExpr.sizeList rest ∧
    supported (negMul (.mul (c :: rest))) = rest.all supported ∧
    clean (negMul (.mul (c :: rest))) = rest.all clean := by
  by_cases h : ∃ n, c = .integer n
  · obtain ⟨n, rfl⟩ := h
    rcases rest with _ | ⟨r, _ | ⟨r2, rs⟩⟩ <;>
      simp [negMul, SExpr.size, SExpr.sizeList, supported, supportedList_eq_all, clean, cleanList_eq_all]
  · rw [negMul_of_not_integer fun n hn => h ⟨n, hn⟩]
    simp [SExpr.size, SExpr.sizeList, supported, supportedList_eq_all, clean, cleanList_eq_all]; omega

theorem evalS_negMul (S : Sem V) (c : SExpr) (rest : List SExpr) :
    evalS S (negMul (.mul (c :: rest))) = (rest.map (evalS S)).prod := by
  by_cases h : ∃ n, c = .integer n
  · obtain ⟨n, rfl⟩ := h
    rcases rest with _ | ⟨r, _ | ⟨r2, rs⟩⟩ <;> simp [negMul, evalS, evalList_eq_map]
  · rw [negMul_of_not_integer fun n hn => h ⟨n, hn⟩]; simp [evalS, evalList_eq_map]

theorem negMul_law : NegLaw negMul where
  size_le c rest _ := by
    have := (negMul_mul c rest).1
    have := size_pos c
    simp only [SExpr.size, SExpr.sizeList]; omega
  supp_fwd c rest _ hs := by
    rw [supported_mul, List.all_cons, Bool.and_eq_true, Bool.and_eq_true] at hs
    rw [(negMul_mul c rest).2.1]; exact hs.2.2
  supp_back c rest hc hs := by
    rw [(negMul_mul c rest).2.1] at hs
    simp [supported_mul, hs, numValue_supported hc]
  clean_fwd c rest _ hs := by
    rw [clean_mul, List.all_cons, Bool.and_eq_true] at hs
    rw [(negMul_mul c rest).2.2]; exact hs.2

theorem negMul_val (S : Sem V) : NegVal negMul S := by
  intro c rest hc
  rw [evalS_negMul, evalS_mul, List.map_cons, List.prod_cons, numValue_eval S hc]
  simp

theorem mapE_ok_of {α β : Type} (f : α → Except Err β) (g : α → β) (l : List α)
    (h : ∀ a ∈ l, f a = .ok (g a)) : mapE f l = .ok (l.map g) := by
  induction l with
  | nil => rfl
  | cons a as ih =>
    rw [mapE, h a (List.mem_cons_self ..), ih fun x hx => h x (List.mem_cons_of_mem _ hx), List.map_cons]

-- for `choose`, which picks the conversions of the subexpressions in the soundness induction
instance : Nonempty NExpr := ⟨.sym ""⟩

theorem mapE_map {α β γ : Type} (g : β → Except Err γ) (τ : α → β) (l : List α) :
    mapE g (l.map τ) = mapE (fun a => g (τ a)) l := by
  induction l with
  | nil => rfl
  | cons a as ih => rw [List.map_cons, mapE, mapE, ih]

theorem mapE_spec {α β : Type} (f : α → Except Err β) (l : List α) :
    match mapE f l with
    | .ok r => r.length = l.length ∧ ∀ a ∈ l, ∃ b ∈ r, f a = .ok b
    | .error e => ∃ a ∈ l, f a = .error e := by
  induction l with
  | nil => exact ⟨rfl, nofun⟩
  | cons a as ih =>
    rw [mapE]
    cases ha : f a with
    | error e => exact ⟨a, List.mem_cons_self .., ha⟩
    | ok b =>
      cases hm : mapE f as with
      | error e =>
        rw [hm] at ih
        exact ih.imp fun x h => ⟨List.mem_cons_of_mem _ h.1, h.2⟩
      | ok bs =>
        rw [hm] at ih
        exact ⟨congrArg _ ih.1, List.forall_mem_cons.mpr ⟨⟨b, List.mem_cons_self .., ha⟩,
          fun x hx => (ih.2 x hx).imp fun b' h => ⟨List.mem_cons_of_mem _ h.1, h.2⟩⟩⟩

theorem translateTuple_eq_mapE {α : Type} (D : Dialect α) (ts : List NExpr) :
    translateTuple D ts = mapE (translate D) ts := by
  induction ts with
  | nil => rfl
  | cons t ts ih => rw [translateTuple, mapE, ih]

theorem translate_call_eq_ok {α : Type} {D : Dialect α} {name : String} {ts : List NExpr} {v : α} :
    translate D (.call name ts) = .ok v ↔
      ∃ F vs, D.known name = some F ∧ mapE (translate D) ts = .ok vs ∧ F vs = .ok v := by
  rw [translate, translateTuple_eq_mapE]
  cases D.known name with
  | none => exact ⟨nofun, fun ⟨_, _, h, _⟩ => nomatch h⟩
  | some F =>
    cases mapE (translate D) ts with
    | error e => exact ⟨nofun, fun ⟨_, _, _, h, _⟩ => nomatch h⟩
    | ok vs => exact ⟨fun h => ⟨F, vs, rfl, rfl, h⟩, fun ⟨_, _, h1, h2, h3⟩ => by cases h1; cases h2; exact h3⟩

theorem callN_ok {name : String} {r : Except Err (List NExpr)} {t : NExpr} (h : callN name r = .ok t) :
    ∃ l, r = .ok l ∧ t = .call name l := by
  cases r with
  | error e => cases h
  | ok l => cases h; exact ⟨l, rfl, rfl⟩

theorem callN_error {name : String} {r : Except Err (List NExpr)} {e : Err} (h : callN name r = .error e) :
    r = .error e := by
  cases r with
  | error e' => cases h; rfl
  | ok l => cases h

section table
variable {W : Type} (o : Ops W)

theorem sympyKnown_add : sympyKnown o "add" = some (reduceE o.add) := by simp [sympyKnown]
theorem sympyKnown_mul : sympyKnown o "mul" = some (reduceE o.mul) := by simp [sympyKnown]
theorem sympyKnown_div : sympyKnown o "div" = some (binE o.div) := by simp [sympyKnown]
theorem sympyKnown_sub : sympyKnown o "sub" = some (binE o.sub) := by simp [sympyKnown]
theorem sympyKnown_pow : sympyKnown o "pow" = some (binE o.pow) := by simp [sympyKnown]
theorem sympyKnown_sqrt : sympyKnown o "sqrt" = some (unE o.sqrt) := by simp [sympyKnown]

theorem sympyKnown_elem {name : String} (h : elemFns.contains name = true) :
    sympyKnown o name = some (unE (o.fn name)) := by
  simp only [elemFns, List.contains_eq_mem, List.mem_cons, List.not_mem_nil, or_false, decide_eq_true_eq] at h
  rcases h with rfl | rfl | rfl | rfl <;> rfl

theorem sympyKnown_other {name : String} (h : collisionNames.contains name = false) (he : elemFns.contains name = false) :
    sympyKnown o name = none := by
  simp [collisionNames] at h
  simp [elemFns] at he
  simp [sympyKnown, h, he]

end table

theorem reduceE_ok {W : Type} (f : W → W → W) (vs : List W) (v : W) (h : reduceE f vs = .ok v) : vs ≠ [] := by
  rintro rfl; cases h

theorem binE_ok {W : Type} (f : W → W → W) (vs : List W) (v : W) (h : binE f vs = .ok v) : vs.length = 2 := by
  rcases vs with _ | ⟨a, _ | ⟨b, _ | ⟨c, r⟩⟩⟩ <;> first | rfl | cases h

theorem unE_ok {W : Type} (f : W → W) (vs : List W) (v : W) (h : unE f vs = .ok v) : vs.length = 1 := by
  rcases vs with _ | ⟨a, _ | ⟨b, r⟩⟩ <;> first | rfl | cases h

@[to_additive]
theorem foldl_mul_eq {M : Type} [Monoid M] (v : M) (vs : List M) : vs.foldl (· * ·) v = v * vs.prod := by
  induction vs generalizing v with
  | nil => simp
  | cons w ws ih => rw [List.foldl_cons, ih, List.prod_cons, mul_assoc]

/-- the nodes converted without recursion, with their conversion -/
inductive Leaf : SExpr → Except Err NExpr → Prop
  | integer (n : Int) : Leaf (.integer n) (.ok (.num (.int n)))
  | rational (q : Rat) : Leaf (.rational q) (.ok (.num (.flt q)))
  | float (q : Rat) : Leaf (.float q) (.ok (.num (.flt q)))
  | imag : Leaf .imag (.ok (.num (.cplx 0 1)))
  | numOther (t : String) : Leaf (.numOther t) (.ok (.num (.ext t)))
  | native (n : NNum) : Leaf (.native n) (.ok (.num n))
  | symbol (s : String) : Leaf (.symbol s) (.ok (.sym s))
  | other (t : String) : Leaf (.other t) (.error .notimpl)

/-- the recursive branches: `Branch neg e n ks` says that `e` is converted to the call of the dialect key `n` on the
    conversions of `ks` -/
inductive Branch (neg : SExpr → SExpr) : SExpr → String → List SExpr → Prop
  | sub (a0 c : SExpr) (rest : List SExpr) : isNegOne c = true →
      Branch neg (.add [a0, .mul (c :: rest)]) "sub" [a0, neg (.mul (c :: rest))]
  | add (args : List SExpr) : Branch neg (.add args) "add" args
  | div (a0 b e : SExpr) : isNegOne e = true → Branch neg (.mul [a0, .pow b e]) "div" [a0, b]
  | mul (args : List SExpr) : Branch neg (.mul args) "mul" args
  | inv (b e : SExpr) : isNegOne e = true → Branch neg (.pow b e) "div" [.integer 1, b]
  | sqrt (b e : SExpr) : isHalf e = true → Branch neg (.pow b e) "sqrt" [b]
  | pow (b e : SExpr) : Branch neg (.pow b e) "pow" [b, e]
  | func (undef : Bool) (name : String) (args : List SExpr) : Branch neg (.func undef name args) name args

theorem callN_mapE_pair (name : String) (g : SExpr → Except Err NExpr) (a b : SExpr) :
    callN name (mapE g [a, b]) = call2 name (g a) (g b) := by
  simp only [mapE]; cases g a <;> cases g b <;> rfl

theorem callN_mapE_single (name : String) (g : SExpr → Except Err NExpr) (a : SExpr) :
    callN name (mapE g [a]) = call1 name (g a) := by
  simp only [mapE]; cases g a <;> rfl

theorem fromF_succ_cases (neg : SExpr → SExpr) (e : SExpr) :
    (∃ r, Leaf e r ∧ ∀ f, fromF neg (f + 1) e = r) ∨
    (∃ n ks, Branch neg e n ks ∧ ∀ f, fromF neg (f + 1) e = callN n (mapE (fromF neg f) ks)) := by
  cases e with
  | add args =>
    cases hv : addView args with
    | none => exact .inr ⟨_, _, .add args, fun f => by simp only [fromF, hv]⟩
    | some p =>
      obtain ⟨a0, a1⟩ := p
      obtain ⟨c, rest, rfl, rfl, hc⟩ := addView_some hv
      exact .inr ⟨_, _, .sub _ c rest hc, fun f => by simp only [fromF, hv, callN_mapE_pair]⟩
  | mul args =>
    cases hv : recipView args with
    | none => exact .inr ⟨_, _, .mul args, fun f => by simp only [fromF, hv]⟩
    | some p =>
      obtain ⟨a0, b⟩ := p
      obtain ⟨e, rfl, hc⟩ := recipView_some hv
      exact .inr ⟨_, _, .div _ _ e hc, fun f => by simp only [fromF, hv, callN_mapE_pair]⟩
  | pow b e =>
    by_cases h1 : isNegOne e = true
    · -- the numerator `1` is a constant of the code, here the conversion of the literal `1`; without fuel both sides fail
      exact .inr ⟨_, _, .inv b e h1, fun f => by
        cases f <;> simp only [fromF, h1, if_true, callN_mapE_pair]
        rfl⟩
    · by_cases h2 : isHalf e = true
      · exact .inr ⟨_, _, .sqrt b e h2, fun f => by simp only [fromF, h1, h2, if_true, Bool.false_eq_true, if_false, callN_mapE_single]⟩
      · exact .inr ⟨_, _, .pow b e, fun f => by simp only [fromF, h1, h2, Bool.false_eq_true, if_false, callN_mapE_pair]⟩
  | func undef name args => exact .inr ⟨_, _, .func undef name args, fun f => by simp only [fromF]⟩
  | _ => exact .inl ⟨_, by constructor, fun _ => rfl⟩

namespace Leaf
variable {e : SExpr} {r : Except Err NExpr}

theorem ne_fuel (h : Leaf e r) : r ≠ .error .fuel := by
  cases h <;> exact fun h => nomatch h

theorem sound (S : Sem V) (h : Leaf e r) (hs : supported e = true) :
    ∃ t, r = .ok t ∧ translate (sympyDialect (fieldOps S)) t = .ok (evalS S e) := by
  cases h with
  | numOther t => cases hs
  | other t => cases hs
  | imag => exact ⟨_, rfl, by simp [translate, sympyDialect, fieldOps, numV, evalS]⟩
  | _ => exact ⟨_, rfl, rfl⟩

theorem supported {t : NExpr} (h : Leaf e (.ok t)) (hc : clean e = true) : supported e = true := by
  cases h with
  | numOther t => cases hc
  | native n =>
    cases n with
    | ext t => cases hc
    | _ => rfl
  | _ => rfl

end Leaf

namespace Branch
variable {neg : SExpr → SExpr} {e : SExpr} {n : String} {ks : List SExpr}

theorem down (hl : NegLaw neg) (hb : Branch neg e n ks) : ∀ k ∈ ks,
    k.size < e.size ∧ (supported e = true → supported k = true) ∧ (clean e = true → clean k = true) := by
  cases hb with
  | sub a0 c rest hc =>
    have := hl.size_le c rest hc
    rw [supported_add, clean_add]
    simp only [forall_mem_pair, SExpr.size, SExpr.sizeList, List.all_cons, List.all_nil, Bool.and_true, Bool.and_eq_true] at this ⊢
    exact ⟨⟨by omega, fun h => h.2.1, And.left⟩, by omega, fun h => hl.supp_fwd c rest hc h.2.2, fun h => hl.clean_fwd c rest hc h.2⟩
  | div a0 b e _ =>
    rw [supported_mul, clean_mul]
    simp only [forall_mem_pair, SExpr.size, SExpr.sizeList, List.all_cons, List.all_nil, supported, clean, Bool.and_true,
      Bool.and_eq_true]
    exact ⟨⟨by omega, fun h => h.2.1, And.left⟩, by omega, fun h => h.2.2.1, fun h => h.2.1⟩
  | inv b e _ =>
    simp only [forall_mem_pair, SExpr.size, supported, clean, Bool.and_eq_true]
    exact ⟨⟨by have := size_pos b; omega, fun _ => trivial, fun _ => trivial⟩, by omega, And.left, And.left⟩
  | sqrt b e _ =>
    simp only [List.forall_mem_singleton, SExpr.size, supported, clean, Bool.and_eq_true]
    exact ⟨by omega, And.left, And.left⟩
  | pow b e =>
    simp only [forall_mem_pair, SExpr.size, supported, clean, Bool.and_eq_true]
    exact ⟨⟨by omega, And.left, And.left⟩, by omega, And.right, And.right⟩
  | add _ =>
    rw [supported_add, clean_add, Bool.and_eq_true, List.all_eq_true, List.all_eq_true]
    exact fun k hk => ⟨mem_size_lt hk, fun h => h.2 k hk, fun h => h k hk⟩
  | mul _ =>
    rw [supported_mul, clean_mul, Bool.and_eq_true, List.all_eq_true, List.all_eq_true]
    exact fun k hk => ⟨mem_size_lt hk, fun h => h.2 k hk, fun h => h k hk⟩
  | func u name _ =>
    refine fun k hk => ⟨mem_size_lt hk, fun hs => ?_, fun hc => ?_⟩
    · match u, ks, hs with
      | false, [a], hs => rw [supported, Bool.and_eq_true] at hs; exact List.mem_singleton.mp hk ▸ hs.2
    · simp only [clean, cleanList_eq_all, Bool.and_eq_true, List.all_eq_true] at hc; exact hc.2 k hk

/-- the converse of `down` for `supported`.  The accepted call (`hk`, `hF`, `hlen`) supplies what `supported` asks beyond the
    subexpressions: `reduceE` refuses an empty sum or product, and a function name must be in the table, where its entry `unE`
    takes one argument -/
theorem supported_up {W : Type} (o : Ops W) (hl : NegLaw neg) (hb : Branch neg e n ks) (hc : clean e = true)
    {F : List W → Except Err W} {vs : List W} {v : W} (hk : sympyKnown o n = some F) (hF : F vs = .ok v)
    (hlen : vs.length = ks.length) (hks : ∀ k ∈ ks, supported k = true) : supported e = true := by
  cases hb with
  | sub a0 c rest hcn =>
    rw [forall_mem_pair] at hks
    rw [supported_add]
    simp only [List.all_cons, hks.1, hl.supp_back c rest hcn hks.2]; rfl
  | div a0 b e he =>
    rw [forall_mem_pair] at hks
    rw [supported_mul]
    simp only [List.all_cons, supported, hks.1, hks.2, numValue_supported he]; rfl
  | inv b e he =>
    simp only [supported, (forall_mem_pair.mp hks).2, numValue_supported he]; rfl
  | sqrt b e he =>
    simp only [supported, List.forall_mem_singleton.mp hks, numValue_supported he]; rfl
  | pow b e => simp only [supported, (forall_mem_pair.mp hks).1, (forall_mem_pair.mp hks).2]; rfl
  | add _ =>
    cases (sympyKnown_add o).symm.trans hk
    have : ks ≠ [] := fun h => reduceE_ok _ _ _ hF (List.eq_nil_of_length_eq_zero (by rw [hlen, h]; rfl))
    simpa [supported_add, this] using hks
  | mul _ =>
    cases (sympyKnown_mul o).symm.trans hk
    have : ks ≠ [] := fun h => reduceE_ok _ _ _ hF (List.eq_nil_of_length_eq_zero (by rw [hlen, h]; rfl))
    simpa [supported_mul, this] using hks
  | func u name _ =>
    simp only [clean, Bool.and_eq_true, Bool.not_eq_true', Bool.and_eq_false_iff] at hc
    cases hel : elemFns.contains n with
    | false => rw [sympyKnown_other o hc.1.1 hel] at hk; cases hk
    | true =>
      cases (sympyKnown_elem o hel).symm.trans hk
      have hu : u = false := hc.1.2.resolve_right (by rw [hel]; decide)
      subst hu
      rw [unE_ok _ _ _ hF] at hlen
      match ks, hlen, hks with
      | [a], _, hks => simp only [supported, hel, List.forall_mem_singleton.mp hks]; rfl

theorem value (S : Sem V) (hv : NegVal neg S) (hinv : ∀ v, S.pw v ((-1 : ℚ) : V) = v⁻¹)
    (hsqrt : ∀ v, S.sq v = S.pw v ((1/2 : ℚ) : V)) (hb : Branch neg e n ks) (hs : supported e = true) :
    ∃ F, sympyKnown (fieldOps S) n = some F ∧ F (ks.map (evalS S)) = .ok (evalS S e) := by
  cases hb with
  | sub a0 c rest hc =>
    refine ⟨_, sympyKnown_sub _, ?_⟩
    simp [binE, fieldOps, hv c rest hc, evalS_add]
  | div a0 b e he =>
    refine ⟨_, sympyKnown_div _, ?_⟩
    simp only [binE, fieldOps, List.map_cons, List.map_nil, evalS, evalList, List.prod_cons, List.prod_nil, mul_one,
      numValue_eval S he, hinv, div_eq_mul_inv]
  | inv b e he =>
    refine ⟨_, sympyKnown_div _, ?_⟩
    simp only [binE, fieldOps, List.map_cons, List.map_nil, evalS, numValue_eval S he, hinv,
      Int.cast_one, one_div]
  | sqrt b e he =>
    refine ⟨_, sympyKnown_sqrt _, ?_⟩
    simp only [unE, fieldOps, List.map_cons, List.map_nil, evalS, numValue_eval S he, hsqrt]
  | pow b e => exact ⟨_, sympyKnown_pow _, by simp [binE, fieldOps, evalS]⟩
  | add _ =>
    refine ⟨_, sympyKnown_add _, ?_⟩
    cases ks with
    | nil => cases hs
    | cons a as => rw [evalS_add, List.map_cons, reduceE, List.sum_cons]; exact congrArg _ (foldl_add_eq _ _)
  | mul _ =>
    refine ⟨_, sympyKnown_mul _, ?_⟩
    cases ks with
    | nil => cases hs
    | cons a as => rw [evalS_mul, List.map_cons, reduceE, List.prod_cons]; exact congrArg _ (foldl_mul_eq _ _)
  | func u name _ =>
    match u, ks, hs with
    | false, [a], hs =>
      simp only [supported, Bool.and_eq_true] at hs
      exact ⟨_, sympyKnown_elem _ hs.1, by simp [unE, fieldOps, evalS, evalList]⟩

end Branch

theorem fromF_ok_supported {W : Type} (o : Ops W) (neg : SExpr → SExpr) (hl : NegLaw neg) :
    ∀ fuel e t v, fromF neg fuel e = .ok t → translate (sympyDialect o) t = .ok v →
      clean e = true → supported e = true := by
  intro fuel
  induction fuel with
  | zero => intro e t v h; cases h
  | succ f ih =>
    intro e t v hf ht hc
    rcases fromF_succ_cases neg e with ⟨r, hleaf, hr⟩ | ⟨n, ks, hb, hr⟩ <;> rw [hr f] at hf
    · subst hf; exact hleaf.supported hc
    · obtain ⟨ts, hm, rfl⟩ := callN_ok hf
      obtain ⟨F, vs, hk, htt, hF⟩ := translate_call_eq_ok.mp ht
      have h1 := mapE_spec (fromF neg f) ks
      have h2 := mapE_spec (translate (sympyDialect o)) ts
      rw [hm] at h1
      rw [htt] at h2
      exact hb.supported_up o hl hc hk hF (h2.1.trans h1.1) fun k hk =>
        let ⟨t', ht', e1⟩ := h1.2 k hk
        let ⟨v', _, e2⟩ := h2.2 t' ht'
        ih k t' v' e1 e2 ((hb.down hl k hk).2.2 hc)

theorem fromF_no_fuel (neg : SExpr → SExpr) (hl : NegLaw neg) :
    ∀ fuel e, e.size < fuel → fromF neg fuel e ≠ .error .fuel := by
  intro fuel
  induction fuel with
  | zero => intro e h; omega
  | succ f ih =>
    intro e hsz hf
    rcases fromF_succ_cases neg e with ⟨r, hleaf, hr⟩ | ⟨n, ks, hb, hr⟩ <;> rw [hr f] at hf
    · exact hleaf.ne_fuel hf
    · have := mapE_spec (fromF neg f) ks
      rw [callN_error hf] at this
      obtain ⟨k, hk, hfk⟩ := this
      exact ih k (by have := (hb.down hl k hk).1; omega) hfk

theorem pipeline_eq_ok {W : Type} {o : Ops W} {e : SExpr} {v : W} :
    pipeline o e = .ok v ↔ ∃ t, fromSympy e = .ok t ∧ translate (sympyDialect o) t = .ok v := by
  rw [pipeline]
  cases fromSympy e <;> simp

def NoTrailingDigit (p : List Char) : Prop := ∀ c, p.getLast? = some c → isDig c = false
def NoLeadingDigit (s : List Char) : Prop := ∀ c, s.head? = some c → isDig c = false

theorem splitGo_cons (m : Bool) (acc : List Char) (c : Char) (cs : List Char) :
    splitGo m acc (c :: cs) =
      if isDig c = m then splitGo m (c :: acc) cs else acc.reverse :: splitGo (isDig c) [c] cs := by
  cases m <;> cases h : isDig c <;> simp [splitGo, h]

theorem splitGo_run (m : Bool) (p acc rest : List Char) (h : ∀ c ∈ p, isDig c = m) :
    splitGo m acc (p ++ rest) = splitGo m (p.reverse ++ acc) rest := by
  induction p generalizing acc with
  | nil => rfl
  | cons c cs ih =>
    rw [List.cons_append, splitGo_cons, if_pos (h c (List.mem_cons_self ..)),
      ih _ fun x hx => h x (List.mem_cons_of_mem _ hx), List.reverse_cons, List.append_assoc, List.singleton_append]

theorem splitGo_digits_end (acc sfx : List Char) (h : NoLeadingDigit sfx) :
    splitGo true acc sfx = acc.reverse :: splitGroups sfx := by
  cases sfx with
  | nil => rfl
  | cons c cs =>
    have hc : isDig c = false := h c rfl
    rw [splitGroups, splitGo_cons, splitGo_cons, hc, if_neg Bool.false_ne_true, if_pos rfl]

/-- a maximal digit group `d` met in text mode closes the open group; the prefix `p` before it leaves the scanner in the mode
    given by the class of its last character -/
theorem splitGo_append_digits (d sfx : List Char) (hs : NoLeadingDigit sfx) (hne : d ≠ [])
    (hd : ∀ c ∈ d, isDig c = true) (p : List Char) : ∀ (m : Bool) (acc : List Char),
    (p.getLast?.map isDig).getD m = false →
      splitGo m acc (p ++ (d ++ sfx)) = splitGo m acc p ++ d :: splitGroups sfx := by
  induction p with
  | nil =>
    intro m acc hm
    obtain rfl : m = false := hm
    obtain ⟨d0, ds, rfl⟩ := List.exists_cons_of_ne_nil hne
    rw [List.nil_append, List.cons_append, splitGo_cons, hd d0 (List.mem_cons_self ..), if_neg (by decide),
      splitGo_run true ds [d0] sfx fun c hc => hd c (List.mem_cons_of_mem _ hc), splitGo_digits_end _ _ hs,
      List.reverse_append, List.reverse_reverse, List.reverse_singleton, List.singleton_append]
    rfl
  | cons c cs ih =>
    intro m acc hm
    have hm' : (cs.getLast?.map isDig).getD (isDig c) = false := by
      rw [List.getLast?_cons] at hm; cases h : cs.getLast? <;> rwa [h] at hm
    rw [List.cons_append, splitGo_cons, splitGo_cons]
    by_cases h : isDig c = m
    · rw [if_pos h, if_pos h, ← h, ih _ _ hm']
    · rw [if_neg h, if_neg h, ih _ _ hm', List.cons_append]

theorem convGroup_digits (d : List Char) (hne : d ≠ []) (hd : ∀ c ∈ d, isDig c = true) :
    convGroup d = .n (valDigits d) := by
  rw [convGroup, if_pos]
  rw [Bool.and_eq_true, List.all_eq_true, Bool.not_eq_true', List.isEmpty_eq_false_iff]
  exact ⟨hne, hd⟩

theorem convGroup_nondig (g : List Char) (h : ∀ c ∈ g, isDig c = false) : convGroup g = .s g := by
  unfold convGroup
  cases g with
  | nil => rfl
  | cons c cs => simp [h c (List.mem_cons_self ..)]

theorem naturalKey_nondig (a : List Char) (ha : ∀ c ∈ a, isDig c = false) : naturalKey a = [.s a] := by
  have := splitGo_run false a [] [] ha
  rw [List.append_nil, List.append_nil] at this
  rw [naturalKey, splitGroups, this, splitGo, List.reverse_reverse, List.map_singleton, convGroup_nondig a ha]

theorem naturalKey_append_digits (pfx sfx d : List Char) (hp : NoTrailingDigit pfx) (hs : NoLeadingDigit sfx)
    (hne : d ≠ []) (hd : ∀ c ∈ d, isDig c = true) :
    naturalKey (pfx ++ d ++ sfx) = naturalKey pfx ++ .n (valDigits d) :: naturalKey sfx := by
  have hm : (pfx.getLast?.map isDig).getD false = false := by
    cases h : pfx.getLast? with
    | none => rfl
    | some c => exact hp c h
  rw [naturalKey, splitGroups, List.append_assoc, splitGo_append_digits d sfx hs hne hd pfx false [] hm, List.map_append,
    List.map_cons, convGroup_digits d hne hd]
  rfl

theorem naturalKey_stem (a d : List Char) (ha : ∀ c ∈ a, isDig c = false) (hne : d ≠ [])
    (hd : ∀ c ∈ d, isDig c = true) :
    naturalKey (a ++ d) = [.s a, .n (valDigits d), .s []] := by
  have := naturalKey_append_digits a [] d (fun c hc => ha c (List.mem_of_getLast? hc)) (fun _ h => nomatch h) hne hd
  rwa [List.append_nil, naturalKey_nondig a ha] at this

theorem cmpKey_refl (k : List KeyItem) : cmpKey k k = some .eq := by
  induction k with
  | nil => rfl
  | cons a as ih => simp [cmpKey, ih]

theorem cmpKey_append_left (A X Y : List KeyItem) : cmpKey (A ++ X) (A ++ Y) = cmpKey X Y := by
  induction A with
  | nil => rfl
  | cons a as ih => simp [cmpKey, ih]

theorem cmpKey_num (m n : Nat) (B : List KeyItem) :
    cmpKey (.n m :: B) (.n n :: B) = some (compare m n) := by
  by_cases h : m = n
  · subst h; simp [cmpKey, cmpKey_refl]
  · simp [cmpKey, h, cmpItem]

theorem cmpChars_refl (a : List Char) : cmpChars a a = .eq := by
  induction a with
  | nil => rfl
  | cons c cs ih => simp [cmpChars, ih]

theorem valDigits_snoc (ds : List Char) (c : Char) :
    valDigits (ds ++ [c]) = 10 * valDigits ds + (c.toNat - '0'.toNat) := by
  rw [valDigits, List.foldl_append]; rfl

theorem digitChar_spec : ∀ k < 10, (Char.ofNat ('0'.toNat + k)).toNat - '0'.toNat = k ∧
    isDig (Char.ofNat ('0'.toNat + k)) = true := by decide

theorem decimalAux_spec : ∀ fuel n acc, n < fuel → ∃ ds, decimalAux fuel n acc = ds ++ acc ∧
    valDigits ds = n ∧ (∀ c ∈ ds, isDig c = true) ∧ ds ≠ [] := by
  intro fuel
  induction fuel with
  | zero => intro n acc h; omega
  | succ fuel ih =>
    intro n acc hn
    obtain ⟨hv, hd⟩ := digitChar_spec (n % 10) (Nat.mod_lt _ (by omega))
    rw [decimalAux]
    by_cases h0 : n / 10 = 0
    · rw [if_pos h0]
      exact ⟨[_], rfl, by show 10 * 0 + _ = n; omega, List.forall_mem_singleton.mpr hd, List.cons_ne_nil _ _⟩
    · rw [if_neg h0]
      obtain ⟨ds, h1, h2, h3, -⟩ := ih (n / 10) (Char.ofNat ('0'.toNat + n % 10) :: acc) (by omega)
      exact ⟨ds ++ [_], by rw [h1, List.append_assoc]; rfl, by rw [valDigits_snoc, h2]; omega,
        List.forall_mem_append.mpr ⟨h3, List.forall_mem_singleton.mpr hd⟩, by simp⟩

theorem decimal_spec (n : Nat) :
    valDigits (decimal n) = n ∧ (∀ c ∈ decimal n, isDig c = true) ∧ decimal n ≠ [] := by
  obtain ⟨ds, h1, h⟩ := decimalAux_spec (n + 1) n [] (by omega)
  rw [decimal, h1, List.append_nil]; exact h

/-- text, (number, text)*: between two keys of this shape Python compares str with str and int with int only (`cmpKey_shape`) -/
inductive OddShape : List KeyItem → Prop where
  | one (a : List Char) : OddShape [.s a]
  | step (a : List Char) (m : Nat) (k : List KeyItem) : OddShape k → OddShape (.s a :: .n m :: k)

/-- scanning on from mode `m` with a group `acc` of that class open (non-empty if it is a digit group) completes a key of that
    shape; in digit mode, together with the text item `.s a` that went before the open group -/
theorem splitGo_shape (cs : List Char) : ∀ (m : Bool) (acc a : List Char), (∀ c ∈ acc, isDig c = m) → (m = true → acc ≠ []) →
    OddShape ((if m then [.s a] else []) ++ (splitGo m acc cs).map convGroup) := by
  induction cs with
  | nil =>
    intro m acc a h hne
    have h' : ∀ c ∈ acc.reverse, isDig c = m := fun c hc => h c (List.mem_reverse.mp hc)
    cases m with
    | false => show OddShape [convGroup _]; rw [convGroup_nondig _ h']; exact .one _
    | true =>
      show OddShape [_, convGroup _, _]
      rw [convGroup_digits _ (mt List.reverse_eq_nil_iff.mp (hne rfl)) h']; exact .step a _ _ (.one [])
  | cons c cs ih =>
    intro m acc a h hne
    have h' : ∀ c ∈ acc.reverse, isDig c = m := fun c hc => h c (List.mem_reverse.mp hc)
    rw [splitGo_cons]
    by_cases hc : isDig c = m
    · rw [if_pos hc]; exact ih m (c :: acc) a (List.forall_mem_cons.mpr ⟨hc, h⟩) fun _ => List.cons_ne_nil _ _
    · rw [if_neg hc, List.map_cons]
      cases m with
      | false =>
        have hc := Bool.eq_true_of_not_eq_false hc
        rw [hc, convGroup_nondig _ h']
        exact ih true [c] _ (List.forall_mem_singleton.mpr hc) fun _ => List.cons_ne_nil _ _
      | true =>
        have hc := Bool.eq_false_of_not_eq_true hc
        rw [hc, convGroup_digits _ (mt List.reverse_eq_nil_iff.mp (hne rfl)) h']
        exact .step a _ _ (ih false [c] [] (List.forall_mem_singleton.mpr hc) nofun)

theorem naturalKey_shape (name : List Char) : OddShape (naturalKey name) :=
  splitGo_shape name false [] [] nofun nofun

theorem oddShape_snoc (k : List KeyItem) (h : OddShape k) (m : Nat) (a : List Char) :
    OddShape (k ++ [.n m, .s a]) := by
  induction h with
  | one b => exact .step b m _ (.one a)
  | step b m' k' _ ih => exact .step b m' _ ih

theorem oddShape_reverse (k : List KeyItem) (h : OddShape k) : OddShape k.reverse := by
  induction h with
  | one a => exact .one a
  | step a m k' _ ih =>
    simp only [List.reverse_cons, List.append_assoc, List.singleton_append]
    exact oddShape_snoc _ ih m a

theorem cmpKey_shape (k1 k2 : List KeyItem) (h1 : OddShape k1) (h2 : OddShape k2) :
    cmpKey k1 k2 ≠ none := by
  induction h1 generalizing k2 with
  | one a =>
    cases h2 with
    | one b => by_cases h : a = b <;> simp [cmpKey, cmpItem, h]
    | step b m k _ => by_cases h : a = b <;> simp [cmpKey, cmpItem, h]
  | step a m k _ ih =>
    cases h2 with
    | one b => by_cases h : a = b <;> simp [cmpKey, cmpItem, h]
    | step b m' k' hk' =>
      by_cases h : a = b <;> by_cases h' : m = m' <;> simp [cmpKey, cmpItem, h, h', ih k' hk']

/-- a tiny concrete carrier to run the round trip on in examples: natural numbers, every symbol = 5 -/
def natOps : Ops Nat :=
  { add := (· + ·), mul := (· * ·), sub := (· - ·), div := (· / ·), pow := (· ^ ·), sqrt := Nat.sqrt,
    fn := fun _ a => a, num := fun n => match n with | .int k => k.toNat | _ => 0, sym := fun _ => 5 }

end OQ.C19
