/-
  C03 tier B — linear independence of Pauli strings (trace orthogonality tr(P_a P_b) = 2ⁿ δ_ab) and what it gives for `==`:
  on simplified operators, with exact coefficient comparison, the library's `__eq__` (length test, then set equality through
  `__hash__` and `PauliTerm.__eq__`) coincides with equality of the denoted matrices, whatever the term order.
  "Simplified" is: dicts with distinct keys (`OpsWF`, kept by the term product), pairwise different strings, no zero coefficient –
  what `simplify` returns (`simplify_simplified`).
-/
import OQ.Lemmas.C03
import Mathlib.LinearAlgebra.Matrix.Trace
import Mathlib.Algebra.BigOperators.Ring.Finset
import Mathlib.Data.List.Perm.Subperm
import Mathlib.Algebra.BigOperators.Group.List.Basic

set_option linter.unusedSectionVars false
set_option linter.unusedSimpArgs false

namespace OQ.C03
open OQ.Pauli Matrix

variable {R : Type} [CommRing R]

theorem trace_tens (f : Nat → Matrix (Fin 2) (Fin 2) R) (n : Nat) :
    Matrix.trace (tens f n) = ∏ q ∈ Finset.range n, Matrix.trace (f q) := by
  have h : ∀ n, ∑ i ∈ Finset.range (2 ^ n), tensE f n i i = ∏ q ∈ Finset.range n, Matrix.trace (f q) := by
    intro n
    induction n with
    | zero => simp [tensE]
    | succ n ih =>
      rw [pow_succ', Finset.prod_range_succ, ← ih, Finset.sum_mul]
      refine (sum_range_bits (fun a b => tensE f n a a * f n b b) _).trans ?_
      exact Finset.sum_congr rfl fun a _ => (Finset.mul_sum ..).symm
  rw [← h n]
  simp only [Matrix.trace, Matrix.diag, tens_apply]
  exact Fin.sum_univ_eq_sum_range (fun i => tensE f n i i) (2 ^ n)
theorem trace_σ_some (k : Scal R) (p : P) : Matrix.trace (σ k (some p)) = 0 := by
  cases p
  · simp [σ_X, Matrix.trace_fin_two]
  · simp [σ_Y, Matrix.trace_fin_two]
  · simp [σ_Z, Matrix.trace_fin_two]

/-- the term carries the string `G` on the register -/
def Agree (n : Nat) (t : Term R) (G : Nat → Option P) : Prop := ∀ q < n, lookup t.ops q = G q

instance (n : Nat) (t : Term R) (G : Nat → Option P) : Decidable (Agree n t G) := by unfold Agree; infer_instance

/-- the total coefficient of the Pauli string `G` in the sum -/
def coef (n : Nat) (s : PSum R) (G : Nat → Option P) : R := (s.map (fun t => if Agree n t G then t.coeff else 0)).sum

theorem coef_nil (n : Nat) (G : Nat → Option P) : coef n ([] : PSum R) G = 0 := rfl
theorem coef_cons (n : Nat) (t : Term R) (s : PSum R) (G : Nat → Option P) :
    coef n (t :: s) G = (if Agree n t G then t.coeff else 0) + coef n s G := by simp [coef]

theorem two_pow_cancel (h2 : ∀ x : R, 2 * x = 0 → x = 0) (n : Nat) (x : R) (h : 2 ^ n * x = 0) : x = 0 := by
  induction n with
  | zero => simpa using h
  | succ n ih =>
    apply ih
    apply h2
    rw [← mul_assoc, ← pow_succ']; exact h

section trace
variable (k : Scal R) (hi : k.i * k.i = -1)
include hi

theorem trace_σ_mul (a b : Option P) : Matrix.trace (σ k a * σ k b) = if a = b then 2 else 0 := by
  by_cases h : a = b
  · subst h
    rw [σ_sq k hi, if_pos rfl, Matrix.trace_one, Fintype.card_fin, Nat.cast_ofNat]
  · rw [if_neg h]
    rcases a with _ | a <;> rcases b with _ | b
    · exact absurd rfl h
    · rw [σ_none, one_mul, trace_σ_some]
    · rw [σ_none, mul_one, trace_σ_some]
    · rw [σ_mul_table k hi a b (fun e => h (e ▸ rfl)), Matrix.trace_smul, trace_σ_some, smul_zero]

theorem trace_strings (n : Nat) (F G : Nat → Option P) :
    Matrix.trace (tens (fun q => σ k (F q)) n * tens (fun q => σ k (G q)) n)
      = if ∀ q < n, F q = G q then 2 ^ n else 0 := by
  rw [tens_mul, trace_tens]
  simp only [trace_σ_mul k hi]
  rw [Finset.prod_ite_zero]
  simp only [Finset.mem_range, Finset.prod_const, Finset.card_range]

theorem trace_tden_mul (n : Nat) (t : Term R) (G : Nat → Option P) :
    Matrix.trace (tden k n t * tens (fun q => σ k (G q)) n) = 2 ^ n * (if Agree n t G then t.coeff else 0) := by
  unfold tden
  rw [Matrix.smul_mul, Matrix.trace_smul, trace_strings k hi n (lookup t.ops) G, smul_eq_mul, mul_comm]
  by_cases h : Agree n t G
  · rw [if_pos h, if_pos (show ∀ q < n, lookup t.ops q = G q from h)]
  · rw [if_neg h, if_neg (show ¬ ∀ q < n, lookup t.ops q = G q from h), mul_zero, zero_mul]

theorem trace_sden_mul (n : Nat) (s : PSum R) (G : Nat → Option P) :
    Matrix.trace (sden k n s * tens (fun q => σ k (G q)) n) = 2 ^ n * coef n s G := by
  induction s with
  | nil => rw [sden_nil, Matrix.zero_mul, Matrix.trace_zero, coef_nil, mul_zero]
  | cons t s ih => rw [sden_cons, Matrix.add_mul, Matrix.trace_add, ih, trace_tden_mul k hi, coef_cons, mul_add]

theorem coef_eq_of_sden_eq (h2 : ∀ x : R, 2 * x = 0 → x = 0) (n : Nat)
    (s1 s2 : PSum R) (h : sden k n s1 = sden k n s2) (G : Nat → Option P) : coef n s1 G = coef n s2 G := by
  have h1 := trace_sden_mul k hi n s1 G
  rw [h, trace_sden_mul k hi n s2 G] at h1
  exact sub_eq_zero.mp (two_pow_cancel h2 n _ (by rw [mul_sub, ← h1, sub_self]))

end trace

/-- a Python dict has distinct keys -/
def OpsWF (ops : List (Nat × P)) : Prop := (ops.map (·.1)).Nodup

theorem lookup_of_mem_wf {ops : List (Nat × P)} (h : OpsWF ops) {p : Nat × P} (hp : p ∈ ops) : lookup ops p.1 = some p.2 := by
  induction ops with
  | nil => simp at hp
  | cons p' ops ih =>
    unfold OpsWF at h
    rw [List.map_cons, List.nodup_cons] at h
    rw [lookup_cons]
    rcases List.mem_cons.mp hp with rfl | hp'
    · simp
    · have hne : p'.1 ≠ p.1 := by
        intro heq
        exact h.1 (heq ▸ List.mem_map_of_mem (f := (·.1)) hp')
      simp only [hne, if_false]
      exact ih h.2 hp'

theorem opsEq_of_lookup {a b : List (Nat × P)} (ha : OpsWF a) (hb : OpsWF b) (h : ∀ q, lookup a q = lookup b q) :
    opsEq a b = true := by
  unfold opsEq
  rw [Bool.and_eq_true, List.all_eq_true, List.all_eq_true]
  constructor
  · intro p hp
    rw [← h, lookup_of_mem_wf ha hp]; simp
  · intro p hp
    rw [h, lookup_of_mem_wf hb hp]; simp

theorem opsEq_refl {a : List (Nat × P)} (ha : OpsWF a) : opsEq a a = true := opsEq_of_lookup ha ha (fun _ => rfl)

theorem lookup_none_of_fits {n : Nat} {t : Term R} (ht : TermFits n t) {q : Nat} (hq : n ≤ q) : lookup t.ops q = none := by
  cases h : lookup t.ops q with
  | none => rfl
  | some a => have := ht _ (lookup_mem h); simp at this; omega

theorem agree_iff_opsEq {n : Nat} {t u : Term R} (ht : TermFits n t) (hu : TermFits n u) (wt : OpsWF t.ops) (wu : OpsWF u.ops) :
    Agree n t (lookup u.ops) ↔ opsEq t.ops u.ops = true := by
  constructor
  · intro h
    apply opsEq_of_lookup wt wu
    intro q
    by_cases hq : q < n
    · exact h q hq
    · rw [lookup_none_of_fits ht (by omega), lookup_none_of_fits hu (by omega)]
  · intro h q _
    exact opsEq_lookup h q

/-- what `simplify` produces: dict invariants, fits the register, no (exactly) zero coefficient, pairwise different strings -/
def Simplified (n : Nat) (s : PSum R) : Prop :=
  (∀ t ∈ s, OpsWF t.ops ∧ TermFits n t ∧ t.coeff ≠ 0) ∧ s.Pairwise (fun t u => opsEq t.ops u.ops = false)

theorem coef_zero_of_none (n : Nat) (s : PSum R) (G : Nat → Option P) (h : ∀ t ∈ s, ¬ Agree n t G) : coef n s G = 0 := by
  induction s with
  | nil => rfl
  | cons t s ih =>
    rw [coef_cons, if_neg (h t List.mem_cons_self), ih (fun t' ht' => h t' (List.mem_cons_of_mem _ ht')), add_zero]

theorem coef_single (n : Nat) (t : Term R) (G : Nat → Option P) : coef n [t] G = if Agree n t G then t.coeff else 0 := by
  simp [coef]

theorem agree_self (n : Nat) (t : Term R) : Agree n t (lookup t.ops) := fun _ _ => rfl

theorem agree_comm (n : Nat) (t u : Term R) : Agree n t (lookup u.ops) ↔ Agree n u (lookup t.ops) :=
  ⟨fun h q hq => (h q hq).symm, fun h q hq => (h q hq).symm⟩

theorem not_agree_of_agree {n : Nat} {u : Term R} {s : PSum R} (hs : Simplified n (u :: s)) {G : Nat → Option P}
    (hu : Agree n u G) : ∀ v ∈ s, ¬ Agree n v G := by
  intro v hv hA
  have wu := hs.1 u List.mem_cons_self
  have wv := hs.1 v (List.mem_cons_of_mem _ hv)
  have := (agree_iff_opsEq wu.2.1 wv.2.1 wu.1 wv.1).mp fun q hq => (hu q hq).trans (hA q hq).symm
  rw [(List.pairwise_cons.mp hs.2).1 v hv] at this
  cases this

theorem coef_of_agree (n : Nat) (s : PSum R) (hs : Simplified n s) (t : Term R) (ht : t ∈ s) (G : Nat → Option P)
    (hA : Agree n t G) : coef n s G = t.coeff := by
  induction s with
  | nil => cases ht
  | cons u s ih =>
    rw [coef_cons]
    rcases List.mem_cons.mp ht with rfl | ht'
    · rw [if_pos hA, coef_zero_of_none n s G (not_agree_of_agree hs hA), add_zero]
    · rw [if_neg fun hu => not_agree_of_agree hs hu t ht' hA, zero_add,
        ih ⟨fun t' ht' => hs.1 t' (List.mem_cons_of_mem _ ht'), (List.pairwise_cons.mp hs.2).2⟩ ht']

section eq
variable {K : Type} [DecidableEq K] (close : R → R → Bool) (hclose : ∀ a b, close a b = true ↔ a = b) (hk : R → K)
include hclose

theorem eqTerm_exact (t u : Term R) :
    eqTerm close t u = true ↔ t.coeff = u.coeff ∧ (t.coeff = 0 ∨ opsEq t.ops u.ops = true) := by
  unfold eqTerm
  rw [Bool.and_eq_true, Bool.or_eq_true, Bool.and_eq_true, hclose, hclose, hclose]
  constructor
  · rintro ⟨h1, h2 | h2⟩
    · exact ⟨h1, Or.inl h2.1⟩
    · exact ⟨h1, Or.inr h2⟩
  · rintro ⟨h1, h2 | h2⟩
    · exact ⟨h1, Or.inl ⟨h2, h1 ▸ h2⟩⟩
    · exact ⟨h1, Or.inr h2⟩

theorem sameEntry_exact (e t : Term R) :
    sameEntry close hk e t = true ↔ e.coeff = t.coeff ∧ opsEq e.ops t.ops = true := by
  unfold sameEntry
  rw [Bool.and_eq_true, Bool.and_eq_true, eqTerm_exact close hclose, decide_eq_true_eq]
  constructor
  · rintro ⟨⟨_, h2⟩, h3, _⟩; exact ⟨h3, h2⟩
  · rintro ⟨h1, h2⟩; exact ⟨⟨by rw [h1], h2⟩, h1, Or.inr h2⟩

theorem mkSet_simplified (acc l : PSum R) (h : (acc ++ l).Pairwise (fun t u => opsEq t.ops u.ops = false)) :
    l.foldl (fun acc t => if acc.any (fun e => sameEntry close hk e t) then acc else acc ++ [t]) acc = acc ++ l := by
  induction l generalizing acc with
  | nil => simp
  | cons t l ih =>
    rw [List.foldl_cons]
    have hno : acc.any (fun e => sameEntry close hk e t) = false := by
      rw [List.any_eq_false]
      intro e he hse
      have := ((sameEntry_exact close hclose hk e t).mp hse).2
      rw [List.pairwise_append] at h
      rw [h.2.2 e he t List.mem_cons_self] at this
      exact absurd this (by simp)
    simp only [hno, Bool.false_eq_true, if_false]
    rw [ih (acc ++ [t]) (by simpa using h)]
    simp

theorem eqSum_exact (s1 s2 : PSum R) (h1 : s1.Pairwise (fun t u => opsEq t.ops u.ops = false))
    (h2 : s2.Pairwise (fun t u => opsEq t.ops u.ops = false)) :
    eqSum close hk s1 s2 = true ↔
      s1.length = s2.length ∧ ∀ t ∈ s1, ∃ e ∈ s2, e.coeff = t.coeff ∧ opsEq e.ops t.ops = true := by
  unfold eqSum mkSet
  rw [mkSet_simplified close hclose hk [] s1 (by simpa using h1), mkSet_simplified close hclose hk [] s2 (by simpa using h2)]
  simp only [List.nil_append]
  by_cases hl : s1.length = s2.length
  · simp only [hl, bne_self_eq_false, Bool.false_eq_true, if_false, beq_self_eq_true, Bool.true_and, true_and,
      List.all_eq_true, List.any_eq_true, sameEntry_exact close hclose hk]
  · have : (s1.length != s2.length) = true := by simpa using hl
    simp [this, hl]

end eq

/-- the string of a term on the register, as data -/
def keyOf (n : Nat) (t : Term R) : List (Option P) := (List.range n).map (lookup t.ops)

theorem keyOf_eq_iff (n : Nat) (t u : Term R) : keyOf n t = keyOf n u ↔ Agree n t (lookup u.ops) := by
  unfold keyOf Agree
  rw [List.map_inj_left]
  simp only [List.mem_range]

/-- denotation from the (string, coefficient) pair -/
def pairDen (k : Scal R) (n : Nat) (p : List (Option P) × R) : Matrix (Fin (2 ^ n)) (Fin (2 ^ n)) R :=
  p.2 • tens (fun q => σ k (p.1.getD q none)) n

theorem sden_eq_pairs (k : Scal R) (n : Nat) (s : PSum R) :
    sden k n s = ((s.map (fun t => (keyOf n t, t.coeff))).map (pairDen k n)).sum := by
  unfold sden
  rw [List.map_map]
  refine congrArg List.sum (List.map_congr_left fun t _ => ?_)
  exact congrArg _ (tens_congr n fun q hq => by simp [keyOf, List.getD, hq])

theorem pairs_subperm (n : Nat) (s1 s2 : PSum R) (hs1 : Simplified n s1)
    (hm : ∀ t ∈ s1, ∃ e ∈ s2, e.coeff = t.coeff ∧ opsEq e.ops t.ops = true) :
    (s1.map fun t => (keyOf n t, t.coeff)).Subperm (s2.map fun t => (keyOf n t, t.coeff)) := by
  refine List.subperm_of_subset (List.Nodup.of_map Prod.fst ?_) fun p hp => ?_
  · rw [List.map_map, List.nodup_iff_pairwise_ne, List.pairwise_map]
    refine hs1.2.imp_of_mem fun {t u} ht hu hne heq => ?_
    have := (agree_iff_opsEq (hs1.1 t ht).2.1 (hs1.1 u hu).2.1 (hs1.1 t ht).1 (hs1.1 u hu).1).mp ((keyOf_eq_iff n t u).mp heq)
    rw [hne] at this
    cases this
  · obtain ⟨t, ht, rfl⟩ := List.mem_map.mp hp
    obtain ⟨e, he, hc, ho⟩ := hm t ht
    exact List.mem_map.mpr ⟨e, he, by rw [(keyOf_eq_iff n e t).mpr fun q _ => opsEq_lookup ho q, hc]⟩

section eq
variable {K : Type} [DecidableEq K] (k : Scal R) (hi : k.i * k.i = -1) (h2 : ∀ x : R, 2 * x = 0 → x = 0) (n : Nat)
include hi h2

theorem match_of_sden_eq (s1 s2 : PSum R) (hs1 : Simplified n s1) (hs2 : Simplified n s2) (h : sden k n s1 = sden k n s2) :
    ∀ t ∈ s1, ∃ e ∈ s2, e.coeff = t.coeff ∧ opsEq e.ops t.ops = true := by
  intro t ht
  have hc := coef_eq_of_sden_eq k hi h2 n s1 s2 h (lookup t.ops)
  rw [coef_of_agree n s1 hs1 t ht _ (agree_self n t)] at hc
  by_cases hex : ∃ e ∈ s2, Agree n e (lookup t.ops)
  · obtain ⟨e, he, hA⟩ := hex
    rw [coef_of_agree n s2 hs2 e he _ hA] at hc
    exact ⟨e, he, hc.symm, (agree_iff_opsEq (hs2.1 e he).2.1 (hs1.1 t ht).2.1 (hs2.1 e he).1 (hs1.1 t ht).1).mp hA⟩
  · rw [coef_zero_of_none n s2 _ fun e he hA => hex ⟨e, he, hA⟩] at hc
    exact absurd hc (hs1.1 t ht).2.2

theorem sden_ne_zero_of_simplified (s : PSum R) (hs : Simplified n s) (hne : s ≠ []) : sden k n s ≠ 0 := by
  intro h0
  obtain ⟨t, ht⟩ := List.exists_mem_of_ne_nil s hne
  have hc := coef_eq_of_sden_eq k hi h2 n s [] (by rw [h0, sden_nil]) (lookup t.ops)
  rw [coef_of_agree n s hs t ht _ (agree_self n t), coef_nil] at hc
  exact (hs.1 t ht).2.2 hc

theorem coeff_zero_of_tden_zero (t : Term R) (h : tden k n t = 0) : t.coeff = 0 := by
  have hc := coef_eq_of_sden_eq k hi h2 n [t] [] (by rw [sden_singleton, h, sden_nil]) (lookup t.ops)
  rwa [coef_single, if_pos (agree_self n t), coef_nil] at hc

variable (close : R → R → Bool) (hclose : ∀ a b, close a b = true ↔ a = b) (hk : R → K)
include hclose

theorem eqSum_iff_sden (s1 s2 : PSum R) (hs1 : Simplified n s1) (hs2 : Simplified n s2) :
    eqSum close hk s1 s2 = true ↔ sden k n s1 = sden k n s2 := by
  rw [eqSum_exact close hclose hk s1 s2 hs1.2 hs2.2]
  constructor
  · rintro ⟨hlen, hm⟩
    rw [sden_eq_pairs, sden_eq_pairs]
    exact (((pairs_subperm n s1 s2 hs1 hm).perm_of_length_le (by simp [hlen])).map _).sum_eq
  · intro h
    have hm12 := match_of_sden_eq k hi h2 n s1 s2 hs1 hs2 h
    have hm21 := match_of_sden_eq k hi h2 n s2 s1 hs2 hs1 h.symm
    exact ⟨le_antisymm (by simpa using (pairs_subperm n s1 s2 hs1 hm12).length_le)
      (by simpa using (pairs_subperm n s2 s1 hs2 hm21).length_le), hm12⟩

theorem eqTerm_iff_tden (t u : Term R) (ht : TermFits n t) (hu : TermFits n u) (wt : OpsWF t.ops) (wu : OpsWF u.ops) :
    eqTerm close t u = true ↔ tden k n t = tden k n u := by
  rw [eqTerm_exact close hclose]
  constructor
  · rintro ⟨hc, h0 | ho⟩
    · rw [tden_zero_coeff k n t h0, tden_zero_coeff k n u (hc ▸ h0)]
    · exact (tden_congr k n (opsEq_lookup ho) _).trans (by rw [hc])
  · intro h
    -- the coefficients of the strings of `t` and of `u` on both sides
    have e := coef_eq_of_sden_eq k hi h2 n [t] [u] (by rw [sden_singleton, sden_singleton, h])
    have e1 := e (lookup t.ops)
    have e2 := e (lookup u.ops)
    rw [coef_single, coef_single, if_pos (agree_self n t)] at e1
    rw [coef_single, coef_single, if_pos (agree_self n u)] at e2
    by_cases hA : Agree n t (lookup u.ops)
    · rw [if_pos ((agree_comm n t u).mp hA)] at e1
      exact ⟨e1, Or.inr ((agree_iff_opsEq ht hu wt wu).mp hA)⟩
    · rw [if_neg (fun h' => hA ((agree_comm n t u).mpr h'))] at e1
      rw [if_neg hA] at e2
      exact ⟨e1.trans e2, Or.inl e1⟩

theorem eqSumTerm_iff (s : PSum R) (t : Term R) (hs : Simplified n s) (ht : TermFits n t) (wt : OpsWF t.ops) :
    eqSumTerm close hk s t = true ↔ sden k n s = tden k n t := by
  unfold eqSumTerm
  cases s with
  | nil =>
    simp only [List.length_nil, beq_self_eq_true, if_true, hclose, sden_nil]
    exact ⟨fun h => by rw [tden_zero_coeff k n t h], fun h => coeff_zero_of_tden_zero k hi h2 n t h.symm⟩
  | cons x s' =>
    rw [if_neg (by simp)]
    by_cases hc : t.coeff = 0
    · -- a non-empty simplified sum is not 0, and none of its terms has the coefficient 0 of `t`
      rw [tden_zero_coeff k n t hc]
      refine iff_of_false (fun htrue => ?_) (sden_ne_zero_of_simplified k hi h2 n _ hs (List.cons_ne_nil x s'))
      obtain ⟨e, he, hce, _⟩ := ((eqSum_exact close hclose hk _ [t] hs.2 (List.pairwise_singleton _ _)).mp htrue).2 x
        List.mem_cons_self
      rw [List.mem_singleton.mp he] at hce
      exact (hs.1 x List.mem_cons_self).2.2 (hce ▸ hc)
    · rw [eqSum_iff_sden k hi h2 n close hclose hk _ [t] hs ⟨by simpa using ⟨wt, ht, hc⟩, List.pairwise_singleton _ _⟩,
        sden_singleton]

end eq

theorem opsSet_keys (ops : List (Nat × P)) (idx : Nat) (op : P) : (opsSet ops idx op).map (·.1) = ops.map (·.1) := by
  unfold opsSet
  rw [List.map_map]
  apply List.map_congr_left
  intro p _
  by_cases h : p.1 = idx
  · simp [h]
  · simp [h]

theorem mulByOp_wf (k : Scal R) (t : Term R) (op : P) (idx : Nat) (wt : OpsWF t.ops) : OpsWF (mulByOp k t op idx).ops := by
  unfold mulByOp
  cases hl : lookup t.ops idx with
  | none =>
    simp only [OpsWF, List.map_append, List.map_cons, List.map_nil]
    rw [List.nodup_append]
    refine ⟨wt, List.nodup_singleton _, ?_⟩
    intro a ha b hb hab
    simp only [List.mem_singleton] at hb
    rw [hab, hb] at ha
    exact (lookup_none_iff t.ops idx).mp hl ha
  | some a =>
    simp only
    split
    · simp only [OpsWF, opsErase]
      exact List.Nodup.sublist (List.Sublist.map _ List.filter_sublist) wt
    · simp only [OpsWF, opsSet_keys]
      exact wt

theorem mulTermOrd_wf (k : Scal R) (order : List Nat) (t u : Term R) (wt : OpsWF t.ops) : OpsWF (mulTermOrd k order t u).ops :=
  foldl_mulStep_induction k u (fun r => OpsWF r.ops) (fun r op q _ h => mulByOp_wf k r op q h) order ⟨t.ops, 1⟩ wt

theorem mulTerm_wf (k : Scal R) (t u : Term R) (wt : OpsWF t.ops) : OpsWF (mulTerm k t u).ops := mulTermOrd_wf k _ t u wt

theorem insertGroup_pairwise (gs : List (Group R)) (t : Term R)
    (h : gs.Pairwise (fun g h => opsEq g.first.ops h.first.ops = false)) :
    (insertGroup gs t).Pairwise (fun g h => opsEq g.first.ops h.first.ops = false) := by
  induction gs with
  | nil => simp [insertGroup]
  | cons g0 gs ih =>
    rw [List.pairwise_cons] at h
    unfold insertGroup
    split
    · exact List.pairwise_cons.mpr h
    · next hne =>
      refine List.pairwise_cons.mpr ⟨fun g hg => ?_, ih h.2⟩
      rcases mem_insertGroup hg with rfl | hg | ⟨g', hg', _, rfl⟩
      · simpa using hne
      · exact h.1 g hg
      · exact h.1 g' hg'

theorem simplify_simplified (n : Nat) (negl : R → Bool) (h0 : negl 0 = true) (s : PSum R)
    (hs : ∀ t ∈ s, OpsWF t.ops ∧ TermFits n t) : Simplified n (simplify negl s) := by
  refine ⟨fun t ht => ?_, ?_⟩
  · obtain ⟨u, hu, e⟩ := simplify_ops_mem ht
    obtain ⟨g, _, htg⟩ := List.mem_flatMap.mp ht
    refine ⟨e ▸ (hs u hu).1, fun p hp => (hs u hu).2 p (e ▸ hp), fun hc => ?_⟩
    have := (simplifyGroup_mem negl g t htg).2
    rw [hc, h0] at this
    cases this
  · unfold simplify
    rw [List.pairwise_flatMap]
    refine ⟨fun g _ => ?_, ?_⟩
    · unfold simplifyGroup
      split
      · simp
      · dsimp only; split <;> simp
    · refine (likeTerms_induction (fun gs => gs.Pairwise (fun g h => opsEq g.first.ops h.first.ops = false)) s .nil
        (fun gs t _ h => insertGroup_pairwise gs t h)).imp ?_
      intro g h hgh x hx y hy
      rw [(simplifyGroup_mem negl g x hx).1, (simplifyGroup_mem negl h y hy).1]
      exact hgh

/-- operands of `==` as the property speaks of them: numbers, well-formed terms, simplified sums -/
def ValSimplified (n : Nat) : Val R → Prop
  | .num _ => True
  | .term t => OpsWF t.ops ∧ TermFits n t
  | .sum s => Simplified n s

theorem constTerm_wf (x : R) : OpsWF (constTerm x).ops := by simp [OpsWF, constTerm]

end OQ.C03
