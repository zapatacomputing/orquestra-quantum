/- helper definitions and lemmas for the translation ties of C17's distances (`OQ/Props/C17_TranslatedDistances.lean`): the instance
   `PyNum ℝ` at which the translated code is read (the model's analytic definitions `nllOf`, `jsdOf`, `mmdSingle`, `mmdMulti` are real
   valued), the embedding `castD` of the model's rational dictionaries, the prelude functions at `ℝ`, the loops of the translated
   functions against the model's sums, and the ties of the log-likelihood and the Jensen–Shannon divergence in their total form
   (`nll_tie`, `jsd_tie`: value or ValueError), from which the property file takes its cases. -/
import OQ.Lemmas.C17_TranslatedDist
import OQ.Generated.TranslatedC17Distances
namespace OQ.C17
open OQ.Generated OQ.Py

/-- Python numbers read as real numbers (`==`, `<=`, `<` decided classically); FLOAT ROUNDING IS NOT MODELLED -/
noncomputable instance realPyNum : PyNum ℝ where
  beq a b := decide (a = b)
  le a b := decide (a ≤ b)
  lt a b := decide (a < b)

/-- a model dictionary (exact rational values) as the dictionary of real values the translated code computes on -/
def castD (p : Dict Key) : OQ.Py.Dict (List Int) ℝ := p.map (fun a => (a.1, ((a.2 : Rat) : ℝ)))

theorem real_beq (a b : ℝ) : (a == b) = decide (a = b) := rfl
theorem real_lt (a b : ℝ) : PyNum.lt a b = decide (a < b) := rfl
theorem real_le (a b : ℝ) : PyNum.le a b = decide (a ≤ b) := rfl

theorem sumNum_real (xs : List ℝ) : sumNum xs = xs.sum := by
  rw [sumNum, Int.cast_zero, List.sum_eq_foldl]

theorem divE_real (a b : ℝ) (h : b ≠ 0) : divE a b = .ok (a / b) := by
  unfold divE
  simp [real_beq, h]

theorem divE_real_zero (a : ℝ) : divE a (0 : ℝ) = .error .zeroDiv := by
  unfold divE
  simp

theorem maxNum_real (a b : ℝ) : maxNum a b = max a b := by
  unfold maxNum
  rw [real_lt]
  by_cases h : a < b
  · simp [h, max_eq_right (le_of_lt h)]
  · simp [h, max_eq_left (not_lt.mp h)]

theorem negNum_real (a : ℝ) : negNum a = -a := by
  unfold negNum
  simp

theorem mathLogE_real (x : ℝ) : mathLogE Real.log x = if 0 < x then .ok (Real.log x) else .error .value := by
  unfold mathLogE
  rw [real_lt]
  simp

theorem dictKeys_castD (p : Dict Key) : dictKeys (castD p) = p.keys := by
  simp [dictKeys, castD, Dict.keys, Function.comp_def]

theorem dictGetD_castD (p : Dict Key) (k : Key) : dictGetD (castD p) k (0 : ℝ) = ((p.getD k : Rat) : ℝ) := by
  simpa [castD] using dictGetD_map (fun x : Rat => (x : ℝ)) p k

theorem bind_ite_ok {α β : Type} (c : Prop) [Decidable c] (a : α) (e : Exc4) (f : α → Except Exc4 β) :
    Except.bind (if c then .ok a else .error e) f = if c then f a else .error e := by
  split <;> rfl

theorem setUnion_eq {α : Type} [BEq α] [LawfulBEq α] (a ys : List α) (h : ys.Nodup) :
    setUnion a ys = a ++ ys.filter (fun k => !a.contains k) := by
  unfold setUnion
  induction ys generalizing a with
  | nil => simp
  | cons y ys ih =>
    have hy : y ∉ ys := (List.nodup_cons.1 h).1
    have hys : ys.Nodup := (List.nodup_cons.1 h).2
    simp only [List.foldl_cons]
    by_cases hc : a.contains y = true
    · simp only [hc, if_true, List.filter_cons, Bool.not_true, Bool.false_eq_true, if_false]
      exact ih a hys
    · simp only [hc, Bool.false_eq_true, if_false, List.filter_cons] at *
      rw [ih (a ++ [y]) hys]
      simp only [Bool.not_false, if_true, List.append_assoc, List.singleton_append]
      congr 2
      apply List.filter_congr
      intro k hk
      have : k ≠ y := fun e => hy (e ▸ hk)
      simp [this]

theorem setOfList_nodup {α : Type} [BEq α] [LawfulBEq α] (xs : List α) (h : xs.Nodup) : setOfList xs = xs :=
  (setUnion_eq [] xs h).trans (by simp)

theorem setUnion_keys (p q : Dict Key) (hp : p.keys.Nodup) (hq : q.keys.Nodup) :
    setUnion (setOfList p.keys) q.keys = unionKeys p q := by
  rw [setOfList_nodup _ hp, setUnion_eq _ _ hq]
  rfl

/-- `distance_measure_parameters.get("epsilon", 1e-9)`: the entry of the parameter dictionary, by default the double nearest to 1e-9
    (4835703278458517 / 2^82, what the literal `1e-9` denotes) -/
noncomputable def epsOf (par : OQ.Py.Dict (List Char) ℝ) : ℝ :=
  dictGetD par ['e', 'p', 's', 'i', 'l', 'o', 'n'] (((4835703278458517 : Int) : ℝ) / ((4835703278458516698824704 : Int) : ℝ))

theorem epsOf_nil : epsOf [] = 4835703278458517 / 2 ^ 82 := by
  unfold epsOf dictGetD
  norm_num

theorem epsOf_single (ε : ℝ) : epsOf [(['e', 'p', 's', 'i', 'l', 'o', 'n'], ε)] = ε := by
  simp [epsOf, dictGetD]

theorem foldlE_nll (f : ℝ → Key → Except Exc4 ℝ) (ε : ℝ) (T M : Key → ℝ)
    (hf : ∀ st k, f st k = Except.bind (mathLogE Real.log (maxNum ε (M k))) (fun t => Except.ok (st + T k * t)))
    (l : List Key) (v : ℝ) :
    foldlE f v l = if ∀ k ∈ l, 0 < max ε (M k) then .ok (v + (l.map fun k => T k * Real.log (max ε (M k))).sum)
      else .error .value := by
  induction l generalizing v with
  | nil => rw [if_pos (fun _ h => nomatch h)]; simp [foldlE]
  | cons k l ih =>
    simp only [foldlE, hf, maxNum_real, mathLogE_real, bind_ite_ok, ih, List.forall_mem_cons, ite_and, List.map_cons,
      List.sum_cons, add_assoc]

/-- `compute_clipped_negative_log_likelihood` on all pairs of Python dicts, every parameter dictionary and every iteration order of
    the set: the model's `nllOf` when every clipped value is positive, ValueError (from `math.log`) otherwise -/
theorem nll_tie (order : List Key → List Key) (horder : ∀ l, (order l).Perm l)
    (par : OQ.Py.Dict (List Char) ℝ) (p q : Dict Key) (hp : p.keys.Nodup) (hq : q.keys.Nodup) :
    Translated.compute_clipped_negative_log_likelihood Real.log order (castD p) (castD q) par =
      if ∀ k ∈ unionKeys p q, 0 < max (epsOf par) ((q.getD k : Rat) : ℝ) then .ok (nllOf (epsOf par) (pairData p q))
      else .error .value := by
  unfold Translated.compute_clipped_negative_log_likelihood
  simp only [dictKeys_castD, setUnion_keys p q hp hq]
  rw [foldlE_nll _ (epsOf par) (fun k => ((p.getD k : Rat) : ℝ)) (fun k => ((q.getD k : Rat) : ℝ))
    (fun st k => by simp only [Int.cast_zero, dictGetD_castD]; rfl), bind_ite_ok]
  -- the loop runs over the set in Python's order: the same test, the same sum
  have hperm := horder (unionKeys p q)
  refine if_congr (forall_congr' fun k => imp_congr_left hperm.mem_iff) ?_ rfl
  rw [negNum_real, Int.cast_zero, zero_add, nllOf_pairData]
  exact congrArg (fun s => Except.ok (-s)) (hperm.map _).sum_eq

/-- `compute_jensen_shannon_divergence`: the model's `jsdOf` when both log-likelihoods exist, ValueError otherwise -/
theorem jsd_tie (order : List Key → List Key) (horder : ∀ l, (order l).Perm l)
    (par : OQ.Py.Dict (List Char) ℝ) (p q : Dict Key) (hp : p.keys.Nodup) (hq : q.keys.Nodup) :
    Translated.compute_jensen_shannon_divergence Real.log order (castD p) (castD q) par =
      if (∀ k ∈ unionKeys p q, 0 < max (epsOf par) ((q.getD k : Rat) : ℝ)) ∧
          (∀ k ∈ unionKeys q p, 0 < max (epsOf par) ((p.getD k : Rat) : ℝ)) then .ok (jsdOf (epsOf par) p q)
      else .error .value := by
  unfold Translated.compute_jensen_shannon_divergence
  rw [nll_tie order horder par p q hp hq, nll_tie order horder par q p hq hp, bind_ite_ok, ite_and]
  simp only [Int.cast_ofNat, divE_real _ _ two_ne_zero, bind_ok, bind_ite_ok, jsdOf]

theorem parseBin2Aux_eq (a : Nat) (s : List Char) : OQ.Py.parseBin2Aux a s = OQ.C17.parseBinAux a s := by
  induction s generalizing a with
  | nil => rfl
  | cons c cs ih =>
    simp only [OQ.Py.parseBin2Aux, OQ.C17.parseBinAux, ih]

theorem intBase2E_key (k : Key) (hk : ∀ e ∈ k, 0 ≤ e) :
    intBase2E (OQ.Py.join [] (k.map strOfInt)) = ofOpt .value ((codeOf k).map Int.ofNat) := by
  rw [funext strOfInt_eq, join_nil_eq]
  unfold codeOf
  have hs := allDigits_flatten_strInt k hk
  cases hfl : (k.map strInt).flatten with
  | nil => rfl
  | cons c r =>
    rw [hfl] at hs
    obtain ⟨-, h1, h2⟩ := hs.ne_punct c List.mem_cons_self
    simp only [intBase2E, h1, h2, if_false, parseBin2Aux_eq]
    cases OQ.C17.parseBinAux 0 (c :: r) <;> rfl

theorem sq_absInt_cast (x : Int) : (((absInt x) ^ (2 : Int).toNat : Int) : ℝ) = ((x : Int) : ℝ) ^ 2 := by
  have : (2 : Int).toNat = 2 := rfl
  rw [this]
  unfold absInt
  rw [Int.natAbs_sq]
  push_cast
  rfl

theorem exponent_eq (x y : List Int) :
    (npAsFloat2 (npPow2 (npAbs2 (npOuterSub x y)) (2 : Int)) : NpMat ℝ) =
      x.map (fun a => y.map (fun b => (((a : Int) : ℝ) - ((b : Int) : ℝ)) ^ 2)) := by
  unfold npAsFloat2 npPow2 npAbs2 npOuterSub
  simp only [List.map_map, Function.comp_def]
  apply List.map_congr_left; intro a _
  apply List.map_congr_left; intro b _
  rw [sq_absInt_cast]
  push_cast
  rfl

theorem quad_eq {α : Type} (l : List α) (d : α → ℝ) (K : α → α → ℝ) :
    npDot1 (l.map d) (npMatVec (l.map fun a => l.map fun b => K a b) (l.map d)) =
      (l.map fun a => d a * (l.map fun b => K a b * d b).sum).sum := by
  unfold npMatVec npDot1
  simp only [List.map_map, Function.comp_def, sumNum_real, List.zipWith_map, List.zipWith_self]

theorem foldl_values {α : Type} (f : List ℝ × List ℝ → α → List ℝ × List ℝ) (g h : α → ℝ)
    (hf : ∀ st k, f st k = (st.1 ++ [g k], st.2 ++ [h k])) (l : List α) (a b : List ℝ) :
    l.foldl f (a, b) = (a ++ l.map g, b ++ l.map h) := by
  induction l generalizing a b with
  | nil => simp
  | cons k l ih => simp [hf, ih]

theorem npSub1_map {α : Type} (g h : α → ℝ) (l : List α) : npSub1 (l.map g) (l.map h) = l.map (fun k => g k - h k) := by
  unfold npSub1
  simp only [List.zipWith_map, List.zipWith_self]

theorem npAdd2_map {α β : Type} (l : List α) (m : List β) (F G : α → β → ℝ) :
    npAdd2 (l.map fun a => m.map fun b => F a b) (l.map fun a => m.map fun b => G a b) =
      l.map fun a => m.map fun b => F a b + G a b := by
  unfold npAdd2
  simp only [List.zipWith_map, List.zipWith_self]

theorem foldlE_npAdd2 {σ α β : Type} (f : NpMat ℝ → σ → Except Exc4 (NpMat ℝ)) (Kf : σ → Except Exc4 (NpMat ℝ))
    (hf : ∀ st s, f st s = Except.bind (Kf s) fun K => .ok (npAdd2 st K)) (x : List α) (y : List β) (G : σ → α → β → ℝ)
    (l : List σ) (hK : ∀ s ∈ l, Kf s = .ok (x.map fun a => y.map fun b => G s a b)) (F : α → β → ℝ) :
    foldlE f (x.map fun a => y.map fun b => F a b) l = .ok (x.map fun a => y.map fun b => F a b + (l.map fun s => G s a b).sum) := by
  induction l generalizing F with
  | nil => simp [foldlE]
  | cons s l ih =>
    rw [List.forall_mem_cons] at hK
    rw [foldlE, hf, hK.1, bind_ok, bind_ok, npAdd2_map, ih hK.2]
    simp only [List.map_cons, List.sum_cons, add_assoc]

/-- `distance_measure_parameters.get("sigma", 1.0)` -/
noncomputable def sigmaOf (par : OQ.Py.Dict (List Char) (NumOrSeq ℝ)) : NumOrSeq ℝ :=
  dictGetD par ['s', 'i', 'g', 'm', 'a'] (NumOrSeq.num ((1 : Int) : ℝ))

/-- what `compute_mmd` does once the set of outcomes `L` is fixed, with the kernel computation `Kf` left open -/
noncomputable def mmdTail (Kf : NpVec Int → Except Exc4 (NpMat ℝ)) (L : List Key) (tv mv : List ℝ) : Except Exc4 ℝ :=
  Except.bind (mapE (fun (item : List Int) =>
    Except.bind (intBase2E (OQ.Py.join ([] : List Char) (item.map strOfInt))) (fun (t : Int) => Except.ok t)) L)
    (fun (basis : List Int) => Except.bind (Kf basis) (fun (km : NpMat ℝ) =>
      Except.ok (npDot1 (npSub1 tv mv) (npMatVec km (npSub1 tv mv)))))

theorem mmdTail_eq (Kf : NpVec Int → Except Exc4 (NpMat ℝ)) (K : ℝ → ℝ → ℝ)
    (hK : ∀ basis : List Int, Kf basis = .ok (basis.map fun a => basis.map fun b => K ((a : Int) : ℝ) ((b : Int) : ℝ)))
    (p q : Dict Key) (L : List Key) (hL : L.Perm (unionKeys p q)) (hk : ∀ k ∈ unionKeys p q, ∀ e ∈ k, 0 ≤ e) :
    mmdTail Kf L (L.map fun k => ((p.getD k : Rat) : ℝ)) (L.map fun k => ((q.getD k : Rat) : ℝ)) =
      if HasCodes p q then .ok (quadForm K (rowsOf p q)) else .error .value := by
  unfold mmdTail
  rw [mapE_congr _ (fun k => ofOpt .value ((codeOf k).map Int.ofNat)) L (fun k hkL => by
    rw [intBase2E_key k (hk k (hL.mem_iff.1 hkL))]
    cases (codeOf k).map Int.ofNat <;> rfl), mapE_ofOpt, mapM_option_map codeOf (fun _ c => Int.ofNat c) 0,
    apply_ite (ofOpt .value), ofOpt_some, ofOpt_none, bind_ite_ok]
  refine if_congr (forall_congr' fun k => imp_congr_left hL.mem_iff) ?_ rfl
  simp only [bind_ok, hK, List.map_map, Function.comp_def, npSub1_map]
  rw [quad_eq L, rowsOf, ← quadForm_perm K _ _ (hL.map (rowD p q))]
  unfold quadForm
  simp only [List.map_map, Function.comp_def, rowD, Row.diff, Int.ofNat_eq_natCast, Int.cast_natCast]

/-- a result stated as the ties of `compute_mmd` state it (a `match` on the model's `mmdData`), as a case distinction on `HasCodes` -/
theorem mmdRes_eq {x : Except Exc4 ℝ} {F : List Row → ℝ} {p q : Dict Key}
    (h : x = match mmdData p q with
      | .ok a => .ok (F a)
      | .error _ => .error .value) : x = if HasCodes p q then .ok (F (rowsOf p q)) else .error .value := by
  rw [h, mmdData_eq]; split_ifs <;> rfl

theorem mmdRes_ok {x : Except Exc4 ℝ} {F : List Row → ℝ} {p q : Dict Key} {v : ℝ}
    (h : x = match mmdData p q with
      | .ok a => .ok (F a)
      | .error _ => .error .value) (hv : x = .ok v) : v = F (rowsOf p q) := by
  rw [mmdRes_eq h] at hv
  split_ifs at hv
  exact (Except.ok.inj hv).symm

theorem compute_mmd_unfold (order : List Key → List Key) (par : OQ.Py.Dict (List Char) (NumOrSeq ℝ)) (p q : Dict Key)
    (hp : p.keys.Nodup) (hq : q.keys.Nodup) :
    Translated.compute_mmd Real.exp order (castD p) (castD q) par =
      mmdTail (fun basis => match sigmaOf par with
          | .seq σs => Translated.compute_multi_rbf_kernel Real.exp basis basis σs
          | .num σ => Translated.compute_rbf_kernel Real.exp basis basis σ)
        (order (unionKeys p q)) ((order (unionKeys p q)).map fun k => ((p.getD k : Rat) : ℝ))
        ((order (unionKeys p q)).map fun k => ((q.getD k : Rat) : ℝ)) := by
  unfold Translated.compute_mmd mmdTail
  simp only [dictKeys_castD, setUnion_keys p q hp hq]
  rw [foldl_values _ (fun k => ((p.getD k : Rat) : ℝ)) (fun k => ((q.getD k : Rat) : ℝ))
    (fun st k => by simp only [Int.cast_zero, dictGetD_castD])]
  simp only [List.nil_append]
  congr 1
  funext basis
  unfold sigmaOf
  cases dictGetD par ['s', 'i', 'g', 'm', 'a'] (NumOrSeq.num ((1 : Int) : ℝ)) <;> rfl

/-- what `evaluate_distribution_distance` does, written by hand: TypeError unless both arguments are distributions (`none` = not an
    instance), IndexError on an empty dictionary (`list(keys())[0]`), RuntimeError for different tuple lengths or when exactly one of the
    two is normalised, otherwise the distance function's own result (value or exception) -/
def evalDistance {κ ρ : Type} (close : Rat → Bool) (t m : Option (Dict Key)) (f : Dict Key → Dict Key → κ → Except Exc4 ρ) (kw : κ) :
    Except Exc4 ρ :=
  match t, m with
  | some t, some m =>
    match t, m with
    | (kt, _) :: _, (km, _) :: _ =>
      if kt.length ≠ km.length then .error .runtime
      else if close t.total ≠ close m.total then .error .runtime
      else f t m kw
    | _, _ => .error .index
  | _, _ => .error .type

theorem evalDistance_valid {κ ρ : Type} (close : Rat → Bool) (t m : Dict Key) (wt wm : Nat) (ht : Valid t wt) (hm : Valid m wm)
    (f : Dict Key → Dict Key → κ → Except Exc4 ρ) (kw : κ) :
    evalDistance close (some t) (some m) f kw =
      if wt ≠ wm then .error .runtime else if close t.total ≠ close m.total then .error .runtime else f t m kw := by
  obtain ⟨kt, vt, t', rfl, rfl⟩ := ht.exists_cons
  obtain ⟨km, vm, m', rfl, rfl⟩ := hm.exists_cons
  rfl

end OQ.C17
