/- Folds that the Python loops of the library reduce to: running maximum / minimum, running sum; tables over `List.range`; `List.mapM` in `Option`
   (a comprehension whose body may raise); and the two laws of `Except.bind` in the form `simp` can use for any error type. -/
import Mathlib.Order.MinMax
import Mathlib.Algebra.BigOperators.Group.List.Basic

namespace OQ

theorem foldl_max_le_iff {α : Type} [LinearOrder α] (l : List α) (a b : α) :
    l.foldl max a ≤ b ↔ a ≤ b ∧ ∀ x ∈ l, x ≤ b := by
  induction l generalizing a with
  | nil => simp
  | cons x l ih => simp [ih, and_assoc]

theorem le_foldl_min_iff {α : Type} [LinearOrder α] (l : List α) (a b : α) :
    b ≤ l.foldl min a ↔ b ≤ a ∧ ∀ x ∈ l, b ≤ x := by
  induction l generalizing a with
  | nil => simp
  | cons x l ih => simp [ih, and_assoc]

theorem foldl_max_mem {α : Type} [LinearOrder α] (l : List α) (a : α) : l.foldl max a ∈ a :: l := by
  induction l generalizing a with
  | nil => simp
  | cons x l ih =>
    rw [List.foldl_cons]
    have := ih (max a x)
    rcases max_choice a x with h | h <;> rw [h] at this ⊢
    · rcases List.mem_cons.1 this with e | m
      · rw [e]; exact List.mem_cons_self
      · exact List.mem_cons_of_mem _ (List.mem_cons_of_mem _ m)
    · exact List.mem_cons_of_mem _ this

theorem le_foldl_max {α : Type} [LinearOrder α] (l : List α) (a : α) :
    a ≤ l.foldl max a ∧ ∀ x ∈ l, x ≤ l.foldl max a :=
  (foldl_max_le_iff l a _).1 le_rfl

theorem foldl_add_eq_sum {α M : Type} [AddCommMonoid M] (f : α → M) (l : List α) (a : M) :
    l.foldl (fun s x => s + f x) a = a + (l.map f).sum := by
  induction l generalizing a with
  | nil => simp
  | cons x l ih => simp [ih, add_assoc]

theorem any_congr_mem {α : Type} (l : List α) (p q : α → Bool) (h : ∀ a ∈ l, p a = q a) : l.any p = l.any q := by
  induction l with
  | nil => rfl
  | cons a l ih =>
    simp only [List.any_cons, h a List.mem_cons_self, ih (fun b hb => h b (List.mem_cons_of_mem _ hb))]

theorem all_congr_mem {α : Type} (l : List α) (p q : α → Bool) (h : ∀ a ∈ l, p a = q a) : l.all p = l.all q := by
  induction l with
  | nil => rfl
  | cons a l ih =>
    simp only [List.all_cons, h a List.mem_cons_self, ih (fun b hb => h b (List.mem_cons_of_mem _ hb))]

theorem filterMap_cons_toList {α β : Type} (f : α → Option β) (a : α) (l : List α) :
    (a :: l).filterMap f = (f a).toList ++ l.filterMap f := by
  rw [List.filterMap_cons]; cases f a <;> rfl

theorem map_toNat_ofNat (l : List Nat) : (l.map Int.ofNat).map Int.toNat = l := by
  rw [List.map_map]; exact (List.map_congr_left fun q _ => Int.toNat_natCast q).trans (List.map_id l)

theorem getD_map_range {α : Type} (f : Nat → α) (d : α) {m i : Nat} (h : i < m) :
    ((List.range m).map f).getD i d = f i := by
  simp [List.getD_eq_getElem?_getD, h]

theorem mapM_congr {α β : Type} {f g : α → Option β} {l : List α} (h : ∀ a ∈ l, f a = g a) :
    l.mapM f = l.mapM g := by
  induction l with
  | nil => rfl
  | cons a l ih =>
    obtain ⟨ha, hl⟩ := List.forall_mem_cons.mp h
    rw [List.mapM_cons, List.mapM_cons, ha, ih hl]

theorem mapM_optionMap {α β γ : Type} (f : α → Option β) (g : β → γ) (l : List α) :
    l.mapM (fun x => (f x).map g) = (l.mapM f).map (List.map g) := by
  induction l with
  | nil => rfl
  | cons x xs ih =>
    rw [List.mapM_cons, List.mapM_cons, ih]
    cases f x <;> [rfl; (cases xs.mapM f <;> rfl)]

theorem mapM_eq_pure_map {m : Type → Type} [Monad m] [LawfulMonad m] {α β : Type} (f : α → m β) (g : α → β)
    (l : List α) (h : ∀ a ∈ l, f a = pure (g a)) : l.mapM f = pure (l.map g) := by
  induction l with
  | nil => rfl
  | cons a l ih =>
    rw [List.mapM_cons, h a (by simp), ih (fun b hb => h b (by simp [hb]))]
    simp

theorem mapM_map_eq_some {α β γ : Type} (f : β → Option γ) (g : α → β) (k : α → γ) (l : List α)
    (h : ∀ x ∈ l, f (g x) = some (k x)) : (l.map g).mapM f = some (l.map k) := by
  rw [List.mapM_map]
  exact mapM_eq_pure_map _ k l h

@[simp] theorem Except.ok_bind {ε α β : Type} (a : α) (f : α → Except ε β) : (Except.ok a).bind f = f a := rfl
@[simp] theorem Except.error_bind {ε α β : Type} (e : ε) (f : α → Except ε β) :
    (Except.error e : Except ε α).bind f = .error e := rfl
theorem Except.bind_eq_ok {ε α β : Type} {x : Except ε α} {k : α → Except ε β} {b : β} :
    x.bind k = .ok b ↔ ∃ a, x = .ok a ∧ k a = .ok b := by
  cases x with
  | error e => exact ⟨nofun, fun ⟨_, h, _⟩ => nomatch h⟩
  | ok a => exact ⟨fun h => ⟨a, rfl, h⟩, fun ⟨_, h, hk⟩ => by cases h; exact hk⟩
@[simp] theorem Except.bind_ok' {ε α : Type} (x : Except ε α) : x.bind .ok = x := by cases x <;> rfl

end OQ
