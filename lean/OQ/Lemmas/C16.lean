/-
  The matrices of the evolution circuits.  A circuit `c ++ m ++ inverse c` conjugates the matrix of `m` by that of `c`;
  the term circuit is this twice: the CNOT ladder turns Z on the last qubit into Z on the support, the basis change turns
  that into the Pauli string.  One-qubit layers are handled as tensor products over the register.
-/
import OQ.Lemmas.C16_Deriv
set_option linter.unusedSectionVars false
namespace OQ.C16
open Matrix OQ.Spec OQ.Pauli
variable {R : Type} [CommRing R] [StarRing R] {ι : Type} [Fintype ι] [DecidableEq ι] {T : Type}

/-- the matrix of one operation of a model circuit on the register ι; `e` names the register's qubits -/
def gateSem (k : Scal R) (ang : T → Ang R) (e : ℕ → ι) (o : GOp T) : Matrix (BV ι) (BV ι) R :=
  gateOn (gateMatrix k ang o.g) (o.qs.map e)

/-- the matrix of a model circuit: the first operation acts first (is the rightmost factor) -/
def circSem (k : Scal R) (ang : T → Ang R) (e : ℕ → ι) : Circ T → Matrix (BV ι) (BV ι) R
  | [] => 1
  | o :: rest => circSem k ang e rest * gateSem k ang e o

@[simp] theorem circSem_nil (k : Scal R) (ang : T → Ang R) (e : ℕ → ι) : circSem k ang e ([] : Circ T) = 1 := rfl
@[simp] theorem circSem_cons (k : Scal R) (ang : T → Ang R) (e : ℕ → ι) (o : GOp T) (c : Circ T) :
    circSem k ang e (o :: c) = circSem k ang e c * gateSem k ang e o := rfl

theorem circSem_append (k : Scal R) (ang : T → Ang R) (e : ℕ → ι) (a b : Circ T) :
    circSem k ang e (a ++ b) = circSem k ang e b * circSem k ang e a := by
  induction a with
  | nil => simp
  | cons o a ih => simp [ih, Matrix.mul_assoc]

theorem circSem_flatten (k : Scal R) (ang : T → Ang R) (e : ℕ → ι) (cs : List (Circ T)) :
    circSem k ang e cs.flatten = seqProd (cs.map (circSem k ang e)) := by
  induction cs with
  | nil => rfl
  | cons c cs ih => simp [circSem_append, ih, seqProd]

theorem circSem_flatMap {α : Type} (k : Scal R) (ang : T → Ang R) (e : ℕ → ι) (f : α → Circ T) (ts : List α) :
    circSem k ang e (ts.flatMap f) = seqProd (ts.map fun t => circSem k ang e (f t)) := by
  rw [List.flatMap_def, circSem_flatten, List.map_map]; rfl

theorem circSem_replicate (k : Scal R) (ang : T → Ang R) (e : ℕ → ι) (s : Circ T) (n : ℕ) :
    circSem k ang e (List.replicate n s).flatten = (circSem k ang e s) ^ n := by
  induction n with
  | zero => simp
  | succ n ih => simp [List.replicate_succ, circSem_append, ih, pow_succ]

theorem inverse_cons (o : GOp T) (c : Circ T) : inverse (o :: c) = inverse c ++ [⟨o.g.dagger, o.qs⟩] := by
  simp [inverse]

@[simp] theorem inverse_nil : inverse ([] : Circ T) = [] := rfl

theorem circSem_conj (k : Scal R) (ang : T → Ang R) (e : ℕ → ι) (c m : Circ T) :
    circSem k ang e (c ++ m ++ inverse c) = circSem k ang e (inverse c) * circSem k ang e m * circSem k ang e c := by
  rw [circSem_append, circSem_append, Matrix.mul_assoc]

theorem conj_cons (k : Scal R) (ang : T → Ang R) (e : ℕ → ι) (o : GOp T) (c : Circ T) (X : Matrix (BV ι) (BV ι) R) :
    circSem k ang e (inverse (o :: c)) * X * circSem k ang e (o :: c)
      = gateSem k ang e ⟨o.g.dagger, o.qs⟩ * (circSem k ang e (inverse c) * X * circSem k ang e c) * gateSem k ang e o := by
  simp only [inverse_cons, circSem_append, circSem_cons, circSem_nil, Matrix.one_mul, Matrix.mul_assoc]

theorem rot_conj {m : Type} [Fintype m] [DecidableEq m] {B A : Matrix m m R} (h : B * A = 1) (a b : R) (X : Matrix m m R) :
    B * (a • (1 : Matrix m m R) - b • X) * A = a • (1 : Matrix m m R) - b • (B * X * A) := by
  simp only [Matrix.mul_sub, Matrix.sub_mul, Matrix.mul_smul, Matrix.smul_mul, Matrix.mul_one, h]

theorem on1_one (q : ι) : on1 q (1 : Matrix Bool Bool R) = 1 := by
  unfold on1
  rw [Function.update_eq_self_iff.mpr rfl]
  exact tensor_one

theorem on1_sub_smul (q : ι) (a b : R) (m : Matrix Bool Bool R) :
    on1 q (a • (1 : Matrix Bool Bool R) - b • m) = a • (1 : Matrix (BV ι) (BV ι) R) - b • on1 q m := by
  ext x y
  rw [Matrix.sub_apply, Matrix.smul_apply, Matrix.smul_apply, ← on1_one (R := R) q]
  simp only [on1_apply, Matrix.sub_apply, Matrix.smul_apply, smul_eq_mul]
  split_ifs <;> simp

/-- ⊗ of `f (letter at p)` over the qubits `p ∈ S`, the identity elsewhere -/
def tensorOn (f : Option P → Matrix Bool Bool R) (pa : ι → Option P) (S : List ι) : Matrix (BV ι) (BV ι) R :=
  tensor fun p => if p ∈ S then f (pa p) else 1

theorem tensorOn_nil (f : Option P → Matrix Bool Bool R) (pa : ι → Option P) :
    tensorOn f pa [] = (1 : Matrix (BV ι) (BV ι) R) := by
  simp [tensorOn, tensor_one]

theorem tensorOn_cons (f : Option P → Matrix Bool Bool R) (pa : ι → Option P) (a : ι) (S : List ι) (ha : a ∉ S) :
    tensorOn f pa (a :: S) = tensorOn f pa S * on1 a (f (pa a)) ∧
    tensorOn f pa (a :: S) = on1 a (f (pa a)) * tensorOn f pa S := by
  have key : ∀ p, (if p ∈ a :: S then f (pa p) else 1)
        = (if p ∈ S then f (pa p) else 1) * Function.update (fun _ => (1 : Matrix Bool Bool R)) a (f (pa a)) p ∧
      (if p ∈ a :: S then f (pa p) else 1)
        = Function.update (fun _ => (1 : Matrix Bool Bool R)) a (f (pa a)) p * (if p ∈ S then f (pa p) else 1) := by
    intro p
    by_cases hp : p = a
    · subst hp; simp [ha]
    · simp [hp]
  unfold tensorOn on1
  rw [tensor_mul, tensor_mul]
  exact ⟨congrArg tensor (funext fun p => (key p).1), congrArg tensor (funext fun p => (key p).2)⟩

theorem tensorOn_mul (f g : Option P → Matrix Bool Bool R) (pa : ι → Option P) (S : List ι) :
    tensorOn f pa S * tensorOn g pa S = tensorOn (fun o => f o * g o) pa S := by
  unfold tensorOn
  rw [tensor_mul]
  congr 1; funext p
  split_ifs <;> simp

theorem tensorOn_congr (f g : Option P → Matrix Bool Bool R) (pa : ι → Option P) (S : List ι)
    (h : ∀ p ∈ S, f (pa p) = g (pa p)) : tensorOn f pa S = tensorOn g pa S := by
  unfold tensorOn
  congr 1; funext p
  split_ifs with hp
  · exact h p hp
  · rfl

theorem tensorOn_one (pa : ι → Option P) (S : List ι) :
    tensorOn (fun _ => (1 : Matrix Bool Bool R)) pa S = 1 := by
  simp [tensorOn, tensor_one]

theorem tensorOn_univ (f : Option P → Matrix Bool Bool R) (hf : f none = 1) (pa : ι → Option P) (S : List ι)
    (h : ∀ p, p ∉ S → pa p = none) : tensorOn f pa S = tensor fun p => f (pa p) := by
  unfold tensorOn
  congr 1; funext p
  split_ifs with hp
  · rfl
  · rw [h p hp, hf]

/-- the sign (−1)^{parity of x on S} -/
def zfun (S : List ι) (x : BV ι) : R := (S.map (fun q => sgn (x q))).prod
/-- Z on every qubit of `S` -/
def Zstr (S : List ι) : Matrix (BV ι) (BV ι) R := Matrix.diagonal (zfun S)

theorem on1_σz (q : ι) : on1 q (σz : Matrix Bool Bool R) = Zstr [q] := by
  ext x y
  rw [on1_apply]
  simp only [Zstr, zfun, Matrix.diagonal_apply, σz, List.map_cons, List.map_nil, List.prod_cons, List.prod_nil, mul_one]
  by_cases h : x = y
  · subst h; simp
  · rw [if_neg h]
    split_ifs with h1 h2
    · exact absurd (funext fun p => if hp : p = q then hp ▸ h2 else h1 p hp) h
    · rfl
    · rfl

theorem Zstr_eq_tensorOn (pa : ι → Option P) (S : List ι) (hnd : S.Nodup) :
    (Zstr S : Matrix (BV ι) (BV ι) R) = tensorOn (fun _ => σz) pa S := by
  induction S with
  | nil => rw [tensorOn_nil]; unfold Zstr zfun; simp
  | cons a S ih =>
    rw [(tensorOn_cons _ pa a S (List.nodup_cons.mp hnd).1).2, ← ih (List.nodup_cons.mp hnd).2, on1_σz]
    unfold Zstr
    rw [Matrix.diagonal_mul_diagonal]
    congr 1; funext x
    simp [zfun]

theorem sgn_xor (a b : Bool) : (sgn (xor a b) : R) = sgn a * sgn b := by
  cases a <;> cases b <;> simp [sgn]

theorem zfun_cnot (a b : ι) (rest : List ι) (hb : b ∉ rest) (x : BV ι) :
    (zfun (b :: rest) (cnotMap a b x) : R) = zfun (a :: b :: rest) x := by
  simp only [zfun, List.map_cons, List.prod_cons]
  have h1 : (cnotMap a b x) b = xor (x a) (x b) := by simp [cnotMap]
  have h2 : rest.map (fun q => (sgn (cnotMap a b x q) : R)) = rest.map (fun q => sgn (x q)) := by
    apply List.map_congr_left
    intro q hq
    have : q ≠ b := fun h => hb (h ▸ hq)
    simp [cnotMap, Function.update_of_ne this]
  rw [h1, h2, sgn_xor, mul_assoc]

theorem gateSem_single (k : Scal R) (ang : T → Ang R) (e : ℕ → ι) (g : GateK T) (q : ℕ) :
    gateSem k ang e ⟨g, [q]⟩ = on1 (e q) (toB (gateMatrix k ang g)) := gateOn_single _ _

theorem gateSem_rz (k : Scal R) (ang : T → Ang R) (e : ℕ → ι) (θ : T) (q : ℕ) :
    gateSem k ang e ⟨.RZ θ, [q]⟩ = (ang θ).ch • (1 : Matrix (BV ι) (BV ι) R) - (k.i * (ang θ).sh) • Zstr [e q] := by
  rw [gateSem_single, gateMatrix, rz_eq, on1_sub_smul, on1_σz]

theorem gateSem_cnot (k : Scal R) (ang : T → Ang R) (e : ℕ → ι) (a b : ℕ) (hab : e a ≠ e b) :
    gateSem k ang e ⟨.CNOT, [a, b]⟩ = permM (cnotMap (e a) (e b)) := gateOn_cnot _ _ hab

theorem ladder_cons_cons (q q' : ℕ) (rest : List ℕ) :
    (ladder (q :: q' :: rest) : Circ T) = ⟨.CNOT, [q, q']⟩ :: ladder (q' :: rest) := rfl

/-- each CNOT of the ladder adds its control to the parity the Z string reads (`zfun_cnot`) -/
theorem ladder_conj (k : Scal R) (ang : T → Ang R) (e : ℕ → ι) (qs : List ℕ) (hnd : (qs.map e).Nodup)
    (last : ℕ) (hl : qs.getLast? = some last) :
    circSem k ang e (inverse (ladder qs : Circ T)) * Zstr [e last] * circSem k ang e (ladder qs : Circ T)
      = Zstr (qs.map e) ∧
    circSem k ang e (inverse (ladder qs : Circ T)) * circSem k ang e (ladder qs : Circ T) = 1 := by
  induction qs with
  | nil => simp at hl
  | cons q rest ih =>
    cases rest with
    | nil =>
      obtain rfl : q = last := by simpa using hl
      simp [ladder]
    | cons q' rest =>
      obtain ⟨hq, hnd'⟩ := List.nodup_cons.mp hnd
      have hab : e q ≠ e q' := fun h => hq (by simp [h])
      have hq' : e q' ∉ rest.map e := (List.nodup_cons.mp hnd').1
      obtain ⟨ihZ, ih1⟩ := ih hnd' (by rwa [List.getLast?_cons_cons] at hl)
      have hinv := cnotMap_involutive (e q) (e q') hab
      have hc := conj_cons k ang e (⟨.CNOT, [q, q']⟩ : GOp T) (ladder (q' :: rest))
      simp only [GateK.dagger, gateSem_cnot k ang e q q' hab] at hc
      rw [ladder_cons_cons]
      constructor
      · rw [hc, ihZ]
        unfold Zstr
        rw [permM_conj_diagonal _ hinv]
        congr 1; funext x
        exact zfun_cnot (e q) (e q') (rest.map e) hq' x
      · have h1 := hc 1
        rw [Matrix.mul_one, Matrix.mul_one, ih1, Matrix.mul_one, permM_mul_self _ hinv] at h1
        exact h1

theorem zrot_sem (k : Scal R) (ang : T → Ang R) (e : ℕ → ι) (qs : List ℕ) (hnd : (qs.map e).Nodup)
    (last : ℕ) (hl : qs.getLast? = some last) (θ : T) :
    circSem k ang e ((ladder qs : Circ T) ++ [⟨.RZ θ, [last]⟩] ++ inverse (ladder qs))
      = (ang θ).ch • (1 : Matrix (BV ι) (BV ι) R) - (k.i * (ang θ).sh) • Zstr (qs.map e) := by
  obtain ⟨hZ, h1⟩ := ladder_conj k ang e qs hnd last hl
  rw [circSem_conj, circSem_cons, circSem_nil, Matrix.one_mul, gateSem_rz, rot_conj h1, hZ]

/-- the basis-change matrix for a Pauli letter: H for X, RX(π/2) for Y, nothing otherwise -/
def bMat (k : Scal R) : Option P → Matrix Bool Bool R
  | some .X => toB (Gates.h k)
  | some .Y => toB (Gates.rx k ⟨k.r, k.r⟩)
  | _ => 1
/-- … and the matrix the inverse circuit applies: H again (flagged hermitian), Dagger(RX(π/2)) -/
def bInv (k : Scal R) : Option P → Matrix Bool Bool R
  | some .X => toB (Gates.h k)
  | some .Y => (toB (Gates.rx k ⟨k.r, k.r⟩))ᴴ
  | _ => 1

theorem halfPi_laws (k : Scal R) (hk : ScalLaws k) : AngLaws (⟨k.r, k.r⟩ : Ang R) :=
  ⟨by have := hk.rr; linear_combination this, hk.star_r, hk.star_r⟩

theorem bInv_mul_bMat (k : Scal R) (hk : ScalLaws k) (p : Option P) : bInv k p * bMat k p = 1 := by
  match p with
  | none => simp [bInv, bMat]
  | some .X => exact h_mul_h k hk
  | some .Y => exact rxdg_mul_rx k hk _ (halfPi_laws k hk)
  | some .Z => simp [bInv, bMat]

theorem bInv_z_bMat (k : Scal R) (hk : ScalLaws k) (p : P) :
    bInv k (some p) * σz * bMat k (some p) = pauliB k (some p) := by
  match p with
  | .X => rw [pauliB_X]; exact h_conj_z k hk
  | .Y => rw [pauliB_Y]; exact rx_conj_z k hk
  | .Z => rw [pauliB_Z]; simp [bInv, bMat]

/-- the Pauli string ⊗_p σ(pa p) on the register ι (Kronecker definition on the bit-assignment basis) -/
def pauliString (k : Scal R) (pa : ι → Option P) : Matrix (BV ι) (BV ι) R := tensor (fun p => pauliB k (pa p))

variable {Q : Type} [One Q] [Mul Q] [Div Q] [Neg Q] [NatCast Q] [DecidableEq Q]

theorem basis_sem (k : Scal R) (hk : ScalLaws k) (alg : TimeAlg Q T) (ang : T → Ang R)
    (hpi : ang (alg.smul (1 / ((2 : Nat) : Q)) alg.pi) = ⟨k.r, k.r⟩)
    (e : ℕ → ι) (t : Term (Q × Q)) (pa : ι → Option P) (qs : List ℕ) (hnd : (qs.map e).Nodup)
    (hpa : ∀ q ∈ qs, pa (e q) = t.opAt q) :
    circSem k ang e (basisChange alg t qs) = tensorOn (bMat k) pa (qs.map e) ∧
    circSem k ang e (inverse (basisChange alg t qs)) = tensorOn (bInv k) pa (qs.map e) := by
  induction qs with
  | nil => simp [basisChange, tensorOn_nil]
  | cons q rest ih =>
    obtain ⟨hq, hnd'⟩ := List.nodup_cons.mp hnd
    obtain ⟨ih1, ih2⟩ := ih hnd' fun q' hq' => hpa q' (List.mem_cons_of_mem _ hq')
    rw [List.map_cons, (tensorOn_cons _ pa _ _ hq).1, (tensorOn_cons _ pa _ _ hq).2, hpa q List.mem_cons_self,
      ← ih1, ← ih2]
    rcases h : t.opAt q with _ | (_ | _ | _) <;>
      simp [basisChange, h, bMat, bInv, on1_one, inverse_cons, circSem_append, gateSem_single, gateMatrix, GateK.dagger,
        -Nat.cast_ofNat, hpi, toB_adjoint2 k hk]

theorem insertNat_perm (a : ℕ) (l : List ℕ) : (insertNat a l).Perm (a :: l) := by
  induction l with
  | nil => simp [insertNat]
  | cons b l ih =>
    simp only [insertNat]
    split_ifs
    · exact List.Perm.refl _
    · exact (List.Perm.cons b ih).trans (List.Perm.swap a b l)

theorem sortNat_perm (l : List ℕ) : (sortNat l).Perm l := by
  induction l with
  | nil => simp [sortNat]
  | cons a l ih => exact (insertNat_perm a _).trans (List.Perm.cons a ih)

theorem sortedQubits_perm {C : Type} (t : Term C) : (sortedQubits t).Perm (t.ops.map (·.1)) :=
  sortNat_perm _

theorem sortedQubits_getLast? {C : Type} (t : Term C) (hne : t.ops ≠ []) :
    ∃ last, (sortedQubits t).getLast? = some last := by
  rcases hl : (sortedQubits t).getLast? with _ | last
  · have h := sortedQubits_perm t
    rw [List.getLast?_eq_none_iff.mp hl] at h
    exact absurd (List.map_eq_nil_iff.mp h.symm.eq_nil) hne
  · exact ⟨last, rfl⟩

theorem opAt_eq_none_iff {C : Type} (t : Term C) (q : ℕ) : t.opAt q = none ↔ q ∉ t.ops.map (·.1) := by
  simp only [Term.opAt, Option.map_eq_none_iff, List.find?_eq_none, List.mem_map, beq_iff_eq, not_exists, not_and]

/-- a register: the qubit numbered `m` by the code is `e m`; `lab` reads the number back -/
structure Register (ι : Type) where
  lab : ι → ℕ
  e : ℕ → ι
  lab_inj : Function.Injective lab

/-- the term only addresses qubits of the register -/
def Register.Covers (rg : Register ι) {C : Type} (t : Term C) : Prop := ∀ q ∈ t.ops.map (·.1), rg.lab (rg.e q) = q

theorem Register.nodup_map (rg : Register ι) {C : Type} (t : Term C) (hcov : rg.Covers t) (qs : List ℕ)
    (hsub : ∀ q ∈ qs, q ∈ t.ops.map (·.1)) (hnd : qs.Nodup) : (qs.map rg.e).Nodup := by
  apply List.Nodup.map_on _ hnd
  intro a ha b hb hab
  rw [← hcov a (hsub a ha), ← hcov b (hsub b hb), hab]

/-- the register of qubits 0 … n, numbered as the code numbers them -/
def Register.fin (n : ℕ) : Register (Fin (n + 1)) :=
  ⟨fun p => p.val, fun q => Fin.ofNat (n + 1) q, Fin.val_injective⟩

theorem Register.fin_covers (n : ℕ) {C : Type} (t : Term C) (h : ∀ q ∈ t.ops.map (·.1), q ≤ n) :
    (Register.fin n).Covers t := by
  intro q hq
  simp only [Register.fin, Fin.ofNat, Nat.mod_eq_of_lt (Nat.lt_succ_of_le (h q hq))]

theorem basis_conj (k : Scal R) (hk : ScalLaws k) (alg : TimeAlg Q T) (ang : T → Ang R)
    (hpi : ang (alg.smul (1 / ((2 : Nat) : Q)) alg.pi) = ⟨k.r, k.r⟩)
    (rg : Register ι) (t : Term (Q × Q)) (hcov : rg.Covers t) (hnd : (t.ops.map (·.1)).Nodup)
    (qs : List ℕ) (hperm : qs.Perm (t.ops.map (·.1))) :
    circSem k ang rg.e (inverse (basisChange alg t qs)) * Zstr (qs.map rg.e) * circSem k ang rg.e (basisChange alg t qs)
      = pauliString k (fun p => t.opAt (rg.lab p)) ∧
    circSem k ang rg.e (inverse (basisChange alg t qs)) * circSem k ang rg.e (basisChange alg t qs) = 1 := by
  have hmem : ∀ q ∈ qs, q ∈ t.ops.map (·.1) := fun q hq => hperm.mem_iff.mp hq
  have hnd' : (qs.map rg.e).Nodup := rg.nodup_map t hcov qs hmem (hperm.nodup_iff.mpr hnd)
  obtain ⟨h1, h2⟩ := basis_sem k hk alg ang hpi rg.e t (fun p => t.opAt (rg.lab p)) qs hnd'
    fun q hq => congrArg t.opAt (hcov q (hmem q hq))
  rw [h1, h2, Zstr_eq_tensorOn (fun p => t.opAt (rg.lab p)) _ hnd', tensorOn_mul, tensorOn_mul, tensorOn_mul]
  constructor
  · rw [tensorOn_congr _ (pauliB k), tensorOn_univ _ (pauliB_none k)]
    · rfl
    · -- a qubit carrying a letter is `e` of its own number, which the term addresses
      intro p hp
      by_contra hne
      have hin : rg.lab p ∈ t.ops.map (·.1) := by
        by_contra hnot; exact hne ((opAt_eq_none_iff t _).mpr hnot)
      exact hp (rg.lab_inj (hcov _ hin) ▸ List.mem_map_of_mem (hperm.mem_iff.mpr hin))
    · intro p hp
      obtain ⟨q, hq, rfl⟩ := List.mem_map.mp hp
      show _ = pauliB k (t.opAt (rg.lab (rg.e q)))
      rw [hcov q (hmem q hq)]
      rcases h : t.opAt q with _ | p0
      · exact absurd (hmem q hq) ((opAt_eq_none_iff t q).mp h)
      · exact bInv_z_bMat k hk p0
  · simp only [bInv_mul_bMat k hk, tensorOn_one]

/-- the matrix of one term's circuit at central angle θ: the identity for a constant term, otherwise cos·1 − i sin·P -/
def termFactor (k : Scal R) (ang : T → Ang R) (rg : Register ι) {C : Type} (t : Term C) (θ : T) :
    Matrix (BV ι) (BV ι) R :=
  if t.ops = [] then 1
  else (ang θ).ch • (1 : Matrix (BV ι) (BV ι) R) - (k.i * (ang θ).sh) • pauliString k (fun p => t.opAt (rg.lab p))

theorem evoCirc_sem (k : Scal R) (hk : ScalLaws k) (alg : TimeAlg Q T) (ang : T → Ang R)
    (hpi : ang (alg.smul (1 / ((2 : Nat) : Q)) alg.pi) = ⟨k.r, k.r⟩)
    (rg : Register ι) (t : Term (Q × Q)) (hcov : rg.Covers t) (hnd : (t.ops.map (·.1)).Nodup) (time : T) :
    circSem k ang rg.e (evoCirc alg t time)
      = termFactor k ang rg t (alg.smul t.coeff.1 (alg.smul ((2 : Nat) : Q) time)) := by
  unfold evoCirc termFactor
  by_cases h0 : t.ops = []
  · simp [h0]
  · obtain ⟨last, hl⟩ := sortedQubits_getLast? t h0
    have hperm := sortedQubits_perm t
    obtain ⟨hP, h1⟩ := basis_conj k hk alg ang hpi rg t hcov hnd _ hperm
    have hnd' : ((sortedQubits t).map rg.e).Nodup :=
      rg.nodup_map t hcov _ (fun q hq => hperm.mem_iff.mp hq) (hperm.nodup_iff.mpr hnd)
    rw [if_neg h0, if_neg (by simpa using h0), hl]
    simp only
    rw [circSem_conj, zrot_sem k ang rg.e _ hnd' last hl, rot_conj h1, hP]

theorem step_sem (k : Scal R) (hk : ScalLaws k) (alg : TimeAlg Q T) (ang : T → Ang R)
    (hpi : ang (alg.smul (1 / ((2 : Nat) : Q)) alg.pi) = ⟨k.r, k.r⟩)
    (rg : Register ι) (h : PSum (Q × Q)) (hcov : ∀ t ∈ h, rg.Covers t) (hnd : ∀ t ∈ h, (t.ops.map (·.1)).Nodup) (τ : T) :
    circSem k ang rg.e (h.flatMap fun t => evoCirc alg t τ)
      = seqProd (h.map fun t => termFactor k ang rg t (alg.smul t.coeff.1 (alg.smul ((2 : Nat) : Q) τ))) := by
  rw [circSem_flatMap]
  exact congrArg seqProd (List.map_congr_left fun t ht => evoCirc_sem k hk alg ang hpi rg t (hcov t ht) (hnd t ht) τ)

theorem forall₂_evolutionForTerm (alg : TimeAlg Q T) (negl : Q → Bool) (τ : T) (h : PSum (Q × Q)) (cs : List (Circ T)) :
    List.Forall₂ (fun t ct => evolutionForTerm alg negl t τ = .ok ct) h cs ↔
      (∀ t ∈ h, acc negl t = true) ∧ cs = h.map fun t => evoCirc alg t τ := by
  induction h generalizing cs with
  | nil => simp
  | cons t ts ih =>
    rw [List.forall₂_cons_left_iff]
    simp only [ih]
    simp only [evolutionForTerm_eq, guard_eq_ok, List.forall_mem_cons, List.map_cons]
    constructor
    · rintro ⟨b, u, ⟨h1, rfl⟩, ⟨h2, rfl⟩, rfl⟩; exact ⟨⟨h1, h2⟩, rfl⟩
    · rintro ⟨⟨h1, h2⟩, rfl⟩; exact ⟨_, _, ⟨h1, rfl⟩, ⟨h2, rfl⟩, rfl⟩

end OQ.C16
