/- What the T12 translations (harness/translate_t12.py) use of the Python prelude (`maxList`, `minList`, `foldlOpt`, `reduce1`, `groupby`,
   `sortedInt`) against the models' `listMax` / `listMin` / `mapM` / `reduceMul` / `groupBy` / `isPermutation`; and the loops of those
   translations that write one list position or one matrix column per round, in closed form. -/
import OQ.Exec.Py
import OQ.Model.C01
import OQ.Lemmas.C01_Perm
import OQ.Lemmas.MatExt
namespace OQ.T12
open OQ.Py OQ.Lift

theorem foldl_cast (op : Nat → Nat → Nat) (op' : Int → Int → Int) (h : ∀ a b : Nat, op' a b = ((op a b : Nat) : Int))
    (xs : List Nat) (a : Nat) : (xs.map Int.ofNat).foldl op' (a : Int) = ((xs.foldl op a : Nat) : Int) := by
  rw [List.foldl_map]
  exact List.foldl_hom Nat.cast h

theorem maxList_cast (xs : List Nat) :
    maxList (xs.map Int.ofNat) = if xs.isEmpty then none else some ((listMax xs : Nat) : Int) := by
  cases xs with
  | nil => rfl
  | cons x xs => exact congrArg some (foldl_cast max max (fun a b => (Nat.cast_max a b).symm) xs x)

theorem minList_cast (xs : List Nat) :
    minList (xs.map Int.ofNat) = if xs.isEmpty then none else some ((listMin xs : Nat) : Int) := by
  cases xs with
  | nil => rfl
  | cons x xs => exact congrArg some (foldl_cast min min (fun a b => (Nat.cast_min a b).symm) xs x)

/-- a loop that appends `f x` to a list and stops at the first exception is `mapM` (the step function `F` is the generated one;
    `hF` says what one round does) -/
theorem foldlOpt_append_eq_mapM {α β : Type} (F : List β → α → Option (List β)) (f : α → Option β)
    (hF : ∀ st x, F st x = (f x).map (fun y => st ++ [y])) (xs : List α) (acc : List β) :
    foldlOpt F acc xs = (xs.mapM f).map (fun ys => acc ++ ys) := by
  induction xs generalizing acc with
  | nil => simp [foldlOpt]
  | cons x xs ih =>
    simp only [foldlOpt, List.mapM_cons, hF]
    cases hx : f x with
    | none => simp
    | some y =>
      simp only [Option.map_some, Option.bind_some, ih]
      cases xs.mapM f with
      | none => simp
      | some ys => simp

theorem foldlOpt_append_eq_map {α β : Type} (F : List β → α → Option (List β)) (g : α → β)
    (hF : ∀ st x, F st x = some (st ++ [g x])) (xs : List α) (acc : List β) :
    foldlOpt F acc xs = some (acc ++ xs.map g) := by
  rw [foldlOpt_append_eq_mapM F (fun x => some (g x)) hF xs acc]
  exact congrArg (Option.map _) List.mapM_pure

theorem reduce1_eq_reduceMul {R : Type} [Zero R] [Add R] [Mul R] (ms : List (Mat R)) :
    reduce1 Mat.mul ms = reduceMul ms := by
  cases ms <;> rfl

theorem groupby_eq_groupBy {α : Type} (p : α → Bool) (l : List α) : groupby p l = OQ.C01.groupBy p l := by
  induction l with
  | nil => rfl
  | cons x xs ih =>
    simp only [groupby, OQ.C01.groupBy, ih]
    cases OQ.C01.groupBy p xs with
    | nil => rfl
    | cons bg rest =>
      obtain ⟨b, g⟩ := bg
      simp only
      by_cases h : p x = b
      · simp [h]
      · have : (p x == b) = false := by simpa using h
        simp [h, this]

/-- a loop over `range m` whose round `i` rewrites position `i` only (`G i` = new value from the old one) -/
theorem foldl_pointwise {α : Type} (d : α) (F : List α → Nat → List α) (G : Nat → α → α)
    (hlen : ∀ st i, (F st i).length = st.length)
    (hother : ∀ st i k, k ≠ i → (F st i).getD k d = st.getD k d)
    (hat : ∀ st i, i < st.length → (F st i).getD i d = G i (st.getD i d))
    (l : List α) (m : Nat) (hm : m ≤ l.length) :
    ((List.range m).foldl F l).length = l.length ∧
    ∀ k, ((List.range m).foldl F l).getD k d = if k < m then G k (l.getD k d) else l.getD k d := by
  induction m with
  | zero => simp
  | succ m ih =>
    obtain ⟨h1, h2⟩ := ih (by omega)
    rw [List.range_succ, List.foldl_append]
    simp only [List.foldl_cons, List.foldl_nil]
    refine ⟨by rw [hlen, h1], ?_⟩
    intro k
    by_cases hk : k = m
    · subst hk
      rw [hat _ _ (by rw [h1]; omega), h2]
      simp
    · rw [hother _ _ _ hk, h2]
      by_cases hlt : k < m
      · simp [hlt, Nat.lt_succ_of_lt hlt]
      · have : ¬ k < m + 1 := by omega
        simp [hlt, this]

theorem ext_getD {α : Type} (d : α) (l1 l2 : List α) (hlen : l1.length = l2.length)
    (h : ∀ k, k < l1.length → l1.getD k d = l2.getD k d) : l1 = l2 := by
  apply List.ext_getElem hlen
  intro i h1 h2
  have := h i h1
  simpa [List.getD_eq_getElem?_getD, h1, h2] using this

theorem foldl_pointwise_eq_map {α : Type} (d : α) (F : List α → Nat → List α) (G : Nat → α → α)
    (hlen : ∀ st i, (F st i).length = st.length)
    (hother : ∀ st i k, k ≠ i → (F st i).getD k d = st.getD k d)
    (hat : ∀ st i, i < st.length → (F st i).getD i d = G i (st.getD i d))
    (l : List α) :
    (List.range l.length).foldl F l = (List.range l.length).map (fun i => G i (l.getD i d)) := by
  obtain ⟨h1, h2⟩ := foldl_pointwise d F G hlen hother hat l l.length (le_refl _)
  apply ext_getD d _ _ (by simp [h1])
  intro k hk
  rw [h1] at hk
  rw [h2 k]
  simp [hk, List.getD_eq_getElem?_getD]

/-- `range(0, n)` of the translator is `range n` read as ints -/
theorem foldl_range_int {β : Type} (n : Nat) (f : β → Int → β) (b : β) :
    ((List.range (Int.toNat ((n : Int) - 0))).map (fun k => (0 : Int) + Int.ofNat k)).foldl f b
      = (List.range n).foldl (fun acc (k : Nat) => f acc (k : Int)) b := by
  have e : Int.toNat ((n : Int) - 0) = n := by omega
  rw [e, List.foldl_map]
  apply congrArg (fun g => List.foldl g b (List.range n))
  funext acc k
  simp

theorem foldlOpt_eq_foldl {σ α : Type} (F : σ → α → Option σ) (g : σ → α → σ) (xs : List α)
    (hF : ∀ st, ∀ x ∈ xs, F st x = some (g st x)) (s : σ) : foldlOpt F s xs = some (xs.foldl g s) := by
  induction xs generalizing s with
  | nil => rfl
  | cons x xs ih =>
    simp only [foldlOpt, List.foldl_cons]
    rw [hF s x (by simp)]
    exact ih (fun st y hy => hF st y (List.mem_cons_of_mem _ hy)) _

theorem take_drop_two {α : Type} (d : α) (l : List α) (a : Nat) (h : a + 2 ≤ l.length) :
    (l.take (a + 2)).drop a = [l.getD a d, l.getD (a + 1) d] := by
  have h0 : a < l.length := by omega
  have h1 : a + 1 < l.length := by omega
  rw [List.drop_take, Nat.add_sub_cancel_left, List.drop_eq_getElem_cons h0, List.drop_eq_getElem_cons h1,
    List.getD_eq_getElem?_getD, List.getD_eq_getElem?_getD, List.getElem?_eq_getElem h0, List.getElem?_eq_getElem h1]
  rfl

/-- the loop of `_permutation_matrix`: the columns `0 … m-1` of the zero matrix filled one after the other -/
theorem foldl_set_column {R : Type} [Zero R] (d : Nat) (col : Nat → Nat → R) (m : Nat) (hm : m ≤ d) :
    (List.range m).foldl (fun (M : Mat R) (i : Nat) =>
        Mat.ofFn M.r M.c (fun r c => if c = i then col r i else M.get r c)) (Mat.ofFn d d (fun _ _ => 0))
      = Mat.ofFn d d (fun r c => if c < m then col r c else 0) := by
  induction m with
  | zero => simp
  | succ m ih =>
    rw [List.range_succ, List.foldl_append, ih (by omega)]
    simp only [List.foldl_cons, List.foldl_nil, Mat.ofFn_r, Mat.ofFn_c]
    apply Mat.ofFn_congr
    intro i j hi hj
    by_cases h : j = m
    · subst h; simp
    · rw [if_neg h, Mat.get_ofFn _ _ _ _ _ hi hj]
      by_cases hlt : j < m
      · simp [hlt, Nat.lt_succ_of_lt hlt]
      · have : ¬ j < m + 1 := by omega
        simp [hlt, this]

theorem perm_of_isPermutation (order : List Nat) (h : isPermutation order = true) :
    order.Perm (List.range order.length) := by
  unfold isPermutation at h
  rw [List.all_eq_true] at h
  have hsub : List.range order.length ⊆ order := by
    intro i hi
    have := h i hi
    have hc : order.count i = 1 := by simpa using this
    exact List.count_pos_iff.1 (by omega)
  have hsp := List.subperm_of_subset (List.nodup_range) hsub
  exact (hsp.perm_of_length_le (by simp)).symm

theorem insertInt_perm (a : Int) (l : List Int) : (insertInt a l).Perm (a :: l) := by
  induction l with
  | nil => exact List.Perm.refl _
  | cons b l ih =>
    simp only [insertInt]
    split
    · exact List.Perm.refl _
    · exact (List.Perm.cons b ih).trans (List.Perm.swap a b l)

theorem sortedInt_perm (l : List Int) : (sortedInt l).Perm l := by
  induction l with
  | nil => exact List.Perm.refl _
  | cons b l ih => exact (insertInt_perm b _).trans (List.Perm.cons b ih)

theorem insertInt_pairwise (a : Int) (l : List Int) (h : l.Pairwise (fun x y => x ≤ y)) :
    (insertInt a l).Pairwise (fun x y => x ≤ y) := by
  induction l with
  | nil => simp [insertInt]
  | cons b l ih =>
    simp only [insertInt]
    have hb := List.pairwise_cons.1 h
    split
    · rename_i hab
      refine List.pairwise_cons.2 ⟨?_, h⟩
      intro x hx
      rcases List.mem_cons.1 hx with rfl | hx
      · exact hab
      · exact le_trans hab (hb.1 x hx)
    · rename_i hab
      refine List.pairwise_cons.2 ⟨?_, ih hb.2⟩
      intro x hx
      have := (insertInt_perm a l).subset hx
      rcases List.mem_cons.1 this with rfl | hx'
      · omega
      · exact hb.1 x hx'

theorem sortedInt_pairwise (l : List Int) : (sortedInt l).Pairwise (fun x y => x ≤ y) := by
  induction l with
  | nil => simp [sortedInt]
  | cons b l ih => exact insertInt_pairwise b _ ih

/-- `sorted(order) != list(range(len(order)))` is the model's permutation check -/
theorem sorted_check (order : List Nat) :
    (sortedInt (order.map Int.ofNat) != (List.range order.length).map Int.ofNat) = !isPermutation order := by
  have hinj : Function.Injective Int.ofNat := fun a b h => by simpa using h
  by_cases hp : isPermutation order = true
  · have hperm := perm_of_isPermutation order hp
    have h1 : (sortedInt (order.map Int.ofNat)).Perm ((List.range order.length).map Int.ofNat) :=
      (sortedInt_perm _).trans (hperm.map _)
    have hs1 : (sortedInt (order.map Int.ofNat)).Pairwise (fun a b => a ≤ b) := sortedInt_pairwise _
    have hs2 : ((List.range order.length).map Int.ofNat).Pairwise (fun a b => a ≤ b) := by
      rw [List.pairwise_map]
      exact (List.pairwise_lt_range).imp (fun h => by simp only [Int.ofNat_eq_natCast]; omega)
    have heq := h1.eq_of_pairwise (fun a b _ _ hab hba => by omega) hs1 hs2
    simp [heq, hp]
  · have hp' : isPermutation order = false := by simpa using hp
    rw [hp']
    simp only [Bool.not_false, bne_iff_ne, ne_eq]
    intro heq
    apply hp
    have h1 : (order.map Int.ofNat).Perm ((List.range order.length).map Int.ofNat) := by
      rw [← heq]; exact (sortedInt_perm _).symm
    exact OQ.C01.isPermutation_of_perm order ((List.map_perm_map_iff hinj).1 h1)

end OQ.T12
