/- Loops / comprehensions of the translated code that may raise (`OQ.Py.foldlOpt`, `OQ.Py.mapOpt`) against the model's `mapE`;
   the write-back loops with `Int` indices. -/
import OQ.Model.C15
import OQ.Exec.Py
namespace OQ.C15

theorem toOption_ok_iff {ε α : Type} (x : Except ε α) (a : α) : x.toOption = some a ↔ x = .ok a := by
  cases x <;> simp [Except.toOption]

theorem toOption_ok {ε α : Type} (a : α) : (Except.ok a : Except ε α).toOption = some a := rfl
theorem toOption_error {ε α : Type} (e : ε) : (Except.error e : Except ε α).toOption = none := rfl

theorem mapOpt_toOption {ε α β : Type} (f : α → Except ε β) (l : List α) :
    OQ.Py.mapOpt (fun a => (f a).toOption) l = (mapE f l).toOption := by
  induction l with
  | nil => rfl
  | cons a l ih =>
    simp only [OQ.Py.mapOpt, mapE, ih]
    cases f a with
    | error e => rfl
    | ok b =>
      cases mapE f l with
      | error e => rfl
      | ok bs => rfl

theorem mapOpt_bind_map {α β γ : Type} (f : α → Option β) (g : β → γ) (l : List α) :
    (OQ.Py.mapOpt f l).bind (fun bs => some (bs.map g)) = OQ.Py.mapOpt (fun a => (f a).bind (fun b => some (g b))) l := by
  induction l with
  | nil => rfl
  | cons a l ih =>
    simp only [OQ.Py.mapOpt, ← ih]
    cases f a with
    | none => rfl
    | some b =>
      cases OQ.Py.mapOpt f l with
      | none => rfl
      | some bs => rfl

/-- the guard `len(maps) != len(tasks)` (Python ints) followed by the result, against the model's `Except` -/
theorem len_guard {ε β : Type} (a b : Nat) (e : ε) (x : β) :
    (if (((a : Nat) : Int) != ((b : Nat) : Int)) then none else some x) = (if a ≠ b then Except.error e else Except.ok x).toOption := by
  by_cases h : a = b <;> simp [h, Except.toOption, Int.natCast_inj]

theorem foldlOpt_append {α β : Type} (g : α → Option β) (f : List β → α → Option (List β))
    (h : ∀ acc a, f acc a = (g a).bind (fun b => some (acc ++ [b]))) (acc : List β) (l : List α) :
    OQ.Py.foldlOpt f acc l = (OQ.Py.mapOpt g l).bind (fun bs => some (acc ++ bs)) := by
  induction l generalizing acc with
  | nil => simp [OQ.Py.foldlOpt, OQ.Py.mapOpt]
  | cons a l ih =>
    simp only [OQ.Py.foldlOpt, OQ.Py.mapOpt, h]
    cases g a with
    | none => rfl
    | some b =>
      simp only [Option.bind_some, ih]
      cases OQ.Py.mapOpt g l with
      | none => rfl
      | some bs => simp

/-- the write-back loop `for v, i in zip(vals, idx): full[i] = v` of the translated code (indices are Python ints) -/
theorem writeBack_int {V : Type} (vals : List V) (idx : List Nat) (full : List (Option V)) :
    (List.zip vals (idx.map Int.ofNat)).foldl (fun (st : List (Option V)) (p : V × Int) => st.set (Int.toNat p.2) (some p.1)) full
      = (vals.zip idx).foldl (fun acc p => acc.set p.2 (some p.1)) full := by
  rw [List.zip_map_right, List.foldl_map]
  rfl

end OQ.C15
