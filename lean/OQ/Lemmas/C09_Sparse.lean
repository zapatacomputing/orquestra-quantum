/- The Kronecker chain of `get_sparse_operator` and its COO assembly. -/
import OQ.Lemmas.C09_Entries
import OQ.Lemmas.Fold
import Mathlib.Data.List.Perm.Basic
import Mathlib.Data.List.Nodup
import Mathlib.Algebra.BigOperators.Group.Finset.Basic

set_option linter.unusedSectionVars false
namespace OQ.C09
open OQ OQ.Pauli

variable {R : Type} [CommRing R]

/-- `PauliTerm._ops` is a dict: the qubit indices of a term are distinct -/
def TermWF (t : Term R) : Prop := (t.ops.map Prod.fst).Nodup

theorem opAt_eq_some_iff (t : Term R) (h : TermWF t) {q : Nat} {p : P} : t.opAt q = some p ↔ (q, p) ∈ t.ops := by
  obtain ⟨ops, c⟩ := t
  unfold TermWF at h
  unfold Term.opAt
  dsimp only at h ⊢
  induction ops with
  | nil => simp
  | cons x rest ih =>
    obtain ⟨hx, hrest⟩ := List.nodup_cons.1 h
    by_cases hq : x.1 = q
    · subst hq
      have : (x.1, p) ∉ rest := fun hm => hx (List.mem_map.2 ⟨_, hm, rfl⟩)
      simp [Prod.ext_iff, this, eq_comm]
    · rw [List.find?_cons_of_neg (by simpa using hq), ih hrest, List.mem_cons]
      exact (or_iff_right fun h => hq (congrArg Prod.fst h).symm).symm

theorem opAt_eq_none_iff (t : Term R) {q : Nat} : t.opAt q = none ↔ ∀ x ∈ t.ops, x.1 ≠ q := by
  rw [Term.opAt, Option.map_eq_none_iff, List.find?_eq_none]
  exact forall₂_congr fun x _ => by rw [beq_iff_eq]

theorem sortedOps_perm (ops : List (Nat × P)) : (sortedOps ops).Perm ops := List.mergeSort_perm _ _

theorem sortedOps_pairwise (ops : List (Nat × P)) (hnd : (ops.map Prod.fst).Nodup) :
    (sortedOps ops).Pairwise (fun a b => a.1 < b.1) := by
  have h1 : (sortedOps ops).Pairwise (fun a b => decide (a.1 ≤ b.1) = true) :=
    List.pairwise_mergeSort (le := fun a b : Nat × P => decide (a.1 ≤ b.1))
      (fun a b c h1 h2 => by simp only [decide_eq_true_eq] at *; omega)
      (fun a b => by simp only [Bool.or_eq_true, decide_eq_true_eq]; omega) ops
  have h2 : (sortedOps ops).Pairwise (fun a b => a.1 ≠ b.1) :=
    List.pairwise_map.1 (((sortedOps_perm ops).map Prod.fst).nodup_iff.2 hnd)
  exact (h1.and h2).imp (fun ⟨ha, hb⟩ => by simp only [decide_eq_true_eq] at ha; omega)

theorem kroneckerOperators_append (l : List (Mat R)) (hl : l ≠ []) (x : Mat R) :
    kroneckerOperators (l ++ [x]) = (kroneckerOperators l).kron x := by
  cases l with
  | nil => exact absurd rfl hl
  | cons a l => simp [kroneckerOperators, List.foldl_append]

/-- the chain built so far is `c · σ_{at 0} ⊗ … ⊗ σ_{at (tf-1)}` -/
def Good (k : Scal R) (c : R) (at_ : Nat → Option P) (tf : Nat) (l : List (Mat R)) : Prop :=
  l ≠ [] ∧ Is (kroneckerOperators l) (2 ^ tf) (fun i j => c * strEntry k at_ tf i j)

theorem good_identity (k : Scal R) (c : R) (at_ : Nat → Option P) (tf g : Nat) (l : List (Mat R))
    (h : Good k c at_ tf l) (hnone : ∀ q, tf ≤ q → q < tf + g → at_ q = none) :
    Good k c at_ (tf + g) (l ++ [Mat.identity (2 ^ g)]) := by
  refine ⟨by simp, ?_⟩
  rw [kroneckerOperators_append _ h.1, pow_add]
  refine (h.2.kron (identity_is (2 ^ g))).congr fun i j _ _ => ?_
  have hpos : 0 < 2 ^ g := Nat.pos_of_ne_zero (by positivity)
  rw [strEntry_add, strEntry_none k _ g (fun q hq => hnone _ (Nat.le_add_right _ _) (by omega)) _ _
    (Nat.mod_lt _ hpos) (Nat.mod_lt _ hpos)]
  exact mul_assoc _ _ _

theorem good_pauli (k : Scal R) (c : R) (at_ : Nat → Option P) (tf : Nat) (p : P) (l : List (Mat R))
    (h : Good k c at_ tf l) (hat : at_ tf = some p) :
    Good k c at_ (tf + 1) (l ++ [pauliMat k (some p)]) := by
  refine ⟨by simp, ?_⟩
  rw [kroneckerOperators_append _ h.1, pow_succ]
  exact (h.2.kron (pauliMat_is k (some p))).congr fun i j _ _ => by rw [strEntry, hat]; exact mul_assoc _ _ _

theorem opsFold_spec (k : Scal R) (c : R) (at_ : Nat → Option P) (n : Nat) (L : List (Nat × P)) (l : List (Mat R)) (tf : Nat)
    (hg : Good k c at_ tf l) (hsome : ∀ x ∈ L, at_ x.1 = some x.2)
    (hnone : ∀ q, tf ≤ q → (∀ x ∈ L, x.1 ≠ q) → at_ q = none)
    (hsorted : L.Pairwise (fun a b => a.1 < b.1)) (hge : ∀ x ∈ L, tf ≤ x.1) (hlt : ∀ x ∈ L, x.1 < n) (hn : tf ≤ n) :
    let st := L.foldl (opsStep k) (l, tf)
    Good k c at_ st.2 st.1 ∧ (∀ q, st.2 ≤ q → at_ q = none) ∧ st.2 ≤ n := by
  induction L generalizing l tf with
  | nil => exact ⟨hg, fun q hq => hnone q hq (fun _ h => nomatch h), hn⟩
  | cons x L ih =>
    obtain ⟨q, p⟩ := x
    obtain ⟨hqlt, hsorted'⟩ := List.pairwise_cons.1 hsorted
    have hq : tf ≤ q := hge _ List.mem_cons_self
    -- the identity block for the skipped qubits `tf ≤ q' < q`: none of them is a key of `(q, p) :: L`
    have hg1 : Good k c at_ q (if q > tf then l ++ [Mat.identity (2 ^ (q - tf))] else l) := by
      split
      · have := good_identity k c at_ tf (q - tf) l hg fun q' hq1 hq2 =>
          hnone q' hq1 (List.forall_mem_cons.2 ⟨by show q ≠ q'; omega, fun y hy => by have := hqlt y hy; omega⟩)
        rwa [Nat.add_sub_cancel' hq] at this
      · rwa [show q = tf by omega]
    exact ih _ (q + 1) (good_pauli k c at_ q p _ hg1 (hsome _ List.mem_cons_self))
      (fun y hy => hsome y (List.mem_cons_of_mem _ hy))
      (fun q' hq' hno => hnone q' (by omega) (List.forall_mem_cons.2 ⟨by show q ≠ q'; omega, hno⟩))
      hsorted' hqlt (fun y hy => hlt y (List.mem_cons_of_mem _ hy)) (hlt _ List.mem_cons_self)

theorem chain_spec (k : Scal R) (n : Nat) (t : Term R) (hwf : TermWF t) (hn : ∀ x ∈ t.ops, x.1 < n) :
    Is (kroneckerOperators (sparseOperators k n t)) (2 ^ n) (fun i j => t.coeff * strEntry k t.opAt n i j) := by
  have hperm := sortedOps_perm t.ops
  have hg0 : Good k t.coeff t.opAt 0 [Mat.ofFn 1 1 (fun _ _ => t.coeff)] :=
    ⟨List.cons_ne_nil _ _, (Is.ofFn 1 fun _ _ => t.coeff).congr fun i j _ _ => (mul_one t.coeff).symm⟩
  obtain ⟨hg, hnone, hle⟩ := opsFold_spec k t.coeff t.opAt n (sortedOps t.ops) _ 0 hg0
    (fun x hx => (opAt_eq_some_iff t hwf).2 (hperm.mem_iff.1 hx))
    (fun q _ hno => (opAt_eq_none_iff t).2 fun x hx => hno x (hperm.mem_iff.2 hx))
    (sortedOps_pairwise t.ops hwf) (fun _ _ => Nat.zero_le _) (fun x hx => hn x (hperm.mem_iff.1 hx)) (Nat.zero_le _)
  unfold sparseOperators
  generalize (sortedOps t.ops).foldl (opsStep k) ([Mat.ofFn 1 1 fun _ _ => t.coeff], 0) = st at *
  dsimp only
  split
  · -- trailing identity block
    have := good_identity k t.coeff _ _ (n - st.2) _ hg fun q hq _ => hnone q hq
    rw [Nat.add_sub_cancel' hle] at this
    exact this.2
  · rename_i hcond
    obtain rfl : st.2 = n := Nat.le_antisymm hle (Nat.not_lt.1 fun h => hcond (Or.inl h))
    exact hg.2

/-! ### the non-zero pattern of a Pauli string: one entry per column, symmetric -/

def flipbit : Option P → Nat → Nat
  | some .X, b => 1 - b
  | some .Y, b => 1 - b
  | _, b => b

/-- row of the non-zero entry in column `j` -/
def partner (at_ : Nat → Option P) : Nat → Nat → Nat
  | 0, _ => 0
  | n + 1, j => 2 * partner at_ n (j / 2) + flipbit (at_ n) (j % 2)

theorem flipbit_lt (o : Option P) (b : Nat) (hb : b < 2) : flipbit o b < 2 := by
  rcases o with _ | _ | _ | _ <;> simp only [flipbit] <;> omega

theorem flipbit_invol (o : Option P) (b : Nat) (hb : b < 2) : flipbit o (flipbit o b) = b := by
  rcases o with _ | _ | _ | _ <;> simp only [flipbit] <;> omega

theorem pe_zero (k : Scal R) (o : Option P) (a b : Nat) (ha : a < 2) (hb : b < 2) (h : a ≠ flipbit o b) :
    pe k o a b = 0 := by
  rcases o with _ | _ | _ | _ <;> simp only [flipbit] at h <;> simp only [pe]
  · exact if_neg h
  · exact if_pos (by omega)
  · exact if_pos (by omega)
  · exact if_neg h

theorem pe_pow4 (k : Scal R) (hi : k.i * k.i = -1) (o : Option P) (b : Nat) (hb : b < 2) :
    (pe k o (flipbit o b) b) ^ 4 = 1 := by
  have h4 : k.i ^ 4 = 1 := by rw [show k.i ^ 4 = (k.i * k.i) * (k.i * k.i) by ring, hi]; ring
  rcases o with _ | _ | _ | _ <;> interval_cases b
  · exact one_pow 4
  · exact one_pow 4
  · exact one_pow 4
  · exact one_pow 4
  · exact h4
  · exact (Even.neg_pow ⟨2, rfl⟩ k.i).trans h4
  · exact one_pow 4
  · exact Even.neg_one_pow ⟨2, rfl⟩

theorem partner_succ_div (at_ : Nat → Option P) (n j : Nat) : partner at_ (n + 1) j / 2 = partner at_ n (j / 2) :=
  two_mul_add_div _ _ (flipbit_lt _ _ (mod_two_lt _))

theorem partner_succ_mod (at_ : Nat → Option P) (n j : Nat) : partner at_ (n + 1) j % 2 = flipbit (at_ n) (j % 2) :=
  two_mul_add_mod _ _ (flipbit_lt _ _ (mod_two_lt _))

theorem partner_lt (at_ : Nat → Option P) (n j : Nat) (hj : j < 2 ^ n) : partner at_ n j < 2 ^ n := by
  induction n generalizing j with
  | zero => exact Nat.one_pos
  | succ n ih =>
    rw [pow_succ, ← Nat.div_lt_iff_lt_mul Nat.two_pos, partner_succ_div]
    exact ih _ (div_two_lt_pow hj)

theorem partner_invol (at_ : Nat → Option P) (n j : Nat) (hj : j < 2 ^ n) :
    partner at_ n (partner at_ n j) = j := by
  induction n generalizing j with
  | zero => rw [partner]; omega
  | succ n ih =>
    rw [partner, partner_succ_div, partner_succ_mod, ih (j / 2) (div_two_lt_pow hj), flipbit_invol _ _ (mod_two_lt _)]
    exact Nat.div_add_mod j 2

theorem strEntry_zero (k : Scal R) (at_ : Nat → Option P) (n i j : Nat) (hi : i < 2 ^ n) (hj : j < 2 ^ n)
    (h : i ≠ partner at_ n j) : strEntry k at_ n i j = 0 := by
  induction n generalizing i j with
  | zero => exact absurd (by rw [partner]; omega) h
  | succ n ih =>
    rw [strEntry]
    rw [partner] at h
    by_cases h1 : i / 2 = partner at_ n (j / 2)
    · rw [pe_zero k _ _ _ (mod_two_lt _) (mod_two_lt _) (by omega), mul_zero]
    · rw [ih (i / 2) (j / 2) (div_two_lt_pow hi) (div_two_lt_pow hj) h1, zero_mul]

theorem strEntry_pow4 (k : Scal R) (hi : k.i * k.i = -1) (at_ : Nat → Option P) (n j : Nat) (hj : j < 2 ^ n) :
    (strEntry k at_ n (partner at_ n j) j) ^ 4 = 1 := by
  induction n generalizing j with
  | zero => exact one_pow 4
  | succ n ih =>
    rw [strEntry, partner_succ_div, partner_succ_mod, mul_pow, ih (j / 2) (div_two_lt_pow hj),
      pe_pow4 k hi _ _ (mod_two_lt _), mul_one]

theorem term_nQubits_le (t : Term R) (n : Nat) : t.nQubits ≤ n ↔ ∀ x ∈ t.ops, x.1 < n := by
  rw [Term.nQubits, ← List.foldl_map (f := fun p : Nat × P => p.1 + 1) (g := max), foldl_max_le_iff, List.forall_mem_map]
  exact and_iff_right (Nat.zero_le _)

theorem sum_nQubits_le (s : PSum R) (n : Nat) : PSum.nQubits s ≤ n ↔ ∀ t ∈ s, ∀ x ∈ t.ops, x.1 < n := by
  rw [PSum.nQubits, ← List.foldl_map (f := Term.nQubits) (g := max), foldl_max_le_iff, List.forall_mem_map]
  simp only [Nat.zero_le, true_and, term_nQubits_le]

theorem nQubits_singleton (t : Term R) : PSum.nQubits [t] = t.nQubits := Nat.zero_max _

def SumWF (s : PSum R) : Prop := ∀ t ∈ s, TermWF t

theorem sumWF_nil : SumWF ([] : PSum R) := fun _ h => nomatch h

theorem sumWF_singleton {t : Term R} : SumWF [t] ↔ TermWF t := List.forall_mem_singleton

theorem sumWF_snoc {acc : PSum R} {t : Term R} (ha : SumWF acc) (ht : TermWF t) : SumWF (acc ++ [t]) :=
  List.forall_mem_append.2 ⟨ha, List.forall_mem_singleton.2 ht⟩

theorem sum_single_nodup {α : Type} (s : List α) (hnd : s.Nodup) (u : α) (hu : u ∈ s) (g : α → R)
    (hg : ∀ t ∈ s, t ≠ u → g t = 0) : (s.map g).sum = g u := by
  classical
  rw [← List.sum_toFinset g hnd]
  exact Finset.sum_eq_single u (fun t ht => hg t (List.mem_toFinset.1 ht)) fun h => absurd (List.mem_toFinset.2 hu) h

variable {R : Type} [CommRing R] [DecidableEq R]

theorem filterMap_range_none {α : Type} (d : Nat) (f : Nat → Option α) (h : ∀ i, i < d → f i = none) :
    (List.range d).filterMap f = [] := by
  rw [List.filterMap_eq_nil_iff]; intro a ha; exact h a (List.mem_range.1 ha)

theorem filterMap_range_single {α : Type} (d m : Nat) (f : Nat → Option α) (a : α) (hm : m < d)
    (hfm : f m = some a) (h : ∀ i, i < d → i ≠ m → f i = none) :
    (List.range d).filterMap f = [a] := by
  induction d with
  | zero => omega
  | succ d ih =>
    rw [List.range_succ, List.filterMap_append]
    by_cases hmd : m = d
    · subst hmd
      rw [filterMap_range_none m f (fun i hi => h i (by omega) (by omega))]
      simp [hfm]
    · rw [ih (by omega) (fun i hi hne => h i (by omega) hne)]
      simp [h d (by omega) (by omega)]

theorem flatMap_range_singleton {α : Type} (d : Nat) (F : Nat → List α) (g : Nat → α)
    (h : ∀ j, j < d → F j = [g j]) : (List.range d).flatMap F = (List.range d).map g :=
  (List.flatMap_congr fun j hj => h j (List.mem_range.1 hj)).trans List.map_eq_flatMap.symm

/-- what `coo_matrix` puts at position `(i, j)` -/
def tsum (ts : List (Triplet R)) (i j : Nat) : R :=
  ts.foldl (fun acc t => if t.row = i ∧ t.col = j then acc + t.val else acc) 0

theorem tsum_eq_sum (ts : List (Triplet R)) (i j : Nat) :
    tsum ts i j = (ts.map (fun t => if t.row = i ∧ t.col = j then t.val else 0)).sum := by
  have step : (fun (acc : R) (t : Triplet R) => if t.row = i ∧ t.col = j then acc + t.val else acc)
      = fun acc t => acc + if t.row = i ∧ t.col = j then t.val else 0 := by
    funext acc t; split
    · rfl
    · exact (add_zero acc).symm
  rw [tsum, step, foldl_add_eq_sum, zero_add]

theorem tsum_flatMap {α : Type} (s : List α) (f : α → List (Triplet R)) (i j : Nat) :
    tsum (s.flatMap f) i j = (s.map (fun t => tsum (f t) i j)).sum := by
  induction s with
  | nil => rfl
  | cons t s ih =>
    rw [List.flatMap_cons, tsum_eq_sum, List.map_append, List.sum_append, ← tsum_eq_sum, ← tsum_eq_sum, ih,
      List.map_cons, List.sum_cons]

/-- A `d × d` matrix whose non-zero pattern is one entry per column, at row `σ j`, with `σ` an
    involution: pairing the column-major values with the swapped row-major positions rebuilds it. -/
theorem coo_pattern (M : Mat R) (d : Nat) (hr : M.r = d) (hc : M.c = d) (σ : Nat → Nat)
    (hσ : ∀ j, j < d → σ j < d) (hinv : ∀ j, j < d → σ (σ j) = j)
    (hpat : ∀ i j, i < d → j < d → (M.get i j ≠ 0 ↔ i = σ j)) (i j : Nat) (hi : i < d) (hj : j < d) :
    tsum (List.zipWith (fun v (p : Nat × Nat) => (⟨p.2, p.1, v⟩ : Triplet R)) (colMajorData M) (rowMajorNonzero M)) i j
      = M.get i j := by
  have hcol : colMajorData M = (List.range d).map (fun j => M.get (σ j) j) := by
    unfold colMajorData; rw [hr, hc]
    exact flatMap_range_singleton d _ _ fun j hj => filterMap_range_single d (σ j) _ _ (hσ j hj)
      (if_neg ((hpat _ _ (hσ j hj) hj).2 rfl)) fun i hi hne => if_pos (by_contra fun h => hne ((hpat i j hi hj).1 h))
  have hrow : rowMajorNonzero M = (List.range d).map (fun i => (i, σ i)) := by
    unfold rowMajorNonzero; rw [hr, hc]
    exact flatMap_range_singleton d _ _ fun i hi => filterMap_range_single d (σ i) _ _ (hσ i hi)
      (if_neg ((hpat _ _ hi (hσ i hi)).2 (hinv i hi).symm)) fun j hj hne =>
        if_pos (by_contra fun h => hne (by rw [(hpat i j hi hj).1 h, hinv j hj]))
  -- the triplets are `(σ x, x, M[σ x, x])`, one per column `x`
  rw [hcol, hrow, List.zipWith_map, List.zipWith_self, tsum_eq_sum, List.map_map]
  refine (sum_single_nodup _ List.nodup_range j (List.mem_range.2 hj) _ fun x _ hx => if_neg fun h => hx h.2).trans ?_
  by_cases h : σ j = i
  · exact (if_pos ⟨h, rfl⟩).trans (congrArg (M.get · j) h)
  · exact (if_neg fun h' => h h'.1).trans (by_contra fun hne => h ((hpat i j hi hj).1 (Ne.symm hne)).symm)

theorem coo_zero (M : Mat R) (hz : ∀ i j, i < M.r → j < M.c → M.get i j = 0) (i j : Nat) :
    tsum (List.zipWith (fun v (p : Nat × Nat) => (⟨p.2, p.1, v⟩ : Triplet R)) (colMajorData M) (rowMajorNonzero M)) i j
      = 0 := by
  have hcol : colMajorData M = [] :=
    List.flatMap_eq_nil_iff.2 fun j hj => filterMap_range_none _ _ fun i hi =>
      if_pos (hz i j hi (List.mem_range.1 hj))
  rw [hcol]; rfl

theorem termTriplets_spec (k : Scal R) (hi : k.i * k.i = -1) (n : Nat) (t : Term R) (hwf : TermWF t)
    (hn : ∀ x ∈ t.ops, x.1 < n) (i j : Nat) (hi' : i < 2 ^ n) (hj : j < 2 ^ n) :
    tsum (termTriplets k n t) i j = t.coeff * strEntry k t.opAt n i j := by
  obtain ⟨hr, hc, he⟩ := chain_spec k n t hwf hn
  dsimp only at he
  unfold termTriplets
  by_cases hc0 : t.coeff = 0
  · rw [coo_zero _ fun a b ha hb => by rw [he a b (hr ▸ ha) (hc ▸ hb), hc0, zero_mul], hc0, zero_mul]
  · rw [coo_pattern _ (2 ^ n) hr hc (partner t.opAt n) (fun j hj => partner_lt _ _ _ hj)
      (fun j hj => partner_invol _ _ _ hj) _ i j hi' hj]
    · exact he i j hi' hj
    · intro a b ha hb
      rw [he a b ha hb]
      constructor
      · intro hne; by_contra hab
        exact hne (by rw [strEntry_zero k _ n a b ha hb hab, mul_zero])
      · -- the entry at the partner row is a fourth root of unity, hence cancels
        intro hab hz
        apply hc0
        have h4 := strEntry_pow4 k hi t.opAt n b hb
        rw [← hab] at h4
        calc t.coeff = (t.coeff * strEntry k t.opAt n a b) * (strEntry k t.opAt n a b) ^ 3 := by
              rw [mul_assoc, ← pow_succ', h4, mul_one]
          _ = 0 := by rw [hz, zero_mul]

theorem getSparseOperator_spec (k : Scal R) (hi : k.i * k.i = -1) (s : PSum R) (hwf : SumWF s) (n : Nat)
    (hn : PSum.nQubits s ≤ n) : ∃ M, getSparseOperator k s n = some M ∧ Is M (2 ^ n) (dEntry k n s) := by
  have hops := (sum_nQubits_le s n).1 hn
  unfold getSparseOperator
  rw [if_neg (Nat.not_lt.2 hn)]
  cases s with
  | nil => exact ⟨_, rfl, Is.ofFn _ _⟩
  | cons t s =>
    refine ⟨_, rfl, (Is.ofFn _ _).congr fun i j hi' hj => ?_⟩
    show tsum ((t :: s).flatMap (termTriplets k n)) i j = _
    rw [tsum_flatMap, dEntry]
    exact congrArg List.sum (List.map_congr_left fun u hu =>
      termTriplets_spec k hi n u (hwf u hu) (hops u hu) i j hi' hj)

theorem getSparseOperator_none (k : Scal R) (s : PSum R) (n : Nat) :
    getSparseOperator k s n = none ↔ n < PSum.nQubits s := by
  unfold getSparseOperator
  by_cases h : n < PSum.nQubits s
  · simp [h]
  · simp only [h, if_false]
    split <;> simp

end OQ.C09
