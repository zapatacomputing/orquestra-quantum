/- C18 — helper definitions of the translation tie `OQ/Props/C18_TranslatedDecompose.lean`:
   how the opaque rule / operation / gate objects of the translated definitions are read in the model `OQ.C18`. -/
import OQ.Lemmas.C18
namespace OQ.C18

/-- the model's `Rule` of a rule object `r` whose two methods are the total functions `pred r`, `prod r` -/
def totalRule {ρ ω : Type} (pred : ρ → ω → Bool) (prod : ρ → ω → List ω) (r : ρ) : Rule ω :=
  ⟨fun op => some (pred r op), fun op => some (prod r op)⟩

theorem totalRule_getD {ω : Type} (r : Rule ω) (h : ∀ o, (r.predicate o).isSome ∧ (r.production o).isSome) :
    totalRule (fun r o => (r.predicate o).getD false) (fun r o => (r.production o).getD []) r = r :=
  congrArg₂ Rule.mk (funext fun o => Option.getD_of_ne_none (Option.isSome_iff_ne_none.mp (h o).1) _)
    (funext fun o => Option.getD_of_ne_none (Option.isSome_iff_ne_none.mp (h o).2) _)

/-- the gate-level reading of the opaque objects for `U3GateToRotation.predicate`: `isinstance(op, GateOperation)`,
    `op.gate` (the default is never read: the `and` short-circuits in Python and the model alike), `gate.name` as a
    Python `str`, `isinstance(gate, ControlledGate)`, `gate.wrapped_gate` -/
def opIsGate {α R : Type} : Operation α R → Bool
  | .gate _ _ => true
  | .other _ _ => false
def opGate {α R : Type} : Operation α R → Gate α R
  | .gate g _ => g
  | .other _ _ => .mf "" [] none
def gateWrapped {α R : Type} : Gate α R → Gate α R
  | .controlled w _ => w
  | .dagger w => w
  | g => g

end OQ.C18
