/-
  C16 ↔ C01 / C03 / C09 — LINK lemmas: the spec semantics used by OQ/Props/C16.lean (`circSem` = products of
  `gateOn` = `Spec.lift` along the subtype partition; `pauliString` = ⊗ on the bit-assignment basis) coincide with
  what OQ/Props/C01.lean proves about the EXECUTABLE `Lift.liftMatrix` / `toUnitary` (`Spec.lift` along `sigmaOf`,
  `toBV`) and with the executable Kronecker denotation `Pauli.stringMatrix` / `Term.denote` characterised in
  OQ/Lemmas/C09_Entries.lean, C09_Ops.lean (`stringMatrix_spec`, `strEntry_prod`, the lemmas behind C09's
  `denote_entry_msb`).
-/
import OQ.Props.C01
import OQ.Props.C16
import OQ.Lemmas.C09_Ops
import OQ.Lemmas.C02_Cyc8
set_option linter.unusedSectionVars false
namespace OQ.C16.Link
open Matrix OQ OQ.Spec OQ.Pauli OQ.Lift

variable {R : Type} [CommRing R] [StarRing R] {T : Type}

theorem bvEquiv_symm_bits (L : List Nat) (hL : ∀ b ∈ L, b < 2) (k : Nat) (hk : L.length = k) (f : BV (Fin k))
    (hf : ∀ j : Fin k, f j = decide (L[j.val]'(hk ▸ j.2) = 1)) : ((C01.bvEquiv k).symm f).val = bitsToIndex L := by
  subst hk
  have : (C01.bvEquiv L.length).symm f = ⟨bitsToIndex L, C01.bitsToIndex_lt L hL⟩ := by
    rw [Equiv.symm_apply_eq]
    funext j
    rw [C01.bvEquiv_apply, hf]
    exact (C01.testBit_bitsToIndex L hL j.val j.2).symm
  rw [this]

/-- `g j` stands for the `j`-th listed qubit; the bounds of `qs[·]` are given explicitly because finding them by tactic is slow -/
theorem bvEquiv_symm_bitIndex {ι : Type} (qs : List Nat) (e : ℕ → ι) (x : BV ι) (g : Fin qs.length → ι)
    (hg : ∀ j, g j = e (qs[j.val]'j.2)) :
    ((C01.bvEquiv qs.length).symm (fun j => x (g j))).val = bitIndex (qs.map e) x := by
  unfold bitIndex
  rw [List.map_map]
  refine bvEquiv_symm_bits _ (fun b hb => ?_) _ (List.length_map _) _ (fun j => ?_)
  · obtain ⟨q, _, rfl⟩ := List.mem_map.mp hb
    dsimp only [Function.comp]
    split_ifs <;> omega
  · simp only [List.getElem_map, Function.comp, hg]
    cases x (e (qs[j.val]'j.2)) <;> rfl

theorem opSem_eq_gateOn (n : Nat) (o : Lift.Op R) (h : C01.OpValid n o) (e : ℕ → Fin n)
    (he : ∀ q, q < n → (e q).val = q) : C01.opSem n o = gateOn o.m (o.qs.map e) := by
  ext x y
  rw [C01.opSem_pointwise n o h, gateOn_apply]
  have hmem : ∀ q : Fin n, q ∈ o.qs.map e ↔ q.val ∈ o.qs := fun q =>
    ⟨fun hq => by obtain ⟨q', hq', rfl⟩ := List.mem_map.mp hq; rwa [he q' (h.lt q' hq')],
     fun hq => List.mem_map.mpr ⟨q.val, hq, Fin.ext (he q.val q.2)⟩⟩
  have hg : ∀ j : Fin o.qs.length, (⟨o.qs[j.val]'j.2, h.lt _ (List.getElem_mem _)⟩ : Fin n) = e (o.qs[j.val]'j.2) :=
    fun j => Fin.ext (he _ (h.lt _ (List.getElem_mem _))).symm
  by_cases c : ∀ q : Fin n, q.val ∉ o.qs → x q = y q
  · rw [if_pos c, if_pos (by simpa only [hmem] using c), C01.toBV_apply, bvEquiv_symm_bitIndex o.qs e x _ hg,
      bvEquiv_symm_bitIndex o.qs e y _ hg]
  · rw [if_neg c, if_neg (by simpa only [hmem] using c)]

/-- number of qubits a gate of the evolution circuits acts on -/
def arity : GateK T → Nat
  | .CNOT => 2
  | _ => 1

/-- an operation of a model circuit the library accepts on an `n`-qubit register: distinct indices `< n`, as many as
    the gate's arity (k-independent form of C01's `OpValid`) -/
structure GOpOK (n : Nat) (o : GOp T) : Prop where
  nodup : o.qs.Nodup
  lt : ∀ q ∈ o.qs, q < n
  len : o.qs.length = arity o.g

theorem arity_dagger (g : GateK T) : arity g.dagger = arity g := by cases g <;> rfl

theorem arity_pos (g : GateK T) : 0 < arity g := by cases g <;> exact Nat.succ_pos _

theorem gateMatrix_dims (k : Scal R) (ang : T → Ang R) (g : GateK T) :
    (gateMatrix k ang g).r = 2 ^ arity g ∧ (gateMatrix k ang g).c = 2 ^ arity g := by
  cases g <;> exact ⟨rfl, rfl⟩

theorem opValid_of_ok (k : Scal R) (ang : T → Ang R) (n : Nat) (o : GOp T) (h : GOpOK n o) :
    C01.OpValid n (⟨gateMatrix k ang o.g, o.qs⟩ : Lift.Op R) :=
  ⟨List.ne_nil_of_length_pos (h.len ▸ arity_pos o.g), h.nodup, h.lt, h.len ▸ (gateMatrix_dims k ang o.g).1,
    h.len ▸ (gateMatrix_dims k ang o.g).2⟩

theorem toOps_valid (k : Scal R) (ang : T → Ang R) (n : Nat) (c : Circ T) (hok : ∀ o ∈ c, GOpOK n o) :
    ∀ o ∈ toOps k ang c, C01.OpValid n o := by
  intro o ho
  obtain ⟨g, hg, rfl⟩ := List.mem_map.mp ho
  exact opValid_of_ok k ang n g (hok g hg)

theorem circSem_link (k : Scal R) (ang : T → Ang R) (n : Nat) (e : ℕ → Fin n) (he : ∀ q, q < n → (e q).val = q)
    (c : Circ T) (hok : ∀ o ∈ c, GOpOK n o) :
    C01.circSem n ((toOps k ang c).map C01.Oper.gate) = circSem k ang e c := by
  induction c with
  | nil => simp [toOps, C01.circSem_nil]
  | cons o c ih =>
    have ih' := ih (fun o' ho' => hok o' (List.mem_cons_of_mem _ ho'))
    unfold toOps at ih' ⊢
    rw [List.map_cons, List.map_cons, C01.circSem_cons, circSem_cons, ih']
    congr 1
    show C01.opSem n _ = _
    rw [opSem_eq_gateOn n _ (opValid_of_ok k ang n o (hok o List.mem_cons_self)) e he]
    rfl

theorem toBV_identity (n : Nat) : C01.toBV n (Mat.identity (R := R) (2 ^ n)) = 1 := by
  unfold C01.toBV
  rw [Mat.toM_identity]
  simp

theorem unitary_spec (k : Scal R) (ang : T → Ang R) (n : Nat) (e : ℕ → Fin n) (he : ∀ q, q < n → (e q).val = q)
    (c : Circ T) (hok : ∀ o ∈ c, GOpOK n o) :
    ∃ U, unitary k ang n c = some U ∧ U.r = 2 ^ n ∧ U.c = 2 ^ n ∧ C01.toBV n U = circSem k ang e c := by
  cases c with
  | nil => exact ⟨_, rfl, rfl, rfl, by rw [toBV_identity]; rfl⟩
  | cons o c =>
    have hval := toOps_valid k ang n (o :: c) hok
    obtain ⟨U, hU, hr, hc, hs⟩ := C01.toUnitary_ordered_product n (toOps k ang (o :: c)) (by simp [toOps]) hval
    refine ⟨U, ?_, hr, hc, ?_⟩
    · show Lift.toUnitary n (toOps k ang (o :: c)) = some U
      rw [C01.lift_toUnitary_eq n _ (fun o' ho' => ⟨(hval o' ho').mr, (hval o' ho').mc⟩), hU]
    · rw [hs, circSem_link k ang n e he _ hok]

variable {Q : Type} [One Q] [Mul Q] [Div Q] [Neg Q] [NatCast Q] [DecidableEq Q]

theorem basisChange_ok (alg : TimeAlg Q T) (t : Term (Q × Q)) (n : Nat) (qs : List Nat) (hlt : ∀ q ∈ qs, q < n) :
    ∀ o ∈ basisChange alg t qs, GOpOK n o := by
  induction qs with
  | nil => intro o ho; simp [basisChange] at ho
  | cons q rest ih =>
    obtain ⟨hq, hrest⟩ := List.forall_mem_cons.mp hlt
    have h1 : ∀ g : GateK T, arity g = 1 → GOpOK n ⟨g, [q]⟩ := fun g hg => ⟨by simp, by simpa using hq, hg.symm⟩
    unfold basisChange
    split
    · exact List.forall_mem_cons.mpr ⟨h1 _ rfl, ih hrest⟩
    · exact List.forall_mem_cons.mpr ⟨h1 _ rfl, ih hrest⟩
    · exact ih hrest

theorem ladder_ok (n : Nat) (qs : List Nat) (hnd : qs.Nodup) (hlt : ∀ q ∈ qs, q < n) :
    ∀ o ∈ (ladder qs : Circ T), GOpOK n o := by
  induction qs with
  | nil => intro o ho; simp [ladder] at ho
  | cons q rest ih =>
    cases rest with
    | nil => intro o ho; simp [ladder] at ho
    | cons q' rest =>
      obtain ⟨hq, hnd'⟩ := List.nodup_cons.mp hnd
      obtain ⟨hqn, hrest⟩ := List.forall_mem_cons.mp hlt
      rw [ladder_cons_cons]
      refine List.forall_mem_cons.mpr ⟨⟨?_, ?_, rfl⟩, ih hnd' hrest⟩
      · simpa using fun h : q = q' => hq (by simp [h])
      · simpa using ⟨hqn, hrest q' List.mem_cons_self⟩

theorem inverse_ok (n : Nat) (c : Circ T) (h : ∀ o ∈ c, GOpOK n o) : ∀ o ∈ inverse c, GOpOK n o := by
  intro o ho
  obtain ⟨o', ho', rfl⟩ := List.mem_map.mp ho
  have := h o' (List.mem_reverse.mp ho')
  exact ⟨this.nodup, this.lt, (arity_dagger o'.g).symm ▸ this.len⟩

theorem evoCirc_ok (alg : TimeAlg Q T) (t : Term (Q × Q)) (τ : T) (hnd : (t.ops.map (·.1)).Nodup)
    (n : Nat) (hlt : ∀ q ∈ t.ops.map (·.1), q < n) : ∀ o ∈ evoCirc alg t τ, GOpOK n o := by
  have hperm := sortedQubits_perm t
  have hlt' : ∀ q ∈ sortedQubits t, q < n := fun q hq => hlt q (hperm.mem_iff.mp hq)
  have hb := basisChange_ok alg t n (sortedQubits t) hlt'
  have hl' := ladder_ok (T := T) n (sortedQubits t) (hperm.nodup_iff.mpr hnd) hlt'
  unfold evoCirc
  split_ifs with h0
  · exact List.forall_mem_nil _
  · cases hl : (sortedQubits t).getLast? with
    | none => exact List.forall_mem_nil _
    | some last =>
      simp only [List.forall_mem_append, List.forall_mem_singleton]
      exact ⟨⟨hb, ⟨hl', ⟨by simp, by simpa using hlt' last (List.mem_of_getLast? hl), rfl⟩⟩, inverse_ok n _ hl'⟩,
        inverse_ok n _ hb⟩

theorem flatMap_evo_ok (alg : TimeAlg Q T) (ts : PSum (Q × Q)) (τ : T) (hnd : ∀ t ∈ ts, (t.ops.map (·.1)).Nodup)
    (n : Nat) (hlt : ∀ t ∈ ts, ∀ q ∈ t.ops.map (·.1), q < n) :
    ∀ o ∈ ts.flatMap (fun t => evoCirc alg t τ), GOpOK n o := by
  intro o ho
  obtain ⟨t, ht, hot⟩ := List.mem_flatMap.mp ho
  exact evoCirc_ok alg t τ (hnd t ht) n (hlt t ht) o hot

theorem replicate_ok (n : Nat) (rep : Circ T) (hrep : ∀ o ∈ rep, GOpOK n o) (m : Nat) :
    ∀ o ∈ (List.replicate m rep).flatten, GOpOK n o := by
  intro o ho
  obtain ⟨l, hl, hol⟩ := List.mem_flatten.mp ho
  exact hrep o ((List.mem_replicate.mp hl).2 ▸ hol)

theorem spliceCirc_ok (n : Nat) (rep d : Circ T) (steps p : Nat) (hrep : ∀ o ∈ rep, GOpOK n o)
    (hd : ∀ o ∈ d, GOpOK n o) : ∀ o ∈ spliceCirc rep steps p d, GOpOK n o := by
  simp only [spliceCirc, List.forall_mem_append]
  exact ⟨⟨replicate_ok n rep hrep _, hd⟩, replicate_ok n rep hrep _⟩

theorem derivList_ok (alg : TimeAlg Q T) (h : PSum (Q × Q)) (time : T) (steps : ℕ)
    (hnd : ∀ t ∈ h, (t.ops.map (·.1)).Nodup) (n : Nat) (hlt : ∀ t ∈ h, ∀ q ∈ t.ops.map (·.1), q < n) :
    ∀ x ∈ (List.range steps).flatMap (fun p => (singleList alg time steps h).map
        fun x => (x.1, spliceCirc (repStep alg time steps h) steps p x.2)), ∀ o ∈ x.2, GOpOK n o := by
  intro x hx
  simp only [List.mem_flatMap, List.mem_range, List.mem_map] at hx
  obtain ⟨p, _, y, hy, rfl⟩ := hx
  obtain ⟨s, hs, hys⟩ := List.mem_flatMap.mp hy
  obtain ⟨ha, ht, hb⟩ := splits_forall _ h (fun t ht => And.intro (hnd t ht) (hlt t ht)) s hs
  have key : ∀ f, ∀ o ∈ (derivCirc alg time steps s.1 s.2.1 s.2.2 f).2, GOpOK n o := fun f => by
    simp only [derivCirc, List.forall_mem_append]
    exact ⟨flatMap_evo_ok alg s.1 _ (fun t ht => (ha t ht).1) n fun t ht => (ha t ht).2, evoCirc_ok alg s.2.1 _ ht.1 n ht.2,
      flatMap_evo_ok alg s.2.2 _ (fun t ht => (hb t ht).1) n fun t ht => (hb t ht).2⟩
  refine spliceCirc_ok n _ _ _ _ (flatMap_evo_ok alg h _ hnd n hlt) ?_
  unfold derivTwo at hys
  split_ifs at hys
  · cases hys
  · simp only [List.mem_cons, List.not_mem_nil, or_false] at hys
    rcases hys with rfl | rfl
    · exact key 1
    · exact key (-1)

theorem eq_nil_of_ok_zero (c : Circ T) (hok : ∀ o ∈ c, GOpOK 0 o) : c = [] :=
  List.eq_nil_iff_forall_not_mem.mpr fun o ho => by
    have h := hok o ho
    obtain ⟨q, hq⟩ := List.exists_mem_of_length_pos (h.len ▸ arity_pos o.g)
    exact Nat.not_lt_zero q (h.lt q hq)

theorem list_range_prod (n : Nat) (f : ℕ → R) : ((List.range n).map f).prod = ∏ i : Fin n, f i.val := by
  rw [← Finset.prod_range]; rfl

theorem bit_of_bv (n : Nat) (x : BV (Fin n)) (q : Fin n) :
    ((C01.bvEquiv n).symm x).val / 2 ^ (n - 1 - q.val) % 2 = if x q then 1 else 0 := by
  have h1 := C01.bit_eq_testBit n q.val ((C01.bvEquiv n).symm x).val
  rw [C01.bit_bv n x q] at h1
  unfold C01.bit at h1
  rw [h1]
  cases x q <;> rfl

theorem pauliString_eq_toBV (k : Scal R) (n : Nat) (at_ : ℕ → Option P) :
    pauliString k (fun p : Fin n => at_ p.val) = C01.toBV n (stringMatrix k n at_) := by
  ext x y
  rw [C01.toBV_apply, (C09.stringMatrix_spec k at_ n).2.2 _ _ (Fin.isLt _) (Fin.isLt _), C09.strEntry_prod,
    list_range_prod]
  unfold pauliString tensor
  apply Finset.prod_congr rfl
  intro q _
  rw [bit_of_bv, bit_of_bv]
  unfold pauliB toB
  beta_reduce
  rw [C09.pauliMat_get _ _ _ _ (by split_ifs <;> omega) (by split_ifs <;> omega)]

theorem exp_reindex {m n : Type} [Fintype m] [DecidableEq m] [Fintype n] [DecidableEq n] (e : m ≃ n)
    (A : Matrix m m ℂ) :
    NormedSpace.exp (Matrix.reindex e e A) = Matrix.reindex e e (NormedSpace.exp A) := by
  open scoped Matrix.Norms.Operator in
  exact (NormedSpace.map_exp (Matrix.reindexAlgEquiv ℂ ℂ e) (continuous_id.matrix_reindex e e) A).symm

/-- the algebra isomorphism `Matrix (Fin 2^n) ≃ Matrix (BV (Fin n))` behind `toBV` -/
noncomputable def φ (R : Type) [CommRing R] (n : Nat) :
    Matrix (Fin (2 ^ n)) (Fin (2 ^ n)) R ≃ₐ[R] Matrix (BV (Fin n)) (BV (Fin n)) R :=
  Matrix.reindexAlgEquiv R R (C01.bvEquiv n)

theorem φ_toM (n : Nat) (A : Mat R) : φ R n (Mat.toM (2 ^ n) (2 ^ n) A) = C01.toBV n A := rfl

theorem toM_denote_one (k : Scal R) (n : Nat) (ops : List (Nat × P)) :
    Mat.toM (2 ^ n) (2 ^ n) (Term.denote k n (⟨ops, 1⟩ : Term R))
      = Mat.toM (2 ^ n) (2 ^ n) (stringMatrix k n (Term.opAt (⟨ops, 1⟩ : Term R))) := by
  funext i j
  simp only [Mat.toM]
  rw [(C09.termDenote_spec k n _).2.2 i j i.2 j.2, (C09.stringMatrix_spec k _ n).2.2 i j i.2 j.2, one_mul]

theorem exec_spec (k : Scal R) (ang : T → Ang R) (n : Nat) (c : Circ T) (hok : ∀ o ∈ c, GOpOK (n + 1) o) :
    ∃ U, unitary k ang (n + 1) c = some U ∧ U.r = 2 ^ (n + 1) ∧ U.c = 2 ^ (n + 1) ∧
      C01.toBV (n + 1) U = circSem k ang (Register.fin n).e c :=
  unitary_spec k ang (n + 1) _ (fun _ hq => Nat.mod_eq_of_lt hq) c hok

/-- the factor of a term on basis indices: cos·1 − i sin·(executable denotation of its string), the identity if constant -/
def factorM (k : Scal R) (ang : T → Ang R) (n : Nat) {C : Type} (t : Term C) (θ : T) : Matrix (Fin (2 ^ n)) (Fin (2 ^ n)) R :=
  if t.ops = [] then 1
  else (ang θ).ch • (1 : Matrix (Fin (2 ^ n)) (Fin (2 ^ n)) R)
    - (k.i * (ang θ).sh) • Mat.toM (2 ^ n) (2 ^ n) (Term.denote k n (⟨t.ops, 1⟩ : Term R))

theorem φ_factorM (k : Scal R) (ang : T → Ang R) (n : Nat) {C : Type} (t : Term C) (θ : T) :
    φ R (n + 1) (factorM k ang (n + 1) t θ) = termFactor k ang (Register.fin n) t θ := by
  unfold factorM termFactor
  split_ifs
  · exact map_one _
  · show Matrix.reindex _ _ _ = _
    simp only [Matrix.reindex_apply, Matrix.submatrix_sub, Matrix.submatrix_smul, Pi.sub_apply, Pi.smul_apply,
      Matrix.submatrix_one_equiv, toM_denote_one]
    exact congrArg (fun X => _ • 1 - _ • X) (pauliString_eq_toBV k (n + 1) t.opAt).symm

/-- width 0 is treated apart: with no qubit at all every term is constant and the circuit is empty -/
theorem exec_steps (k : Scal R) (hk : ScalLaws k) (alg : TimeAlg Q T) (ang : T → Ang R)
    (hpi : ang (alg.smul (1 / ((2 : Nat) : Q)) alg.pi) = ⟨k.r, k.r⟩)
    (h : PSum (Q × Q)) (hnd : ∀ t ∈ h, (t.ops.map (·.1)).Nodup) (N : Nat) (hlt : ∀ t ∈ h, ∀ q ∈ t.ops.map (·.1), q < N)
    (τ : T) (n : ℕ) :
    ∃ U, unitary k ang N (List.replicate n (h.flatMap fun t => evoCirc alg t τ)).flatten = some U ∧
      U.r = 2 ^ N ∧ U.c = 2 ^ N ∧
      Mat.toM (2 ^ N) (2 ^ N) U
        = ((h.map fun t => factorM k ang N t (alg.smul t.coeff.1 (alg.smul ((2 : Nat) : Q) τ))).reverse.prod) ^ n := by
  have hok := replicate_ok N _ (flatMap_evo_ok alg h τ hnd N hlt) n
  rcases N with _ | N
  · rw [eq_nil_of_ok_zero _ hok]
    refine ⟨_, rfl, rfl, rfl, ?_⟩
    rw [Mat.toM_identity, List.prod_eq_one, one_pow]
    intro x hx
    obtain ⟨t, ht, rfl⟩ := List.mem_map.mp (List.mem_reverse.mp hx)
    refine if_pos (Classical.byContradiction fun hne => ?_)
    obtain ⟨p, hp⟩ := List.exists_mem_of_ne_nil _ hne
    exact Nat.not_lt_zero _ (hlt t ht p.1 (List.mem_map_of_mem hp))
  · obtain ⟨U, hU, hr, hc, hs⟩ := exec_spec k ang N _ hok
    refine ⟨U, hU, hr, hc, (φ R (N + 1)).injective ?_⟩
    rw [φ_toM, hs, circSem_replicate, step_sem k hk alg ang hpi (Register.fin N) h
        (fun t ht => Register.fin_covers N t fun q hq => Nat.le_of_lt_succ (hlt t ht q hq)) hnd,
      seqProd_eq_prod, map_pow, map_list_prod, List.map_reverse, List.map_map]
    simp only [Function.comp_def, φ_factorM]

theorem exec_term (k : Scal R) (hk : ScalLaws k) (alg : TimeAlg Q T) (ang : T → Ang R)
    (hpi : ang (alg.smul (1 / ((2 : Nat) : Q)) alg.pi) = ⟨k.r, k.r⟩)
    (t : Term (Q × Q)) (hnd : (t.ops.map (·.1)).Nodup) (n : Nat) (hlt : ∀ q ∈ t.ops.map (·.1), q < n) (time : T) :
    ∃ U, unitary k ang n (evoCirc alg t time) = some U ∧ U.r = 2 ^ n ∧ U.c = 2 ^ n ∧
      Mat.toM (2 ^ n) (2 ^ n) U = factorM k ang n t (alg.smul t.coeff.1 (alg.smul ((2 : Nat) : Q) time)) := by
  obtain ⟨U, hU, hr, hc, hs⟩ := exec_steps k hk alg ang hpi [t] (List.forall_mem_singleton.mpr hnd) n
    (List.forall_mem_singleton.mpr hlt) time 1
  rw [List.replicate_one, List.flatMap_singleton, List.flatten_singleton] at hU
  rw [List.map_singleton, List.reverse_singleton, List.prod_singleton, pow_one] at hs
  exact ⟨U, hU, hr, hc, hs⟩

section complex
open Complex

theorem expect_reindex {m n : Type} [Fintype m] [DecidableEq m] [Fintype n] [DecidableEq n] (e : m ≃ n)
    (O A : Matrix m m ℂ) (ψ : m → ℂ) :
    star (Matrix.reindex e e A *ᵥ (ψ ∘ e.symm)) ⬝ᵥ (Matrix.reindex e e O *ᵥ (Matrix.reindex e e A *ᵥ (ψ ∘ e.symm)))
      = star (A *ᵥ ψ) ⬝ᵥ (O *ᵥ (A *ᵥ ψ)) := by
  have h1 : ∀ (B : Matrix m m ℂ) (v : m → ℂ), Matrix.reindex e e B *ᵥ (v ∘ e.symm) = (B *ᵥ v) ∘ e.symm := fun B v => by
    rw [Matrix.reindex_apply, Matrix.submatrix_mulVec_equiv, Equiv.symm_symm, Function.comp_assoc, Equiv.symm_comp_self,
      Function.comp_id]
  rw [h1, h1]
  -- both vectors are re-indexed by `e.symm`: the dot product is the same sum in another order
  exact e.symm.sum_comp fun i => star ((A *ᵥ ψ) i) * (O *ᵥ (A *ᵥ ψ)) i

theorem expect_toBV (N : Nat) (O : Matrix (Fin (2 ^ N)) (Fin (2 ^ N)) ℂ) (A : Mat ℂ) (ψ : Fin (2 ^ N) → ℂ) :
    expect (Matrix.reindex (C01.bvEquiv N) (C01.bvEquiv N) O) (C01.toBV N A) (ψ ∘ (C01.bvEquiv N).symm)
      = star (Mat.toM (2 ^ N) (2 ^ N) A *ᵥ ψ) ⬝ᵥ (O *ᵥ (Mat.toM (2 ^ N) (2 ^ N) A *ᵥ ψ)) :=
  expect_reindex (C01.bvEquiv N) O (Mat.toM (2 ^ N) (2 ^ N) A) ψ

variable [DecidableEq ℝ]

/-- the circuits `time_evolution` and `time_evolution_derivatives` return for accepted guards -/
noncomputable abbrev evoC (h : PSum (ℝ × ℝ)) (n : ℕ) (s : ℝ) : Circ ℝ :=
  (List.replicate n (h.flatMap fun t => evoCirc realAlg t (realAlg.smul (1 / (n : ℝ)) s))).flatten
noncomputable abbrev derivL (h : PSum (ℝ × ℝ)) (n : ℕ) (time : ℝ) : List (ℝ × Circ ℝ) :=
  (List.range n).flatMap fun p => (singleList realAlg time n h).map
    fun x => (x.1, spliceCirc (repStep realAlg time n h) n p x.2)

theorem derivL_factor_sum (h : PSum (ℝ × ℝ)) (n : ℕ) (time : ℝ) : ((derivL h n time).map fun x => (x.1 : ℂ)).sum = 0 := by
  unfold derivL singleList
  rw [sum_flatMap_map]
  refine List.sum_eq_zero fun z hz => ?_
  obtain ⟨p, _, rfl⟩ := List.mem_map.mp hz
  rw [List.map_map, sum_flatMap_map]
  refine List.sum_eq_zero fun z hz => ?_
  obtain ⟨s, _, rfl⟩ := List.mem_map.mp hz
  unfold derivTwo
  split_ifs
  · rfl
  · simp [derivCirc]

end complex

theorem scalLaws_cyc8 : ScalLaws Scal.cyc8 :=
  ⟨C02.cyc8_laws.ii, C02.cyc8_laws.rr, C02.cyc8_laws.cj, C02.cyc8_laws.si, C02.cyc8_laws.sr⟩

/-- the angle interpretation of the driver (OQ/Driver/C16.lean): half-angle points in ℚ(ζ₈) of a·τ + b·π -/
def driverAng (base : Ang Cyc8) (θ : Rat × Rat) : Ang Cyc8 := (evalAng base θ).getD Ang.zero

theorem driverAng_half_pi (base : Ang Cyc8) :
    driverAng base (ratAlg.smul (1 / ((2 : ℕ) : ℚ)) ratAlg.pi) = ⟨Scal.cyc8.r, Scal.cyc8.r⟩ := by
  have h1 : ratAlg.smul (1 / ((2 : ℕ) : ℚ)) ratAlg.pi = (0, 1 / 2) := by decide +kernel
  -- `0·τ + ½·π`: no copy of the base angle, one eighth turn
  have h2 : evalAng base (0, 1 / 2) = some (Ang.add Ang.zero (angZsmul ⟨Cyc8.rsqrt2, Cyc8.rsqrt2⟩ 1)) := by
    unfold evalAng
    rw [if_pos (by decide +kernel), show ((0 : ℚ), (1 / 2 : ℚ)).1.num = 0 from rfl,
      show (((0 : ℚ), (1 / 2 : ℚ)).2 * 2).num = 1 by decide +kernel]
    rfl
  rw [driverAng, h1, h2, Option.getD_some, Ang.add]
  congr 1 <;> decide +kernel

end OQ.C16.Link
