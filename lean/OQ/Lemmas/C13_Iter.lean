/- The prelude's iterator loops and count dictionaries (`whileFuel`, `islice`, `mapOpt`, `mapAccumOpt`, `maxList`, `sumLists`,
   `dictSet`, `counterGet`) against the model's `chunks`, `regroup`, `Counts`: what the translation ties of `_itertools.py` rest on. -/
import OQ.Lemmas.C13
import OQ.Generated.TranslatedC13
namespace OQ.C13
open OQ.Py

theorem py_sum_eq (xs : List Int) : OQ.Py.sum xs = xs.sum := List.sum_eq_foldl.symm

theorem py_sum_ofNat (ms : List Nat) : OQ.Py.sum (ms.map Int.ofNat) = ((ms.sum : Nat) : Int) :=
  (py_sum_eq _).trans (map_list_sum (Nat.castRingHom Int) ms).symm

theorem sumLists_eq {α : Type} (xss : List (List α)) : sumLists xss = xss.flatten := by
  rw [← List.flatMap_id, List.flatMap_eq_foldl]; rfl

theorem maxList_eq (c : List Int) (h : c ≠ []) : maxList c = some (listMax c) := by
  cases c with
  | nil => exact absurd rfl h
  | cons x xs => rfl

theorem mapOpt_some {α β : Type} (f : α → β) (l : List α) : mapOpt (fun x => some (f x)) l = some (l.map f) := by
  induction l with
  | nil => rfl
  | cons x xs ih => simp [mapOpt, ih]

theorem mapOpt_congr {α β : Type} (f g : α → Option β) (l : List α) (h : ∀ x ∈ l, f x = g x) : mapOpt f l = mapOpt g l := by
  induction l with
  | nil => rfl
  | cons x xs ih =>
    simp only [mapOpt]
    rw [h x (by simp), ih (fun y hy => h y (by simp [hy]))]

/-- one element of `[f(islice(it, m)) for m in ms]`: take `m` items from the shared iterator, apply `f` -/
def groupStep {β γ : Type} (f : List β → Option γ) (st : Iter β) (m : Int) : Option (γ × Iter β) :=
  (islice st m).bind (fun r => (f r.1).bind (fun t => some (t, r.2)))

theorem groupStep_eq {β γ : Type} (f : List β → Option γ) (st : Iter β) (m : Int) :
    groupStep f st m = if m < 0 then none else (f (st.take m.toNat)).bind (fun t => some (t, st.drop m.toNat)) := by
  unfold groupStep islice
  split <;> rfl

theorem mapAccumOpt_islice {β γ : Type} (f : List β → Option γ) (ms : List Nat) :
    ∀ (it : List β),
    (mapAccumOpt (groupStep f) it (ms.map Int.ofNat)).bind (fun r => some r.1) = (regroup it ms).mapM f := by
  induction ms with
  | nil => intro it; rfl
  | cons k ks ih =>
    intro it
    simp only [List.map_cons, mapAccumOpt, groupStep_eq, (Int.natCast_nonneg k).not_gt, if_false, Int.ofNat_eq_natCast,
      Int.toNat_natCast, regroup, List.mapM_cons, ← ih]
    cases f (List.take k it) with
    | none => rfl
    | some y =>
      simp only [Option.bind_some]
      cases mapAccumOpt (groupStep f) (List.drop k it) (ks.map Int.ofNat) <;> rfl

theorem mapAccumOpt_islice_neg {β γ : Type} (f : List β → Option γ) (ms : List Int) (h : ∃ m ∈ ms, m < 0) :
    ∀ (it : List β), mapAccumOpt (groupStep f) it ms = none := by
  induction ms with
  | nil => simp at h
  | cons m ms ih =>
    intro it
    rw [mapAccumOpt, groupStep_eq]
    split
    · rfl
    · next hm =>
      cases f (List.take m.toNat it) with
      | none => rfl
      | some y => simp only [Option.bind_some, ih ((List.exists_mem_cons_iff ..).mp h |>.resolve_left hm), Option.bind_none]

/-- `[f(islice(it, m)) for m in ms]` over ONE iterator of `all`, behind the guard `len(all) != sum(ms)`: the common shape of
    `combine_measurement_counts` and `combine_bitstrings` -/
def grouped {β γ : Type} (f : List β → Option γ) (all : List β) (ms : List Int) : Option (List γ) :=
  if ((all.length : Nat) : Int) != OQ.Py.sum ms then none
  else (mapAccumOpt (groupStep f) all ms).bind (fun r => some r.1)

theorem grouped_ofNat {β γ : Type} (f : List β → Option γ) (all : List β) (ms : List Nat) :
    grouped f all (ms.map Int.ofNat) = if all.length ≠ ms.sum then none else (regroup all ms).mapM f := by
  unfold grouped
  simp only [py_sum_ofNat, mapAccumOpt_islice, bne_iff_ne, ne_eq, Nat.cast_inj]

theorem grouped_neg {β γ : Type} (f : List β → Option γ) (all : List β) (ms : List Int) (h : ∃ m ∈ ms, m < 0) :
    grouped f all ms = none := by
  unfold grouped
  rw [mapAccumOpt_islice_neg f ms h all]
  split <;> rfl

theorem mapM_map_comm {α β γ δ : Type} (φ : α → β) (ψ : γ → δ) (f : List α → Option γ) (f' : List β → Option δ)
    (h : ∀ g, f' (g.map φ) = (f g).map ψ) (l : List (List α)) :
    (l.map (List.map φ)).mapM f' = (l.mapM f).map (List.map ψ) := by
  rw [List.mapM_map, ← mapM_optionMap f ψ l]
  exact congrArg (l.mapM ·) (funext h)

theorem mapM_sum_of {β γ : Type} (f : List β → Option γ) (tb : β → Int) (tc : γ → Int)
    (hf : ∀ g y, f g = some y → tc y = (g.map tb).sum) : ∀ (gs : List (List β)) (out : List γ),
    gs.mapM f = some out → out.map tc = gs.map (fun g => (g.map tb).sum) := by
  intro gs
  induction gs with
  | nil => intro out h; cases h; rfl
  | cons g gs ih =>
    intro out h
    simp only [List.mapM_cons, Option.bind_eq_bind, Option.bind_eq_some_iff, Option.pure_def, Option.some.injEq] at h
    obtain ⟨y, hg, ys, hgs, rfl⟩ := h
    rw [List.map_cons, List.map_cons, hf g y hg, ih ys hgs]

/-- one round of the translated `while chunk := tuple(islice(it, k)): yield chunk` -/
def batchStep {α : Type} (k : Int) (st : Iter α × List (List α)) : Option (Bool × (Iter α × List (List α))) :=
  (islice st.1 k).bind (fun r => if (!(r.1).isEmpty) then some (true, (r.2, st.2 ++ [r.1])) else some (false, (r.2, st.2)))

theorem iterate_in_batches_eq_while {α : Type} (items : List α) (k : Int) :
    OQ.Generated.Translated.iterate_in_batches items k =
      (whileFuel (batchStep k) (items.length + 1) (items, [])).bind (fun st => some st.2) := by
  unfold OQ.Generated.Translated.iterate_in_batches
  rw [show Int.toNat (((items.length : Nat) : Int) + (1 : Int)) = items.length + 1 by omega]
  rfl

theorem batchStep_eq {α : Type} (k : Int) (hk : 0 ≤ k) (it : List α) (acc : List (List α)) :
    batchStep k (it, acc) = some (if it.take k.toNat = [] then (false, (it.drop k.toNat, acc))
      else (true, (it.drop k.toNat, acc ++ [it.take k.toNat]))) := by
  rw [batchStep, islice, if_neg hk.not_gt]
  show (if (!(it.take k.toNat).isEmpty) = true then _ else _) = _
  cases h : it.take k.toNat <;> rfl

/-- `fuel + 1`: one round per chunk, at most as many as there are items, and the round that finds the iterator empty -/
theorem whileFuel_batches {α : Type} (k : Int) (hk : 0 < k) (f : Nat) (it : List α) (hf : it.length ≤ f) :
    ∀ (fuel : Nat) (acc : List (List α)), it.length ≤ fuel →
      whileFuel (batchStep k) (fuel + 1) (it, acc) = some ([], acc ++ chunks k.toNat f it) := by
  refine chunks_induction (k := k.toNat) (by omega) (P := fun it cs => ∀ (fuel : Nat) (acc : List (List α)), it.length ≤ fuel →
      whileFuel (batchStep k) (fuel + 1) (it, acc) = some ([], acc ++ cs)) (fun fuel acc _ => ?_) (fun xs cs hne ih fuel acc h => ?_) f it hf
  · rw [whileFuel, batchStep_eq k hk.le, List.take_nil, if_pos rfl, List.drop_nil, List.append_nil]; rfl
  · -- a positive `k` takes at least the head: the chunk is not empty
    have := List.length_pos_iff.mpr hne
    obtain ⟨fuel, rfl⟩ : ∃ f, fuel = f + 1 := ⟨fuel - 1, by omega⟩
    rw [whileFuel, batchStep_eq k hk.le, if_neg (fun h => (List.take_eq_nil_iff.mp h).elim (by omega) hne)]
    exact (ih fuel _ (by rw [List.length_drop]; omega)).trans (by rw [List.append_assoc]; rfl)

theorem mapOpt_zip_max {α : Type} (A : List (List α)) (B : List (List Int)) (hB : ∀ c ∈ B, c ≠ []) :
    mapOpt (fun (p : List α × List Int) => (maxList p.2).bind (fun m => some (p.1, m))) (List.zip A B)
      = some (List.zip A (B.map listMax)) := by
  rw [mapOpt_congr _ (fun p => some (p.1, listMax p.2)) _ (fun p hp => by rw [maxList_eq p.2 (hB _ (List.of_mem_zip hp).2)]; rfl),
    mapOpt_some, List.zip_map_right]
  rfl

/-- the model's count dictionary (`String × Nat`) as the Python-level one (`str` keys, `int` counts) -/
def Counts.toPy (c : Counts) : Dict String Int := c.map (fun p => (p.1, (p.2 : Int)))

theorem toPy_cons (p : String × Nat) (c : Counts) : Counts.toPy (p :: c) = (p.1, (p.2 : Int)) :: Counts.toPy c := rfl

theorem counterGet_toPy (c : Counts) (k : String) : counterGet c.toPy k = (c.get k : Int) := by
  induction c with
  | nil => rfl
  | cons p rest ih =>
    simp only [toPy_cons, counterGet, Counts.get]
    split
    · rfl
    · exact ih

theorem dictSet_bump (c : Counts) (k : String) (v : Nat) :
    dictSet c.toPy k (counterGet c.toPy k + (v : Int)) = (Counts.bump c k v).toPy := by
  induction c with
  | nil => simp [Counts.toPy, dictSet, counterGet, Counts.bump]
  | cons p rest ih =>
    simp only [toPy_cons, dictSet, counterGet, Counts.bump]
    split
    · simp only [toPy_cons, Nat.cast_add]
    · rw [toPy_cons, ih]

/-- total number of shots in a Python-level count dictionary -/
def pyTotal {κ : Type} (d : Dict κ Int) : Int := (d.map (fun p => p.2)).sum

theorem pyTotal_cons {κ : Type} (p : κ × Int) (d : Dict κ Int) : pyTotal (p :: d) = p.2 + pyTotal d := rfl

theorem dictSet_add_total {κ : Type} [BEq κ] (d : Dict κ Int) (k : κ) (v : Int) :
    pyTotal (dictSet d k (counterGet d k + v)) = pyTotal d + v := by
  induction d with
  | nil => simp [pyTotal, dictSet, counterGet]
  | cons p rest ih =>
    simp only [dictSet, counterGet]
    split
    · simp only [pyTotal_cons]; omega
    · simp only [pyTotal_cons, ih]; omega

theorem counterGet_dictSet {κ : Type} [BEq κ] [LawfulBEq κ] (d : Dict κ Int) (k k0 : κ) (w : Int) :
    counterGet (dictSet d k w) k0 = if k == k0 then w else counterGet d k0 := by
  induction d with
  | nil => simp [dictSet, counterGet]
  | cons p rest ih =>
    simp only [dictSet, counterGet]
    split
    · -- the entry of `k` is overwritten in place
      next h => rw [eq_of_beq h]; simp only [counterGet]; split <;> rfl
    · -- an entry of another key: it answers for its own key, which is then not `k`
      next h =>
      simp only [counterGet, ih]
      split
      · next h0 => rw [eq_of_beq h0] at h; rw [if_neg (fun hk => h (by rw [eq_of_beq hk]; exact beq_self_eq_true _))]
      · rfl

theorem counterGet_dictSet_add {κ : Type} [BEq κ] [LawfulBEq κ] (d : Dict κ Int) (k k0 : κ) (v : Int) :
    counterGet (dictSet d k (counterGet d k + v)) k0 = counterGet d k0 + if k == k0 then v else 0 := by
  rw [counterGet_dictSet]
  split
  · next h => rw [eq_of_beq h]
  · exact (add_zero _).symm

theorem bump_get (c : Counts) (k : String) (v : Nat) (k0 : String) :
    (Counts.bump c k v).get k0 = c.get k0 + (if k = k0 then v else 0) := by
  have h := counterGet_dictSet_add c.toPy k k0 v
  rw [dictSet_bump, counterGet_toPy, counterGet_toPy] at h
  simp only [beq_iff_eq] at h
  split_ifs at h ⊢ <;> omega

end OQ.C13
