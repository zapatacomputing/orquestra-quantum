/- Facts about the executable model of C13 (`OQ/Model/C13.lean`): ceil-division, consecutive regrouping, count dictionaries,
   chunking, proportional shares and their floors, the shots erased by the elimination stage. -/
import OQ.Model.C13
import OQ.Lemmas.Fold
import Mathlib.Tactic.Linarith
import Mathlib.Tactic.Ring
import Mathlib.Algebra.BigOperators.Ring.List
import Mathlib.Algebra.Order.Floor.Ring
import Mathlib.Data.Rat.Floor
import Mathlib.Data.List.Count
namespace OQ.C13

theorem neg_neg_ediv (n m : Int) (hm : 0 < m) : -((-n) / m) = n / m + if n % m = 0 then 0 else 1 := by
  rw [Int.neg_ediv, Int.sign_eq_one_of_pos hm]
  simp only [Int.dvd_iff_emod_eq_zero]
  split <;> omega

theorem expandSampleSize_eq (n m : Int) (hm : 0 < m) :
    expandSampleSize n m =
      (List.replicate (n / m).toNat m ++ (if n % m = 0 then [] else [n % m]), n / m + if n % m = 0 then 0 else 1) := by
  unfold expandSampleSize
  simp only [neg_neg_ediv n m hm]
  split <;> simp

theorem regroup_append {α : Type} (g : List α) (rest : List α) (ks : List Nat) :
    regroup (g ++ rest) (g.length :: ks) = g :: regroup rest ks := by
  simp [regroup]

theorem regroup_flatten_of_sum {α : Type} (ms : List Nat) : ∀ (l : List α), l.length = ms.sum →
    (regroup l ms).flatten = l := by
  induction ms with
  | nil => intro l h; exact (List.eq_nil_of_length_eq_zero h).symm
  | cons k ks ih =>
    intro l h
    rw [regroup, List.flatten_cons, ih (l.drop k) (by rw [List.length_drop, h, List.sum_cons]; omega)]
    exact List.take_append_drop k l

theorem regroup_map {α β : Type} (φ : α → β) (ms : List Nat) : ∀ (l : List α),
    regroup (l.map φ) ms = (regroup l ms).map (List.map φ) := by
  induction ms with
  | nil => intro l; rfl
  | cons k ks ih => intro l; simp only [regroup, List.map_cons, ← List.map_take, ← List.map_drop, ih]

theorem foldl_add_hom {σ β M : Type} [AddMonoid M] (φ : σ → M) (step : σ → β → σ) (w : β → M)
    (h : ∀ s x, φ (step s x) = φ s + w x) (xs : List β) (s : σ) :
    φ (xs.foldl step s) = φ s + (xs.map w).sum := by
  induction xs generalizing s with
  | nil => simp
  | cons x xs ih => rw [List.foldl_cons, ih, h, List.map_cons, List.sum_cons, add_assoc]

theorem total_cons (p : String × Nat) (c : Counts) : Counts.total (p :: c) = p.2 + c.total := rfl

theorem bump_total (c : Counts) (k : String) (v : Nat) : (Counts.bump c k v).total = c.total + v := by
  induction c with
  | nil => simp [Counts.bump, Counts.total]
  | cons p rest ih =>
    simp only [Counts.bump]
    split
    · simp only [total_cons]; omega
    · simp only [total_cons, ih]; omega

/-- The fuel of `chunks` is dealt with here, once: the facts about `chunks` below are instances, `P` relating a list to its chunking. -/
theorem chunks_induction {α : Type} {k : Nat} (hk : 0 < k) {P : List α → List (List α) → Prop} (nil : P [] [])
    (cons : ∀ xs cs, xs ≠ [] → P (xs.drop k) cs → P xs (xs.take k :: cs)) :
    ∀ (fuel : Nat) (xs : List α), xs.length ≤ fuel → P xs (chunks k fuel xs) := by
  intro fuel
  induction fuel with
  | zero => intro xs h; rw [List.eq_nil_of_length_eq_zero (Nat.le_zero.mp h)]; exact nil
  | succ f ih =>
    intro xs h
    cases xs with
    | nil => exact nil
    | cons x xs =>
      exact cons _ _ (List.cons_ne_nil x xs) (ih _ (by rw [List.length_drop]; simp only [List.length_cons] at h ⊢; omega))

section chunks
variable {α : Type} (k : Nat) (hk : 0 < k) (fuel : Nat) (xs : List α) (hf : xs.length ≤ fuel)
include hk hf

theorem chunks_flatten : (chunks k fuel xs).flatten = xs :=
  chunks_induction hk (P := fun xs cs => cs.flatten = xs) rfl
    (fun xs cs _ ih => by rw [List.flatten_cons, ih, List.take_append_drop]) fuel xs hf

theorem chunks_getElem? :
    ∀ j, (chunks k fuel xs)[j]? = if j * k < xs.length then some ((xs.drop (j * k)).take k) else none := by
  refine chunks_induction hk (P := fun xs cs => ∀ j, cs[j]? = if j * k < xs.length then some ((xs.drop (j * k)).take k) else none)
    (fun j => by simp) (fun xs cs hne ih j => ?_) fuel xs hf
  cases j with
  | zero => simp [List.length_pos_iff.mpr hne]
  | succ j =>
    rw [List.getElem?_cons_succ, ih, List.length_drop, List.drop_drop, Nat.succ_mul, Nat.add_comm k]
    simp only [Nat.lt_sub_iff_add_lt]

theorem chunks_bounds : ∀ c ∈ chunks k fuel xs, 1 ≤ c.length ∧ c.length ≤ k := by
  intro c hc
  obtain ⟨j, hj⟩ := List.mem_iff_getElem?.mp hc
  rw [chunks_getElem? k hk fuel xs hf] at hj
  split at hj
  · cases hj; rw [List.length_take, List.length_drop]; omega
  · cases hj

theorem chunks_length_eq {β : Type} (ys : List β) (h : xs.length = ys.length) :
    (chunks k fuel xs).map List.length = (chunks k fuel ys).map List.length := by
  ext1 j
  simp only [List.getElem?_map, chunks_getElem? k hk fuel xs hf, chunks_getElem? k hk fuel ys (h ▸ hf),
    apply_ite (Option.map List.length), Option.map_some, Option.map_none, List.length_take, List.length_drop, h]

theorem chunks_index (i : Nat) (hi : i < xs.length) : ∃ c, (chunks k fuel xs)[i / k]? = some c ∧ c[i % k]? = xs[i]? := by
  refine ⟨_, by rw [chunks_getElem? k hk fuel xs hf, if_pos (lt_of_le_of_lt (Nat.div_mul_le_self i k) hi)], ?_⟩
  rw [List.getElem?_take_of_lt (Nat.mod_lt i hk), List.getElem?_drop, Nat.div_add_mod']

end chunks

theorem listMax_ge (xs : List Int) : ∀ x ∈ xs, x ≤ listMax xs := by
  cases xs with
  | nil => simp
  | cons y ys => exact List.forall_mem_cons.mpr (le_foldl_max ys y)

theorem ratFloor_eq (q : Rat) : ratFloor q = ⌊q⌋ := rfl

theorem shares_sum (values : List Rat) (total : Int) (hs : values.sum ≠ 0) :
    (values.map (fun v => v * ((total : Rat) / values.sum))).sum = total := by
  rw [List.sum_map_mul_right, List.map_id', mul_div_cancel₀ _ hs]

theorem floors_sum_bounds {α : Type} (f : α → Rat) (l : List α) :
    (((l.map fun a => ratFloor (f a)).sum : Int) : Rat) ≤ (l.map f).sum ∧
      (l ≠ [] → (l.map f).sum < (((l.map fun a => ratFloor (f a)).sum : Int) : Rat) + l.length) := by
  induction l with
  | nil => simp
  | cons x xs ih =>
    simp only [List.map_cons, List.sum_cons, Int.cast_add, List.length_cons, Nat.cast_add, Nat.cast_one, ratFloor_eq (f x)]
    have h1 := Int.floor_le (f x)
    have h2 := Int.lt_floor_add_one (f x)
    refine ⟨by linarith [ih.1], fun _ => ?_⟩
    by_cases hx : xs = []
    · subst hx; simp
    · linarith [ih.2 hx]

theorem leftover_bounds (values : List Rat) (total : Int) (hs : values.sum ≠ 0) (hne : values ≠ []) :
    0 ≤ total - (shareFloors values total).sum ∧
    total - (shareFloors values total).sum < values.length := by
  obtain ⟨h1, h2⟩ := floors_sum_bounds (fun v => v * ((total : Rat) / values.sum)) values
  rw [shares_sum values total hs] at h1 h2
  have h1 : (shareFloors values total).sum ≤ total := by exact_mod_cast h1
  have h2 : total < (shareFloors values total).sum + (values.length : Int) := by exact_mod_cast h2 hne
  omega

theorem shareFloors_length (values : List Rat) (total : Int) : (shareFloors values total).length = values.length :=
  List.length_map _

theorem shareFloors_getD (values : List Rat) (total : Int) (j : Nat) (hj : j < values.length) :
    (shareFloors values total).getD j 0 = ⌊values.getD j 0 * ((total : Rat) / values.sum)⌋ := by
  simp only [shareFloors, List.getD_eq_getElem?_getD, List.getElem?_map, List.getElem?_eq_getElem hj]
  rfl

theorem abs_floor_add_sub_le (x : Rat) {c : Int} (hc : c = 0 ∨ c = 1) : |((⌊x⌋ + c : Int) : Rat) - x| ≤ 1 := by
  have h1 := Int.floor_le x
  have h2 := Int.lt_floor_add_one x
  rw [abs_le]
  rcases hc with rfl | rfl
  · push_cast; constructor <;> linarith
  · push_cast; constructor <;> linarith

theorem bumpAt_eq_modify (l : List Int) (i : Nat) : bumpAt l i = l.modify i (· + 1) := by
  induction l generalizing i with
  | nil => simp [bumpAt]
  | cons x xs ih =>
    cases i with
    | zero => rfl
    | succ i => rw [bumpAt, ih, List.modify_succ_cons]

theorem bumpAt_length (l : List Int) (i : Nat) : (bumpAt l i).length = l.length := by
  rw [bumpAt_eq_modify, List.length_modify]

theorem bumpAt_sum (l : List Int) (i : Nat) (hi : i < l.length) : (bumpAt l i).sum = l.sum + 1 := by
  induction l generalizing i with
  | nil => cases hi
  | cons x xs ih =>
    cases i with
    | zero => simp only [bumpAt, List.sum_cons]; omega
    | succ i => simp only [bumpAt, List.sum_cons, ih i (Nat.lt_of_succ_lt_succ hi)]; omega

theorem bumpAt_getD (l : List Int) (i j : Nat) (hj : j < l.length) :
    (bumpAt l i).getD j 0 = l.getD j 0 + if i = j then 1 else 0 := by
  rw [bumpAt_eq_modify, List.getD_eq_getElem?_getD, List.getElem?_modify, List.getD_eq_getElem?_getD,
    List.getElem?_eq_getElem hj]
  by_cases h : i = j <;> simp [h]

theorem foldl_bump_length (js : List Nat) (fl : List Int) : (js.foldl bumpAt fl).length = fl.length := by
  induction js generalizing fl with
  | nil => rfl
  | cons j js ih => rw [List.foldl_cons, ih, bumpAt_length]

theorem foldl_bump_sum (idx : List Nat) (l : List Int) (h : ∀ i ∈ idx, i < l.length) :
    (idx.foldl bumpAt l).sum = l.sum + idx.length := by
  induction idx generalizing l with
  | nil => simp
  | cons i is ih =>
    rw [List.foldl_cons, ih _ (fun j hj => by rw [bumpAt_length]; exact h j (List.mem_cons_of_mem _ hj)),
      bumpAt_sum l i (h i List.mem_cons_self), List.length_cons]
    push_cast; ring

theorem foldl_bump_getD (idx : List Nat) (l : List Int) (j : Nat) (hj : j < l.length) :
    (idx.foldl bumpAt l).getD j 0 = l.getD j 0 + idx.count j := by
  induction idx generalizing l with
  | nil => simp
  | cons i is ih =>
    rw [List.foldl_cons, ih _ (by rw [bumpAt_length]; exact hj), bumpAt_getD l i j hj, List.count_cons]
    by_cases h : i = j <;> simp [h, add_assoc, add_comm]

def extraTotal {α : Type} (extra : List (α × Nat)) : Nat := (extra.map (fun p => p.2)).sum

theorem flatMap_replicate_length {α : Type} (extra : List (α × Nat)) :
    (extra.flatMap (fun p => List.replicate p.2 p.1)).length = extraTotal extra := by
  simp only [List.length_flatMap, List.length_replicate, extraTotal]

theorem roundHalfEven_le_ceil (q : Rat) : roundHalfEven q ≤ ⌈q⌉ := by
  show (if q - (⌊q⌋ : Rat) < 1 / 2 then ⌊q⌋ else _) ≤ _
  split
  · exact Int.floor_le_ceil q
  · next c1 =>
    -- the fractional part is at least 1/2: `q` is not an integer, so its ceiling is the floor plus one
    have h : ⌊q⌋ + 1 ≤ ⌈q⌉ := Int.add_one_le_iff.mpr (Int.lt_ceil.mpr (sub_pos.mp (one_half_pos.trans_le (not_lt.mp c1))))
    split
    · exact h
    · split
      · exact (Int.le_add_one le_rfl).trans h
      · exact h

theorem roundHalfEven_pos (q : Rat) (h : 0 < roundHalfEven q) : 0 < q :=
  Int.ceil_pos.mp (lt_of_lt_of_le h (roundHalfEven_le_ceil q))

theorem roundedSamples_support {α : Type} (dist : List (α × Rat)) (n : Int) (hn : 0 < n) :
    ∀ x ∈ roundedSamples dist n, ∃ q ∈ dist, q.1 = x ∧ 0 < q.2 := by
  intro x hx
  obtain ⟨q, hq, hxq⟩ := List.mem_flatMap.mp hx
  obtain ⟨hk, rfl⟩ := List.mem_replicate.mp hxq
  have hpos : 0 < q.2 * n := roundHalfEven_pos _ (by omega)
  exact ⟨q, hq, rfl, (mul_pos_iff_of_pos_right (by exact_mod_cast hn)).mp hpos⟩

section erase
variable {α : Type} [BEq α] [LawfulBEq α]

/-- the fold is `for _ in range(k): l.remove(x)` -/
theorem erase_times (l : List α) (x : α) (k : Nat) (h : k ≤ l.count x) :
    (List.replicate k x ++ (List.range k).foldl (fun a _ => a.erase x) l).Perm l := by
  induction k generalizing l with
  | zero => exact List.Perm.refl l
  | succ k ih =>
    rw [List.range_succ_eq_map, List.foldl_cons, List.foldl_map]
    have hx : x ∈ l := List.count_pos_iff.mp (by omega)
    exact ((ih (l.erase x) (by rw [List.count_erase_self]; omega)).cons x).trans (List.perm_cons_erase hx).symm

/-- what the elimination loop maintains: after the draws of the first outcome are erased, the remaining outcomes (their keys
    are different) are still present as often as they were drawn -/
theorem present_erase (p : α × Nat) (ps : List (α × Nat)) (base : List α)
    (hk : ((p :: ps).map (fun p => p.1)).Nodup) (hc : ∀ q ∈ p :: ps, q.2 ≤ base.count q.1) :
    ∀ q ∈ ps, q.2 ≤ ((List.range p.2).foldl (fun a _ => a.erase p.1) base).count q.1 := by
  intro q hq
  have hne : p.1 ≠ q.1 := fun he => (List.nodup_cons.mp hk).1 (List.mem_map.mpr ⟨q, hq, he.symm⟩)
  have := (erase_times base p.1 p.2 (hc p List.mem_cons_self)).count_eq q.1
  rw [List.count_append, List.count_replicate, if_neg (by simpa using hne), Nat.zero_add] at this
  rw [this]
  exact hc q (List.mem_cons_of_mem _ hq)

theorem eliminate_perm (extra : List (α × Nat)) (base : List α)
    (hk : (extra.map (fun p => p.1)).Nodup) (hc : ∀ p ∈ extra, p.2 ≤ base.count p.1) :
    (extra.flatMap (fun p => List.replicate p.2 p.1) ++
      extra.foldl (fun acc p => (List.range p.2).foldl (fun a _ => a.erase p.1) acc) base).Perm base := by
  induction extra generalizing base with
  | nil => exact List.Perm.refl base
  | cons p ps ih =>
    rw [List.flatMap_cons, List.append_assoc, List.foldl_cons]
    exact ((ih _ (List.nodup_cons.mp hk).2 (present_erase p ps base hk hc)).append_left _).trans
      (erase_times base p.1 p.2 (hc p List.mem_cons_self))

theorem length_representing (dist : List (α × Rat)) (n : Int) (extra : List (α × Nat))
    (hdraw : (extraTotal extra : Int) = |n - (roundedSamples dist n).length|)
    (hk : (extra.map (fun p => p.1)).Nodup)
    (hpresent : (n < (roundedSamples dist n).length) → ∀ p ∈ extra, p.2 ≤ (roundedSamples dist n).count p.1) :
    ((representing dist n extra).length : Int) = n := by
  unfold representing
  simp only
  split_ifs with h1 h2
  · exact h1
  · rw [abs_of_pos (by omega)] at hdraw
    rw [List.length_append, flatMap_replicate_length]; omega
  · have hlt : n < (roundedSamples dist n).length := by omega
    have := (eliminate_perm extra _ hk (hpresent hlt)).length_eq
    rw [List.length_append, flatMap_replicate_length] at this
    rw [abs_of_neg (by omega)] at hdraw; omega

theorem support_representing (dist : List (α × Rat)) (n : Int) (hn : 0 < n) (extra : List (α × Nat))
    (hk : (extra.map (fun p => p.1)).Nodup)
    (hpresent : (n < (roundedSamples dist n).length) → ∀ p ∈ extra, p.2 ≤ (roundedSamples dist n).count p.1)
    (hsupp : ∀ p ∈ extra, 0 < p.2 → ∃ q ∈ dist, q.1 = p.1 ∧ 0 < q.2) :
    ∀ x ∈ representing dist n extra, ∃ q ∈ dist, q.1 = x ∧ 0 < q.2 := by
  have hbase := roundedSamples_support dist n hn
  unfold representing
  simp only
  intro x hx
  split_ifs at hx with c1 c2
  · exact hbase x hx
  · rcases List.mem_append.mp hx with hx | hx
    · exact hbase x hx
    · obtain ⟨p, hp, hxp⟩ := List.mem_flatMap.mp hx
      obtain ⟨hp2, rfl⟩ := List.mem_replicate.mp hxp
      exact hsupp p hp (by omega)
  · exact hbase x ((eliminate_perm extra _ hk (hpresent (by omega))).subset (List.mem_append_right _ hx))

end erase

end OQ.C13
