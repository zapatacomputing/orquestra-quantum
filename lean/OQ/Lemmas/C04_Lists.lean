/- For the translation tie of `utils.get_ordered_list_of_bitstrings`: its zero-padding `while` loop run with fuel, the
   list-building fold, `"{0:b}".format(i)`. -/
import OQ.Generated.TranslatedC04
import OQ.Lemmas.Translated
import OQ.Lemmas.C04
namespace OQ.C04
open OQ.Generated OQ.Py OQ.Tr

/-- one round of the translated `while len(bitstring) < num_qubits: bitstring = "0" + bitstring` -/
def padStep (n : Int) (s : List Char) : Option (Bool × List Char) :=
  if (decide (((s.length : Nat) : Int) < n)) then some (true, (['0'] : List Char) ++ s) else some (false, s)

theorem padStep_eq (n : Nat) (s : List Char) :
    padStep n s = if s.length < n then some (true, '0' :: s) else some (false, s) := by
  simp only [padStep, Int.ofNat_lt, decide_eq_true_eq, List.singleton_append]

/-- the loop stops after `n - len(s)` rounds, so any larger fuel suffices -/
theorem whileFuel_pad (n : Nat) (fuel : Nat) : ∀ (s : List Char), n - s.length < fuel →
    whileFuel (padStep n) fuel s = some (List.replicate (n - s.length) '0' ++ s) := by
  induction fuel with
  | zero => intro s h; omega
  | succ f ih =>
    intro s h
    rw [whileFuel, padStep_eq]
    by_cases hlt : s.length < n
    · rw [if_pos hlt, Option.bind_some, if_pos rfl, ih _ (by rw [List.length_cons]; omega), List.length_cons,
        (by omega : n - s.length = n - (s.length + 1) + 1), List.replicate_succ', List.append_assoc]
      rfl
    · rw [if_neg hlt, Option.bind_some, if_neg Bool.false_ne_true, Nat.sub_eq_zero_of_le (Nat.le_of_not_gt hlt)]
      rfl

theorem foldlOpt_append {σ α : Type} (g : α → Option σ) (g' : α → σ) (l : List α) : ∀ (init : List σ),
    (∀ x ∈ l, g x = some (g' x)) →
    foldlOpt (fun (st : List σ) (x : α) => (g x).bind (fun y => some (st ++ [y]))) init l = some (init ++ l.map g') := by
  induction l with
  | nil => intro init _; simp [foldlOpt]
  | cons x xs ih =>
    intro init h
    simp only [foldlOpt, h x (by simp), Option.bind_some]
    rw [ih _ (fun y hy => h y (by simp [hy]))]
    simp

theorem formatB_ofNat (i : Nat) : formatB (Int.ofNat i) = (OQ.C04.binDigits i).map digitChar := by
  rw [formatB, if_neg (show ¬ Int.ofNat i < 0 from Int.not_lt.mpr (Int.zero_le_ofNat i)), binDigits_eq]
  rfl

end OQ.C04
