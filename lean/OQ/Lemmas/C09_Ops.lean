/- Hermitian conjugate and qubit reversal on the denoted matrix. -/
import OQ.Lemmas.C09_Algebra
import Mathlib.Algebra.Star.Basic
set_option linter.unusedSectionVars false
namespace OQ.C09
open OQ OQ.Pauli

variable {R : Type} [CommRing R]

section star
variable [StarRing R]

theorem pe_star (k : Scal R) (hsi : star k.i = -k.i) (o : Option P) (a b : Nat) (ha : a < 2) (hb : b < 2) :
    pe k o b a = star (pe k o a b) := by
  rcases o with _ | _ | _ | _ <;> interval_cases a <;> interval_cases b <;>
    simp only [pe, reduceIte, Nat.reduceEqDiff, star_zero, star_one, star_neg, hsi, neg_neg]

theorem strEntry_star (k : Scal R) (hsi : star k.i = -k.i) (at_ : Nat → Option P) (n i j : Nat) :
    strEntry k at_ n j i = star (strEntry k at_ n i j) := by
  induction n generalizing i j with
  | zero => exact (star_one R).symm
  | succ n ih =>
    rw [strEntry, strEntry, star_mul', ih, pe_star k hsi _ _ _ (mod_two_lt _) (mod_two_lt _)]

theorem map_hc_dEntry (k : Scal R) (hcj : k.cj = star) (hsi : star k.i = -k.i) (n : Nat) (s : PSum R) (i j : Nat) :
    dEntry k n (s.map (hermitianConjugatedTerm k)) i j = star (dEntry k n s j i) := by
  induction s with
  | nil => exact (star_zero R).symm
  | cons t s ih =>
    rw [List.map_cons, dEntry_cons, dEntry_cons, ih, star_add, star_mul', ← strEntry_star k hsi, hermitianConjugatedTerm, hcj]
    rfl

theorem hc_wf (k : Scal R) (tol : Tol R) (s : PSum R) (hs : SumWF s) : SumWF (hermitianConjugated k tol s) :=
  foldl_addTerm_forall_ops (fun o => (o.map Prod.fst).Nodup) tol _ s [] (fun _ h => nomatch h) hs

theorem hc_spec (k : Scal R) (hcj : k.cj = star) (hsi : star k.i = -k.i) (tol : Tol R)
    (hnegl : ∀ x, tol.negl x = true → x = 0) (n : Nat) (s : PSum R) (hs : SumWF s) (i j : Nat) :
    dEntry k n (hermitianConjugated k tol s) i j = star (dEntry k n s j i) :=
  ((sumOf_spec k n tol hnegl (fun _ => True) (hermitianConjugatedTerm k) s fun t ht => ⟨hs t ht, trivial⟩).2 i j).trans
    (map_hc_dEntry k hcj hsi n s i j)

end star

def bitrev : Nat → Nat → Nat
  | 0, _ => 0
  | n + 1, i => (i % 2) * 2 ^ n + bitrev n (i / 2)

theorem bitrev_lt (n i : Nat) : bitrev n i < 2 ^ n := by
  induction n generalizing i with
  | zero => exact Nat.one_pos
  | succ n ih =>
    have := ih (i / 2)
    rw [bitrev, pow_succ]
    rcases Nat.mod_two_eq_zero_or_one i with h | h <;> rw [h] <;> omega

theorem strEntry_msb (k : Scal R) (at_ : Nat → Option P) (n i j : Nat) :
    strEntry k at_ (n + 1) i j =
      pe k (at_ 0) (i / 2 ^ n % 2) (j / 2 ^ n % 2) * strEntry k (fun q => at_ (1 + q)) n (i % 2 ^ n) (j % 2 ^ n) := by
  rw [Nat.add_comm n 1, strEntry_add, strEntry, strEntry, one_mul]

theorem mul_pow_add_div (n x y : Nat) (hx : x < 2) (hy : y < 2 ^ n) : (x * 2 ^ n + y) / 2 ^ n % 2 = x := by
  rw [Nat.mul_comm, Nat.mul_add_div (Nat.pos_of_ne_zero (by positivity)), Nat.div_eq_of_lt hy, Nat.add_zero,
    Nat.mod_eq_of_lt hx]

theorem mul_pow_add_mod (n x y : Nat) (hy : y < 2 ^ n) : (x * 2 ^ n + y) % 2 ^ n = y := by
  rw [Nat.mul_comm, Nat.mul_add_mod, Nat.mod_eq_of_lt hy]

theorem strEntry_reverse (k : Scal R) (n : Nat) (a b : Nat → Option P) (hab : ∀ q, q < n → a q = b (n - 1 - q))
    (i j : Nat) (hi : i < 2 ^ n) (hj : j < 2 ^ n) :
    strEntry k a n i j = strEntry k b n (bitrev n i) (bitrev n j) := by
  induction n generalizing a b i j with
  | zero => rfl
  | succ n ih =>
    have hi2 : i % 2 < 2 := mod_two_lt _
    have hj2 : j % 2 < 2 := mod_two_lt _
    rw [strEntry_msb k b n, strEntry, bitrev, bitrev, mul_pow_add_div n _ _ hi2 (bitrev_lt _ _),
      mul_pow_add_div n _ _ hj2 (bitrev_lt _ _), mul_pow_add_mod n _ _ (bitrev_lt _ _), mul_pow_add_mod n _ _ (bitrev_lt _ _),
      ih (a := a) (b := fun q => b (1 + q)) (fun q hq => by rw [hab q (by omega)]; congr 1; omega) (i / 2) (j / 2)
        (div_two_lt_pow hi) (div_two_lt_pow hj),
      hab n (by omega), Nat.add_sub_cancel, Nat.sub_self, mul_comm]

theorem bitrev_msb (n i : Nat) (hi : i < 2 ^ (n + 1)) :
    bitrev (n + 1) i = 2 * bitrev n (i % 2 ^ n) + i / 2 ^ n := by
  induction n generalizing i with
  | zero =>
    simp only [bitrev, pow_zero, Nat.div_one]
    omega
  | succ n ih =>
    rw [bitrev, ih (i / 2) (div_two_lt_pow hi), bitrev, div_two_div_pow, div_two_mod_pow, mod_pow_succ_mod_two, pow_succ]
    ring

theorem bitrev_invol (n i : Nat) (hi : i < 2 ^ n) : bitrev n (bitrev n i) = i := by
  induction n generalizing i with
  | zero => rw [bitrev]; omega
  | succ n ih =>
    have hpos : 0 < 2 ^ n := Nat.pos_of_ne_zero (by positivity)
    have hq : i / 2 ^ n < 2 := by
      rw [Nat.div_lt_iff_lt_mul hpos, Nat.mul_comm, ← pow_succ]; exact hi
    rw [bitrev_msb n i hi, bitrev, two_mul_add_mod _ _ hq, two_mul_add_div _ _ hq, ih _ (Nat.mod_lt _ hpos)]
    exact Nat.div_add_mod' i (2 ^ n)

theorem reverseTerm_wf (n : Nat) (t : Term R) (h : TermWF t) (hn : ∀ x ∈ t.ops, x.1 < n) :
    TermWF (reverseTerm n t) := by
  unfold TermWF reverseTerm at *
  rw [List.map_map, show (Prod.fst ∘ fun qp : Nat × P => (n - 1 - qp.1, qp.2)) = (fun q => n - 1 - q) ∘ Prod.fst from rfl,
    ← List.map_map]
  refine List.Nodup.map_on (fun a ha b hb hab => ?_) h
  obtain ⟨x, hx, rfl⟩ := List.mem_map.1 ha
  obtain ⟨y, hy, rfl⟩ := List.mem_map.1 hb
  have := hn x hx; have := hn y hy
  omega

theorem reverseTerm_ops_lt (n : Nat) (t : Term R) (hn : ∀ x ∈ t.ops, x.1 < n) :
    ∀ y ∈ (reverseTerm n t).ops, y.1 < n := by
  intro y hy
  obtain ⟨x, hx, rfl⟩ := List.mem_map.1 hy
  have := hn x hx
  show n - 1 - x.1 < n; omega

theorem reverseTerm_opAt (n : Nat) (t : Term R) (h : TermWF t) (hn : ∀ x ∈ t.ops, x.1 < n) (q : Nat) (hq : q < n) :
    (reverseTerm n t).opAt q = t.opAt (n - 1 - q) := by
  refine Option.ext fun p => ?_
  rw [opAt_eq_some_iff _ (reverseTerm_wf n t h hn), opAt_eq_some_iff t h]
  constructor
  · intro hm
    obtain ⟨x, hx, he⟩ := List.mem_map.1 hm
    obtain ⟨h1, h2⟩ := Prod.mk.inj he
    have := hn x hx
    rwa [show (n - 1 - q, p) = x from Prod.ext (by show n - 1 - q = x.1; omega) h2.symm]
  · exact fun hm => List.mem_map.2 ⟨_, hm, Prod.ext (by show n - 1 - (n - 1 - q) = q; omega) rfl⟩

theorem map_reverse_dEntry (k : Scal R) (n : Nat) (s : PSum R) (hs : SumWF s)
    (hn : ∀ t ∈ s, ∀ x ∈ t.ops, x.1 < n) (i j : Nat) (hi : i < 2 ^ n) (hj : j < 2 ^ n) :
    dEntry k n (s.map (reverseTerm n)) i j = dEntry k n s (bitrev n i) (bitrev n j) := by
  induction s with
  | nil => rfl
  | cons t s ih =>
    obtain ⟨ht, hs'⟩ := List.forall_mem_cons.1 hs
    obtain ⟨hnt, hn'⟩ := List.forall_mem_cons.1 hn
    rw [List.map_cons, dEntry_cons, dEntry_cons, ih hs' hn',
      strEntry_reverse k n (reverseTerm n t).opAt t.opAt (reverseTerm_opAt n t ht hnt) i j hi hj]
    rfl

theorem reverseQubitOrder_of_le (tol : Tol R) (s : PSum R) (n : Nat) (hn : PSum.nQubits s ≤ n) :
    reverseQubitOrder tol s n = some (s.foldl (fun acc t => addTerm tol acc (reverseTerm n t)) []) :=
  if_neg (Nat.not_lt.2 hn)

theorem reverse_spec (k : Scal R) (tol : Tol R) (hnegl : ∀ x, tol.negl x = true → x = 0) (n : Nat)
    (s : PSum R) (hs : SumWF s) (hn : PSum.nQubits s ≤ n) :
    ∃ s', reverseQubitOrder tol s n = some s' ∧ SumWF s' ∧ PSum.nQubits s' ≤ n ∧
      ∀ i j, i < 2 ^ n → j < 2 ^ n → dEntry k n s' i j = dEntry k n s (bitrev n i) (bitrev n j) := by
  have hops := (sum_nQubits_le s n).1 hn
  obtain ⟨h1, h2⟩ := sumOf_spec k n tol hnegl (fun o => ∀ x ∈ o, x.1 < n) (reverseTerm n) s fun t ht =>
    ⟨reverseTerm_wf n t (hs t ht) (hops t ht), reverseTerm_ops_lt n t (hops t ht)⟩
  exact ⟨_, reverseQubitOrder_of_le tol s n hn, fun t ht => (h1 t ht).1, (sum_nQubits_le _ n).2 fun t ht => (h1 t ht).2,
    fun i j hi hj => (h2 i j).trans (map_reverse_dEntry k n s hs hops i j hi hj)⟩

theorem strEntry_prod (k : Scal R) (at_ : Nat → Option P) (n i j : Nat) :
    strEntry k at_ n i j
      = ((List.range n).map (fun q => pe k (at_ q) (i / 2 ^ (n - 1 - q) % 2) (j / 2 ^ (n - 1 - q) % 2))).prod := by
  induction n generalizing i j with
  | zero => rfl
  | succ n ih =>
    rw [strEntry, ih, List.range_succ, List.map_append, List.prod_append, List.map_singleton, List.prod_singleton,
      Nat.add_sub_cancel, Nat.sub_self, pow_zero, Nat.div_one, Nat.div_one]
    refine congrArg (· * _) (congrArg List.prod (List.map_congr_left fun q hq => ?_))
    have hq' := List.mem_range.1 hq
    rw [div_two_div_pow, div_two_div_pow, show n - 1 - q + 1 = n - q by omega]

end OQ.C09
