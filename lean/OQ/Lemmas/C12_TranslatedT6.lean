/- For the tie of `dicke_state` up to its first numpy statement (`OQ/Props/C12_TranslatedDicke.lean`): `int("1" * k, base=2)` in the
   prelude's terms, and the translated function as guards, weight-0 case and loop. -/
import OQ.Lemmas.Translated
import OQ.Generated.TranslatedC12Dicke
namespace OQ.C12
open OQ.Generated OQ.Py

theorem intBase2_ones (k : Nat) : intBase2 ((List.replicate k (['1'] : List Char)).flatten) = ((2 ^ k - 1 : Nat) : Int) := by
  rw [List.flatten_replicate_singleton]
  induction k with
  | zero => rfl
  | succ k ih =>
    have e : intBase2 (List.replicate (k + 1) '1') = 2 * intBase2 (List.replicate k '1') + 1 := by
      rw [List.replicate_succ', intBase2, List.foldl_append]; rfl
    have := Nat.two_pow_pos k
    rw [e, ih, pow_succ]; omega

/-- the guard `n ≤ 0` is `zero_state`'s; the loop starts at `int("1" * k, 2) = 2^k − 1` and hands over `(counter, indices)` -/
theorem dicke_state_pre_eq (fuel : Nat) (n k : Int) :
    Translated.dicke_state_pre fuel n k =
      if n ≤ 0 ∨ k < 0 ∨ n < k then .error .ValueError
      else if k = 0 then .ok (.inl n)
      else ((Translated.dicke_state_pre_loop1 n fuel
        (((2 ^ k.toNat - 1 : Nat) : Int), [((2 ^ k.toNat - 1 : Nat) : Int)], 1)).map fun st => (st.2.2, st.2.1)).map .inr := by
  rw [ite_or, ite_or, Translated.dicke_state_pre, Translated.zero_state_pre]
  simp only [Bool.not_true, Bool.false_eq_true, if_false, Bool.or_false, decide_eq_true_eq, beq_iff_eq, intBase2_ones]
  by_cases h1 : n ≤ 0
  · rw [if_pos h1, if_pos h1]
  · rw [if_neg h1, if_neg h1]
    -- the same three tests on both sides; what the loop hands over is repackaged
    refine if_congr Iff.rfl rfl (if_congr Iff.rfl rfl (if_congr Iff.rfl rfl ?_))
    cases Translated.dicke_state_pre_loop1 n fuel _ <;> rfl

end OQ.C12
