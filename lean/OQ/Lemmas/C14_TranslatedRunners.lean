/- helper definitions and lemmas for the translation tie of the runner CLASSES (work package T5; the theorems are in
   OQ/Props/C14_TranslatedRunners.lean).  `OQ.Generated.Runners.*` is REGENERATED from /repo's current Python source on every
   run (harness/translate_state.py → OQ/Generated/TranslatedRunners.lean). -/
import OQ.Generated.TranslatedRunners
import OQ.Lemmas.C14
set_option linter.unusedSectionVars false
set_option linter.unusedSimpArgs false
namespace OQ.C14
open OQ.Generated.Runners OQ.PyS

/-! ## model values ↦ values of the translated definitions -/

def excOf : Err → Exc
  | .value => .ValueError
  | .type => .TypeError

def toResult {α : Type} : Outcome α → Result α
  | .ok a => .ok a
  | .err e => .raised (excOf e)

def nArg : NSpec → Int ⊕ List Int
  | .one n => .inl n
  | .many ns => .inr ns

def nSpec : Int ⊕ List Int → NSpec
  | .inl n => .one n
  | .inr ns => .many ns

theorem nSpec_nArg (ns : NSpec) : nSpec (nArg ns) = ns := by cases ns <;> rfl

/-- the externals of a direct `BaseCircuitRunner` subclass as the model has them: `world` is the ghost count of external
    invocations, the abstract `_run_and_measure` answers `ext.exec` (value or exception) and never touches the counters,
    `Measurements.get_distribution()` is the empirical distribution -/
def baseExt (ext : Ext) : Base.Ext Nat Circ (List Shot) DistVal where
  self__run_and_measure := fun s c n => ({ s with world := s.world + 1 }, toResult (ext.exec s.world c n))
  M_get_distribution := fun s m => (s, .ok (.empirical (empirical m)))

/-- model state of a `.base` leaf ↦ state of the translated class -/
def concBase (l : Leaf) : Base.State Nat := ⟨l.k.nCircuits, l.k.nJobs, l.calls⟩

/-- abstraction in the other direction (left inverse of `concBase` on `.base` leaves) -/
def absBase (s : Base.State Nat) : Leaf := ⟨.base, ⟨s._n_circuits_executed.toNat, s._n_jobs_executed.toNat⟩, s.world⟩

/-! ## one call, dispatched to the translated methods (the translated counterpart of the model's `step`) -/

inductive RCall (C : Type) where
  | run (c : C) (n : Int)
  | batch (cs : List C) (ns : Int ⊕ List Int)
  | dist (c : C) (n : Option Int)

inductive RRes (M D : Type) where
  | meas (m : M)
  | batch (ms : List M)
  | distr (d : D)
  | raised (e : Exc)
deriving DecidableEq

def RRes.ofResult {M D α : Type} (f : α → RRes M D) : Result α → RRes M D
  | .ok a => f a
  | .raised e => .raised e

theorem RRes.ofResult_ne_raised {M D α : Type} {f : α → RRes M D} {r : Result α}
    (h : ∀ e, RRes.ofResult f r ≠ .raised e) (e : Exc) : r ≠ .raised e :=
  fun he => h e (he ▸ rfl)

def Base.call {ω C M D : Type} (x : Base.Ext ω C M D) (s : Base.State ω) : RCall C → Base.State ω × RRes M D
  | .run c n => ((Base.run_and_measure x s c n).1, .ofResult .meas (Base.run_and_measure x s c n).2)
  | .batch cs ns => ((Base.run_batch_and_measure x s cs ns).1, .ofResult .batch (Base.run_batch_and_measure x s cs ns).2)
  | .dist c n => ((Base.get_measurement_outcome_distribution x s c n).1,
      .ofResult .distr (Base.get_measurement_outcome_distribution x s c n).2)

def RCall.badArgs {C : Type} : RCall C → Prop
  | .run _ n => n ≤ 0
  | .batch _ (.inl n) => n ≤ 0
  | .batch cs (.inr ns) => ns.length ≠ cs.length ∨ ∃ n ∈ ns, n ≤ 0
  | .dist _ (some n) => n ≤ 0
  | .dist _ none => False

def RCall.size {C : Type} : RCall C → Nat
  | .run _ _ => 1
  | .batch cs _ => cs.length
  | .dist _ _ => 1

/-- the frame law the docstring of `_run_and_measure` demands -/
def Base.Frame {ω C M D : Type} (x : Base.Ext ω C M D) : Prop :=
  (∀ s c n, (x.self__run_and_measure s c n).1._n_circuits_executed = s._n_circuits_executed ∧
            (x.self__run_and_measure s c n).1._n_jobs_executed = s._n_jobs_executed) ∧
  (∀ s m, (x.M_get_distribution s m).1._n_circuits_executed = s._n_circuits_executed ∧
          (x.M_get_distribution s m).1._n_jobs_executed = s._n_jobs_executed)

def rcall : Call → RCall Circ
  | .run c n => .run c n
  | .batch cs ns => .batch cs (nArg ns)
  | .dist c n => .dist c n

def rres : Res → RRes (List Shot) DistVal
  | .meas m => .meas m
  | .batch ms => .batch ms
  | .distr d => .distr d
  | .error e => .raised (excOf e)

def concRunnerBase : Runner → Base.State Nat
  | .leaf l => concBase l
  | .tracker _ _ _ _ _ => ⟨0, 0, 0⟩

theorem rres_ne_raised (res : Res) (h : ∀ e, rres res ≠ .raised e) : ∀ e, res ≠ .error e := by
  intro e he; subst he; exact h _ rfl

theorem call_tie {σ α : Type} {p : σ × Result α} {s' : σ} {o : Outcome α} (h : p = (s', toResult o))
    {f : α → RRes (List Shot) DistVal} {g : α → Res} (hfg : ∀ a, f a = rres (g a)) :
    (p.1, RRes.ofResult f p.2) = (s', rres (Res.of g o)) := by
  subst h
  cases o with
  | ok a => exact congrArg (Prod.mk s') (hfg a)
  | err e => rfl

theorem rcall_badArgs (call : Call) : (rcall call).badArgs ↔ call.badArgs := by
  cases call with
  | run c n => rfl
  | batch cs ns => cases ns <;> rfl
  | dist c n => cases n <;> rfl

/-- the body of `run_batch_and_measure` as printed from the source, with the call of `_run_batch_and_measure` a parameter
    (`k` = `len(circuits_batch)`) -/
def batchShell {σ R : Type} (inner : List Int → σ × Result R) (s : σ) (k : Nat) (n_samples : Int ⊕ List Int) : σ × Result R :=
  let samples_per_circuit : List Int := (match n_samples with | .inl n_samples => ((List.replicate (Int.toNat ((k : Nat) : Int)) [n_samples]).flatten) | .inr n_samples => n_samples)
  if (((samples_per_circuit.length : Nat) : Int) != ((k : Nat) : Int)) then
  ((s, .raised .ValueError))
  else
  (if ((match n_samples with | .inl n_samples => (decide (n_samples ≤ (0 : Int))) | .inr _ => false) || (samples_per_circuit.any (fun (n : Int) => (decide (n ≤ (0 : Int)))))) then
  ((s, .raised .ValueError))
  else
  (inner samples_per_circuit))

theorem replicate_flatten_singleton {α : Type} (k : Nat) (a : α) : (List.replicate k [a]).flatten = List.replicate k a :=
  List.flatten_replicate_singleton

/-- `samples_per_circuit` for a batch of `k` circuits -/
def spcOf (k : Nat) : Int ⊕ List Int → List Int
  | .inl n => List.replicate k n
  | .inr ns => ns

theorem spcOf_nArg (cs : List Circ) (ns : NSpec) : spcOf cs.length (nArg ns) = samplesPerCircuit cs ns := by
  cases ns <;> rfl

theorem spcOf_length {C : Type} (cs : List C) (ns : Int ⊕ List Int) (h : ¬ (RCall.batch cs ns).badArgs) :
    (spcOf cs.length ns).length = cs.length := by
  cases ns with
  | inl n => exact List.length_replicate
  | inr l => exact not_not.1 (not_or.1 h).1

theorem batchShell_bad {σ R C : Type} (inner : List Int → σ × Result R) (s : σ) (cs : List C) (ns : Int ⊕ List Int)
    (h : (RCall.batch cs ns).badArgs) : batchShell inner s cs.length ns = (s, .raised .ValueError) := by
  cases ns with
  | inl n => simp [batchShell, show n ≤ 0 from h]
  | inr l =>
    by_cases hl : l.length = cs.length
    · have : l.any (fun n => decide (n ≤ 0)) = true := by
        rcases h with h | ⟨a, ha, ha0⟩
        · exact absurd hl h
        · exact List.any_eq_true.mpr ⟨a, ha, by simpa using ha0⟩
      simp [batchShell, hl, this]
    · simp [batchShell, hl]

theorem batchShell_good {σ R C : Type} (inner : List Int → σ × Result R) (s : σ) (cs : List C) (ns : Int ⊕ List Int)
    (h : ¬ (RCall.batch cs ns).badArgs) : batchShell inner s cs.length ns = inner (spcOf cs.length ns) := by
  cases ns with
  | inl n => simp [batchShell, spcOf, show ¬ n ≤ 0 from h]
  | inr l =>
    obtain ⟨h1, h2⟩ := not_or.1 h
    have : l.any (fun n => decide (n ≤ 0)) = false := by
      rw [List.any_eq_false]; intro a ha; simpa using fun h0 => h2 ⟨a, ha, h0⟩
    simp [batchShell, spcOf, not_not.1 h1, this]

section
/- single runs `f` that simulate `Leaf.run` on leaves of kind `K`; `R` relates translated and model state -/
variable {σ : Type} (R : σ → Leaf → Prop) (K : Kind) (ext : Ext) (f : σ → Circ × Int → σ × Result (List Shot))
  (hstep : ∀ s l p, l.kind = K → R s l →
    ∃ s', R s' (l.run ext p.1 p.2).1 ∧ f s p = (s', toResult (l.run ext p.1 p.2).2))
include hstep

theorem collectEach_runEach (ps : List (Circ × Int)) (s : σ) (l : Leaf) (hk : l.kind = K) (h : R s l) :
    ∃ s', R s' (runEach (Leaf.run ext) l ps).1 ∧
      collectEach f s ps = (s', toResult (runEach (Leaf.run ext) l ps).2) := by
  induction ps generalizing s l with
  | nil => exact ⟨s, h, rfl⟩
  | cons p ps ih =>
    obtain ⟨s1, h1, e1⟩ := hstep s l p hk h
    have hk1 := (Leaf.run_spec ext l p.1 p.2).1.trans hk
    rw [collectEach, e1, runEach]
    generalize l.run ext p.1 p.2 = q at h1 hk1 ⊢
    obtain ⟨l1, o1⟩ := q
    cases o1 with
    | err e => exact ⟨s1, h1, rfl⟩
    | ok m =>
      obtain ⟨s2, h2, e2⟩ := ih s1 l1 hk1 h1
      simp only [toResult, e2]
      generalize runEach (Leaf.run ext) l1 ps = q at h2 ⊢
      obtain ⟨l2, o2⟩ := q
      cases o2 <;> exact ⟨s2, h2, rfl⟩

theorem batchShell_collectEach (cs : List Circ) (ns : NSpec) (s : σ) (l : Leaf) (hk : l.kind = K) (h : R s l) :
    ∃ s', R s' (l.batch ext cs ns).1 ∧
      batchShell (fun spc => collectEach f s (cs.zip spc)) s cs.length (nArg ns) = (s', toResult (l.batch ext cs ns).2) := by
  by_cases hb : (Call.batch cs ns).badArgs
  · rw [batchShell_bad _ _ _ _ ((rcall_badArgs (.batch cs ns)).2 hb),
      Leaf.batch_invalid ext l cs ns fun hv => (validBatch_iff cs ns).1 hv hb]
    exact ⟨s, h, rfl⟩
  · rw [batchShell_good _ _ _ _ (mt (rcall_badArgs (.batch cs ns)).1 hb), spcOf_nArg,
      Leaf.batch_valid ext l cs ns ((validBatch_iff cs ns).2 hb)]
    exact collectEach_runEach R K ext f hstep _ s l hk h
end

/-- from `s`, at most `k` circuits were run and `s'` is the state reached: both counters grew by the number `j ≤ k` of
    circuits that ran – all `k` of them if `ok` (nothing was raised) -/
def Base.Ran {ω : Type} (s : Base.State ω) (k : Nat) (s' : Base.State ω) (ok : Prop) : Prop :=
  ∃ j : Nat, j ≤ k ∧ s'._n_circuits_executed = s._n_circuits_executed + j ∧
    s'._n_jobs_executed = s._n_jobs_executed + j ∧ (ok → j = k)

theorem Base.Ran.failed {ω : Type} {s s' : Base.State ω} {ok : Prop} (k : Nat)
    (h : s'._n_circuits_executed = s._n_circuits_executed ∧ s'._n_jobs_executed = s._n_jobs_executed) (hok : ¬ ok) :
    Base.Ran s k s' ok :=
  ⟨0, Nat.zero_le _, by simp [h.1], by simp [h.2], fun h => absurd h hok⟩

theorem Base.Ran.zero {ω : Type} {s s' : Base.State ω} {ok : Prop}
    (h : s'._n_circuits_executed = s._n_circuits_executed ∧ s'._n_jobs_executed = s._n_jobs_executed) : Base.Ran s 0 s' ok :=
  ⟨0, Nat.le_refl _, by simp [h.1], by simp [h.2], fun _ => rfl⟩

theorem Base.Ran.imp {ω : Type} {s s' : Base.State ω} {k : Nat} {ok ok' : Prop} (h : Base.Ran s k s' ok) (hi : ok' → ok) :
    Base.Ran s k s' ok' := by
  obtain ⟨j, hj, hc, hJ, hk⟩ := h
  exact ⟨j, hj, hc, hJ, fun h' => hk (hi h')⟩

theorem Base.Ran.trans {ω : Type} {s s1 s2 : Base.State ω} {k1 k2 : Nat} {ok : Prop}
    (h1 : Base.Ran s k1 s1 True) (h2 : Base.Ran s1 k2 s2 ok) : Base.Ran s (k1 + k2) s2 ok := by
  obtain ⟨j1, _, hc1, hJ1, hk1⟩ := h1
  obtain ⟨j2, hj2, hc2, hJ2, hk2⟩ := h2
  obtain rfl := hk1 trivial
  exact ⟨j1 + j2, by omega, by rw [hc2, hc1]; omega, by rw [hJ2, hJ1]; omega, fun h => by rw [hk2 h]⟩

theorem Base.Ran.collectEach {ω α β : Type} (f : Base.State ω → α → Base.State ω × Result β)
    (hf : ∀ s a, Base.Ran s 1 (f s a).1 (∀ e, (f s a).2 ≠ .raised e)) (ps : List α) (s : Base.State ω) :
    Base.Ran s ps.length (collectEach f s ps).1 (∀ e, (collectEach f s ps).2 ≠ .raised e) := by
  induction ps generalizing s with
  | nil => exact .zero ⟨rfl, rfl⟩
  | cons p ps ih =>
    have h1 := hf s p
    simp only [PyS.collectEach]
    generalize f s p = q at h1 ⊢
    obtain ⟨s1, r1⟩ := q
    cases r1 with
    | raised e =>
      obtain ⟨j, hj, hc, hJ, _⟩ := h1
      exact ⟨j, Nat.le_trans hj (Nat.le_add_left 1 _), hc, hJ, fun h => absurd rfl (h e)⟩
    | ok b =>
      have h2 := ih s1
      rw [List.length_cons, Nat.add_comm]
      dsimp only
      generalize PyS.collectEach f s1 ps = q at h2 ⊢
      obtain ⟨s2, r2⟩ := q
      cases r2 with
      | raised e => exact (h1.imp fun _ => nofun).trans h2
      | ok bs => exact (h1.imp fun _ => nofun).trans (h2.imp fun _ => nofun)

/-- what the tracker stores under "circuit" and "counts" -/
inductive Payload
  | circ (c : Circ)
  | counts (cs : List (Shot × Nat))
deriving DecidableEq

def kDataType : List Char := ['d', 'a', 't', 'a', '_', 't', 'y', 'p', 'e']
def kDevice : List Char := ['d', 'e', 'v', 'i', 'c', 'e']
def kCircuit : List Char := ['c', 'i', 'r', 'c', 'u', 'i', 't']
def kCounts : List Char := ['c', 'o', 'u', 'n', 't', 's']
def kGates : List Char := ['n', 'u', 'm', 'b', 'e', 'r', '_', 'o', 'f', '_', 'g', 'a', 't', 'e', 's']
def kShots : List Char := ['n', 'u', 'm', 'b', 'e', 'r', '_', 'o', 'f', '_', 's', 'h', 'o', 't', 's']
def kBitstrings : List Char := ['b', 'i', 't', 's', 't', 'r', 'i', 'n', 'g', 's']
def kDistribution : List Char := ['d', 'i', 's', 't', 'r', 'i', 'b', 'u', 't', 'i', 'o', 'n']
def vMeasurement : List Char := ['m', 'e', 'a', 's', 'u', 'r', 'e', 'm', 'e', 'n', 't']
def vDistribution : List Char := ['m', 'e', 'a', 's', 'u', 'r', 'e', 'm', 'e', 'n', 't', ' ', 'o', 'u', 't', 'c', 'o', 'm', 'e', ' ', 'd', 'i', 's', 't', 'r', 'i', 'b', 'u', 't', 'i', 'o', 'n']

def kRawData : List Char := ['r', 'a', 'w', '-', 'd', 'a', 't', 'a']

def shotsInt (m : List Shot) : List (List Int) := m.map (fun s => s.map Int.ofNat)

/-- the `dict` the tracker builds for a model record (`dev` = `self.type`, `reprD` = `repr` of a distribution) -/
def recDict (dev : List Char) (reprD : DistVal → List Char) : Record → Dict Payload
  | .meas c counts nGates nShots bits =>
    let d : Dict Payload := dictOf [(kDataType, .str vMeasurement), (kDevice, .str dev), (kCircuit, .ext (.circ c)),
      (kCounts, .ext (.counts counts)), (kGates, .int nGates), (kShots, .int nShots)]
    match bits with
    | some b => dictSet kBitstrings (.intLists (shotsInt b)) d
    | none => d
  | .dist c d nGates nShots =>
    dictOf [(kDataType, .str vDistribution), (kDevice, .str dev), (kCircuit, .ext (.circ c)),
      (kDistribution, .str (reprD d)), (kGates, .int nGates), (kShots, .optInt nShots)]

abbrev TWorld := Runner × List Char
abbrev TState := Tracker.State TWorld Unit Payload

/-- the content `save_raw_data` writes for the records `ds` -/
def fileText (dumps : Dict2 Payload → List Char) (ds : List (Dict Payload)) : List Char :=
  dumps (dictOf [(kRawData, .dicts ds)])

/-- the tracker's externals as the model instantiates them: the wrapped runner is the model's runner chain `world.1`; the file
    is the string `world.2` (`open(…, "w+")` truncates it, `write` appends, `__exit__` does nothing; `dumps` – any function –
    is `json.dumps`); `to_dict` / `get_counts` / `repr` are total and pure -/
def trackerExt (ext : Ext) (dev : List Char) (reprD : DistVal → List Char) (dumps : Dict2 Payload → List Char) :
    Tracker.Ext TWorld Unit Circ (List Shot) DistVal Payload Bool Unit where
  M_get_counts := fun s m => (s, .ok (.counts (countsOf m)))
  fn_repr := fun s d => (s, .ok (reprD d))
  self_inner_backend_run_and_measure := fun s c n =>
    ({ s with world := ((s.world.1.run ext c n).1, s.world.2) }, toResult (s.world.1.run ext c n).2)
  self_inner_backend_run_batch_and_measure := fun s cs ns =>
    ({ s with world := ((s.world.1.batch ext cs (nSpec ns)).1, s.world.2) }, toResult (s.world.1.batch ext cs (nSpec ns)).2)
  self_inner_backend_get_measurement_outcome_distribution := fun s c n =>
    ({ s with world := ((s.world.1.dist ext c n).1, s.world.2) }, toResult (s.world.1.dist ext c n).2)
  fn_open := fun s _ _ => ({ s with world := (s.world.1, []) }, .ok ())
  F_write := fun s _ str => ({ s with world := (s.world.1, s.world.2 ++ str) }, .ok ())
  F___exit__ := fun s _ => (s, .ok ())
  json_dumps := fun s d => (s, .ok (dumps d))
  fn_to_dict := fun s c => (s, .ok (.circ c))
  attr_B___class_____name__ := fun _ => dev
  attr_C_operations := fun c => c.ops
  attr_M_bitstrings := shotsInt

section
variable (ext : Ext) (dev : List Char) (reprD : DistVal → List Char) (dumps : Dict2 Payload → List Char)
theorem trackerExt_run (s : TState) (c : Circ) (n : Int) :
    (trackerExt ext dev reprD dumps).self_inner_backend_run_and_measure s c n
      = ({ s with world := ((s.world.1.run ext c n).1, s.world.2) }, toResult (s.world.1.run ext c n).2) := rfl
theorem trackerExt_batch (s : TState) (cs : List Circ) (ns : Int ⊕ List Int) :
    (trackerExt ext dev reprD dumps).self_inner_backend_run_batch_and_measure s cs ns
      = ({ s with world := ((s.world.1.batch ext cs (nSpec ns)).1, s.world.2) },
         toResult (s.world.1.batch ext cs (nSpec ns)).2) := rfl
theorem trackerExt_dist (s : TState) (c : Circ) (n : Option Int) :
    (trackerExt ext dev reprD dumps).self_inner_backend_get_measurement_outcome_distribution s c n
      = ({ s with world := ((s.world.1.dist ext c n).1, s.world.2) }, toResult (s.world.1.dist ext c n).2) := rfl
theorem trackerExt_open (s : TState) (a b : List Char) :
    (trackerExt ext dev reprD dumps).fn_open s a b = ({ s with world := (s.world.1, []) }, .ok ()) := rfl
theorem trackerExt_write (s : TState) (f : Unit) (str : List Char) :
    (trackerExt ext dev reprD dumps).F_write s f str = ({ s with world := (s.world.1, s.world.2 ++ str) }, .ok ()) := rfl
theorem trackerExt_exit (s : TState) (f : Unit) : (trackerExt ext dev reprD dumps).F___exit__ s f = (s, .ok ()) := rfl
theorem trackerExt_dumps (s : TState) (d : Dict2 Payload) :
    (trackerExt ext dev reprD dumps).json_dumps s d = (s, .ok (dumps d)) := rfl
theorem trackerExt_to_dict (s : TState) (c : Circ) :
    (trackerExt ext dev reprD dumps).fn_to_dict s c = (s, .ok (.circ c)) := rfl
theorem trackerExt_repr (s : TState) (d : DistVal) :
    (trackerExt ext dev reprD dumps).fn_repr s d = (s, .ok (reprD d)) := rfl
theorem trackerExt_ops (c : Circ) : (trackerExt ext dev reprD dumps).attr_C_operations c = c.ops := rfl
end

/-- model tracker state ↦ state of the translated class (`rb` = the Python value of `record_bitstrings`, `fn` the file name; the
    model's `file` – the records last written – is the text `save_raw_data` writes for them).  Only `.tracker` states are
    meant; a `.leaf` is mapped to a placeholder (the model's `step` keeps the shape of the chain: `tracker_passthrough`). -/
def concT (dev fn : List Char) (reprD : DistVal → List Char) (dumps : Dict2 Payload → List Char) (rb : Option Bool) :
    Runner → TState
  | .tracker inner _ k raw file =>
    ⟨k.nCircuits, k.nJobs, rb, (), raw.map (recDict dev reprD), dev, fn,
      (inner, fileText dumps (file.map (recDict dev reprD)))⟩
  | .leaf l => ⟨0, 0, rb, (), [], dev, fn, (.leaf l, [])⟩

/-- one call on a tracker, dispatched to the translated methods of `MeasurementTrackingBackend` -/
def Tracker.call {ω B C M D J O F : Type} (x : Tracker.Ext ω B C M D J O F) (s : Tracker.State ω B J) :
    RCall C → Tracker.State ω B J × RRes M D
  | .run c n => ((Tracker.run_and_measure x s c n).1, .ofResult .meas (Tracker.run_and_measure x s c n).2)
  | .batch cs ns => ((Tracker.run_batch_and_measure x s cs ns).1, .ofResult .batch (Tracker.run_batch_and_measure x s cs ns).2)
  | .dist c n => ((Tracker.get_measurement_outcome_distribution x s c n).1,
      .ofResult .distr (Tracker.get_measurement_outcome_distribution x s c n).2)

/-- "this external call does not touch the tracker's two counters" -/
def Tracker.Keeps {ω B J α : Type} (f : Tracker.State ω B J → Tracker.State ω B J × Result α) : Prop :=
  ∀ s, (f s).1._n_circuits_executed = s._n_circuits_executed ∧ (f s).1._n_jobs_executed = s._n_jobs_executed

/-- the frame law for the tracker: no external (the wrapped runner, `to_dict`, `get_counts`, `repr`, `json.dumps`, the file)
    touches the tracker's own counters -/
structure Tracker.Frame {ω B C M D J O F : Type} (x : Tracker.Ext ω B C M D J O F) : Prop where
  get_counts : ∀ m, Tracker.Keeps (fun s => x.M_get_counts s m)
  repr : ∀ d, Tracker.Keeps (fun s => x.fn_repr s d)
  inner_dist : ∀ c n, Tracker.Keeps (fun s => x.self_inner_backend_get_measurement_outcome_distribution s c n)
  inner_run : ∀ c n, Tracker.Keeps (fun s => x.self_inner_backend_run_and_measure s c n)
  inner_batch : ∀ cs ns, Tracker.Keeps (fun s => x.self_inner_backend_run_batch_and_measure s cs ns)
  to_dict : ∀ c, Tracker.Keeps (fun s => x.fn_to_dict s c)
  open_ : ∀ a b, Tracker.Keeps (fun s => x.fn_open s a b)
  write : ∀ f str, Tracker.Keeps (fun s => x.F_write s f str)
  exit : ∀ f, Tracker.Keeps (fun s => x.F___exit__ s f)
  dumps : ∀ d, Tracker.Keeps (fun s => x.json_dumps s d)

section
variable {ω B J α : Type}

def Tracker.Same (s s' : Tracker.State ω B J) : Prop :=
  s'._n_circuits_executed = s._n_circuits_executed ∧ s'._n_jobs_executed = s._n_jobs_executed

theorem Tracker.Same.trans {s s1 s2 : Tracker.State ω B J} (h1 : Tracker.Same s s1) (h2 : Tracker.Same s1 s2) :
    Tracker.Same s s2 :=
  ⟨h2.1.trans h1.1, h2.2.trans h1.2⟩

theorem Tracker.Keeps.intro {f : Tracker.State ω B J → Tracker.State ω B J × Result α}
    (h : ∀ s, Tracker.Same s (f s).1) : Tracker.Keeps f := h

/-- how `Keeps` is used on a translated body: `split` on the `match` that follows a call yields the
    equation `h`, whatever matcher the translator generated for it -/
theorem Tracker.Keeps.same {f : Tracker.State ω B J → Tracker.State ω B J × Result α} (hf : Tracker.Keeps f)
    {s s1 : Tracker.State ω B J} {r : Result α} (h : f s = (s1, r)) : Tracker.Same s s1 := by
  have := hf s; rwa [h] at this

theorem Tracker.forEach_keeps (body : Tracker.State ω B J → α → Tracker.State ω B J × Result Unit)
    (hb : ∀ a, Tracker.Keeps (fun s => body s a)) (ps : List α) : Tracker.Keeps (fun s => forEach body s ps) := by
  induction ps with
  | nil => exact fun s => ⟨rfl, rfl⟩
  | cons p ps ih =>
    refine .intro fun s => ?_
    unfold forEach
    split
    next h => exact (hb p).same h
    next h => exact ((hb p).same h).trans (ih _)

def Tracker.Adds (s : Tracker.State ω B J) (a b : Int) (p : Tracker.State ω B J × Result α) : Prop :=
  (∀ e, p.2 ≠ .raised e) →
    p.1._n_circuits_executed = s._n_circuits_executed + a ∧ p.1._n_jobs_executed = s._n_jobs_executed + b

theorem Tracker.Adds.raised {s s1 : Tracker.State ω B J} {a b : Int} {e : Exc} :
    Tracker.Adds s a b ((s1, .raised e) : Tracker.State ω B J × Result α) :=
  fun h => absurd rfl (h e)

theorem Tracker.Keeps.raised_through {β M D : Type} {inner : Tracker.State ω B J → Tracker.State ω B J × Result α}
    (hi : Tracker.Keeps inner) {s : Tracker.State ω B J} {e : Exc} (he : (inner s).2 = .raised e)
    {p : Tracker.State ω B J × Result β} (hp : ∀ s1, inner s = (s1, .raised e) → p = (s1, .raised e))
    (f : β → RRes M D) :
    (∃ e, RRes.ofResult f p.2 = .raised e) ∧
      p.1._n_circuits_executed = s._n_circuits_executed ∧ p.1._n_jobs_executed = s._n_jobs_executed := by
  obtain rfl := hp (inner s).1 (Prod.ext rfl he)
  exact ⟨⟨e, rfl⟩, hi s⟩
end

/-- a call the tracker or the wrapped runner rejects: a single call with a non-positive count (rejected by the tracker
    itself), or any call for which the wrapped runner's method raises -/
def Tracker.Rejected {ω B C M D J O F : Type} (x : Tracker.Ext ω B C M D J O F) (s : Tracker.State ω B J) : RCall C → Prop
  | .run c n => n ≤ 0 ∨ ∃ e, (x.self_inner_backend_run_and_measure s c n).2 = .raised e
  | .batch cs ns => ∃ e, (x.self_inner_backend_run_batch_and_measure s cs ns).2 = .raised e
  | .dist c n => ∃ e, (x.self_inner_backend_get_measurement_outcome_distribution s c n).2 = .raised e

/-- what the tracker adds to its own counters on a successful call -/
def RCall.trackerWork {C : Type} : RCall C → Nat × Nat
  | .run _ _ => (1, 1)
  | .batch cs _ => (cs.length, 1)
  | .dist _ _ => (0, 0)

abbrev SWorld := Nat × Circ      -- ghost: number of `rng.choice` draws so far; the circuit last given to `split_circuit`
abbrev SState := Sim.State SWorld

/-- the simulator's externals as the model instantiates them (`a` = "every operation is native", i.e. `SymbolicSimulator`):
    `split_circuit` yields one (key, subcircuit) pair per `groupby` run of the native flags (`segKeys`); the native simulator,
    `operation.apply`, `np.zeros`, item assignment are pure no-ops on an opaque state vector; `Wavefunction(state)` of a
    circuit with free symbols raises `TypeError` (where the model places the failure of an exact-distribution request);
    `sample_from_wavefunction` answers `sampleShots` at the current draw index and bumps the index -/
def simExt (ext : Ext) (a : Bool) : Sim.Ext SWorld Circ (List Shot) DistVal Unit Circ Bool Circ (List Shot) Unit where
  M_get_distribution := fun s m => (s, .ok (.empirical (empirical m)))
  fn_Measurements := fun s x => (s, .ok x)
  O_apply := fun s _ v => (s, .ok v)
  V___setitem__ := fun s v _ _ => (s, .ok v)
  W_get_probabilities := fun s w => (s, .ok w)
  fn_Wavefunction := fun s _ => if s.world.2.symbolic then (s, .raised .TypeError) else (s, .ok s.world.2)
  fn_create_bitstring_distribution_from_probability_distribution := fun s p => (s, .ok (.exact p))
  np_zeros := fun s _ => (s, .ok ())
  fn_sample_from_wavefunction := fun s w n _ =>
    ({ s with world := (s.world.1 + 1, s.world.2) }, .ok (sampleShots ext s.world.1 w n))
  self__get_wavefunction_from_native_circuit := fun s _ v => (s, .ok v)
  fn_split_circuit := fun s c pred =>
    ({ s with world := (s.world.1, c) }, .ok ((segKeys (c.ops.map pred)).map (fun b => (b, c))))
  attr_C_free_symbols := fun c => if c.symbolic then [()] else []
  attr_C_n_qubits := fun c => c.width
  attr_C_operations := fun c => c.ops
  ref_is_natively_supported := fun g => a || g

/-- abstraction: state of the translated simulator ↦ the model's `.sim a` leaf (the ghost circuit is forgotten) -/
def absSim (a : Bool) (s : SState) : Leaf :=
  ⟨.sim a, ⟨s._n_circuits_executed.toNat, s._n_jobs_executed.toNat⟩, s.world.1⟩

theorem forEach_fold {σ α : Type} (body : σ → α → σ × Result Unit) (f : σ → α → σ)
    (h : ∀ st p, body st p = (f st p, .ok ())) (s : σ) (ps : List α) :
    forEach body s ps = (ps.foldl f s, .ok ()) := by
  induction ps generalizing s with
  | nil => rfl
  | cons p ps ih => simp [forEach, h, ih]

theorem foldl_const {σ α : Type} (s : σ) (ps : List α) : ps.foldl (fun st _ => st) s = s := by
  induction ps with
  | nil => rfl
  | cons p ps ih => simp [ih]

theorem forEach_id {σ α : Type} (body : σ → α → σ × Result Unit) (h : ∀ st p, body st p = (st, .ok ())) (s : σ)
    (ps : List α) : forEach body s ps = (s, .ok ()) := by
  rw [forEach_fold body (fun st _ => st) h, foldl_const]

/-- the segment loop as a fold -/
def segStep (st : SState × Unit) (p : Bool × Circ) : SState × Unit :=
  ({ st.1 with _n_jobs_executed := st.1._n_jobs_executed + 1,
               _n_circuits_executed := if p.1 then st.1._n_circuits_executed + 1 else st.1._n_circuits_executed }, st.2)

theorem foldl_segStep (segs : List Bool) (c : Circ) (s : SState) (v : Unit) :
    (segs.map (fun b => (b, c))).foldl segStep (s, v)
      = ({ s with _n_circuits_executed := s._n_circuits_executed + (segs.count true : Nat),
                  _n_jobs_executed := s._n_jobs_executed + (segs.length : Nat) }, v) := by
  induction segs generalizing s with
  | nil => exact Prod.ext (by simp only [List.count_nil, List.length_nil, Int.natCast_zero, Int.add_zero]; rfl) rfl
  | cons b segs ih =>
    rw [List.map_cons, List.foldl_cons, ih]
    cases b
    · simp only [segStep, Bool.false_eq_true, if_false, List.count_cons_of_ne Bool.false_ne_true, List.length_cons,
        Int.natCast_add, Int.natCast_one, Int.add_assoc, Int.add_comm 1]
    · simp only [segStep, if_true, List.count_cons_self, List.length_cons,
        Int.natCast_add, Int.natCast_one, Int.add_assoc, Int.add_comm 1]

/-- model state of a `.sim a` leaf ↦ state of the translated class (`sd` = `self.seed`, `cur` = the ghost circuit) -/
def concSim (l : Leaf) (sd : Option Int) (cur : Circ) : SState := ⟨l.k.nCircuits, l.k.nJobs, sd, (l.calls, cur)⟩

/-- one call on a simulator, dispatched to the translated methods of `BaseWavefunctionSimulator` -/
def Sim.call {ω C M D V W O P X Y : Type} (x : Sim.Ext ω C M D V W O P X Y) (s : Sim.State ω) :
    RCall C → Sim.State ω × RRes M D
  | .run c n => ((Sim.run_and_measure x s c n).1, .ofResult .meas (Sim.run_and_measure x s c n).2)
  | .batch cs ns => ((Sim.run_batch_and_measure x s cs ns).1, .ofResult .batch (Sim.run_batch_and_measure x s cs ns).2)
  | .dist c n => ((Sim.get_measurement_outcome_distribution x s c n).1,
      .ofResult .distr (Sim.get_measurement_outcome_distribution x s c n).2)

/-- a `.leaf` ↦ the simulator state (a `.tracker` is mapped to a placeholder; `step` on a leaf yields a leaf) -/
def concRunnerSim (sd : Option Int) (cur : Circ) : Runner → SState
  | .leaf l => concSim l sd cur
  | .tracker _ _ _ _ _ => ⟨0, 0, sd, (0, cur)⟩

end OQ.C14
