/- Basis indices read bit by bit (qubit 0 = most significant bit): `bit`, the sub-index `sub` at a list of qubits,
   and what division and remainder by powers of two do to them. -/
import OQ.Model.Lift
import Mathlib.Data.Nat.Bits
import Mathlib.Tactic.Ring

namespace OQ.C01
open OQ.Lift

/-- bit of qubit `q` in the basis index `x` of an `n`-qubit register (qubit 0 = most significant) -/
def bit (n q x : Nat) : Nat := (x / 2 ^ (n - 1 - q)) % 2

/-- the sub-index read off `x` at the positions `qs` (first listed qubit most significant) -/
def sub (n : Nat) (qs : List Nat) (x : Nat) : Nat := bitsToIndex (qs.map (fun q => bit n q x))

theorem bit_lt (n q x : Nat) : bit n q x < 2 := Nat.mod_lt _ (by decide)

theorem bit_eq_testBit (n q x : Nat) : bit n q x = (x.testBit (n - 1 - q)).toNat := by
  unfold bit; rw [Nat.toNat_testBit]

theorem bit_eq_iff (n q x y : Nat) : bit n q x = bit n q y ↔ x.testBit (n - 1 - q) = y.testBit (n - 1 - q) := by
  rw [bit_eq_testBit, bit_eq_testBit]
  cases x.testBit (n - 1 - q) <;> cases y.testBit (n - 1 - q) <;> simp

theorem div_mod_of_split (A B c : Nat) (hB : B < c) : (A * c + B) / c = A ∧ (A * c + B) % c = B := by
  have hc : 0 < c := by omega
  constructor
  · rw [Nat.mul_comm, Nat.mul_add_div hc, Nat.div_eq_of_lt hB]; rfl
  · rw [Nat.mul_comm, Nat.mul_add_mod, Nat.mod_eq_of_lt hB]

theorem foldl_bits (l : List Nat) (acc : Nat) :
    l.foldl (fun a b => 2 * a + b) acc = acc * 2 ^ l.length + l.foldl (fun a b => 2 * a + b) 0 := by
  induction l generalizing acc with
  | nil => simp
  | cons x xs ih =>
    simp only [List.foldl_cons, List.length_cons]
    rw [ih (2 * acc + x), ih (2 * 0 + x)]
    ring

theorem bitsToIndex_nil : bitsToIndex [] = 0 := rfl

theorem bitsToIndex_append (a b : List Nat) :
    bitsToIndex (a ++ b) = bitsToIndex a * 2 ^ b.length + bitsToIndex b := by
  unfold bitsToIndex
  rw [List.foldl_append, foldl_bits]

theorem bitsToIndex_cons (x : Nat) (l : List Nat) :
    bitsToIndex (x :: l) = x * 2 ^ l.length + bitsToIndex l := by
  rw [← List.singleton_append, bitsToIndex_append]
  simp [bitsToIndex]

theorem bitsToIndex_lt (l : List Nat) (h : ∀ b ∈ l, b < 2) : bitsToIndex l < 2 ^ l.length := by
  induction l with
  | nil => exact Nat.one_pos
  | cons x xs ih =>
    rw [bitsToIndex_cons, List.length_cons, pow_succ]
    have hx : x * 2 ^ xs.length ≤ 1 * 2 ^ xs.length :=
      Nat.mul_le_mul_right _ (Nat.le_of_lt_succ (h x List.mem_cons_self))
    have := ih fun b hb => h b (List.mem_cons_of_mem _ hb)
    omega

theorem bitsToIndex_inj (a b : List Nat) (hl : a.length = b.length)
    (ha : ∀ x ∈ a, x < 2) (hb : ∀ x ∈ b, x < 2) (h : bitsToIndex a = bitsToIndex b) : a = b := by
  induction a generalizing b with
  | nil => exact (List.length_eq_zero_iff.mp hl.symm).symm
  | cons x xs ih =>
    cases b with
    | nil => exact absurd hl (Nat.succ_ne_zero _)
    | cons y ys =>
      have hl' : xs.length = ys.length := Nat.succ.inj hl
      have hxs : bitsToIndex xs < 2 ^ ys.length := hl' ▸ bitsToIndex_lt xs fun z hz => ha z (List.mem_cons_of_mem _ hz)
      have hys := bitsToIndex_lt ys fun z hz => hb z (List.mem_cons_of_mem _ hz)
      -- head and tail are quotient and remainder of the same number
      rw [bitsToIndex_cons, bitsToIndex_cons, hl'] at h
      have h1 := div_mod_of_split x _ _ hxs
      rw [h] at h1
      have h2 := div_mod_of_split y _ _ hys
      rw [h1.1.symm.trans h2.1, ih ys hl' (fun z hz => ha z (List.mem_cons_of_mem _ hz))
        (fun z hz => hb z (List.mem_cons_of_mem _ hz)) (h1.2.symm.trans h2.2)]

theorem basisBitstring_eq (i n : Nat) : basisBitstring i n = (List.range n).map (fun q => bit n q i) := rfl

theorem permute_basis (col n : Nat) (order : List Nat) (h : ∀ i ∈ order, i < n) :
    permute (basisBitstring col n) order = order.map (fun q => bit n q col) := by
  unfold permute
  apply List.map_congr_left
  intro i hi
  rw [basisBitstring_eq, List.getD_eq_getElem?_getD, List.getElem?_map, List.getElem?_range (h i hi)]
  rfl

theorem bits_lt (n : Nat) (qs : List Nat) (x : Nat) : ∀ b ∈ qs.map (fun q => bit n q x), b < 2 := by
  intro b hb
  obtain ⟨q, _, rfl⟩ := List.mem_map.mp hb
  exact bit_lt _ _ _

theorem sub_lt (n : Nat) (qs : List Nat) (x : Nat) : sub n qs x < 2 ^ qs.length := by
  simpa [sub] using bitsToIndex_lt _ (bits_lt n qs x)

theorem sub_append (n : Nat) (a b : List Nat) (x : Nat) :
    sub n (a ++ b) x = sub n a x * 2 ^ b.length + sub n b x := by
  unfold sub; rw [List.map_append, bitsToIndex_append, List.length_map]

theorem sub_eq_iff (n : Nat) (qs : List Nat) (x y : Nat) :
    sub n qs x = sub n qs y ↔ ∀ q ∈ qs, bit n q x = bit n q y :=
  ⟨fun h => List.map_inj_left.mp (bitsToIndex_inj _ _ (by simp) (bits_lt n qs x) (bits_lt n qs y) h),
   fun h => by unfold sub; rw [List.map_inj_left.mpr h]⟩

theorem bit_div (n k t q x : Nat) (hn : n = k + t) (hq : q < k) : bit k q (x / 2 ^ t) = bit n q x := by
  rw [bit_eq_testBit, bit_eq_testBit, Nat.testBit_div_two_pow, show k - 1 - q + t = n - 1 - q by omega]

theorem bit_mod (n k t j x : Nat) (hn : n = k + t) (hj : j < t) : bit t j (x % 2 ^ t) = bit n (k + j) x := by
  rw [bit_eq_testBit, bit_eq_testBit, Nat.testBit_mod_two_pow, decide_eq_true (show t - 1 - j < t by omega),
    Bool.true_and, show n - 1 - (k + j) = t - 1 - j by omega]

theorem bit_window (n s span t j x : Nat) (hn : n = s + span + t) (hj : j < span) :
    bit span j (x / 2 ^ t % 2 ^ span) = bit n (s + j) x := by
  rw [bit_mod (s + span) s span j _ rfl hj, bit_div n (s + span) t _ x hn (by omega)]

theorem sub_window (n s span t : Nat) (hn : n = s + span + t) (qs : List Nat)
    (h : ∀ q ∈ qs, s ≤ q ∧ q < s + span) (x : Nat) :
    sub span (qs.map (fun q => q - s)) (x / 2 ^ t % 2 ^ span) = sub n qs x := by
  unfold sub
  rw [List.map_map]
  congr 1
  apply List.map_congr_left
  intro q hq
  obtain ⟨h1, h2⟩ := h q hq
  rw [Function.comp, bit_window n s span t (q - s) x hn (by omega), Nat.add_sub_cancel' h1]

theorem eq_iff_bits (k a b : Nat) (ha : a < 2 ^ k) (hb : b < 2 ^ k) :
    a = b ↔ ∀ j, j < k → bit k j a = bit k j b := by
  refine ⟨fun h j _ => by rw [h], fun h => Nat.eq_of_testBit_eq fun i => ?_⟩
  by_cases hi : i < k
  · have := (bit_eq_iff k (k - 1 - i) a b).mp (h _ (by omega))
    rwa [show k - 1 - (k - 1 - i) = i by omega] at this
  · have hk := Nat.pow_le_pow_right (show 0 < 2 by decide) (not_lt.mp hi)
    rw [Nat.testBit_lt_two_pow (lt_of_lt_of_le ha hk), Nat.testBit_lt_two_pow (lt_of_lt_of_le hb hk)]

theorem high_eq_iff (n s w x y : Nat) (hn : n = s + w) (hx : x < 2 ^ n) (hy : y < 2 ^ n) :
    x / 2 ^ w = y / 2 ^ w ↔ ∀ q, q < s → bit n q x = bit n q y := by
  have hlt : ∀ z, z < 2 ^ n → z / 2 ^ w < 2 ^ s := fun z hz =>
    Nat.div_lt_of_lt_mul (by rwa [Nat.mul_comm, ← pow_add, ← hn])
  rw [eq_iff_bits s _ _ (hlt x hx) (hlt y hy)]
  exact forall₂_congr fun q hq => by rw [bit_div n s w q x hn hq, bit_div n s w q y hn hq]

theorem low_eq_iff (n k t x y : Nat) (hn : n = k + t) :
    x % 2 ^ t = y % 2 ^ t ↔ ∀ j, j < t → bit n (k + j) x = bit n (k + j) y := by
  rw [eq_iff_bits t _ _ (Nat.mod_lt _ (Nat.two_pow_pos t)) (Nat.mod_lt _ (Nat.two_pow_pos t))]
  exact forall₂_congr fun j hj => by rw [bit_mod n k t j x hn hj, bit_mod n k t j y hn hj]

end OQ.C01
