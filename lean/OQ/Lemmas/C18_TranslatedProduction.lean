/- C18 — helper definitions of the translation tie `OQ/Props/C18_TranslatedProduction.lean`: how the opaque
   operation / gate objects of the translated `U3GateToRotation.production` are read in the model `OQ.C18`. -/
import OQ.Lemmas.C18_TranslatedDecompose
import OQ.Lemmas.Fold
namespace OQ.C18

/-- `operation.params` (an operation that is not a gate operation has no gate parameters to unpack: the model's `production` raises
    for it, and so does the unpacking of an empty tuple) -/
def opParams {α R : Type} : Operation α R → List α
  | .gate g _ => g.params
  | .other _ _ => []

/-- `gate.num_control_qubits` (read only under `isinstance(gate, ControlledGate)`) -/
def gateControls {α R : Type} : Gate α R → Int
  | .controlled _ k => (k : Int)
  | _ => 0

/-- `operation.qubit_indices` as Python ints -/
def opQubits {α R : Type} (o : Operation α R) : List Int := o.qs.map Int.ofNat

end OQ.C18
