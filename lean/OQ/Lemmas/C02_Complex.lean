/-
  C02 — the constants and the angle points at R = ℂ for REAL angles: the model's
  (cos θ/2, sin θ/2) parametrisation is the code's cos(θ/2), sin(θ/2), exp(±iθ/2), exp(±iθ).
-/
import OQ.Lemmas.C02
import Mathlib.Analysis.SpecialFunctions.Trigonometric.Basic
import Mathlib.Analysis.Real.Sqrt
import Mathlib.Analysis.Complex.Trigonometric
import Mathlib.Analysis.Complex.Exponential

namespace OQ.C02
open OQ Complex

/-- the constants of `_matrices.py` as complex numbers: `1j`, `1/np.sqrt(2)`, `exp(1j*pi/4)`, `1/2`, conjugation -/
noncomputable def kC : Scal ℂ :=
  ⟨Complex.I, ((1 / Real.sqrt 2 : ℝ) : ℂ), Complex.exp ((Real.pi / 4 : ℝ) * Complex.I), 1 / 2, star⟩

theorem kC_laws : Laws kC where
  ii := Complex.I_mul_I
  rr := by
    show (2 : ℂ) * ((1 / Real.sqrt 2 : ℝ) : ℂ) * ((1 / Real.sqrt 2 : ℝ) : ℂ) = 1
    rw [mul_assoc, ← Complex.ofReal_mul, div_mul_div_comm, Real.mul_self_sqrt zero_le_two]
    norm_num
  zz := by
    show Complex.exp ((Real.pi / 4 : ℝ) * Complex.I) * Complex.exp ((Real.pi / 4 : ℝ) * Complex.I) = Complex.I
    rw [← Complex.exp_add]
    convert Complex.exp_pi_div_two_mul_I using 2
    push_cast; ring
  hh := by show (2 : ℂ) * (1 / 2) = 1; norm_num
  cj := rfl
  si := Complex.conj_I
  sr := Complex.conj_ofReal _
  sz := by
    have h := Complex.conj_mul' (Complex.exp ((Real.pi / 4 : ℝ) * Complex.I))
    rwa [Complex.norm_exp_ofReal_mul_I, Complex.ofReal_one, one_pow] at h

noncomputable def angR (θ : ℝ) : Ang ℂ := ⟨(Real.cos (θ / 2) : ℂ), (Real.sin (θ / 2) : ℂ)⟩

theorem angR_valid (θ : ℝ) : Valid (angR θ) where
  circle := by
    simp only [angR, ← sq, ← Complex.ofReal_pow, ← Complex.ofReal_add, Real.cos_sq_add_sin_sq, Complex.ofReal_one]
  sc := Complex.conj_ofReal _
  ss := Complex.conj_ofReal _

theorem valid_map_angR (θs : List ℝ) : ∀ a ∈ θs.map angR, Valid a :=
  List.forall_mem_map.mpr fun θ _ => angR_valid θ

theorem angR_add (a b : ℝ) : Ang.add (angR a) (angR b) = angR (a + b) := by
  simp only [Ang.add, angR, add_div, Real.cos_add, Real.sin_add, Complex.ofReal_add, Complex.ofReal_neg,
    Complex.ofReal_mul, sub_eq_add_neg]

theorem angR_zero : angR 0 = Ang.zero := by
  simp [Ang.zero, angR]

theorem angR_neg (a : ℝ) : Ang.neg (angR a) = angR (-a) := by
  simp only [Ang.neg, angR, neg_div, Real.cos_neg, Real.sin_neg, Complex.ofReal_neg]

theorem angR_ch (θ : ℝ) : (angR θ).ch = Complex.cos ((θ : ℂ) / 2) := by
  show (Real.cos (θ / 2) : ℂ) = _
  rw [Complex.ofReal_cos]; push_cast; rfl

theorem angR_sh (θ : ℝ) : (angR θ).sh = Complex.sin ((θ : ℂ) / 2) := by
  show (Real.sin (θ / 2) : ℂ) = _
  rw [Complex.ofReal_sin]; push_cast; rfl

theorem angR_ehp (θ : ℝ) : (angR θ).ehp kC = Complex.exp ((θ : ℂ) / 2 * Complex.I) := by
  rw [Complex.exp_mul_I, ← angR_ch, ← angR_sh]
  show (angR θ).ch + Complex.I * (angR θ).sh = _
  ring

theorem angR_ehm (θ : ℝ) : (angR θ).ehm kC = Complex.exp (-((θ : ℂ) / 2 * Complex.I)) := by
  rw [← neg_mul, Complex.exp_mul_I, Complex.cos_neg, Complex.sin_neg, ← angR_ch, ← angR_sh]
  show (angR θ).ch + -(Complex.I * (angR θ).sh) = _
  ring

theorem angR_eip (θ : ℝ) : (angR θ).eip kC = Complex.exp ((θ : ℂ) * Complex.I) := by
  rw [eip_eq kC_laws.ii, angR_ehp, ← Complex.exp_add]; congr 1; ring

theorem angR_eim (θ : ℝ) : (angR θ).eim kC = Complex.exp (-((θ : ℂ) * Complex.I)) := by
  rw [eim_eq kC_laws.ii, angR_ehm, ← Complex.exp_add]; congr 1; ring

end OQ.C02
