/-
  The parameter-shift rule and the Leibniz rule as identities in a matrix ring over any commutative ⋆-ring: no analysis here.
-/
import OQ.Lemmas.C16_Gates
import OQ.Lemmas.C16_Model
import Mathlib.Algebra.BigOperators.Group.List.Basic
import Mathlib.Tactic.Module
import Mathlib.Tactic.LinearCombination
set_option linter.unusedSectionVars false
namespace OQ.C16
open Matrix

section alg
variable {R : Type} [CommRing R] [StarRing R] {m : Type} [Fintype m] [DecidableEq m]

/-- the rotation cos·1 − i sin·P with the (half-angle) point (c, s) -/
def rotM (k : Scal R) (P : Matrix m m R) (c s : R) : Matrix m m R := c • (1 : Matrix m m R) - (k.i * s) • P

theorem polarize (r : R) (hr : star r = r) (h2 : 2 * r * r = 1) (V V' X : Matrix m m R) :
    V'ᴴ * X * V + Vᴴ * X * V'
      = (r • (V + V'))ᴴ * X * (r • (V + V')) - (r • (V - V'))ᴴ * X * (r • (V - V')) := by
  simp only [Matrix.conjTranspose_smul, Matrix.conjTranspose_add, Matrix.conjTranspose_sub, hr, Matrix.smul_mul,
    Matrix.mul_smul, Matrix.add_mul, Matrix.mul_add, Matrix.sub_mul, Matrix.mul_sub]
  linear_combination (norm := module) h2.symm • (V'ᴴ * X * V + Vᴴ * X * V')

/-- the rotations by ±π/4 more in the half angle are (V ± V′)/√2, V′ = −s·1 − i c·P the derivative of V = c·1 − i s·P -/
theorem rotM_shift (k : Scal R) (P : Matrix m m R) (c s : R) :
    rotM k P (k.r * (c - s)) (k.r * (c + s)) = k.r • (rotM k P c s + rotM k P (-s) c) ∧
    rotM k P (k.r * (c + s)) (k.r * (s - c)) = k.r • (rotM k P c s - rotM k P (-s) c) := by
  constructor <;> (unfold rotM; module)

theorem param_shift_core (k : Scal R) (hk : ScalLaws k) (P : Matrix m m R) (c s : R) (X : Matrix m m R) :
    (rotM k P (-s) c)ᴴ * X * rotM k P c s + (rotM k P c s)ᴴ * X * rotM k P (-s) c
      = (rotM k P (k.r * (c - s)) (k.r * (c + s)))ᴴ * X * rotM k P (k.r * (c - s)) (k.r * (c + s))
        - (rotM k P (k.r * (c + s)) (k.r * (s - c)))ᴴ * X * rotM k P (k.r * (c + s)) (k.r * (s - c)) := by
  rw [(rotM_shift k P c s).1, (rotM_shift k P c s).2]
  exact polarize k.r hk.star_r hk.rr _ _ X

end alg
section lists
variable {R : Type} [CommRing R] [StarRing R] {m : Type} [Fintype m] [DecidableEq m]

/-- one factor of a step with what the derivative needs: the factor, its derivative direction, the two shifted
    factors, and the rate r (d/dt factor = r • V') -/
structure FData (m R : Type) where
  V : Matrix m m R
  V' : Matrix m m R
  Vp : Matrix m m R
  Vm : Matrix m m R
  r : R

/-- the parameter-shift identity for one factor inside any product -/
def FData.ShiftOK (d : FData m R) : Prop :=
  star d.r = d.r ∧ ∀ A B O : Matrix m m R,
    (A * d.V' * B)ᴴ * O * (A * d.V * B) + (A * d.V * B)ᴴ * O * (A * d.V' * B)
      = (A * d.Vp * B)ᴴ * O * (A * d.Vp * B) - (A * d.Vm * B)ᴴ * O * (A * d.Vm * B)

/-- the identity need only be known for the bare factor: a surrounding product is absorbed into the observable -/
theorem FData.shiftOK_of_core (d : FData m R) (hr : star d.r = d.r)
    (h : ∀ X, d.V'ᴴ * X * d.V + d.Vᴴ * X * d.V' = d.Vpᴴ * X * d.Vp - d.Vmᴴ * X * d.Vm) : d.ShiftOK := by
  have conj_form : ∀ A V₁ V₂ B O : Matrix m m R, (A * V₁ * B)ᴴ * O * (A * V₂ * B) = Bᴴ * (V₁ᴴ * (Aᴴ * O * A) * V₂) * B := by
    intro A V₁ V₂ B O; simp only [Matrix.conjTranspose_mul, Matrix.mul_assoc]
  refine ⟨hr, fun A B O => ?_⟩
  rw [conj_form, conj_form, conj_form, conj_form, ← Matrix.add_mul, ← Matrix.mul_add, ← Matrix.sub_mul, ← Matrix.mul_sub, h]

/-- product of a list of factors, the first listed rightmost (applied first) -/
def seqProd : List (Matrix m m R) → Matrix m m R
  | [] => 1
  | v :: rest => seqProd rest * v

theorem seqProd_append (a b : List (Matrix m m R)) : seqProd (a ++ b) = seqProd b * seqProd a := by
  induction a with
  | nil => simp [seqProd]
  | cons v a ih => simp [seqProd, ih, Matrix.mul_assoc]

theorem seqProd_eq_prod (l : List (Matrix m m R)) : seqProd l = l.reverse.prod := by
  induction l with
  | nil => rfl
  | cons v l ih => simp [seqProd, ih]

/-- the places of an n-step product where one factor sits: (everything after it, the factor, everything before it) -/
def places (n : ℕ) (ds : List (FData m R)) : List (Matrix m m R × FData m R × Matrix m m R) :=
  (List.range n).flatMap (fun p => (splits ds).map (fun s =>
    (seqProd (ds.map (·.V)) ^ (n - 1 - p) * seqProd (s.2.2.map (·.V)), s.2.1,
      seqProd (s.1.map (·.V)) * seqProd (ds.map (·.V)) ^ p)))

theorem places_spec (n : ℕ) (ds : List (FData m R)) (P : FData m R → Prop) (hP : ∀ d ∈ ds, P d) :
    ∀ x ∈ places n ds, x.1 * x.2.1.V * x.2.2 = seqProd (ds.map (·.V)) ^ n ∧ P x.2.1 := by
  intro x hx
  simp only [places, List.mem_flatMap, List.mem_range, List.mem_map] at hx
  obtain ⟨p, hp, s, hs, rfl⟩ := hx
  refine ⟨?_, (splits_forall P ds hP s hs).2.1⟩
  have h1 : seqProd (s.2.2.map (·.V)) * s.2.1.V * seqProd (s.1.map (·.V)) = seqProd (ds.map (·.V)) := by
    conv_rhs => rw [splits_spec ds s hs]
    simp [seqProd_append, seqProd, Matrix.mul_assoc]
  set S := seqProd (ds.map (·.V)) with hS
  calc S ^ (n - 1 - p) * seqProd (s.2.2.map (·.V)) * s.2.1.V * (seqProd (s.1.map (·.V)) * S ^ p)
      = S ^ (n - 1 - p) * (seqProd (s.2.2.map (·.V)) * s.2.1.V * seqProd (s.1.map (·.V))) * S ^ p := by
        simp only [Matrix.mul_assoc]
    _ = S ^ n := by
        rw [h1, ← pow_succ, ← pow_add]; congr 1; omega

/-- the formal (Leibniz) derivative of the n-step product -/
def dProd (n : ℕ) (ds : List (FData m R)) : Matrix m m R :=
  ((places n ds).map (fun x => x.2.1.r • (x.1 * x.2.1.V' * x.2.2))).sum

/-- the shifted products with their factors: what the derivative circuits denote -/
def shiftList (n : ℕ) (ds : List (FData m R)) : List (R × Matrix m m R) :=
  (places n ds).flatMap (fun x => [(x.2.1.r, x.1 * x.2.1.Vp * x.2.2), (-x.2.1.r, x.1 * x.2.1.Vm * x.2.2)])

theorem cross_smul (r : R) (hr : star r = r) (a W O P M : Matrix m m R)
    (h : aᴴ * O * W + Wᴴ * O * a = Pᴴ * O * P - Mᴴ * O * M) :
    (r • a)ᴴ * O * W + Wᴴ * O * (r • a) = r • (Pᴴ * O * P) + (-r) • (Mᴴ * O * M) := by
  rw [Matrix.conjTranspose_smul, hr, Matrix.smul_mul, Matrix.smul_mul, Matrix.mul_smul, ← smul_add, h, neg_smul, smul_sub,
    sub_eq_add_neg]

/-- Leibniz + parameter shift over any list `L` of places with product `W`, which is what the induction needs; at
    `L = places n ds` the sum on the left is `dProd n ds` and the list on the right `shiftList n ds` -/
theorem leibniz_shift_list (L : List (Matrix m m R × FData m R × Matrix m m R)) (W O : Matrix m m R)
    (hL : ∀ x ∈ L, x.1 * x.2.1.V * x.2.2 = W ∧ x.2.1.ShiftOK) :
    ((L.map (fun x => x.2.1.r • (x.1 * x.2.1.V' * x.2.2))).sum)ᴴ * O * W
      + Wᴴ * O * (L.map (fun x => x.2.1.r • (x.1 * x.2.1.V' * x.2.2))).sum
    = ((L.flatMap (fun x => [(x.2.1.r, x.1 * x.2.1.Vp * x.2.2), (-x.2.1.r, x.1 * x.2.1.Vm * x.2.2)])).map
        (fun y => y.1 • (y.2ᴴ * O * y.2))).sum := by
  induction L with
  | nil => simp
  | cons x L ih =>
    obtain ⟨hW, hr, hs⟩ := hL x List.mem_cons_self
    have key := hs x.1 x.2.2 O
    rw [hW] at key
    simp only [List.map_cons, List.sum_cons, List.flatMap_cons, List.cons_append, List.nil_append]
    rw [Matrix.conjTranspose_add, Matrix.add_mul, Matrix.add_mul, Matrix.mul_add,
      ← ih fun y hy => hL y (List.mem_cons_of_mem _ hy), add_add_add_comm, cross_smul _ hr _ _ _ _ _ key, add_assoc]

end lists

end OQ.C16
