/- The T4 part of the Python prelude (`OQ/Exec/Py.lean`): numeric values at `Rat`, exceptions, dictionaries as association
   lists. -/
import OQ.Exec.Py
import Mathlib.Algebra.Order.Field.Rat
import Mathlib.Algebra.BigOperators.Group.List.Basic
import Mathlib.Data.List.Nodup
import Mathlib.Tactic.Ring
namespace OQ.Py

@[simp] theorem rat_le (a b : Rat) : PyNum.le a b = decide (a ≤ b) := rfl
@[simp] theorem rat_lt (a b : Rat) : PyNum.lt a b = decide (a < b) := rfl
@[simp] theorem rat_beq (a b : Rat) : (@BEq.beq Rat PyNum.toBEq a b) = decide (a = b) := rfl
@[simp] theorem rat_add (a b : Rat) : (@HAdd.hAdd Rat Rat Rat (@instHAdd Rat PyNum.toAdd) a b) = a + b := rfl
@[simp] theorem rat_mul (a b : Rat) : (@HMul.hMul Rat Rat Rat (@instHMul Rat PyNum.toMul) a b) = a * b := rfl
@[simp] theorem rat_div (a b : Rat) : (@HDiv.hDiv Rat Rat Rat (@instHDiv Rat PyNum.toDiv) a b) = a / b := rfl
@[simp] theorem rat_sub (a b : Rat) : (@HSub.hSub Rat Rat Rat (@instHSub Rat PyNum.toSub) a b) = a - b := rfl
@[simp] theorem rat_cast (n : Int) : (@IntCast.intCast Rat PyNum.toIntCast n) = (n : Rat) := rfl

theorem sumNum_rat (xs : List Rat) : sumNum xs = xs.sum :=
  List.sum_eq_foldl.symm

theorem divE_rat (a b : Rat) (h : b ≠ 0) : divE a b = .ok (a / b) := by
  unfold divE
  simp [h]

theorem divIntE_rat (a b : Int) (h : b ≠ 0) : divIntE (ν := Rat) a b = .ok ((a : Rat) / (b : Rat)) := by
  unfold divIntE
  simp [h]

/-- an optional value as a result that raises `e` when absent -/
def ofOpt {α : Type} (e : Exc4) : Option α → Except Exc4 α
  | some a => .ok a
  | none => .error e

@[simp] theorem ofOpt_some {α : Type} (e : Exc4) (a : α) : ofOpt e (some a) = .ok a := rfl
@[simp] theorem ofOpt_none {α : Type} (e : Exc4) : ofOpt e (none : Option α) = .error e := rfl
@[simp] theorem bind_ok {α β : Type} (a : α) (f : α → Except Exc4 β) : Except.bind (.ok a) f = f a := rfl
@[simp] theorem bind_error {α β : Type} (e : Exc4) (f : α → Except Exc4 β) : Except.bind (.error e) f = .error e := rfl

theorem mapE_ofOpt {α β : Type} (e : Exc4) (g : α → Option β) (xs : List α) :
    mapE (fun x => ofOpt e (g x)) xs = ofOpt e (xs.mapM g) := by
  induction xs with
  | nil => rfl
  | cons x xs ih =>
    simp only [mapE, List.mapM_cons, ih]
    cases g x with
    | none => rfl
    | some y => cases xs.mapM g <;> rfl

theorem mapE_congr {α β : Type} (f g : α → Except Exc4 β) (xs : List α) (h : ∀ x ∈ xs, f x = g x) : mapE f xs = mapE g xs := by
  induction xs with
  | nil => rfl
  | cons x xs ih =>
    simp only [mapE, h x (by simp), ih (fun y hy => h y (by simp [hy]))]

theorem mapE_ok {α β : Type} (f : α → β) (xs : List α) : mapE (fun x => .ok (f x)) xs = .ok (xs.map f) := by
  induction xs with
  | nil => rfl
  | cons x xs ih => simp [mapE, ih]

theorem mapE_ok_id {α : Type} (xs : List α) : mapE (fun x => Except.ok x) xs = .ok xs := by
  rw [mapE_ok, List.map_id']

theorem mapE_map {α β γ : Type} (f : β → Except Exc4 γ) (g : α → β) (xs : List α) : mapE f (xs.map g) = mapE (fun x => f (g x)) xs := by
  induction xs with
  | nil => rfl
  | cons x xs ih => simp only [List.map_cons, mapE, ih]

theorem foldlE_append {σ α : Type} (f : σ → α → Except Exc4 σ) (s : σ) (xs ys : List α) :
    foldlE f s (xs ++ ys) = (foldlE f s xs).bind (fun s' => foldlE f s' ys) := by
  induction xs generalizing s with
  | nil => rfl
  | cons x xs ih =>
    simp only [List.cons_append, foldlE]
    cases f s x with
    | error e => rfl
    | ok s' => exact ih s'

theorem indexE_eq {α : Type} (xs : List α) (i : Int) :
    indexE xs i = ofOpt .index (if 0 ≤ i then xs[i.toNat]? else if 0 ≤ i + xs.length then xs[(i + xs.length).toNat]? else none) := by
  unfold indexE
  cases (if 0 ≤ i then xs[i.toNat]? else if 0 ≤ i + xs.length then xs[(i + xs.length).toNat]? else none) <;> rfl

theorem indexE_nat {α : Type} (xs : List α) (m : Nat) (h : m < xs.length) : indexE xs (m : Int) = .ok xs[m] := by
  rw [indexE_eq]
  simp [h]

theorem listSet_nat {α : Type} (xs : List α) (m : Nat) (v : α) : listSet xs (m : Int) v = xs.set m v := by
  unfold listSet
  simp

theorem indexE_zero_cons {α : Type} (x : α) (xs : List α) : indexE (x :: xs) 0 = .ok x := rfl
theorem indexE_zero_nil {α : Type} : indexE ([] : List α) 0 = .error .index := rfl

theorem distinctCount_le {α : Type} [BEq α] (xs : List α) : distinctCount xs ≤ xs.length := by
  induction xs with
  | nil => simp [distinctCount]
  | cons x xs ih => simp only [distinctCount, List.length_cons]; split <;> omega

theorem distinctCount_eq_length_iff {α : Type} [BEq α] [LawfulBEq α] (xs : List α) :
    distinctCount xs = xs.length ↔ xs.Nodup := by
  induction xs with
  | nil => simp [distinctCount]
  | cons x xs ih =>
    have hle := distinctCount_le xs
    simp only [distinctCount, List.length_cons, List.nodup_cons, List.contains_iff_mem]
    by_cases hx : x ∈ xs
    · simp only [hx, if_true, not_true_eq_false, false_and, iff_false]; omega
    · simp only [hx, if_false, not_false_eq_true, true_and, ← ih]; omega

theorem join_nil_eq (parts : List (List Char)) : join [] parts = parts.flatten := by
  induction parts with
  | nil => rfl
  | cons p ps ih =>
    cases ps with
    | nil => simp [join]
    | cons q qs => simp only [join, List.append_nil, List.flatten_cons] at ih ⊢; rw [ih]

theorem replicate_singleton_flatten {α : Type} (n : Nat) (x : α) : (List.replicate n [x]).flatten = List.replicate n x :=
  List.flatten_replicate_singleton

theorem not_mem_dictKeys_left {κ ν : Type} (a b : Dict κ ν) (k : κ) (v : ν) (hn : (dictKeys (a ++ (k, v) :: b)).Nodup) :
    k ∉ dictKeys a := fun hk => by
  rw [dictKeys, List.map_append, List.nodup_append] at hn
  exact hn.2.2 k hk k List.mem_cons_self rfl

section dict
variable {κ ν : Type} [BEq κ] [LawfulBEq κ]

theorem dictGetE_append (a b : Dict κ ν) (k : κ) (h : k ∉ dictKeys a) : dictGetE (a ++ b) k = dictGetE b k := by
  induction a with
  | nil => rfl
  | cons p a ih =>
    obtain ⟨k', v'⟩ := p
    simp only [dictKeys, List.map_cons, List.mem_cons, not_or] at h
    rw [List.cons_append, dictGetE, if_neg (mt eq_of_beq (Ne.symm h.1))]
    exact ih h.2

theorem dictSet_append (a b : Dict κ ν) (k : κ) (v : ν) (h : k ∉ dictKeys a) :
    dictSet (a ++ b) k v = a ++ dictSet b k v := by
  induction a with
  | nil => rfl
  | cons p a ih =>
    obtain ⟨k', v'⟩ := p
    simp only [dictKeys, List.map_cons, List.mem_cons, not_or] at h
    rw [List.cons_append, dictSet, if_neg (mt eq_of_beq (Ne.symm h.1)), ih h.2, List.cons_append]

theorem dictGetE_append_mid (a b : Dict κ ν) (k : κ) (v : ν) (h : k ∉ dictKeys a) :
    dictGetE (a ++ (k, v) :: b) k = .ok v := by
  rw [dictGetE_append a _ k h, dictGetE, if_pos (beq_self_eq_true k)]

theorem dictSet_append_mid (a b : Dict κ ν) (k : κ) (v w : ν) (h : k ∉ dictKeys a) :
    dictSet (a ++ (k, v) :: b) k w = a ++ (k, w) :: b := by
  rw [dictSet_append a _ k w h, dictSet, if_pos (beq_self_eq_true k)]

theorem dictGetE_of_mem (d : Dict κ ν) (hn : (dictKeys d).Nodup) (k : κ) (v : ν) (h : (k, v) ∈ d) : dictGetE d k = .ok v := by
  obtain ⟨a, b, rfl⟩ := List.append_of_mem h
  exact dictGetE_append_mid a b k v (not_mem_dictKeys_left a b k v hn)

theorem dictGetE_of_not_mem (d : Dict κ ν) (k : κ) (h : k ∉ dictKeys d) : dictGetE d k = .error .key := by
  have := dictGetE_append d [] k h
  rwa [List.append_nil] at this

theorem dictSet_of_not_mem (d : Dict κ ν) (k : κ) (v : ν) (h : k ∉ dictKeys d) : dictSet d k v = d ++ [(k, v)] := by
  have := dictSet_append d [] k v h
  rwa [List.append_nil] at this

theorem dictSet_mapKeys {κ' : Type} [BEq κ'] [LawfulBEq κ'] (f : κ → κ') (hf : Function.Injective f) (d : Dict κ ν) (k : κ) (v : ν) :
    dictSet (d.map (fun p => (f p.1, p.2))) (f k) v = (dictSet d k v).map (fun p => (f p.1, p.2)) := by
  induction d with
  | nil => rfl
  | cons p rest ih =>
    obtain ⟨k', v'⟩ := p
    simp only [List.map_cons, dictSet]
    by_cases he : k' = k
    · subst he; simp
    · have h1 : ¬ (k' == k) = true := fun h => he (eq_of_beq h)
      have h2 : ¬ (f k' == f k) = true := fun h => he (hf (eq_of_beq h))
      rw [if_neg h1, if_neg h2, List.map_cons, ih]

end dict

/-- `for k in d: d[k] = d[k] * c` on a dict (distinct keys): every value is scaled, nothing raises -/
theorem foldlE_scale {κ : Type} [BEq κ] [LawfulBEq κ] (c : Rat) (todo done : Dict κ Rat)
    (hn : (dictKeys (done ++ todo)).Nodup) :
    foldlE (fun (st : Dict κ Rat) (key : κ) =>
      Except.bind (dictGetE st key) (fun old => Except.ok (dictSet st key (old * c))))
      (done ++ todo) (dictKeys todo) = .ok (done ++ todo.map (fun p => (p.1, p.2 * c))) := by
  induction todo generalizing done with
  | nil => simp [foldlE, dictKeys]
  | cons p rest ih =>
    obtain ⟨k, v⟩ := p
    have hk := not_mem_dictKeys_left done rest k v hn
    simp only [dictKeys, List.map_cons, foldlE, dictGetE_append_mid done rest k v hk, bind_ok,
      dictSet_append_mid done rest k v (v * c) hk]
    rw [List.append_cons done (k, v * c) rest, List.append_cons done (k, v * c) (rest.map _)]
    exact ih _ (by simpa [dictKeys] using hn)

end OQ.Py
