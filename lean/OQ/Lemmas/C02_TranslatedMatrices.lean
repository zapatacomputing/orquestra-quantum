/-
  C02 / T10 — helper lemmas for the tie between the REGENERATED gate matrices (OQ/Generated/TranslatedC02.lean, written by
  harness/translate_t10.py from circuits/_matrices.py on every run) and the hand-written model OQ/Model/Gates.lean:
  equality of executable matrices from equality of their Mathlib views, the view of a scalar multiple, the link between
  `gateMatrix` and `Gates.builtinMatrix` on the rows of the generated gate table, and where the translated binding answers.
-/
import OQ.Lemmas.C02
import OQ.Lemmas.MatExt
import OQ.Generated.TranslatedC02

namespace OQ.C02
open OQ OQ.Mat Matrix

/-- the matrix is stored canonically: it is `ofFn` of its own entries (true of every result of `ofFn`, hence of `ofLists`,
    `smul`, `mul` – everything the translated factories are built from) -/
def IsOfFn {R : Type} [Zero R] (A : Mat R) : Prop := A = Mat.ofFn A.r A.c A.get

theorem isOfFn_ofFn {R : Type} [Zero R] (r c : Nat) (f : Nat → Nat → R) : IsOfFn (Mat.ofFn r c f) :=
  ofFn_congr r c _ _ fun i j hi hj => (get_ofFn r c f i j hi hj).symm

theorem isOfFn_ofLists {R : Type} [Zero R] (rows : List (List R)) : IsOfFn (Mat.ofLists rows) := by
  unfold Mat.ofLists; exact isOfFn_ofFn _ _ _
theorem isOfFn_smul {R : Type} [Zero R] [Mul R] (x : R) (A : Mat R) : IsOfFn (Mat.smul x A) := isOfFn_ofFn _ _ _
theorem isOfFn_mul {R : Type} [Zero R] [Add R] [Mul R] (A B : Mat R) : IsOfFn (Mat.mul A B) := isOfFn_ofFn _ _ _

theorem eq_of_toM {R : Type} [Zero R] {A B : Mat R} (r c : Nat) (hA : IsOfFn A) (hB : IsOfFn B)
    (hAr : A.r = r) (hAc : A.c = c) (hBr : B.r = r) (hBc : B.c = c) (h : toM r c A = toM r c B) : A = B := by
  rw [hA, hB, hAr, hAc, hBr, hBc]
  exact ofFn_congr r c _ _ fun i j hi hj => congrFun (congrFun h ⟨i, hi⟩) ⟨j, hj⟩

theorem toM_smul_any {R : Type} [MulZeroClass R] (x : R) (A : Mat R) (r c : Nat) :
    toM r c (Mat.smul x A) = x • toM r c A := by
  funext i j
  simp only [toM, Matrix.smul_apply, smul_eq_mul]
  by_cases h : i.val < A.r ∧ j.val < A.c
  · unfold Mat.smul; rw [get_ofFn _ _ _ _ _ h.1 h.2]
  · rw [get_out _ _ _ (by simpa [Mat.smul] using h), get_out _ _ _ h, mul_zero]

theorem gateMatrix_row {R : Type} [Zero R] [One R] [Add R] [Mul R] [Neg R] (k : Scal R) (row : Row)
    (hrow : row ∈ Generated.gateTable) (ps : List (Ang R)) (hl : ps.length = Row.numParams row) (M : Mat R) :
    gateMatrix Generated.gateTable k (Row.name row) ps = .ok M ↔ Gates.builtinMatrix k (Row.name row) ps = some M := by
  unfold gateMatrix
  rw [show lookup Generated.gateTable (Row.name row) = some row from lookup_row row hrow]
  simp only [hl, ne_eq, not_true_eq_false, if_false]
  cases Gates.builtinMatrix k (Row.name row) ps <;> simp

theorem tr_builtinMatrix_some {R : Type} [Zero R] [One R] [Add R] [Mul R] [Neg R] {k : Scal R} {name : String}
    {ps : List (Ang R)} {M : Mat R} (h : Generated.TranslatedMatrices.tr_builtinMatrix k name ps = some M) :
    (name, ps.length) ∈ Generated.gateTable.map fun row => (Row.name row, Row.numParams row) := by
  unfold Generated.TranslatedMatrices.tr_builtinMatrix at h
  split at h
  -- the 27 arms of the binding, each at a literal name and a list of literal length; then the catch-all arm
  iterate 27 (simp only [List.length_cons, List.length_nil]; decide)
  cases h

end OQ.C02
