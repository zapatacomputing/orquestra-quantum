/- The Python prelude against the hand-written models' notions of binary digits, Horner sums and parities. -/
import OQ.Lemmas.Py
import OQ.Model.Lift
import OQ.Model.C09
import OQ.Lemmas.C04
import OQ.Lemmas.C09_Expand
namespace OQ.Tr
open OQ.Py

theorem bits_eq_basisBitstring (n i : Nat) : OQ.C04.bits n i = OQ.Lift.basisBitstring i n := rfl

theorem fold_state (x : List Int) (m : Nat) :
    ((List.range m).map Int.ofNat).foldl (fun (st : Int × Int) (i : Int) =>
      (st.1 + st.2 * x.getD (Int.toNat ((((x.length : Nat) : Int) - 1) - i)) 0, st.2 * 2)) (0, 1)
    = (((List.range m).map (fun i => (2 : Int) ^ i * x.getD (x.length - 1 - i) 0)).sum, (2 : Int) ^ m) := by
  induction m with
  | zero => rfl
  | succ m ih =>
    rw [List.range_succ, List.map_append, List.foldl_append, ih]
    simp only [List.map_cons, List.map_nil, List.foldl_cons, List.foldl_nil, List.map_append, List.sum_append,
      List.sum_cons, List.sum_nil, add_zero]
    have : (↑x.length - 1 - Int.ofNat m).toNat = x.length - 1 - m := by
      simp only [Int.ofNat_eq_natCast]; omega
    rw [this, pow_succ]

theorem littleEndianSum (x : List Nat) :
    ((List.range x.length).map (fun i => (2 : Int) ^ i * (x.map Int.ofNat).getD (x.length - 1 - i) 0)).sum
      = ((OQ.C09.bin2dec x : Nat) : Int) := by
  induction x using List.reverseRecOn with
  | nil => rfl
  | append_singleton l b ih =>
    rw [OQ.C09.bin2dec_append, List.length_append, List.length_singleton, List.range_succ_eq_map]
    simp only [List.map_cons, List.map_map, List.sum_cons, Nat.sub_zero, Nat.add_sub_cancel, pow_zero, one_mul]
    have h0 : (List.map Int.ofNat (l ++ [b])).getD l.length 0 = (b : Int) := by
      simp [List.getD_eq_getElem?_getD]
    rw [h0]
    have : (List.map ((fun i => (2 : Int) ^ i * (List.map Int.ofNat (l ++ [b])).getD (l.length - i) 0) ∘ Nat.succ)
        (List.range l.length)) = (List.range l.length).map
          (fun i => 2 * ((2 : Int) ^ i * (l.map Int.ofNat).getD (l.length - 1 - i) 0)) := by
      apply List.map_congr_left
      intro i hi
      have hi' := List.mem_range.mp hi
      simp only [Function.comp, Nat.succ_eq_add_one, pow_succ]
      have e : l.length - (i + 1) = l.length - 1 - i := by omega
      rw [e, List.map_append, List.getD_eq_getElem?_getD, List.getD_eq_getElem?_getD,
        List.getElem?_append_left (by simp; omega)]
      ring
    rw [this]
    have hs : ((List.range l.length).map (fun i => 2 * ((2 : Int) ^ i * (l.map Int.ofNat).getD (l.length - 1 - i) 0))).sum
        = 2 * ((List.range l.length).map (fun i => (2 : Int) ^ i * (l.map Int.ofNat).getD (l.length - 1 - i) 0)).sum := by
      rw [← List.sum_map_mul_left]
    rw [hs, ih]
    push_cast
    ring

theorem binDigitsFuel_length (f i : Nat) (h : i ≤ f) : (binDigitsFuel f i).length = OQ.C09.bitLength i := by
  induction f generalizing i with
  | zero =>
    have : i = 0 := by omega
    subst this; rfl
  | succ f ih =>
    simp only [binDigitsFuel]
    split
    · rename_i h2
      have hc : i = 0 ∨ i = 1 := by omega
      rcases hc with rfl | rfl <;> rfl
    · rename_i h2
      rw [List.length_append, ih (i / 2) (by omega)]
      unfold OQ.C09.bitLength
      have hi0 : i ≠ 0 := by omega
      have hi2 : i / 2 ≠ 0 := by omega
      simp only [hi0, hi2, if_false, List.length_singleton]
      rw [Nat.log2_def i]
      simp [show 2 ≤ i by omega]

theorem binDigits_length (i : Nat) : (binDigits i).length = OQ.C09.bitLength i :=
  binDigitsFuel_length i i (le_refl _)

theorem lt_two_pow_bitLength (x : Nat) : x < 2 ^ OQ.C09.bitLength x := by
  unfold OQ.C09.bitLength
  split
  · subst_vars; decide
  · exact Nat.lt_log2_self

theorem binDigits_eq_bits (x : Nat) : binDigits x = OQ.C04.bits (OQ.C09.bitLength x) x := by
  have hn : 1 ≤ OQ.C09.bitLength x := by unfold OQ.C09.bitLength; split <;> omega
  have := OQ.C04.binDigitsFuel_pad _ hn x x (lt_two_pow_bitLength x) (le_refl _)
  rw [← binDigitsFuel_eq, binDigitsFuel_length x x (le_refl _)] at this
  simpa [binDigits] using this

theorem strOfInt_digit (d : Nat) (h : d < 10) : strOfInt (d : Int) = [digitChar d] := by
  interval_cases d <;> rfl

theorem join_singletons (l : List Char) : join [] (l.map (fun c => [c])) = l := by
  induction l with
  | nil => rfl
  | cons a l ih =>
    cases l with
    | nil => rfl
    | cons b l => simp only [List.map_cons, join] at ih ⊢; simp [ih]

theorem map_strOfInt_digits (t : List Nat) (h : ∀ d ∈ t, d < 10) :
    (t.map Int.ofNat).map strOfInt = (t.map digitChar).map (fun c => [c]) := by
  induction t with
  | nil => rfl
  | cons a t ih =>
    simp only [List.map_cons]
    rw [ih (fun d hd => h d (by simp [hd]))]
    congr 1
    exact strOfInt_digit a (h a (by simp))

theorem intBase2_digits (l : List Nat) (h : ∀ d ∈ l, d < 10) :
    intBase2 (l.map digitChar) = ((OQ.Lift.bitsToIndex l : Nat) : Int) := by
  unfold intBase2 OQ.Lift.bitsToIndex
  suffices H : ∀ (acc : Nat), List.foldl (fun acc c => 2 * acc + charDigit c) (acc : Int) (l.map digitChar)
      = ((List.foldl (fun acc b => 2 * acc + b) acc l : Nat) : Int) by simpa using H 0
  induction l with
  | nil => intro acc; rfl
  | cons a l ih =>
    intro acc
    simp only [List.map_cons, List.foldl_cons]
    rw [charDigit_digitChar a (h a (by simp))]
    have := ih (fun d hd => h d (by simp [hd])) (2 * acc + a)
    rw [← this]
    push_cast
    rfl

/-- number of marked positions holding a 1 -/
def oddCount (bits : List Int) (marked : List Int) : Nat :=
  (marked.filter (fun q => bits.getD q.toNat 0 == 1)).length

theorem parity_succ (r : Bool) (k : Nat) : ((!r) == (k % 2 == 0)) = (r == ((k + 1) % 2 == 0)) := by
  rw [Nat.add_mod]
  rcases Nat.mod_two_eq_zero_or_one k with h | h <;> rw [h] <;> cases r <;> rfl

theorem parity_fold (bits marked : List Int) (r : Bool) :
    marked.foldl (fun (st : Bool) (q : Int) => if (false || (bits.getD q.toNat 0 == 1)) then !st else st) r
      = (r == ((oddCount bits marked) % 2 == 0)) := by
  induction marked generalizing r with
  | nil => cases r <;> rfl
  | cons q m ih =>
    rw [List.foldl_cons, ih]
    simp only [oddCount, List.filter_cons, Bool.false_or]
    cases bits.getD q.toNat 0 == 1
    · rfl
    · exact parity_succ r _

theorem digitChar_eq_one (d : Nat) (h : d < 10) : ([digitChar d] == ['1']) = ((d : Int) == 1) := by
  interval_cases d <;> rfl

theorem getD_char_int (t : List Nat) (h : ∀ d ∈ t, d < 10) (k : Nat) :
    ([(t.map digitChar).getD k '0'] == ['1']) = ((t.map Int.ofNat).getD k 0 == 1) := by
  rw [List.getD_eq_getElem?_getD, List.getD_eq_getElem?_getD, List.getElem?_map, List.getElem?_map]
  cases hk : t[k]? with
  | none => rfl
  | some d =>
    simp only [Option.map_some, Option.getD_some]
    exact digitChar_eq_one d (h d (List.mem_of_getElem? hk))

theorem bin2dec_bits (n x : Nat) (hx : x < 2 ^ n) : OQ.C09.bin2dec (OQ.C04.bits n x) = x :=
  OQ.C09.bin2dec_digits n x hx

theorem dec2bin_eq_bits (x len : Nat) :
    OQ.C09.dec2bin x len = OQ.C04.bits (max len (OQ.C09.bitLength x)) x := rfl

theorem bin2dec_dec2bin (x len : Nat) : OQ.C09.bin2dec (OQ.C09.dec2bin x len) = x := by
  rw [dec2bin_eq_bits]
  apply bin2dec_bits
  exact lt_of_lt_of_le (lt_two_pow_bitLength x) (Nat.pow_le_pow_right (by decide) (le_max_right _ _))

end OQ.Tr
