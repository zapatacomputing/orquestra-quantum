/- `simplify` and `+=` on the denoted matrix: what is kept and what is dropped add up to the input. -/
import OQ.Lemmas.C09_Dropped
import Mathlib.Data.List.Perm.Subperm

set_option linter.unusedSectionVars false
namespace OQ.C09
open OQ OQ.Pauli

variable {R : Type} [CommRing R]

theorem sameOps_perm (a b : List (Nat × P)) (ha : (a.map Prod.fst).Nodup) (h : sameOps a b = true) :
    a.Perm b := by
  simp only [sameOps, Bool.and_eq_true, beq_iff_eq, List.all_eq_true, List.contains_iff_mem] at h
  have hsub : a ⊆ b := fun x hx => by simpa using h.2 x hx
  exact (List.subperm_of_subset (List.Nodup.of_map _ ha) hsub).perm_of_length_le (le_of_eq h.1.symm)

theorem sameOps_of_perm {a b : List (Nat × P)} (h : a.Perm b) : sameOps a b = true := by
  simp only [sameOps, Bool.and_eq_true, beq_iff_eq, List.all_eq_true, List.contains_iff_mem]
  exact ⟨h.length_eq, fun x hx => h.mem_iff.1 hx⟩

theorem sameOps_refl (a : List (Nat × P)) : sameOps a a = true := sameOps_of_perm (List.Perm.refl a)

theorem sameOps_symm (a b : List (Nat × P)) (ha : (a.map Prod.fst).Nodup) (h : sameOps a b = true) :
    sameOps b a = true := sameOps_of_perm (sameOps_perm a b ha h).symm

theorem sameOps_wf (t u : Term R) (ht : TermWF t) (h : sameOps t.ops u.ops = true) : TermWF u :=
  ((sameOps_perm _ _ ht h).map Prod.fst).nodup_iff.1 ht

theorem opAt_congr {t u : Term R} (h : u.ops = t.ops) : u.opAt = t.opAt := by
  funext q; unfold Term.opAt; rw [h]

theorem opAt_sameOps (t u : Term R) (ht : TermWF t) (h : sameOps t.ops u.ops = true) : u.opAt = t.opAt := by
  funext q
  refine Option.ext fun p => ?_
  rw [opAt_eq_some_iff u (sameOps_wf t u ht h), opAt_eq_some_iff t ht]
  exact (sameOps_perm _ _ ht h).mem_iff.symm

theorem dEntry_eq_zero (k : Scal R) (n : Nat) (s : PSum R) (i j : Nat) (h : ∀ t ∈ s, t.coeff = 0) :
    dEntry k n s i j = 0 := by
  induction s with
  | nil => rfl
  | cons t s ih =>
    obtain ⟨ht, hs⟩ := List.forall_mem_cons.1 h
    rw [dEntry_cons, ht, zero_mul, ih hs, add_zero]

/-- every group is non-empty, its members have the operations of its head, and the head's operations
    satisfy `Q` -/
def GInv (Q : List (Nat × P) → Prop) (gs : List (List (Term R))) : Prop :=
  ∀ g ∈ gs, ∃ h rest, g = h :: rest ∧ Q h.ops ∧ ∀ u ∈ rest, sameOps h.ops u.ops = true

abbrev GWF (gs : List (List (Term R))) : Prop := GInv (fun o => (o.map Prod.fst).Nodup) gs

theorem ginv_nil (Q : List (Nat × P) → Prop) : GInv Q ([] : List (List (Term R))) := fun _ h => nomatch h

theorem groupInsert_inv (Q : List (Nat × P) → Prop) (gs : List (List (Term R))) (t : Term R) (hg : GInv Q gs)
    (ht : Q t.ops) : GInv Q (groupInsert gs t) := by
  induction gs with
  | nil => exact List.forall_mem_singleton.2 ⟨t, [], rfl, ht, fun _ h => nomatch h⟩
  | cons g gs ih =>
    obtain ⟨⟨h, rest, rfl, hQ, hall⟩, hg'⟩ := List.forall_mem_cons.1 hg
    simp only [groupInsert]
    split
    · rename_i hs
      exact List.forall_mem_cons.2 ⟨⟨h, rest ++ [t], rfl, hQ,
        List.forall_mem_append.2 ⟨hall, List.forall_mem_singleton.2 hs⟩⟩, hg'⟩
    · exact List.forall_mem_cons.2 ⟨⟨h, rest, rfl, hQ, hall⟩, ih hg'⟩

theorem foldl_groupInsert_inv (Q : List (Nat × P) → Prop) (s : PSum R) (gs : List (List (Term R))) (hg : GInv Q gs)
    (hs : ∀ t ∈ s, Q t.ops) : GInv Q (s.foldl groupInsert gs) := by
  induction s generalizing gs with
  | nil => exact hg
  | cons t s ih =>
    obtain ⟨ht, hs'⟩ := List.forall_mem_cons.1 hs
    exact ih _ (groupInsert_inv Q gs t hg ht) hs'

theorem groupInsert_dEntry (k : Scal R) (n : Nat) {Q : List (Nat × P) → Prop} (gs : List (List (Term R))) (t : Term R)
    (hg : GInv Q gs) (i j : Nat) :
    dEntry k n (groupInsert gs t).flatten i j = dEntry k n gs.flatten i j + t.coeff * strEntry k t.opAt n i j := by
  induction gs with
  | nil => exact (dEntry_singleton k n t i j).trans (zero_add _).symm
  | cons g gs ih =>
    obtain ⟨⟨h, rest, rfl, -, -⟩, hg'⟩ := List.forall_mem_cons.1 hg
    simp only [groupInsert]
    split
    · rw [List.flatten_cons, List.flatten_cons, dEntry_append, dEntry_append, dEntry_append, dEntry_singleton,
        add_right_comm]
    · rw [List.flatten_cons, List.flatten_cons, dEntry_append, dEntry_append, ih hg', add_assoc]

theorem foldl_groupInsert_dEntry (k : Scal R) (n : Nat) {Q : List (Nat × P) → Prop} (s : PSum R)
    (gs : List (List (Term R))) (hg : GInv Q gs) (hs : ∀ t ∈ s, Q t.ops) (i j : Nat) :
    dEntry k n (s.foldl groupInsert gs).flatten i j = dEntry k n gs.flatten i j + dEntry k n s i j := by
  induction s generalizing gs with
  | nil => exact (add_zero _).symm
  | cons t s ih =>
    obtain ⟨ht, hs'⟩ := List.forall_mem_cons.1 hs
    rw [List.foldl_cons, ih _ (groupInsert_inv Q gs t hg ht) hs', groupInsert_dEntry k n gs t hg, dEntry_cons, add_assoc]

theorem group_dEntry (k : Scal R) (n : Nat) (h : Term R) (rest : List (Term R)) (hwf : TermWF h)
    (hall : ∀ u ∈ rest, sameOps h.ops u.ops = true) (i j : Nat) :
    dEntry k n (h :: rest) i j = sumCoeffs (h :: rest) * strEntry k h.opAt n i j := by
  have key : ∀ g : List (Term R), (∀ u ∈ g, u.opAt = h.opAt) →
      dEntry k n g i j = sumCoeffs g * strEntry k h.opAt n i j := by
    intro g
    induction g using List.reverseRecOn with
    | nil => exact fun _ => (zero_mul _).symm
    | append_singleton g u ih =>
      intro hg
      obtain ⟨hg', hu⟩ := List.forall_mem_append.1 hg
      rw [dEntry_append, dEntry_singleton, ih hg', List.forall_mem_singleton.1 hu]
      unfold sumCoeffs
      rw [List.foldl_append]
      exact (add_mul _ _ _).symm
  exact key _ (List.forall_mem_cons.2 ⟨rfl, fun u hu => opAt_sameOps h u hwf (hall u hu)⟩)

theorem filterMap_split_dEntry (k : Scal R) (n : Nat) (tol : Tol R) (gs : List (List (Term R))) (hg : GWF gs)
    (i j : Nat) :
    dEntry k n (gs.filterMap (groupResult tol)) i j + dEntry k n (gs.filterMap (groupDropped tol)) i j
      = dEntry k n gs.flatten i j := by
  induction gs with
  | nil => exact add_zero _
  | cons g gs ih =>
    obtain ⟨⟨h, rest, rfl, hwf, hall⟩, hg'⟩ := List.forall_mem_cons.1 hg
    obtain ⟨u, hops, hc, hcase⟩ := group_split tol h rest
    have hu : dEntry k n (groupResult tol (h :: rest)).toList i j + dEntry k n (groupDropped tol (h :: rest)).toList i j
        = dEntry k n (h :: rest) i j := by
      rw [group_dEntry k n h rest hwf hall, ← hc, ← opAt_congr hops, ← dEntry_singleton]
      rcases hcase with ⟨h1, h2⟩ | ⟨h1, h2, -⟩ <;> rw [h1, h2]
      · exact add_zero _
      · exact zero_add _
    rw [List.flatten_cons, dEntry_append, ← ih hg', ← hu, filterMap_cons_toList, filterMap_cons_toList, dEntry_append,
      dEntry_append]
    exact add_add_add_comm _ _ _ _

theorem simplify_split_dEntry (k : Scal R) (n : Nat) (tol : Tol R) (s : PSum R) (hs : SumWF s) (i j : Nat) :
    dEntry k n (simplify tol s) i j + dEntry k n (dropped tol s) i j = dEntry k n s i j := by
  unfold simplify dropped
  rw [filterMap_split_dEntry k n tol _ (foldl_groupInsert_inv _ s [] (ginv_nil _) hs),
    foldl_groupInsert_dEntry (Q := fun o => (o.map Prod.fst).Nodup) k n s [] (ginv_nil _) hs]
  exact zero_add _

theorem simplify_dEntry (k : Scal R) (n : Nat) (tol : Tol R) (hnegl : ∀ x, tol.negl x = true → x = 0)
    (s : PSum R) (hs : SumWF s) (i j : Nat) : dEntry k n (simplify tol s) i j = dEntry k n s i j := by
  rw [← simplify_split_dEntry k n tol s hs i j,
    dEntry_eq_zero k n (dropped tol s) i j fun t ht => hnegl _ (dropped_negl tol s t ht), add_zero]

theorem simplify_forall_ops (Q : List (Nat × P) → Prop) (tol : Tol R) (s : PSum R) (hs : ∀ t ∈ s, Q t.ops) :
    ∀ t ∈ simplify tol s, Q t.ops := by
  intro t ht
  obtain ⟨g, hg, hres⟩ := List.mem_filterMap.1 ht
  obtain ⟨h, rest, rfl, hQ, -⟩ := foldl_groupInsert_inv Q s [] (ginv_nil Q) hs g hg
  obtain ⟨u, hops, -, ⟨h1, -⟩ | ⟨h1, -⟩⟩ := group_split tol h rest
  · rw [h1] at hres; cases hres; rw [hops]; exact hQ
  · rw [h1] at hres; cases hres

theorem simplify_wf (tol : Tol R) (s : PSum R) (hs : SumWF s) : SumWF (simplify tol s) :=
  simplify_forall_ops (fun o => (o.map Prod.fst).Nodup) tol s hs

/-! ### the loop `acc = PauliSum(); for a in l: acc += f a` -/

theorem foldl_addTerm_forall_ops {α : Type} (Q : List (Nat × P) → Prop) (tol : Tol R) (f : α → Term R) (l : List α)
    (acc : PSum R) (hacc : ∀ t ∈ acc, Q t.ops) (hf : ∀ a ∈ l, Q (f a).ops) :
    ∀ t ∈ l.foldl (fun acc a => addTerm tol acc (f a)) acc, Q t.ops := by
  induction l generalizing acc with
  | nil => exact hacc
  | cons a l ih =>
    obtain ⟨ha, hl⟩ := List.forall_mem_cons.1 hf
    exact ih _ (simplify_forall_ops Q tol _ (List.forall_mem_append.2 ⟨hacc, List.forall_mem_singleton.2 ha⟩)) hl

theorem foldl_addTerm_dEntry {α : Type} (k : Scal R) (n : Nat) (tol : Tol R)
    (hnegl : ∀ x, tol.negl x = true → x = 0) (f : α → Term R) (l : List α) (acc : PSum R)
    (hacc : SumWF acc) (hf : ∀ a ∈ l, TermWF (f a)) (i j : Nat) :
    dEntry k n (l.foldl (fun acc a => addTerm tol acc (f a)) acc) i j = dEntry k n acc i j + dEntry k n (l.map f) i j := by
  induction l generalizing acc with
  | nil => exact (add_zero _).symm
  | cons a l ih =>
    obtain ⟨ha, hl⟩ := List.forall_mem_cons.1 hf
    have hwf := sumWF_snoc hacc ha
    rw [List.foldl_cons, ih (addTerm tol acc (f a)) (simplify_wf tol _ hwf) hl, addTerm, simplify_dEntry k n tol hnegl _ hwf, dEntry_append,
      dEntry_singleton, List.map_cons, dEntry_cons, add_assoc]

theorem sumOf_spec {α : Type} (k : Scal R) (n : Nat) (tol : Tol R) (hnegl : ∀ x, tol.negl x = true → x = 0)
    (Q : List (Nat × P) → Prop) (f : α → Term R) (l : List α) (hf : ∀ a ∈ l, TermWF (f a) ∧ Q (f a).ops) :
    (∀ t ∈ l.foldl (fun acc a => addTerm tol acc (f a)) [], TermWF t ∧ Q t.ops) ∧
    ∀ i j, dEntry k n (l.foldl (fun acc a => addTerm tol acc (f a)) []) i j = dEntry k n (l.map f) i j :=
  ⟨foldl_addTerm_forall_ops (fun o => (o.map Prod.fst).Nodup ∧ Q o) tol f l [] (fun _ h => nomatch h) hf,
    fun i j => (foldl_addTerm_dEntry k n tol hnegl f l [] sumWF_nil (fun a ha => (hf a ha).1) i j).trans (zero_add _)⟩

end OQ.C09
