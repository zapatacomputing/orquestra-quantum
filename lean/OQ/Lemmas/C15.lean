/- The estimator splits the tasks by a predicate, remembers the positions, computes the two groups
   separately and scatters the values back: that mechanism is proved for an arbitrary predicate (`pos`,
   `writeBack_at`), the estimator is unfolded once (`estimateByAveraging_eq`) and read off position by position
   (`est_entries`).  The vocabulary the property statements use (`isMeasured`, `rank`, `sampleMean`,
   `zEigenvalue`, `RunnerLaw`, `bitsOf`) is defined here. -/
import OQ.Model.C15
import OQ.Lemmas.Fold
import Mathlib.Tactic.Linarith
import Mathlib.Tactic.Ring
import Mathlib.Algebra.BigOperators.Group.List.Basic
import Mathlib.Algebra.BigOperators.Ring.Finset
import Mathlib.Algebra.BigOperators.Group.Finset.Basic
import Mathlib.Data.List.Range
namespace OQ.C15

/-! The model writes `match x with | .error e => .error e | .ok a => k a`; the lemmas state it as `x.bind k`. -/

theorem mapE_nil {ε α β : Type} (f : α → Except ε β) : mapE f [] = .ok [] := rfl

theorem mapE_cons {ε α β : Type} (f : α → Except ε β) (a : α) (as : List α) :
    mapE f (a :: as) = (f a).bind fun b => (mapE f as).bind fun bs => .ok (b :: bs) := by
  rw [mapE]
  cases f a with
  | error e => rfl
  | ok b => cases mapE f as <;> rfl

theorem mapE_getElem? {ε α β : Type} {f : α → Except ε β} {l : List α} {out : List β}
    (h : mapE f l = .ok out) :
    out.length = l.length ∧ ∀ (k : Nat) a, l[k]? = some a → ∃ b, out[k]? = some b ∧ f a = .ok b := by
  induction l generalizing out with
  | nil => cases h; simp
  | cons x xs ih =>
    rw [mapE_cons] at h
    obtain ⟨b, hb, h⟩ := Except.bind_eq_ok.mp h
    obtain ⟨bs, hbs, h⟩ := Except.bind_eq_ok.mp h
    cases h
    obtain ⟨hl, hk⟩ := ih hbs
    refine ⟨by rw [List.length_cons, hl, List.length_cons], fun k a hka => ?_⟩
    cases k with
    | zero => exact ⟨b, rfl, by cases hka; exact hb⟩
    | succ j => exact hk j a hka

theorem mapE_ok_of_forall {ε α β : Type} (f : α → Except ε β) (g : α → β) (l : List α)
    (h : ∀ a ∈ l, f a = .ok (g a)) : mapE f l = .ok (l.map g) := by
  induction l with
  | nil => rfl
  | cons a as ih =>
    rw [mapE_cons, h a List.mem_cons_self, ih fun x hx => h x (List.mem_cons_of_mem a hx)]
    rfl

section partition
variable {α : Type}

def pos (p : α → Bool) (l : List α) (k : Nat) : List Nat :=
  ((l.zipIdx k).filter fun x => p x.1).map Prod.snd

theorem pos_cons (p : α → Bool) (a : α) (l : List α) (k : Nat) :
    pos p (a :: l) k = if p a then k :: pos p l (k + 1) else pos p l (k + 1) := by
  simp only [pos, List.zipIdx_cons, List.filter_cons]
  split <;> rfl

theorem zipIdx_filter_fst (p : α → Bool) (l : List α) (k : Nat) :
    ((l.zipIdx k).filter fun x => p x.1).map Prod.fst = l.filter p := by
  conv_rhs => rw [← List.zipIdx_map_fst k l, List.filter_map]
  rfl

theorem mem_pos (p : α → Bool) (l : List α) (i : Nat) :
    i ∈ pos p l 0 ↔ ∃ h : i < l.length, p l[i] = true := by
  simp only [pos, List.mem_map, List.mem_filter, List.mem_zipIdx_iff_getElem?, Prod.exists, exists_eq_right,
    List.getElem?_eq_some_iff]
  exact ⟨fun ⟨a, ⟨h, he⟩, hp⟩ => ⟨h, he ▸ hp⟩, fun ⟨h, hp⟩ => ⟨_, ⟨h, rfl⟩, hp⟩⟩

theorem pos_lookup (p : α → Bool) (l : List α) :
    (pos p l 0).map (fun i => l[i]?) = (l.filter p).map some := by
  rw [← zipIdx_filter_fst p l 0, pos, List.map_map, List.map_map]
  apply List.map_congr_left
  intro x hx
  exact List.mem_zipIdx_iff_getElem?.mp (List.mem_filter.mp hx).1

theorem pos_pairwise (p : α → Bool) (l : List α) (k : Nat) : (pos p l k).Pairwise (· < ·) := by
  rw [pos, List.pairwise_map]
  apply List.Pairwise.filter
  rw [← List.pairwise_map (f := Prod.snd) (R := (· < ·)), List.zipIdx_map_snd]
  exact List.pairwise_lt_range'

theorem pos_nodup (p : α → Bool) (l : List α) (k : Nat) : (pos p l k).Nodup :=
  (pos_pairwise p l k).imp Nat.ne_of_lt

theorem zipIdx_filter_rank (p : α → Bool) (l : List α) (k i : Nat) (hi : i < l.length) (hp : p l[i] = true) :
    ((l.zipIdx k).filter fun x => p x.1)[((l.take i).filter p).length]? = some (l[i], k + i) := by
  induction l generalizing k i with
  | nil => simp at hi
  | cons a l ih =>
    cases i with
    | zero =>
      rw [List.getElem_cons_zero] at hp
      simp only [List.zipIdx_cons, List.filter_cons, hp, if_true, List.take_zero, List.filter_nil, List.length_nil,
        List.getElem?_cons_zero, List.getElem_cons_zero, Nat.add_zero]
    | succ j =>
      have := ih (k + 1) j (Nat.lt_of_succ_lt_succ hi) hp
      rw [Nat.add_right_comm, Nat.add_assoc] at this
      by_cases ha : p a = true
      · simp only [List.zipIdx_cons, List.take_succ_cons, List.filter_cons, ha, if_true, List.length_cons,
          List.getElem?_cons_succ, List.getElem_cons_succ]
        exact this
      · simp only [List.zipIdx_cons, List.take_succ_cons, List.filter_cons, ha, List.getElem_cons_succ]
        exact this

theorem filter_rank_get (p : α → Bool) (l : List α) (i : Nat) (hi : i < l.length) (hp : p l[i] = true) :
    (l.filter p)[((l.take i).filter p).length]? = some l[i] := by
  rw [← zipIdx_filter_fst p l 0, List.getElem?_map, zipIdx_filter_rank p l 0 i hi hp]
  rfl

theorem pos_rank_get (p : α → Bool) (l : List α) (i : Nat) (hi : i < l.length) (hp : p l[i] = true) :
    (pos p l 0)[((l.take i).filter p).length]? = some i := by
  rw [pos, List.getElem?_map, zipIdx_filter_rank p l 0 i hi hp, Option.map_some, Nat.zero_add]

theorem rank_lt (p : α → Bool) (l : List α) (i : Nat) (hi : i < l.length) (hp : p l[i] = true) :
    ((l.take i).filter p).length < (l.filter p).length :=
  (List.getElem?_eq_some_iff.mp (filter_rank_get p l i hi hp)).1

theorem rank_surj (p : α → Bool) (l : List α) (k : Nat) (hk : k < (l.filter p).length) :
    ∃ i, ∃ hi : i < l.length, p l[i] = true ∧ ((l.take i).filter p).length = k := by
  have hk' : k < (pos p l 0).length := by
    rwa [← zipIdx_filter_fst p l 0, List.length_map, ← List.length_map (f := Prod.snd)] at hk
  obtain ⟨hi, hp⟩ := (mem_pos p l _).mp (List.getElem_mem hk')
  refine ⟨_, hi, hp, ?_⟩
  have h := pos_rank_get p l _ hi hp
  have hlt := (List.getElem?_eq_some_iff.mp h).1
  rw [← List.getElem?_eq_getElem hk'] at h
  exact (List.getElem?_inj hlt (pos_nodup p l 0)).mp h

end partition

def isMeasured {C : Type} (t : Task C) : Bool := !notMeasured t

theorem isMeasured_iff {C : Type} (t : Task C) : isMeasured t = true ↔ notMeasured t = false := by
  simp [isMeasured]

theorem splitLoop_eq {C : Type} (ts : List (Task C)) (k : Nat) (acc : Split C) :
    splitLoop ts k acc =
      ⟨acc.toMeasure ++ ts.filter isMeasured, acc.notToMeasure ++ ts.filter notMeasured,
       acc.idxMeasure ++ pos isMeasured ts k, acc.idxNot ++ pos notMeasured ts k⟩ := by
  induction ts generalizing k acc with
  | nil => simp [splitLoop, pos]
  | cons t ts ih =>
    rw [splitLoop, ih, ih, pos_cons, pos_cons, List.filter_cons, List.filter_cons, isMeasured]
    cases notMeasured t <;> simp

theorem splitTasks_eq {C : Type} (tasks : List (Task C)) :
    splitTasks tasks =
      ⟨tasks.filter isMeasured, tasks.filter notMeasured, pos isMeasured tasks 0, pos notMeasured tasks 0⟩ := by
  rw [splitTasks, splitLoop_eq]
  rfl

theorem length_filter_add {C : Type} (tasks : List (Task C)) :
    (tasks.filter notMeasured).length + (tasks.filter isMeasured).length = tasks.length :=
  (List.length_eq_length_filter_add notMeasured).symm

section writeBack
variable (vals : List Vals) (idx : List Nat) (full : List (Option Vals))

theorem writeBack_nil_left : writeBack [] idx full = full := by
  simp [writeBack]

theorem writeBack_nil_right : writeBack vals [] full = full := by
  simp [writeBack]

theorem writeBack_cons (v : Vals) (i : Nat) :
    writeBack (v :: vals) (i :: idx) full = writeBack vals idx (full.set i (some v)) := rfl

theorem writeBack_length : (writeBack vals idx full).length = full.length := by
  induction idx generalizing vals full with
  | nil => rw [writeBack_nil_right]
  | cons i is ih =>
    cases vals with
    | nil => rw [writeBack_nil_left]
    | cons v vs => rw [writeBack_cons, ih, List.length_set]

theorem writeBack_of_not_mem (i : Nat) (h : i ∉ idx) : (writeBack vals idx full)[i]? = full[i]? := by
  induction idx generalizing vals full with
  | nil => rw [writeBack_nil_right]
  | cons j js ih =>
    cases vals with
    | nil => rw [writeBack_nil_left]
    | cons v vs =>
      rw [writeBack_cons, ih _ _ (fun hm => h (List.mem_cons_of_mem j hm)),
        List.getElem?_set_ne (fun (he : j = i) => h (he ▸ List.mem_cons_self))]

theorem writeBack_at (k i : Nat) (v : Vals) (hnd : idx.Nodup) (hk : idx[k]? = some i) (hv : vals[k]? = some v)
    (hi : i < full.length) : (writeBack vals idx full)[i]? = some (some v) := by
  induction idx generalizing vals full k with
  | nil => cases hk
  | cons j js ih =>
    cases vals with
    | nil => cases hv
    | cons w ws =>
      rw [writeBack_cons]
      cases k with
      | zero =>
        cases hk; cases hv
        rw [writeBack_of_not_mem _ _ _ _ (List.nodup_cons.mp hnd).1, List.getElem?_set_self hi]
      | succ k => exact ih ws _ k (List.nodup_cons.mp hnd).2 hk hv (by rw [List.length_set]; exact hi)

end writeBack

/-- number of measured tasks strictly before position `i` = position of task `i`'s circuit in the batch -/
def rank {C : Type} (tasks : List (Task C)) (i : Nat) : Nat := ((tasks.take i).filter isMeasured).length

/-- contract of a circuit runner (CircuitRunner protocol + the law of the sampler):
    one measurement set per submitted circuit, and every returned bitstring is an outcome of
    non-zero probability (`supp c s`) of its circuit (`rng.choice` never draws a probability-0 item). -/
structure RunnerLaw {C : Type} (rb : List C → List (Option Int) → Except Err (List Shots)) (supp : C → Bits → Prop) : Prop where
  onePer : ∀ cs ns meas, rb cs ns = .ok meas → meas.length = cs.length
  support : ∀ cs ns meas, rb cs ns = .ok meas → ∀ k c, cs[k]? = some c → ∀ s ∈ meas.getD k [], supp c s

/-- the batch handed to the runner: circuits and shot counts of the measured tasks, in task order -/
def submittedCircuits {C : Type} (tasks : List (Task C)) : List C := (tasks.filter isMeasured).map (fun t => t.circuit)
def submittedShots {C : Type} (tasks : List (Task C)) : List (Option Int) := (tasks.filter isMeasured).map (fun t => t.shots)

section estimator
variable {C : Type} (rb : List C → List (Option Int) → Except Err (List Shots)) (tasks : List (Task C))

/-- the measurements the estimator works with: the runner's answer for the batch, and nothing (the runner
    is not called) when no task is measured -/
def batch : Except Err (List Shots) :=
  if (tasks.filter isMeasured).isEmpty then .ok [] else rb (submittedCircuits tasks) (submittedShots tasks)

theorem batch_eq_ok (meas : List Shots) :
    batch rb tasks = .ok meas ↔
      (tasks.filter isMeasured ≠ [] → rb (submittedCircuits tasks) (submittedShots tasks) = .ok meas) ∧
      (tasks.filter isMeasured = [] → meas = []) := by
  unfold batch
  cases tasks.filter isMeasured with
  | nil => exact ⟨fun h => ⟨fun hne => absurd rfl hne, fun _ => by cases h; rfl⟩, fun h => by rw [h.2 rfl]; rfl⟩
  | cons t ts => exact ⟨fun h => ⟨fun _ => h, fun he => nomatch he⟩, fun h => h.1 (List.cons_ne_nil t ts)⟩

theorem estimateByAveraging_eq :
    estimateByAveraging rb tasks =
      (mapE evalNonMeasured (tasks.filter notMeasured)).bind fun nv =>
      (batch rb tasks).bind fun meas =>
      (mapE (fun p : Op × Shots => measuredValue p.1 p.2) (((tasks.filter isMeasured).map fun t => t.op).zip meas)).bind
      fun mv => .ok (writeBack mv (pos isMeasured tasks 0)
        (writeBack nv (pos notMeasured tasks 0) (List.replicate tasks.length none))) := by
  unfold estimateByAveraging batch submittedCircuits submittedShots
  rw [splitTasks_eq]
  simp only [length_filter_add]
  cases mapE evalNonMeasured (tasks.filter notMeasured) with
  | error e => rfl
  | ok nv =>
    by_cases hM : (tasks.filter isMeasured).isEmpty = true
    · rw [List.isEmpty_iff.mp hM]; rfl
    · simp only [hM, Bool.false_eq_true, if_false]
      cases rb ((tasks.filter isMeasured).map fun t => t.circuit) ((tasks.filter isMeasured).map fun t => t.shots) with
      | error e => rfl
      | ok meas =>
        dsimp only [Except.bind]
        cases mapE (fun p : Op × Shots => measuredValue p.1 p.2) (((tasks.filter isMeasured).map fun t => t.op).zip meas) <;> rfl

/-- a not-measured task never reaches the `RuntimeError` branch -/
theorem evalNonMeasured_of_notMeasured (t : Task C) (h : notMeasured t = true) :
    evalNonMeasured t = .ok [if t.op.isConstant then t.op.coeffSum else 0] := by
  unfold evalNonMeasured
  by_cases hc : t.op.isConstant = true
  · simp [hc]
  · simp only [notMeasured, hc, Bool.false_or, beq_iff_eq] at h
    simp [hc, h]

theorem est_entries (r : List (Option Vals)) (h : estimateByAveraging rb tasks = .ok r) :
    ∃ meas : List Shots, batch rb tasks = .ok meas ∧ r.length = tasks.length ∧
      ∀ i (hi : i < tasks.length),
        (notMeasured tasks[i] = true →
          r[i]? = some (some [if tasks[i].op.isConstant then tasks[i].op.coeffSum else 0])) ∧
        (notMeasured tasks[i] = false → rank tasks i < meas.length →
          ∃ v, r[i]? = some (some v) ∧ measuredValue tasks[i].op (meas.getD (rank tasks i) []) = .ok v) := by
  rw [estimateByAveraging_eq] at h
  obtain ⟨nv, hnv, h⟩ := Except.bind_eq_ok.mp h
  obtain ⟨meas, hb, h⟩ := Except.bind_eq_ok.mp h
  obtain ⟨mv, hmv, h⟩ := Except.bind_eq_ok.mp h
  cases h
  refine ⟨meas, hb, by rw [writeBack_length, writeBack_length, List.length_replicate], fun i hi => ⟨fun hp => ?_, fun hp hlt => ?_⟩⟩
  · obtain ⟨v, hv, he⟩ := (mapE_getElem? hnv).2 _ _ (filter_rank_get notMeasured tasks i hi hp)
    rw [evalNonMeasured_of_notMeasured _ hp] at he
    cases he
    -- the measured write-back does not touch a not-measured position
    rw [writeBack_of_not_mem, writeBack_at _ _ _ _ i _ (pos_nodup _ _ _) (pos_rank_get notMeasured tasks i hi hp) hv
      (by rw [List.length_replicate]; exact hi)]
    intro hmem
    obtain ⟨_, hm⟩ := (mem_pos _ _ _).mp hmem
    rw [isMeasured_iff, hp] at hm
    cases hm
  · have hm := (isMeasured_iff _).mpr hp
    obtain ⟨v, hv, he⟩ := (mapE_getElem? hmv).2 (rank tasks i) (tasks[i].op, meas.getD (rank tasks i) [])
      (List.getElem?_zip_eq_some.mpr
        ⟨by rw [List.getElem?_map]; exact congrArg _ (filter_rank_get isMeasured tasks i hi hm),
         by rw [List.getD_eq_getElem?_getD, List.getElem?_eq_getElem hlt]; rfl⟩)
    exact ⟨v, writeBack_at _ _ _ _ i v (pos_nodup _ _ _) (pos_rank_get isMeasured tasks i hi hm) hv
      (by rw [writeBack_length, List.length_replicate]; exact hi), he⟩

end estimator

def wsum (f : Bits → Int) (freq : List (Bits × Nat)) : Int := (freq.map (fun p => (p.2 : Int) * f p.1)).sum

theorem wsum_bump (f : Bits → Int) (acc : List (Bits × Nat)) (k : Bits) :
    wsum f (bump acc k) = wsum f acc + f k := by
  induction acc with
  | nil => simp [bump, wsum]
  | cons p rest ih =>
    obtain ⟨k', c⟩ := p
    simp only [bump]
    split
    · rename_i h; subst h
      simp only [wsum, List.map_cons, List.sum_cons]; push_cast; ring
    · simp only [wsum, List.map_cons, List.sum_cons] at ih ⊢; rw [ih]; ring

theorem wsum_tally (f : Bits → Int) (s : Shots) : wsum f (tally s) = (s.map f).sum := by
  have h : ∀ acc, wsum f (s.foldl bump acc) = wsum f acc + (s.map f).sum := by
    induction s with
    | nil => intro acc; simp
    | cons x s ih => intro acc; simp only [List.foldl_cons, ih, wsum_bump, List.map_cons, List.sum_cons]; ring
  rw [tally, h]; simp [wsum]

theorem wsum_one (freq : List (Bits × Nat)) : wsum (fun _ => 1) freq = ((freq.map (fun p => p.2)).sum : Nat) := by
  simp [wsum, Function.comp_def]

/-- the first key of the histogram is the first shot (dict insertion order) -/
theorem tally_head (s0 : Bits) (rest : Shots) : ∃ c acc, tally (s0 :: rest) = (s0, c) :: acc := by
  have h : ∀ (l : Shots) c acc, ∃ c' acc', l.foldl bump ((s0, c) :: acc) = (s0, c') :: acc' := by
    intro l
    induction l with
    | nil => exact fun c acc => ⟨c, acc, rfl⟩
    | cons s l ih =>
      intro c acc
      simp only [List.foldl_cons, bump]
      split <;> exact ih _ _
  exact h rest 1 []

/-- sample mean of the ±1 outcomes of the Z-string on `qs` -/
def sampleMean (qs : List Nat) (shots : Shots) : Rat :=
  ((shots.map (paritySign qs)).sum : Int) / ((shots.length : Nat) : Rat)

theorem sum_map_div (l : List Int) (n : Rat) :
    (l.map (fun (x : Int) => (x : Rat) / n)).sum = ((l.sum : Int) : Rat) / n := by
  simp only [div_eq_mul_inv, List.sum_map_mul_right, Int.cast_list_sum]

theorem expFromFreq_tally (qs : List Nat) (s0 : Bits) (rest : Shots) (hq : ∀ q ∈ qs, q < s0.length) :
    expFromFreq qs (tally (s0 :: rest)) = .ok (sampleMean qs (s0 :: rest)) := by
  have hw := wsum_tally (paritySign qs) (s0 :: rest)
  have hc := (wsum_one (tally (s0 :: rest))).symm.trans (wsum_tally (fun _ => 1) (s0 :: rest))
  obtain ⟨c, acc, ht⟩ := tally_head s0 rest
  rw [ht] at hw hc ⊢
  have hany : (qs.any fun q => decide (s0.length ≤ q)) = false :=
    List.any_eq_false.mpr fun q hq' => by simpa using hq q hq'
  simp only [expFromFreq, hany, Bool.false_eq_true, if_false, sampleMean]
  have hn : ((((s0, c) :: acc).map fun p => p.2).sum : Nat) = (s0 :: rest).length := by
    have : ((s0 :: rest).map fun _ => (1 : Int)).sum = ((s0 :: rest).length : Nat) := by simp [add_comm]
    exact_mod_cast hc.trans this
  have := sum_map_div (((s0, c) :: acc).map fun p => (p.2 : Int) * paritySign qs p.1) ((s0 :: rest).length : Nat)
  rw [List.map_map] at this
  rw [hn, ← hw, wsum, ← this]
  rfl

/-- eigenvalue of the Z-string on the qubits `qs` at the computational basis state `b`:
    Z|0⟩ = |0⟩, Z|1⟩ = −|1⟩, so the product of (1 − 2·b_q). -/
def zEigenvalue (qs : List Nat) (b : Bits) : Int := (qs.map (fun q => 1 - 2 * ((b.getD q 0 : Nat) : Int))).prod

theorem paritySign_step (b S : Nat) (hb : b ≤ 1) :
    (((b + S + 1) % 2 : Nat) : Int) * 2 - 1 = (1 - 2 * (b : Int)) * ((((S + 1) % 2 : Nat) : Int) * 2 - 1) := by
  rcases Nat.le_one_iff_eq_zero_or_eq_one.mp hb with rfl | rfl
  · rw [Nat.zero_add, Nat.cast_zero, mul_zero, sub_zero, one_mul]
  · rw [Nat.cast_one, mul_one]
    omega

theorem paritySign_eq (qs : List Nat) (b : Bits) (hb : ∀ q ∈ qs, b.getD q 0 ≤ 1) :
    paritySign qs b = zEigenvalue qs b := by
  have h : ∀ qs : List Nat, (∀ q ∈ qs, b.getD q 0 ≤ 1) →
      ((((qs.map fun q => b.getD q 0).sum + 1) % 2 : Nat) : Int) * 2 - 1 = zEigenvalue qs b := by
    intro qs
    induction qs with
    | nil => intro _; rfl
    | cons q qs ih =>
      intro hb
      rw [List.map_cons, List.sum_cons, paritySign_step _ _ (hb q List.mem_cons_self),
        ih fun x hx => hb x (List.mem_cons_of_mem q hx)]
      rfl
  unfold paritySign
  split
  · rename_i he
    rw [List.isEmpty_iff.mp he]; rfl
  · exact h qs hb

theorem measuredValue_eq (op : Op) (s0 : Bits) (rest : Shots) (hI : op.isIsing = true)
    (hw : ∀ t ∈ op, ∀ q ∈ t.qubits, q < s0.length) :
    measuredValue op (s0 :: rest) =
      .ok (op.map (fun t => (⟨t.coeff.re * sampleMean t.qubits (s0 :: rest), 0⟩ : GQ))) := by
  unfold measuredValue getExpectationValues
  simp only [hI, if_true]
  rw [mapE_ok_of_forall _ (fun t => t.coeff.smul (sampleMean t.qubits (s0 :: rest)))]
  · simp [toReal, GQ.real, GQ.smul]
  · intro t ht
    rw [expFromFreq_tally t.qubits s0 rest (hw t ht)]

/-- only Ising operators are measured without a `TypeError` -/
theorem isIsing_of_measuredValue_ok (op : Op) (s : Shots) (v : Vals) (h : measuredValue op s = .ok v) :
    op.isIsing = true := by
  by_contra hn
  simp [measuredValue, getExpectationValues, hn] at h

/-- without a single shot every term raises `IndexError` (`[*bitstrings][0]` of an empty dict) -/
theorem measuredValue_no_shots (t : Term) (ts : List Term) (v : Vals) : measuredValue (t :: ts) [] ≠ .ok v := by
  intro h
  have hI := isIsing_of_measuredValue_ok _ _ _ h
  simp [measuredValue, getExpectationValues, hI, mapE, tally, expFromFreq] at h

theorem sampleMean_basis (qs : List Nat) (b : Bits) (shots : Shots) (hne : shots ≠ [])
    (h : ∀ s ∈ shots, s = b) : sampleMean qs shots = (paritySign qs b : Int) := by
  have hs : shots = List.replicate shots.length b := List.eq_replicate_iff.mpr ⟨rfl, h⟩
  have hl : ((shots.length : Nat) : Rat) ≠ 0 := Nat.cast_ne_zero.mpr fun h0 => hne (List.length_eq_zero_iff.mp h0)
  unfold sampleMean
  conv_lhs => rw [hs]
  rw [List.map_replicate, List.sum_replicate, nsmul_eq_mul, List.length_replicate, Int.cast_mul, Int.cast_natCast,
    mul_div_cancel_left₀ _ hl]

theorem notMeasured_of_pos_shots {C : Type} (t : Task C) (n : Int) (hc : t.op.isConstant = false) (hn : 0 < n)
    (hs : t.shots = some n) : notMeasured t = false := by
  simp only [notMeasured, hc, hs, Bool.false_or, beq_eq_false_iff_ne, ne_eq, Option.some.injEq]
  omega

theorem exists_qubit_of_not_constant (o : Op) (h : o.isConstant = false) : ∃ t ∈ o, ∃ q, q ∈ t.qubits := by
  by_contra hno
  have hall : ∀ t ∈ o, t.isConstant = true := fun t ht => by
    cases hops : t.ops with
    | nil => rw [Term.isConstant, hops]; rfl
    | cons p ps => exact absurd ⟨t, ht, p.1, by rw [Term.qubits, hops]; exact List.mem_cons_self⟩ hno
  rw [Op.isConstant, List.all_eq_true.mpr hall] at h
  cases h

section measured
variable {C : Type} (rb : List C → List (Option Int) → Except Err (List Shots)) (tasks : List (Task C))

theorem shots_eq_of_prepares (supp : C → Bits → Prop) (hlaw : RunnerLaw rb supp) (meas : List Shots)
    (hrb : rb (submittedCircuits tasks) (submittedShots tasks) = .ok meas)
    (i : Nat) (hi : i < tasks.length) (hm : notMeasured tasks[i] = false)
    (b : Bits) (hprep : ∀ s, supp tasks[i].circuit s → s = b) :
    ∀ s ∈ meas.getD (rank tasks i) [], s = b := by
  have hc : (submittedCircuits tasks)[rank tasks i]? = some tasks[i].circuit := by
    rw [submittedCircuits, List.getElem?_map]
    exact congrArg _ (filter_rank_get isMeasured tasks i hi ((isMeasured_iff _).mpr hm))
  exact fun s hs => hprep s (hlaw.support _ _ _ hrb _ _ hc s hs)

theorem measured_entry (hlaw : ∀ cs ns meas, rb cs ns = .ok meas → meas.length = cs.length)
    (r : List (Option Vals)) (h : estimateByAveraging rb tasks = .ok r)
    (i : Nat) (hi : i < tasks.length) (hm : notMeasured tasks[i] = false) :
    ∃ meas s0 rest v, rb (submittedCircuits tasks) (submittedShots tasks) = .ok meas ∧
      meas.getD (rank tasks i) [] = s0 :: rest ∧ r[i]? = some (some v) ∧
      measuredValue tasks[i].op (s0 :: rest) = .ok v := by
  obtain ⟨meas, hb, _, hall⟩ := est_entries rb tasks r h
  have hlt := rank_lt isMeasured tasks i hi ((isMeasured_iff _).mpr hm)
  have hrb := ((batch_eq_ok rb tasks meas).mp hb).1 fun he => by rw [he] at hlt; cases hlt
  have hlen := hlaw _ _ _ hrb
  rw [submittedCircuits, List.length_map] at hlen
  obtain ⟨v, hv, he⟩ := (hall i hi).2 hm (by rw [hlen]; exact hlt)
  cases hs : meas.getD (rank tasks i) [] with
  | nil =>
    -- a measured operator is not constant, hence has a term, and a term without shots raises
    rw [hs] at he
    cases hop : tasks[i].op with
    | nil => simp [notMeasured, Op.isConstant, hop] at hm
    | cons t ts => rw [hop] at he; exact absurd he (measuredValue_no_shots t ts v)
  | cons s0 rest => exact ⟨meas, s0, rest, v, hrb, hs, hv, hs ▸ he⟩

end measured

theorem coeffSum_foldl (o : Op) (acc : GQ) :
    o.foldl (fun a t => a + t.coeff) acc =
      ⟨acc.re + (o.map (fun t => t.coeff.re)).sum, acc.im + (o.map (fun t => t.coeff.im)).sum⟩ := by
  induction o generalizing acc with
  | nil => simp
  | cons t ts ih =>
    simp only [List.foldl_cons, ih, List.map_cons, List.sum_cons]
    show (⟨acc.re + t.coeff.re + _, acc.im + t.coeff.im + _⟩ : GQ) = _
    congr 1 <;> ring

theorem coeffSum_eq (o : Op) :
    o.coeffSum = ⟨(o.map (fun t => t.coeff.re)).sum, (o.map (fun t => t.coeff.im)).sum⟩ := by
  unfold Op.coeffSum
  rw [coeffSum_foldl]
  show (⟨(0 : Rat) + _, (0 : Rat) + _⟩ : GQ) = _
  simp

section runner
variable {C : Type} (run : Nat → C → Nat → Except Err Shots)

theorem runEach_eq_mapE (k : Nat) (l : List (C × Option Int)) :
    runEach run k l = mapE (fun x : (C × Option Int) × Nat => run x.2 x.1.1 ((x.1.2.getD 0).toNat)) (l.zipIdx k) := by
  induction l generalizing k with
  | nil => rfl
  | cons p rest ih =>
    rw [List.zipIdx_cons, runEach, mapE, ih]
    cases run k p.1 ((p.2.getD 0).toNat) with
    | error e => rfl
    | ok s => cases mapE (fun x : (C × Option Int) × Nat => run x.2 x.1.1 ((x.1.2.getD 0).toNat)) (rest.zipIdx (k + 1)) <;> rfl

theorem runEach_spec (k0 : Nat) (l : List (C × Option Int)) (meas : List Shots) (h : runEach run k0 l = .ok meas) :
    meas.length = l.length ∧
    ∀ (k : Nat) c n, l[k]? = some (c, n) → ∃ s, meas[k]? = some s ∧ run (k0 + k) c ((n.getD 0).toNat) = .ok s := by
  rw [runEach_eq_mapE] at h
  obtain ⟨hl, hk⟩ := mapE_getElem? h
  exact ⟨by rw [hl, List.length_zipIdx], fun k c n hc => hk k ((c, n), k0 + k) (by rw [List.getElem?_zipIdx, hc]; rfl)⟩

theorem baseRunBatch_ok (cs : List C) (ns : List (Option Int)) (meas : List Shots)
    (h : baseRunBatch run cs ns = .ok meas) :
    ns.length = cs.length ∧ runEach run 0 (cs.zip ns) = .ok meas := by
  unfold baseRunBatch at h
  split at h
  · cases h
  · rename_i hl
    split at h
    · cases h
    · exact ⟨not_not.mp hl, h⟩

theorem baseRunBatch_law_of (supp : C → Bits → Prop)
    (hrun : ∀ k c n s, run k c n = .ok s → ∀ x ∈ s, supp c x) : RunnerLaw (baseRunBatch run) supp := by
  constructor
  · intro cs ns meas h
    obtain ⟨hl, hr⟩ := baseRunBatch_ok run cs ns meas h
    rw [(runEach_spec _ _ _ _ hr).1, List.length_zip, hl, Nat.min_self]
  · intro cs ns meas h k c hc s hs
    obtain ⟨hl, hr⟩ := baseRunBatch_ok run cs ns meas h
    have hk : k < ns.length := hl ▸ (List.getElem?_eq_some_iff.mp hc).1
    obtain ⟨s', hs', hrun'⟩ := (runEach_spec _ _ _ _ hr).2 k c ns[k]
      (List.getElem?_zip_eq_some.mpr ⟨hc, List.getElem?_eq_getElem hk⟩)
    rw [List.getD_eq_getElem?_getD, hs'] at hs
    exact hrun _ _ _ _ hrun' s hs

end runner

/-- outcomes of non-zero probability of a driver circuit: if every qubit is definite, only the
    prepared bitstring -/
def simSupp (c : Circ) (s : Bits) : Prop := ∀ b, definiteBits c = some b → s = b

theorem sumTo_eq_sum {R : Type} [AddCommMonoid R] (n : Nat) (f : Nat → R) :
    sumTo n f = ∑ k ∈ Finset.range n, f k := by
  induction n with
  | zero => simp [sumTo]
  | succ n ih =>
    rw [Finset.sum_range_succ, ← ih]
    simp [sumTo, List.range_succ, List.foldl_append]

theorem expectation_eq {K : Type} [CommRing K] [Conj K] (d : Nat) (A : Nat → Nat → K) (ψ : Nat → K) :
    expectation d A ψ = ∑ i ∈ Finset.range d, ∑ j ∈ Finset.range d, conj (ψ i) * A i j * ψ j := by
  unfold expectation
  rw [sumTo_eq_sum]
  apply Finset.sum_congr rfl
  intro i _
  rw [sumTo_eq_sum, Finset.mul_sum]
  apply Finset.sum_congr rfl
  intro j _
  ring

theorem sumTo_congr {K : Type} [Zero K] [Add K] (d : Nat) (f g : Nat → K) (h : ∀ i, i < d → f i = g i) :
    sumTo d f = sumTo d g :=
  List.foldl_ext _ _ _ fun a i hi => by rw [h i (List.mem_range.mp hi)]

theorem expectation_congr {K : Type} [Zero K] [Add K] [Mul K] [Conj K] (d : Nat) (A B : Nat → Nat → K) (ψ φ : Nat → K)
    (hA : ∀ a b, a < d → b < d → A a b = B a b) (hψ : ∀ a, a < d → ψ a = φ a) :
    expectation d A ψ = expectation d B φ := by
  unfold expectation
  apply sumTo_congr
  intro i hi
  rw [hψ i hi]
  congr 1
  apply sumTo_congr
  intro j hj
  rw [hA i j hi hj, hψ j hj]

theorem exactValue_of_wf {C K : Type} [Zero K] [Add K] [Mul K] [Conj K]
    (wf : C → Except Err (Nat × (Nat → K))) (opMat : Op → Nat → Nat → Nat → K) (re : K → K) (t : Task C)
    (n : Nat) (ψ : Nat → K) (hwf : wf t.circuit = .ok (n, ψ)) :
    exactValue wf opMat re t =
      if n < t.op.nQubits then .error .value else .ok (re (expectation (2 ^ n) (opMat t.op n) ψ)) := by
  unfold exactValue
  rw [hwf]

theorem exactValue_congr {C K : Type} [Zero K] [Add K] [Mul K] [Conj K]
    (wf wf' : C → Except Err (Nat × (Nat → K))) (M M' : Op → Nat → Nat → Nat → K) (re : K → K) (t : Task C)
    (n : Nat) (ψ φ : Nat → K) (hwf : wf t.circuit = .ok (n, ψ)) (hwf' : wf' t.circuit = .ok (n, φ))
    (hM : ∀ a b, a < 2 ^ n → b < 2 ^ n → M t.op n a b = M' t.op n a b) (hψ : ∀ a, a < 2 ^ n → ψ a = φ a) :
    exactValue wf M re t = exactValue wf' M' re t := by
  rw [exactValue_of_wf _ _ _ _ _ _ hwf, exactValue_of_wf _ _ _ _ _ _ hwf', expectation_congr _ _ _ _ _ hM hψ]

theorem nQubits_le_iff (o : Op) (n : Nat) : o.nQubits ≤ n ↔ ∀ t ∈ o, ∀ q ∈ t.qubits, q < n := by
  unfold Op.nQubits
  split
  · rename_i hc
    refine ⟨fun _ t ht q hq => ?_, fun _ => Nat.zero_le n⟩
    have := List.isEmpty_iff.mp (List.all_eq_true.mp hc t ht)
    rw [Term.qubits, this] at hq
    cases hq
  · -- the running maximum of the `q + 1` stays below `n` iff each `q + 1` does
    rw [← List.foldl_map (f := (· + 1)) (g := max), foldl_max_le_iff]
    simp only [Nat.zero_le, true_and, List.forall_mem_map, List.mem_flatMap, Nat.add_one_le_iff]
    exact ⟨fun h t ht q hq => h q ⟨t, ht, hq⟩, fun h q ⟨t, ht, hq⟩ => h t ht q hq⟩

/-- the bitstring of basis index `x` on `n` qubits, qubit 0 first (= most significant bit) -/
def bitsOf (n x : Nat) : Bits := (List.range n).map (fun q => bitAt n q x)

theorem bitsOf_length (n x : Nat) : (bitsOf n x).length = n := by simp [bitsOf]

theorem bitsOf_getD (n x q : Nat) (hq : q < n) : (bitsOf n x).getD q 0 = bitAt n q x := by
  simp [bitsOf, List.getD_eq_getElem?_getD, List.getElem?_map, List.getElem?_range hq]

theorem bitAt_le_one (n q x : Nat) : bitAt n q x ≤ 1 := by
  unfold bitAt; omega

theorem getD_le_one (b : Bits) (hb : ∀ x ∈ b, x ≤ 1) (q : Nat) : b.getD q 0 ≤ 1 := by
  rw [List.getD_eq_getElem?_getD]
  cases h : b[q]? with
  | none => simp
  | some x => simpa using hb x (List.mem_of_getElem? h)

theorem bitsOf_getD_le_one (n x q : Nat) : (bitsOf n x).getD q 0 ≤ 1 :=
  getD_le_one _ (fun y hy => by
    obtain ⟨q', _, rfl⟩ := List.mem_map.mp hy
    exact bitAt_le_one n q' x) q

theorem foldl_mul_eq_prod {K : Type} [CommMonoid K] {α : Type} (f : α → K) (l : List α) (a : K) :
    l.foldl (fun acc t => acc * f t) a = a * (l.map f).prod := by
  induction l generalizing a with
  | nil => simp
  | cons x xs ih => simp only [List.foldl_cons, ih, List.map_cons, List.prod_cons, mul_assoc]

theorem lookupOp_none (ops : List (Nat × Pauli)) (q : Nat) (h : q ∉ ops.map (fun p => p.1)) :
    lookupOp ops q = none := by
  unfold lookupOp
  rw [Option.map_eq_none_iff, List.find?_eq_none]
  intro p hp he
  exact h (List.mem_map.mpr ⟨p, hp, beq_iff_eq.mp he⟩)

theorem lookupOp_ising (ops : List (Nat × Pauli)) (q : Nat) (hz : ops.all (fun p => p.2 == Pauli.Z) = true)
    (h : q ∈ ops.map (fun p => p.1)) : lookupOp ops q = some Pauli.Z := by
  unfold lookupOp
  cases hf : ops.find? (fun p => p.1 == q) with
  | none =>
    obtain ⟨p, hp, hpq⟩ := List.mem_map.mp h
    exact absurd (beq_iff_eq.mpr hpq) (List.find?_eq_none.mp hf p hp)
  | some p' =>
    rw [Option.map_some, beq_iff_eq.mp (List.all_eq_true.mp hz p' (List.mem_of_find?_eq_some hf))]

theorem termEntry_diag {K : Type} [CommRing K] (iu : K) (ofGQ : GQ → K) (t : Term) (n x : Nat)
    (hI : t.isIsing = true) (hnd : t.qubits.Nodup) (hw : ∀ q ∈ t.qubits, q < n) :
    termEntry iu ofGQ t n x x = ofGQ t.coeff * ((zEigenvalue t.qubits (bitsOf n x) : Int) : K) := by
  unfold termEntry
  rw [foldl_mul_eq_prod (fun q => qubitFactor iu t.ops n x x q), zEigenvalue, Int.cast_list_prod, List.map_map,
    ← List.prod_toFinset _ hnd, ← List.prod_toFinset _ List.nodup_range]
  congr 1
  -- the factor of a qubit outside the term is 1, of one inside 1 − 2·bit
  refine (Finset.prod_subset (fun q hq => ?_) fun q _ hq => ?_).symm.trans (Finset.prod_congr rfl fun q hq => ?_)
  · exact List.mem_toFinset.mpr (List.mem_range.mpr (hw q (List.mem_toFinset.mp hq)))
  · rw [qubitFactor, lookupOp_none t.ops q fun h => hq (List.mem_toFinset.mpr h)]
    exact if_pos rfl
  · have hq := List.mem_toFinset.mp hq
    rw [qubitFactor, lookupOp_ising t.ops q hI hq, Function.comp, bitsOf_getD n x q (hw q hq)]
    rcases Nat.le_one_iff_eq_zero_or_eq_one.mp (bitAt_le_one n q x) with h0 | h0 <;> simp [h0, pauliEntry]

theorem expectation_basis_ising {K : Type} [CommRing K] [Conj K] (h1 : conj (1 : K) = 1) (h0 : conj (0 : K) = 0)
    (iu : K) (ofGQ : GQ → K) (op : Op) (n x : Nat) (hx : x < 2 ^ n)
    (hI : op.isIsing = true) (hnd : ∀ t ∈ op, t.qubits.Nodup) (hw : ∀ t ∈ op, ∀ q ∈ t.qubits, q < n) :
    expectation (2 ^ n) (opMatrix iu ofGQ op n) (fun j => if j = x then 1 else 0) =
      (op.map (fun t => ofGQ t.coeff * ((zEigenvalue t.qubits (bitsOf n x) : Int) : K))).sum := by
  have hmem : x ∈ Finset.range (2 ^ n) := Finset.mem_range.mpr hx
  -- only the term a = b = x of the double sum survives
  rw [expectation_eq, Finset.sum_eq_single x (fun a _ ha => ?_) (fun h => absurd hmem h),
    Finset.sum_eq_single x (fun b _ hb => ?_) (fun h => absurd hmem h)]
  · rw [if_pos rfl, h1, one_mul, mul_one, opMatrix, foldl_add_eq_sum (fun t => termEntry iu ofGQ t n x x), zero_add]
    congr 1
    apply List.map_congr_left
    intro t ht
    exact termEntry_diag iu ofGQ t n x ((List.all_eq_true.mp hI) t ht) (hnd t ht) (hw t ht)
  · rw [if_neg hb, mul_zero]
  · exact Finset.sum_eq_zero fun b _ => by rw [if_neg ha, h0, zero_mul, zero_mul]

theorem broadcastMaps_eq_self {M : Type} (n : Nat) (maps : List M) (h : maps.length = 1 → n = 1) :
    broadcastMaps n maps = maps := by
  unfold broadcastMaps
  split
  · rw [h rfl]; rfl
  · rfl

theorem evaluateCircuits_ok {C M : Type} (bind : C → M → C) (tasks : List (Task C)) (maps maps' : List M)
    (hb : broadcastMaps tasks.length maps = maps') (hl : maps'.length = tasks.length) :
    ∃ out, evaluateCircuits bind tasks maps = .ok out ∧ out.length = tasks.length ∧
    ∀ i (hi : i < tasks.length) (hi' : i < maps'.length),
      out[i]? = some { op := tasks[i].op, circuit := bind tasks[i].circuit maps'[i], shots := tasks[i].shots } := by
  refine ⟨_, by rw [evaluateCircuits, hb, if_neg (not_not.mpr hl)], ?_, fun i hi hi' => ?_⟩
  · rw [List.length_map, List.length_zip, hl, Nat.min_self]
  · rw [List.getElem?_map, List.getElem?_zip_eq_some (z := (tasks[i], maps'[i])) |>.mpr
      ⟨List.getElem?_eq_getElem hi, List.getElem?_eq_getElem hi'⟩]
    rfl

end OQ.C15
