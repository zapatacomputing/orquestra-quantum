/- `_lift_matrix` entry by entry.  On the inputs it accepts it returns `1 ⊗ Pᵀ (m ⊗ 1) P ⊗ 1` (`liftAt`); the entries of
   that matrix are read off factor by factor: conjugation by a permutation matrix re-indexes, `M ⊗ 1` and `1 ⊗ X` compare
   a remainder resp. a quotient, and quotients and remainders by powers of two are blocks of bits (`C01_Bits`). -/
import OQ.Lemmas.Bridge
import OQ.Lemmas.C01_Bits
import OQ.Lemmas.C01_Perm

namespace OQ.C01
open OQ.Lift OQ
variable {R : Type} [CommRing R]

theorem mul_get (A B : Mat R) (i j : Nat) (hi : i < A.r) (hj : j < B.c) :
    (A.mul B).get i j = ∑ k ∈ Finset.range A.c, A.get i k * B.get k j := by
  unfold Mat.mul; rw [Mat.get_ofFn _ _ _ _ _ hi hj, sumTo_eq]

theorem identity_get (d a b : Nat) (ha : a < d) (hb : b < d) :
    (Mat.identity (R := R) d).get a b = if a = b then 1 else 0 := by
  unfold Mat.identity; rw [Mat.get_ofFn _ _ _ _ _ ha hb]

theorem transpose_get (A : Mat R) (i j : Nat) (hi : i < A.c) (hj : j < A.r) : A.transpose.get i j = A.get j i := by
  unfold Mat.transpose; rw [Mat.get_ofFn _ _ _ _ _ hi hj]

/-- the 0/1 matrix whose column `c` is the basis vector `f c` -/
def sel (d : Nat) (f : Nat → Nat) : Mat R := Mat.ofFn d d (fun row col => if row = f col then 1 else 0)

theorem conj_sel_get (f : Nat → Nat) (d : Nat) (hf : ∀ x, f x < d) (G : Mat R) (hGc : G.c = d)
    (r c : Nat) (hr : r < d) (hc : c < d) :
    (Mat.mul (Mat.mul (Mat.transpose (sel d f)) G) (sel d f)).get r c = G.get (f r) (f c) := by
  have hP : ∀ a b, a < d → b < d → (sel (R := R) d f).get a b = if a = f b then 1 else 0 := fun a b ha hb =>
    Mat.get_ofFn _ _ _ _ _ ha hb
  have hPt : ∀ k, k < d → (Mat.transpose (sel (R := R) d f)).get r k = if k = f r then 1 else 0 := fun k hk => by
    rw [transpose_get _ _ _ hr hk, hP k r hk hr]
  have h1 : ∀ j, j < d → (Mat.mul (Mat.transpose (sel d f)) G).get r j = G.get (f r) j := by
    intro j hj
    rw [mul_get _ _ _ _ hr (hGc ▸ hj)]
    show ∑ k ∈ Finset.range d, _ = _
    rw [Finset.sum_congr rfl fun k hk => by rw [hPt k (Finset.mem_range.mp hk)]]
    simp only [ite_mul, one_mul, zero_mul, Finset.sum_ite_eq', Finset.mem_range, hf r, if_true]
  rw [mul_get _ _ _ _ hr hc]
  show ∑ k ∈ Finset.range G.c, _ = _
  rw [hGc, Finset.sum_congr rfl fun k hk => by
    rw [h1 k (Finset.mem_range.mp hk), hP k c (Finset.mem_range.mp hk) hc]]
  simp only [mul_ite, mul_one, mul_zero, Finset.sum_ite_eq', Finset.mem_range, hf c, if_true]

/-- the matrix `_permutation_matrix` builds for a permutation `order` of the qubits: column `c` is the basis vector whose
    index reads `c` at the positions `order` -/
def permMat (order : List Nat) : Mat R := sel (2 ^ order.length) (sub order.length order)

theorem permutationMatrix_eq (order : List Nat) (span : Nat) (h : order.Perm (List.range span)) :
    permutationMatrix (R := R) order = some (permMat order) := by
  have hlen : order.length = span := by rw [h.length_eq, List.length_range]
  unfold permutationMatrix
  rw [isPermutation_of_perm order (hlen ▸ h)]
  simp only [Bool.not_true, Bool.false_eq_true, if_false, Option.some.injEq]
  unfold permMat sel
  congr 1
  funext row col
  rw [permute_basis col order.length order fun i hi => hlen ▸ List.mem_range.mp (h.subset hi)]
  rfl

theorem permutationMatrix_of_false (order : List Nat) (h : isPermutation order = false) :
    permutationMatrix (R := R) order = none := by
  unfold permutationMatrix; rw [h]; rfl

theorem kron_id_get (m : Mat R) (e a b : Nat) (ha : a < m.r * e) (hb : b < m.c * e) :
    (Mat.kron m (Mat.identity e)).get a b = if a % e = b % e then m.get (a / e) (b / e) else 0 := by
  have he : 0 < e := Nat.pos_of_ne_zero (by rintro rfl; exact absurd ha (Nat.not_lt_zero _))
  rw [Mat.kron_get _ _ _ _ ha hb]
  show _ * (Mat.identity e).get (a % e) (b % e) = _
  rw [identity_get _ _ _ (Nat.mod_lt _ he) (Nat.mod_lt _ he), mul_ite, mul_one, mul_zero]
  rfl

theorem id_kron_get (X : Mat R) (a i j : Nat) (hi : i < a * X.r) (hj : j < a * X.c) :
    (Mat.kron (Mat.identity a) X).get i j = if i / X.r = j / X.c then X.get (i % X.r) (j % X.c) else 0 := by
  rw [Mat.kron_get _ _ _ _ hi hj, identity_get _ _ _ (Nat.div_lt_of_lt_mul (by rwa [Nat.mul_comm]))
    (Nat.div_lt_of_lt_mul (by rwa [Nat.mul_comm])), ite_mul, one_mul, zero_mul]

theorem sandwich_get (X : Mat R) (a d b : Nat) (hXr : X.r = d) (hXc : X.c = d)
    (row col : Nat) (hrow : row < a * d * b) (hcol : col < a * d * b) :
    (Mat.kron (Mat.kron (Mat.identity a) X) (Mat.identity b)).get row col =
      if row % b = col % b ∧ row / (b * d) = col / (b * d) then X.get (row / b % d) (col / b % d) else 0 := by
  subst hXr
  have hcol' : col < a * X.c * b := by rw [hXc]; exact hcol
  rw [kron_id_get _ _ _ _ hrow hcol', id_kron_get X a _ _ (Nat.div_lt_of_lt_mul (by rwa [Nat.mul_comm]))
    (Nat.div_lt_of_lt_mul (by rwa [Nat.mul_comm])), hXc, Nat.div_div_eq_div_mul, Nat.div_div_eq_div_mul, ← ite_and]

/-- `Pᵀ (m ⊗ 1) P` for the qubit permutation `order`, with the identity on `e` qubits -/
def conjKron (m : Mat R) (order : List Nat) (e : Nat) : Mat R :=
  Mat.mul (Mat.mul (Mat.transpose (permMat order)) (Mat.kron m (Mat.identity (2 ^ e)))) (permMat order)

theorem conjKron_get (m : Mat R) (front rest : List Nat) (hmr : m.r = 2 ^ front.length) (hmc : m.c = 2 ^ front.length)
    (r c : Nat) (hr : r < 2 ^ (front ++ rest).length) (hc : c < 2 ^ (front ++ rest).length) :
    (conjKron m (front ++ rest) rest.length).get r c =
      if (∀ j ∈ rest, bit (front ++ rest).length j r = bit (front ++ rest).length j c)
      then m.get (sub (front ++ rest).length front r) (sub (front ++ rest).length front c) else 0 := by
  have hG : 2 ^ front.length * 2 ^ rest.length = 2 ^ (front ++ rest).length := by rw [List.length_append, pow_add]
  have hlt : ∀ x, sub (front ++ rest).length (front ++ rest) x < 2 ^ front.length * 2 ^ rest.length := fun x =>
    hG ▸ sub_lt _ _ x
  rw [conjKron, permMat, conj_sel_get _ _ (fun x => sub_lt _ _ x) _ (by rw [← hG, ← hmc]; rfl)
      r c hr hc,
    kron_id_get _ _ _ _ (hmr ▸ hlt r) (hmc ▸ hlt c), sub_append, sub_append,
    (div_mod_of_split _ _ _ (sub_lt _ rest r)).1, (div_mod_of_split _ _ _ (sub_lt _ rest r)).2,
    (div_mod_of_split _ _ _ (sub_lt _ rest c)).1, (div_mod_of_split _ _ _ (sub_lt _ rest c)).2]
  exact if_congr (sub_eq_iff _ rest r c) rfl rfl

/-- `1 ⊗ Pᵀ (m ⊗ 1) P ⊗ 1` on `s + span + t` qubits: `m` on the qubits `qs`, which lie among the `span` qubits that
    follow the first `s` -/
def liftAt (m : Mat R) (qs : List Nat) (s span t : Nat) : Mat R :=
  Mat.kron (Mat.kron (Mat.identity (2 ^ s))
    (conjKron m (permMakingAdjacent (qs.map (fun q => q - s)) span) (span - qs.length))) (Mat.identity (2 ^ t))

theorem liftMatrix_eq_ite (m : Mat R) (qs : List Nat) (n : Nat) :
    liftMatrix m qs n = if qs ≠ [] ∧ qs.Nodup ∧ ∀ q ∈ qs, q < n
      then some (liftAt m qs (listMin qs) (listMax qs - listMin qs + 1) (n - listMax qs - 1)) else none := by
  by_cases hne : qs = []
  · subst hne; rfl
  unfold liftMatrix
  rw [if_neg (by simpa using hne)]
  dsimp only
  by_cases hn : n ≤ listMax qs
  · rw [if_pos hn, if_neg fun h => absurd (h.2.2 _ (listMax_mem qs hne)) (not_lt.mpr hn)]
  rw [if_neg hn]
  by_cases hd : qs.Nodup
  · rw [if_neg (not_lt.mpr (length_le_span qs hd)),
      if_pos (c := _ ∧ _ ∧ _) ⟨hne, hd, fun q hq => lt_of_le_of_lt (le_listMax qs q hq) (not_le.mp hn)⟩,
      permutationMatrix_eq _ _ (permMakingAdjacent_perm _ _ ((shifted_nodup_iff qs _ _ (mem_window qs)).mpr hd)
        (shifted_lt qs _ _ (mem_window qs)))]
    rfl
  · rw [if_neg (c := _ ∧ _ ∧ _) fun h => hd h.2.1,
      permutationMatrix_of_false _ (isPermutation_false_of_dup _ _ (shifted_lt qs _ _ (mem_window qs))
        (mt (shifted_nodup_iff qs _ _ (mem_window qs)).mp hd))]
    exact ite_self _

/-- duplicated qubit indices are rejected (`ValueError("Not all qubits given in permutation.")`) -/
theorem liftMatrix_none_of_dup (m : Mat R) (qs : List Nat) (n : Nat) (hdup : ¬ qs.Nodup) :
    liftMatrix m qs n = none := by
  rw [liftMatrix_eq_ite, if_neg fun h => hdup h.2.1]

theorem liftMatrix_of_valid (m : Mat R) (qs : List Nat) (n : Nat)
    (hne : qs ≠ []) (hd : qs.Nodup) (hlt : ∀ q ∈ qs, q < n) :
    ∃ s span t, n = s + span + t ∧ (∀ q ∈ qs, s ≤ q ∧ q < s + span) ∧ liftMatrix m qs n = some (liftAt m qs s span t) := by
  refine ⟨_, _, _, ?_, mem_window qs, by rw [liftMatrix_eq_ite, if_pos ⟨hne, hd, hlt⟩]⟩
  have := hlt _ (listMax_mem qs hne)
  have := listMin_le qs _ (listMax_mem qs hne)
  omega

theorem forall_lt_add (a b : Nat) (Q : Nat → Prop) :
    (∀ q, q < a + b → Q q) ↔ (∀ q, q < a → Q q) ∧ ∀ j, j < b → Q (a + j) :=
  ⟨fun h => ⟨fun q hq => h q (by omega), fun j hj => h _ (by omega)⟩, fun ⟨h1, h2⟩ q hq =>
    if c : q < a then h1 q c else Nat.add_sub_cancel' (not_lt.mp c) ▸ h2 (q - a) (by omega)⟩

theorem agree_split (P : Nat → Prop) (qs : List Nat) (s span t n : Nat) (hn : n = s + span + t)
    (hq : ∀ q ∈ qs, s ≤ q ∧ q < s + span) :
    (((∀ j, j < t → P (s + span + j)) ∧ (∀ q, q < s → P q)) ∧
      (∀ j, j < span → j ∉ qs.map (fun q => q - s) → P (s + j))) ↔ ∀ q, q < n → q ∉ qs → P q := by
  subst hn
  rw [forall_lt_add, forall_lt_add, and_comm (a := ∀ j, j < t → _), and_right_comm]
  refine and_congr (and_congr ?_ ?_) ?_
  · exact forall₂_congr fun q h => (imp_iff_right fun hm => by have := (hq q hm).1; omega).symm
  · refine forall₂_congr fun j _ => imp_congr_left (not_congr ?_)
    rw [List.mem_map]
    exact ⟨fun ⟨q, hm, he⟩ => by have := (hq q hm).1; rwa [show s + j = q by omega],
      fun hm => ⟨s + j, hm, Nat.add_sub_cancel_left ..⟩⟩
  · exact forall₂_congr fun j h => (imp_iff_right fun hm => by have := (hq _ hm).2; omega).symm

theorem liftAt_spec (m : Mat R) (qs : List Nat) (s span t n : Nat) (hn : n = s + span + t)
    (hq : ∀ q ∈ qs, s ≤ q ∧ q < s + span) (hd : qs.Nodup)
    (hmr : m.r = 2 ^ qs.length) (hmc : m.c = 2 ^ qs.length) :
    (liftAt m qs s span t).r = 2 ^ n ∧ (liftAt m qs s span t).c = 2 ^ n ∧
      ∀ row col, row < 2 ^ n → col < 2 ^ n →
        (liftAt m qs s span t).get row col = if (∀ q, q < n → q ∉ qs → bit n q row = bit n q col)
          then m.get (sub n qs row) (sub n qs col) else 0 := by
  -- the permutation: the shifted indices, then the other positions of the window
  obtain ⟨sh, hsh⟩ : ∃ sh, sh = qs.map (fun q => q - s) := ⟨_, rfl⟩
  have hshlen : sh.length = qs.length := by rw [hsh, List.length_map]
  obtain ⟨rest, hord, hlen, hmem_rest⟩ := permMakingAdjacent_split sh span
    (hsh ▸ (shifted_nodup_iff qs s span hq).mpr hd) (hsh ▸ shifted_lt qs s span hq)
  have hrl : span - qs.length = rest.length := by
    rw [← hlen, List.length_append, hshlen, Nat.add_sub_cancel_left]
  have hpow : 2 ^ s * 2 ^ (sh ++ rest).length * 2 ^ t = 2 ^ n := by rw [hlen, ← pow_add, ← pow_add, hn]
  unfold liftAt
  rw [← hsh, hord]
  refine ⟨hpow, hpow, fun row col hrow hcol => ?_⟩
  have hdlt : ∀ x, x / 2 ^ t % 2 ^ (sh ++ rest).length < 2 ^ (sh ++ rest).length := fun x => Nat.mod_lt _ (Nat.two_pow_pos _)
  rw [sandwich_get _ (2 ^ s) (2 ^ (sh ++ rest).length) (2 ^ t) rfl rfl row col (hpow ▸ hrow) (hpow ▸ hcol), hrl,
    conjKron_get m sh rest (hshlen ▸ hmr) (hshlen ▸ hmc) _ _ (hdlt row) (hdlt col), ← ite_and, hlen, hsh,
    sub_window n s span t hn qs hq row, sub_window n s span t hn qs hq col]
  refine if_congr ?_ rfl rfl
  have hmid : (∀ j ∈ rest, bit span j (row / 2 ^ t % 2 ^ span) = bit span j (col / 2 ^ t % 2 ^ span)) ↔
      ∀ j, j < span → j ∉ sh → bit n (s + j) row = bit n (s + j) col := by
    refine forall_congr' fun j => ?_
    rw [hmem_rest, and_imp]
    exact forall₂_congr fun hj _ => by rw [bit_window n s span t j row hn hj, bit_window n s span t j col hn hj]
  rw [← pow_add, low_eq_iff n (s + span) t row col hn, high_eq_iff n s (t + span) row col (by omega) hrow hcol, hmid, hsh]
  exact agree_split (fun q => bit n q row = bit n q col) qs s span t n hn hq

end OQ.C01
