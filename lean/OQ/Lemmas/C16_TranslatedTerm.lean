/- `sorted` on Python ints against the model's `sortNat`; the loop of `time_evolution_for_term` (basis change, conditionally assigned
   central gate, CNOT ladder with the checked look-ahead `qubit_indices[i + 1]`) as a generic fold. -/
import OQ.Model.C16
import OQ.Exec.Py
namespace OQ.C16
open OQ.Pauli

theorem insertInt_map (a : Nat) (l : List Nat) :
    OQ.Py.insertInt (a : Int) (l.map Int.ofNat) = (insertNat a l).map Int.ofNat := by
  induction l with
  | nil => rfl
  | cons b l ih =>
    simp only [List.map_cons, OQ.Py.insertInt, insertNat, Int.ofNat_eq_natCast, Int.ofNat_le]
    by_cases h : a ≤ b
    · simp [h]
    · simp only [h, if_false, List.map_cons]
      rw [← ih]; rfl

theorem sortedInts_map (l : List Nat) : OQ.Py.sortedInts (l.map Int.ofNat) = (sortNat l).map Int.ofNat := by
  induction l with
  | nil => rfl
  | cons a l ih =>
    simp only [List.map_cons, OQ.Py.sortedInts, sortNat, ih]
    exact insertInt_map a _

theorem indexE_next (pre : List Nat) (q q' : Nat) (rest : List Nat) :
    (OQ.Py.indexE ((pre ++ q :: q' :: rest).map Int.ofNat) ((pre.length : Int) + 1)).toOption = some (q' : Int) := by
  unfold OQ.Py.indexE
  have h0 : (0 : Int) ≤ (pre.length : Int) + 1 := by omega
  have h1 : ((pre.length : Int) + 1).toNat = pre.length + 1 := by omega
  simp only [h0, if_true, h1, List.getElem?_map]
  have : (pre ++ q :: q' :: rest)[pre.length + 1]? = some q' := by
    rw [List.getElem?_append_right (by omega)]
    simp
  rw [this]
  rfl

section loop
variable {T : Type}

/-- the state of the loop: (basis_change, central_gate – possibly unbound –, cnot_gates) -/
abbrev LoopState (T : Type) := Circ T × Option (GOp T) × Circ T

/-- THE LOOP of `time_evolution_for_term`, for any body `F` that behaves as the Python body does on the pair (index, qubit):
    at the last index (`i == n - 1`) the central gate is assigned, at every other index a CNOT to the NEXT qubit (read with a checked
    subscript) is appended; the basis change `bc q` is appended in both cases.  Over the qubits `suf` from position `pre.length` on,
    the loop appends the basis changes and the CNOT ladder of `suf`, and binds the central gate to the last qubit. -/
theorem loop_spec (F : LoopState T → Int × Int → Option (LoopState T)) (bc : Nat → Circ T) (cz : Nat → GOp T) (all : List Nat)
    (hF : ∀ (b : Circ T) (c : Option (GOp T)) (cn : Circ T) (i q : Nat),
      F (b, c, cn) ((i : Int), (q : Int)) =
        if i + 1 = all.length then some (b ++ bc q, some (cz q), cn)
        else (OQ.Py.indexE (all.map Int.ofNat) ((i : Int) + 1)).toOption.bind
          (fun r => some (b ++ bc q, c, cn ++ [⟨.CNOT, [q, r.toNat]⟩])))
    (pre suf : List Nat) (hall : pre ++ suf = all) (b : Circ T) (c : Option (GOp T)) (cn : Circ T) :
    OQ.Py.foldlOpt F (b, c, cn) (((suf.map Int.ofNat).zipIdx pre.length).map (fun p => (((p.2 : Nat) : Int), p.1)))
      = some (b ++ suf.flatMap bc, (match suf.getLast? with | none => c | some l => some (cz l)), cn ++ ladder suf) := by
  induction suf generalizing pre b c cn with
  | nil => simp [OQ.Py.foldlOpt, ladder]
  | cons q suf ih =>
    simp only [List.map_cons, List.zipIdx_cons, OQ.Py.foldlOpt, Int.ofNat_eq_natCast]
    rw [hF]
    cases suf with
    | nil =>
      have hl : pre.length + 1 = all.length := by rw [← hall]; simp
      simp [hl, OQ.Py.foldlOpt, ladder]
    | cons q' rest =>
      have hl : ¬ (pre.length + 1 = all.length) := by rw [← hall]; simp
      simp only [hl, if_false]
      rw [← hall, indexE_next]
      simp only [Option.bind_some, Int.toNat_natCast]
      have := ih (pre ++ [q]) (by rw [← hall]; simp) (b ++ bc q) c (cn ++ [⟨.CNOT, [q, q']⟩])
      simp only [List.length_append, List.length_singleton] at this
      rw [this]
      simp [ladder, List.getLast?_cons_cons]

theorem loop_spec_all (F : LoopState T → Int × Int → Option (LoopState T)) (bc : Nat → Circ T) (cz : Nat → GOp T) (all : List Nat)
    (hF : ∀ (b : Circ T) (c : Option (GOp T)) (cn : Circ T) (i q : Nat),
      F (b, c, cn) ((i : Int), (q : Int)) =
        if i + 1 = all.length then some (b ++ bc q, some (cz q), cn)
        else (OQ.Py.indexE (all.map Int.ofNat) ((i : Int) + 1)).toOption.bind
          (fun r => some (b ++ bc q, c, cn ++ [⟨.CNOT, [q, r.toNat]⟩]))) :
    OQ.Py.foldlOpt F ([], none, []) (((all.map Int.ofNat).zipIdx).map (fun p => (((p.2 : Nat) : Int), p.1)))
      = some (all.flatMap bc, (match all.getLast? with | none => none | some l => some (cz l)), ladder all) := by
  have := loop_spec F bc cz all hF [] all rfl [] none []
  simpa using this

end loop

section bc
variable {Q T : Type} [One Q] [Div Q] [NatCast Q]

/-- the basis-change operations of one qubit -/
def basisOps (alg : TimeAlg Q T) (t : Term (Q × Q)) (q : Nat) : Circ T :=
  match t.opAt q with
  | some .X => [⟨.H, [q]⟩]
  | some .Y => [⟨.RX (alg.smul (1 / ((2 : Nat) : Q)) alg.pi), [q]⟩]
  | _ => []

theorem basisChange_flatMap (alg : TimeAlg Q T) (t : Term (Q × Q)) (qs : List Nat) :
    basisChange alg t qs = qs.flatMap (basisOps alg t) := by
  induction qs with
  | nil => rfl
  | cons q qs ih =>
    simp only [basisChange, List.flatMap_cons, basisOps]
    cases h : t.opAt q with
    | none => simp [ih]
    | some p => cases p <;> simp [ih]

end bc

end OQ.C16
