/-
  C18 ⟷ C01 / C02 — linking lemmas.
  * the STANDARD placement of the code: a qubit tuple `qs` of an `n`-qubit register is placed through
    `OQ.Spec.lift` along C01's partition `sigmaOf qs n`, gate indices read MSB first (`bvEquiv`);
  * under it, C18's action of a valid gate operation IS C01's `opSem` of it (`denoteOp_std`);
  * on well-shaped gates `Lift.toUnitary` (executable, no shape check) is C01's `toUnitary` (with numpy's shape check;
    `C01.lift_toUnitary_eq`): what a successful `circuitUnitary` tells about its input, and when it succeeds;
  * a gate on the whole register, qubits in order, is placed as itself, so a circuit of such gates returns the plain
    product of their matrices (`liftMatrix_range`, `circuitUnitary_range`): concrete witnesses then need arithmetic only;
  * structural invariants of the U3 rule under chaining: qubit tuples are kept, nothing becomes empty.
-/
import OQ.Lemmas.C18
import OQ.Lemmas.C18_Complex
import OQ.Lemmas.C01
import OQ.Props.C01
set_option linter.unusedSectionVars false
namespace OQ.C18.Link
open Matrix OQ OQ.Spec OQ.C18 OQ.Lift

section Std
variable {R : Type} [CommRing R]

/-- the `Spec.lift` data of a valid qubit tuple: C01's partition and MSB-first index reading -/
noncomputable def stdData (n : Nat) (qs : List Nat) (hd : qs.Nodup) (hlt : ∀ q ∈ qs, q < n) :
    LiftData (Fin n) qs.length :=
  ⟨Fin qs.length, {q : Fin n // q.val ∉ qs}, C01.sigmaOf qs n hd hlt, C01.bvEquiv qs.length⟩

/-- the placement the code implements (`_lift_matrix`), as an instance of `Placement.ofLift` -/
noncomputable def stdPlacement (R : Type) [CommRing R] (n : Nat) : Placement R (Fin n) :=
  Placement.ofLift (fun qs =>
    if h : qs.Nodup ∧ ∀ q ∈ qs, q < n then some (stdData n qs h.1 h.2) else none)

theorem stdPlacement_emb (n : Nat) (qs : List Nat) (hd : qs.Nodup) (hlt : ∀ q ∈ qs, q < n)
    (M : Matrix (Fin (2 ^ qs.length)) (Fin (2 ^ qs.length)) R) :
    (stdPlacement R n).emb qs M =
      Spec.lift (C01.sigmaOf qs n hd hlt) (Matrix.reindex (C01.bvEquiv qs.length) (C01.bvEquiv qs.length) M) := by
  simp only [stdPlacement, Placement.ofLift, dif_pos (And.intro hd hlt)]
  rfl

end Std

section MapM
variable {α β : Type}

theorem mapM_cons_eq_some {f : α → Option β} {x : α} {xs : List α} {ys : List β} :
    (x :: xs).mapM f = some ys ↔ ∃ y, f x = some y ∧ ∃ ys', xs.mapM f = some ys' ∧ y :: ys' = ys := by
  simp only [List.mapM_cons, Option.bind_eq_bind, Option.pure_def, Option.bind_eq_some_iff, Option.some.injEq]

theorem mapM_some (f : α → Option β) : ∀ (xs : List α) (ys : List β), xs.mapM f = some ys →
    ys.length = xs.length ∧ ∀ x ∈ xs, (f x).isSome
  | [], _, h => by cases h; exact ⟨rfl, nofun⟩
  | x :: xs, _, h => by
    obtain ⟨y, hy, ys', hys, rfl⟩ := mapM_cons_eq_some.mp h
    obtain ⟨h1, h2⟩ := mapM_some f xs ys' hys
    exact ⟨congrArg (· + 1) h1, List.forall_mem_cons.mpr ⟨hy ▸ rfl, h2⟩⟩

end MapM

section LiftOps
variable {R : Type} [CommRing R]

theorem liftOps_cons_eq_some {k : Scal R} {op : Operation (Ang R) R} {ops : List (Operation (Ang R) R)}
    {l : List (Lift.Op R)} :
    liftOps k (op :: ops) = some l ↔ ∃ g qs m l', op = .gate g qs ∧ gateMatrix k g = some m ∧
      liftOps k ops = some l' ∧ l = ⟨m, qs⟩ :: l' := by
  unfold liftOps
  rw [mapM_cons_eq_some]
  cases op with
  | other t qs => simp
  | gate g qs =>
    simp only [Option.map_eq_some_iff, Operation.gate.injEq]
    constructor
    · rintro ⟨_, ⟨m, hm, rfl⟩, l', hl', rfl⟩
      exact ⟨g, qs, m, l', ⟨rfl, rfl⟩, hm, hl', rfl⟩
    · rintro ⟨_, _, m, l', ⟨rfl, rfl⟩, hm, hl', rfl⟩
      exact ⟨_, ⟨m, hm, rfl⟩, l', hl', rfl⟩

theorem liftOps_spec (k : Scal R) : ∀ {ops : List (Operation (Ang R) R)} {l : List (Lift.Op R)},
    liftOps k ops = some l →
      l.map (fun o => o.qs) = ops.map Operation.qs ∧
      ∀ o ∈ l, ∃ g, Operation.gate g o.qs ∈ ops ∧ gateMatrix k g = some o.m
  | [], _, h => by cases h; exact ⟨rfl, nofun⟩
  | _ :: ops, _, h => by
    obtain ⟨g, qs, m, l', rfl, hm, hl', rfl⟩ := liftOps_cons_eq_some.mp h
    obtain ⟨h1, h2⟩ := liftOps_spec k hl'
    refine ⟨congrArg (qs :: ·) h1, List.forall_mem_cons.mpr ⟨⟨g, List.mem_cons_self, hm⟩, fun o ho => ?_⟩⟩
    obtain ⟨g', hg', hm'⟩ := h2 o ho
    exact ⟨g', List.mem_cons_of_mem _ hg', hm'⟩

theorem liftOps_eq_nil (k : Scal R) (ops : List (Operation (Ang R) R)) (l : List (Lift.Op R))
    (h : liftOps k ops = some l) : l = [] ↔ ops = [] := by
  have := congrArg List.length (liftOps_spec k h).1
  rw [List.length_map, List.length_map] at this
  rw [← List.length_eq_zero_iff, this, List.length_eq_zero_iff]

/-- the gate's matrix has the dimension of its qubit tuple (numpy's / sympy's `@` raises otherwise: C01
    `lifted_matrix_defined_iff`) -/
def WellShaped (k : Scal R) : Operation (Ang R) R → Prop
  | .gate g qs => ∀ m, gateMatrix k g = some m → m.r = 2 ^ qs.length ∧ m.c = 2 ^ qs.length
  | .other _ _ => True

end LiftOps

section Denote
variable {R : Type} [CommRing R] [StarRing R]

theorem denoteOp_std (n : Nat) (k : Scal R) (g : Gate (Ang R) R) (qs : List Nat) (m : Mat R)
    (hm : gateMatrix k g = some m) (hv : C01.OpValid n (⟨m, qs⟩ : Lift.Op R)) :
    denoteOp (stdPlacement R n) k (.gate g qs) = some (C01.opSem n ⟨m, qs⟩) := by
  rw [denoteOp_gate_eq_some]
  refine ⟨m, hm, ⟨hv.mr, hv.mc⟩, ?_⟩
  rw [stdPlacement_emb n qs hv.nodup hv.lt, C01.opSem, dif_pos hv]
  rfl

theorem liftOps_of_denote {ι : Type} [Fintype ι] [DecidableEq ι] (E : Placement R ι) (k : Scal R) :
    ∀ (ops : List (Operation (Ang R) R)) (V : Matrix (BV ι) (BV ι) R), denote E k ops = some V →
    ∃ l, liftOps k ops = some l ∧ ∀ o ∈ l, o.m.r = 2 ^ o.qs.length ∧ o.m.c = 2 ^ o.qs.length
  | [], _, _ => ⟨[], rfl, nofun⟩
  | op :: ops, V, h => by
    simp only [denote, denoteBy, Option.bind_eq_some_iff] at h
    obtain ⟨a, ha, b, hb, -⟩ := h
    obtain ⟨l', hl', hs'⟩ := liftOps_of_denote E k ops b hb
    cases op with
    | other t qs => cases ha
    | gate g qs =>
      obtain ⟨m, hm, hsh, -⟩ := denoteOp_gate_eq_some.mp ha
      exact ⟨⟨m, qs⟩ :: l', liftOps_cons_eq_some.mpr ⟨g, qs, m, l', rfl, hm, hl', rfl⟩,
        List.forall_mem_cons.mpr ⟨hsh, hs'⟩⟩

end Denote

section ToUnitary
variable {R : Type} [CommRing R]

theorem toUnitary_some_valid (n : Nat) (l : List (Lift.Op R)) (U : Mat R)
    (hs : ∀ o ∈ l, o.m.r = 2 ^ o.qs.length ∧ o.m.c = 2 ^ o.qs.length) (h : Lift.toUnitary n l = some U) :
    l ≠ [] ∧ ∀ o ∈ l, C01.OpValid n o := by
  unfold Lift.toUnitary at h
  split at h
  · cases h
  · rename_i ms hms
    obtain ⟨hlen, hall⟩ := mapM_some _ _ _ hms
    refine ⟨?_, fun o ho => (C01.lifted_matrix_defined_iff n o).mp ?_⟩
    · rintro rfl
      obtain rfl := List.eq_nil_of_length_eq_zero hlen
      cases h
    · rw [C01.gateLift, if_pos (hs o ho)]
      exact hall o (List.mem_reverse.mpr ho)

theorem circuitUnitary_eq_some {k : Scal R} {c : Circuit (Ang R) R} {U : Mat R} :
    circuitUnitary k c = some U ↔ ∃ l, liftOps k c.ops = some l ∧ Lift.toUnitary c.n l = some U := by
  unfold circuitUnitary
  cases liftOps k c.ops <;> simp

variable [StarRing R]

theorem circuitUnitary_of_valid (k : Scal R) (n : Nat) (ops : List (Operation (Ang R) R)) (l : List (Lift.Op R))
    (hl : liftOps k ops = some l) (hne : l ≠ []) (hv : ∀ o ∈ l, C01.OpValid n o) :
    ∃ U, circuitUnitary k ⟨ops, n⟩ = some U ∧ U.r = 2 ^ n ∧ U.c = 2 ^ n ∧
      C01.toBV n U = C01.circSem n (l.map C01.Oper.gate) := by
  obtain ⟨U, hU, hrest⟩ := C01.toUnitary_ordered_product n l hne hv
  rw [← C01.lift_toUnitary_eq n l fun o ho => ⟨(hv o ho).mr, (hv o ho).mc⟩] at hU
  exact ⟨U, circuitUnitary_eq_some.mpr ⟨l, hl, hU⟩, hrest⟩

theorem circuitUnitary_valid (k : Scal R) (n : Nat) (ops : List (Operation (Ang R) R))
    (hshape : ∀ op ∈ ops, WellShaped k op) (U : Mat R) (hU : circuitUnitary k ⟨ops, n⟩ = some U) :
    ∃ l, liftOps k ops = some l ∧ l ≠ [] ∧ (∀ o ∈ l, C01.OpValid n o) ∧ U.r = 2 ^ n ∧ U.c = 2 ^ n ∧
      C01.toBV n U = C01.circSem n (l.map C01.Oper.gate) := by
  obtain ⟨l, hl, hU'⟩ := circuitUnitary_eq_some.mp hU
  obtain ⟨hne, hv⟩ := toUnitary_some_valid n l U (fun o ho =>
    let ⟨g, hg, hm⟩ := (liftOps_spec k hl).2 o ho
    hshape _ hg o.m hm) hU'
  obtain ⟨U0, hU0, hrest⟩ := circuitUnitary_of_valid k n ops l hl hne hv
  exact ⟨l, hl, hne, hv, Option.some.inj (hU0.symm.trans hU) ▸ hrest⟩

end ToUnitary

section Entries
variable {R : Type} [CommRing R]

theorem entries_of_toBV (n : Nat) (U U' : Mat R) (p : R) (h : C01.toBV n U = p • C01.toBV n U')
    (hr : U.r = 2 ^ n) (hc : U.c = 2 ^ n) (hr' : U'.r = 2 ^ n) (hc' : U'.c = 2 ^ n) :
    ∀ i j, U.get i j = p * U'.get i j := by
  intro i j
  by_cases hij : i < 2 ^ n ∧ j < 2 ^ n
  · have := congrFun (congrFun h (C01.bvEquiv n ⟨i, hij.1⟩)) (C01.bvEquiv n ⟨j, hij.2⟩)
    simpa [C01.toBV_apply, Matrix.smul_apply] using this
  · rw [Mat.get_out U i j (by rw [hr, hc]; exact hij), Mat.get_out U' i j (by rw [hr', hc']; exact hij), mul_zero]

end Entries

section Whole
variable {R : Type} [CommRing R]

theorem sub_range (n x : Nat) : C01.sub n (List.range n) x = x % 2 ^ n := by
  have hlt := C01.sub_lt n (List.range n) x
  rw [List.length_range] at hlt
  -- bit `j` of the sub-index is the bit of `x` at qubit `(range n)[j] = j`
  refine (C01.eq_iff_bits n _ _ hlt (Nat.mod_lt _ (Nat.two_pow_pos n))).mpr fun j hj => ?_
  have := C01.sub_testBit n (List.range n) x j (by rwa [List.length_range])
  rw [List.getElem_range, List.length_range] at this
  rw [C01.bit_mod n 0 n j x (Nat.zero_add n).symm hj, Nat.zero_add, C01.bit_eq_testBit, C01.bit_eq_testBit, this]

theorem opValid_range (m : Mat R) (n : Nat) (hn : n ≠ 0) (h : m.r = 2 ^ n ∧ m.c = 2 ^ n) :
    C01.OpValid n ⟨m, List.range n⟩ :=
  have hl := (List.length_range (n := n)).symm
  ⟨fun e => hn (List.range_eq_nil.mp e), List.nodup_range, fun _ => List.mem_range.mp, hl ▸ h.1, hl ▸ h.2⟩

theorem liftMatrix_range (m : Mat R) (n : Nat) (hn : n ≠ 0) (h : m.r = 2 ^ n ∧ m.c = 2 ^ n) :
    ∃ L, liftMatrix m (List.range n) n = some L ∧ L.r = 2 ^ n ∧ L.c = 2 ^ n ∧
      ∀ i j, i < 2 ^ n → j < 2 ^ n → L.get i j = m.get i j := by
  have hv := opValid_range m n hn h
  obtain ⟨L, hL, hr, hc, hget⟩ := C01.liftMatrix_pointwise m (List.range n) n hv.ne hv.nodup hv.lt hv.mr hv.mc
  refine ⟨L, hL, hr, hc, fun i j hi hj => ?_⟩
  rw [hget i j hi hj, if_pos fun q hq hnot => absurd (List.mem_range.mpr hq) hnot, sub_range, sub_range,
    Nat.mod_eq_of_lt hi, Nat.mod_eq_of_lt hj]

theorem opSem_range (m : Mat R) (n : Nat) (hn : n ≠ 0) (h : m.r = 2 ^ n ∧ m.c = 2 ^ n) :
    C01.opSem n ⟨m, List.range n⟩ = C01.toBV n m := by
  have hv := opValid_range m n hn h
  obtain ⟨L, hL, -, -, hget⟩ := liftMatrix_range m n hn h
  obtain ⟨L', hL', -, -, hsem⟩ := C01.liftMatrix_eq_spec_lift m (List.range n) n hv.ne hv.nodup hv.lt hv.mr hv.mc
  obtain rfl : L = L' := Option.some.inj (hL.symm.trans hL')
  rw [C01.opSem, dif_pos hv, ← hsem]
  ext x y
  exact hget _ _ (Fin.isLt _) (Fin.isLt _)

theorem repM_foldl_mul (n : Nat) : ∀ (ms : List (Mat R)) (A : Mat R) (M : Matrix (BV (Fin n)) (BV (Fin n)) R),
    C01.RepM n A M → (∀ a ∈ ms, a.r = 2 ^ n ∧ a.c = 2 ^ n) →
    C01.RepM n (ms.foldl Mat.mul A) (M * (ms.map (C01.toBV n)).prod)
  | [], _, _, hA, _ => by rwa [List.map_nil, List.prod_nil, mul_one]
  | a :: ms, _, _, hA, h => by
    obtain ⟨ha, hms⟩ := List.forall_mem_cons.mp h
    rw [List.map_cons, List.prod_cons, ← mul_assoc]
    exact repM_foldl_mul n ms _ _ (hA.mul ⟨ha.1, ha.2, rfl⟩) hms

variable [StarRing R]

/-- `m :: ms` lists the gates LAST gate first, as `reduce(matmul, …)` meets them -/
theorem circuitUnitary_range (k : Scal R) (c : Circuit (Ang R) R) (hn : c.n ≠ 0) (m : Mat R) (ms : List (Mat R))
    (hl : liftOps k c.ops = some ((m :: ms).reverse.map (⟨·, List.range c.n⟩)))
    (hd : ∀ a ∈ m :: ms, a.r = 2 ^ c.n ∧ a.c = 2 ^ c.n) :
    ∃ U, circuitUnitary k c = some U ∧ ∀ i j, U.get i j = (ms.foldl Mat.mul m).get i j := by
  obtain ⟨U, hU, hr, hc, hsem⟩ := circuitUnitary_of_valid k c.n c.ops _ hl (by simp) fun o ho => by
    obtain ⟨a, ha, rfl⟩ := List.mem_map.mp ho
    exact opValid_range a c.n hn (hd a (List.mem_reverse.mp ha))
  obtain ⟨hm, hms⟩ := List.forall_mem_cons.mp hd
  obtain ⟨hPr, hPc, hP⟩ := repM_foldl_mul c.n ms m (C01.toBV c.n m) ⟨hm.1, hm.2, rfl⟩ hms
  -- the specification is the product of the gates' own matrices
  simp only [C01.circSem, List.map_reverse, List.reverse_reverse, List.map_map, Function.comp_def, C01.operSem] at hsem
  rw [List.map_congr_left (g := C01.toBV c.n) fun a ha => opSem_range a c.n hn (hd a ha), List.map_cons,
    List.prod_cons, ← hP] at hsem
  exact ⟨U, hU, fun i j => by rw [entries_of_toBV c.n U _ 1 (by rw [one_smul]; exact hsem) hr hc hPr hPc, one_mul]⟩

end Whole

theorem norm_eq_one_of_mul_star (p : ℂ) (h : p * star p = 1) : ‖p‖ = 1 := by
  have h2 : Complex.normSq p = 1 := by exact_mod_cast (Complex.mul_conj p).symm.trans h
  rw [Complex.norm_def, h2, Real.sqrt_one]

section Invariants
variable {α R : Type}

theorem u3Production_qs (op : Operation α R) (out : List (Operation α R)) (h : u3Production op = some out) :
    out ≠ [] ∧ ∀ o ∈ out, o.qs = op.qs := by
  cases op with
  | other t qs => cases h
  | gate g qs =>
    obtain ⟨th, ph, la, -, ⟨w, c, -, -, rfl⟩ | ⟨-, rfl⟩⟩ := u3Production_eq_some h <;>
      exact ⟨List.cons_ne_nil _ _, forall_mem_three rfl rfl rfl⟩

theorem sameQubits_rewrites : Rewrites fun l l' : List (Operation α R) =>
    (l' = [] → l = []) ∧ ∀ o ∈ l', ∃ op ∈ l, o.qs = op.qs where
  refl _ := ⟨id, fun o ho => ⟨o, ho, rfl⟩⟩
  trans h1 h2 := ⟨h1.1 ∘ h2.1, fun o ho => by
    obtain ⟨m, hm, e1⟩ := h2.2 o ho
    obtain ⟨op, hop, e2⟩ := h1.2 m hm
    exact ⟨op, hop, e1.trans e2⟩⟩
  append h1 h2 := by
    refine ⟨fun he => ?_, fun o ho => ?_⟩
    · rw [List.append_eq_nil_iff] at he ⊢
      exact ⟨h1.1 he.1, h2.1 he.2⟩
    · rcases List.mem_append.mp ho with ho | ho
      · obtain ⟨op, hop, e⟩ := h1.2 o ho
        exact ⟨op, List.mem_append_left _ hop, e⟩
      · obtain ⟨op, hop, e⟩ := h2.2 o ho
        exact ⟨op, List.mem_append_right _ hop, e⟩

theorem decompose_u3_qs (rules : List (Rule (Operation α R))) (hr : ∀ r ∈ rules, r = u3Rule)
    (ops out : List (Operation α R)) (h : decomposeOperations rules ops = some out) :
    (ops ≠ [] → out ≠ []) ∧ ∀ o ∈ out, ∃ op ∈ ops, o.qs = op.qs :=
  have h := sameQubits_rewrites.decompose rules (fun r hr' op out _ hq => by
    rw [hr r hr'] at hq
    obtain ⟨hne, hqs⟩ := u3Production_qs op out hq
    exact ⟨fun he => absurd he hne, fun o ho => ⟨op, List.mem_singleton_self op, hqs o ho⟩⟩) h
  ⟨mt h.1, h.2⟩

end Invariants
end OQ.C18.Link
