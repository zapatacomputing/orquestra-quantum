/- Lemmas for C04: the bit tuples of a basis index, the views of a state of 2ⁿ amplitudes in normal form over
   `List.range (2 ^ n)`, counts as a fold, Z-type operators as diagonal matrices, and bit tuples against the bit
   assignments of the specification. -/
import OQ.Model.C04
import OQ.Lemmas.Bridge
import OQ.Lemmas.Fold
import OQ.Lemmas.C09_Entries
import OQ.Lemmas.C04_Spec
import Mathlib.Algebra.BigOperators.Fin
import Mathlib.Algebra.BigOperators.Group.List.Basic
import Mathlib.Algebra.BigOperators.Ring.Finset
import Mathlib.Algebra.Order.Field.Rat
import Mathlib.Algebra.Ring.Parity
import Mathlib.Data.Fintype.BigOperators
import Mathlib.Data.Fintype.EquivFin
import Mathlib.Data.List.Basic
import Mathlib.Data.List.Count
import Mathlib.Data.Rat.Defs
import Mathlib.Tactic.Linarith
import Mathlib.Tactic.Ring
namespace OQ.C04

theorem list_eq_map_range_getD {α : Type} (l : List α) (d : α) :
    l = (List.range l.length).map (fun i => l.getD i d) := by
  apply List.ext_getElem (by simp)
  intro i h _
  simp [List.getD_eq_getElem?_getD, List.getElem?_eq_getElem h]

theorem zip_range_map {α β γ : Type} (f : Nat → α) (g : β → γ) (l : List β) (d : β) {m : Nat} (h : l.length = m) :
    ((List.range m).map f).zip (l.map g) = (List.range m).map (fun i => (f i, g (l.getD i d))) := by
  subst h
  conv_lhs => arg 2; rw [list_eq_map_range_getD l d]
  rw [List.map_map, List.zip_map']
  rfl

theorem mapM_getElem?_of_lt {α : Type} (A : List α) (d : α) (draws : List Nat) (h : ∀ i ∈ draws, i < A.length) :
    draws.mapM (fun i => A[i]?) = some (draws.map (fun i => A.getD i d)) :=
  mapM_eq_pure_map _ _ _ fun i hi => by
    rw [List.getD_eq_getElem?_getD, List.getElem?_eq_getElem (h i hi)]; rfl

theorem bit_lt_two (n k q : Nat) : bit n k q < 2 := Nat.mod_lt _ (by decide)

theorem bits_lt_two (n k : Nat) : ∀ d ∈ bits n k, d < 2 :=
  List.forall_mem_map.mpr fun q _ => bit_lt_two n k q

theorem bits_length (n k : Nat) : (bits n k).length = n := by simp [bits]

theorem bits_getElem? (n k q : Nat) (hq : q < n) : (bits n k)[q]? = some (bit n k q) := by
  simp [bits, List.getElem?_map, List.getElem?_range hq]

theorem map_bits_getD (n k : Nat) (qs : List Nat) (h : ∀ q ∈ qs, q < n) :
    qs.map (fun q => (bits n k).getD q 0) = qs.map (bit n k) :=
  List.map_congr_left fun q hq => getD_map_range _ 0 (h q hq)

theorem bit_succ_lt (n k q : Nat) (hq : q < n) : bit (n + 1) k q = bit n (k / 2) q := by
  unfold bit
  have : n + 1 - 1 - q = (n - 1 - q) + 1 := by omega
  rw [this, Nat.pow_succ, Nat.mul_comm, ← Nat.div_div_eq_div_mul]

theorem bit_succ_last (n k : Nat) : bit (n + 1) k n = k % 2 := by
  unfold bit; simp

theorem bits_succ (n k : Nat) : bits (n + 1) k = bits n (k / 2) ++ [k % 2] := by
  unfold bits
  rw [List.range_succ, List.map_append, List.map_singleton, bit_succ_last]
  exact congrArg (· ++ _) (List.map_congr_left fun q hq => bit_succ_lt n k q (List.mem_range.mp hq))

theorem bits_zero (n : Nat) : bits n 0 = List.replicate n 0 := by
  induction n with
  | zero => rfl
  | succ n ih => rw [bits_succ, ih, List.replicate_succ']

theorem binDigitsFuel_of_lt_two (f : Nat) {i : Nat} (h : i < 2) : binDigitsFuel f i = [i] := by
  cases f with
  | zero => rw [binDigitsFuel, Nat.mod_eq_of_lt h]
  | succ f => rw [binDigitsFuel, if_pos h]

theorem binDigitsFuel_pad_small (m f : Nat) {i : Nat} (h : i < 2) :
    List.replicate (m + 1 - (binDigitsFuel f i).length) 0 ++ binDigitsFuel f i = bits (m + 1) i := by
  rw [binDigitsFuel_of_lt_two f h, bits_succ, Nat.div_eq_of_lt h, Nat.mod_eq_of_lt h, bits_zero]
  rfl

/-- false for `n = 0`: `bin(0)` has one digit -/
theorem binDigitsFuel_pad (n : Nat) (hn : 1 ≤ n) : ∀ i f, i < 2 ^ n → i ≤ f →
    List.replicate (n - (binDigitsFuel f i).length) 0 ++ binDigitsFuel f i = bits n i := by
  obtain ⟨m, rfl⟩ : ∃ m, n = m + 1 := ⟨n - 1, by omega⟩
  clear hn
  induction m with
  | zero => intro i f hi _; exact binDigitsFuel_pad_small 0 f (by simpa using hi)
  | succ m ih =>
    intro i f hi hf
    by_cases h2 : i < 2
    · exact binDigitsFuel_pad_small _ f h2
    · obtain ⟨f, rfl⟩ : ∃ g, f = g + 1 := ⟨f - 1, by omega⟩
      rw [binDigitsFuel, if_neg h2, List.length_append, List.length_singleton, Nat.add_sub_add_right,
        ← List.append_assoc, ih (i / 2) f (div_two_lt_pow hi) (by omega), ← bits_succ]

theorem formatBin_eq_bits (n i : Nat) (hn : 1 ≤ n) (hi : i < 2 ^ n) : formatBin n i = bits n i :=
  binDigitsFuel_pad n hn i i hi (le_refl _)

/-- no `1 ≤ n` here, unlike `formatBin_eq_bits`: for n = 0 the slice `[:n]` of the key `format(i, "0nb")[::-1][:n]`
    cuts the single digit `format` still prints -/
theorem outcome_key_eq (n i : Nat) (hi : i < 2 ^ n) : ((formatBin n i).reverse).take n = (bits n i).reverse := by
  cases n with
  | zero => rfl
  | succ n =>
    rw [formatBin_eq_bits _ i (by omega) hi]
    exact List.take_of_length_le (by simp [bits_length])

theorem range_double_map {α : Type} (f : Nat → α) (m : Nat) :
    (List.range (2 * m)).map f = (List.range m).flatMap (fun j => [f (2 * j), f (2 * j + 1)]) := by
  induction m with
  | zero => rfl
  | succ m ih =>
    rw [Nat.mul_succ, List.range_succ, List.range_succ, List.map_append, List.map_append, ih,
      List.range_succ, List.flatMap_append]
    simp

theorem product01_eq (n : Nat) : product01 n = (List.range (2 ^ n)).map (bits n) := by
  induction n with
  | zero => rfl
  | succ n ih =>
    rw [product01, ih, Nat.pow_succ, Nat.mul_comm, range_double_map, List.flatMap_map]
    apply List.flatMap_congr
    intro j _
    rw [bits_succ, bits_succ, Nat.mul_div_cancel_left j (by decide), Nat.mul_mod_right,
      (by omega : (2 * j + 1) / 2 = j), (by omega : (2 * j + 1) % 2 = 1)]

theorem outcome_keys {R : Type} [Mul R] (k : Scal R) (amps : List R) (n : Nat) (hlen : amps.length = 2 ^ n) :
    (getOutcomeProbs k amps).map (·.1) = (List.range (2 ^ n)).map (fun i => (bits n i).reverse) := by
  simp only [getOutcomeProbs, getProbabilities]
  rw [List.map_fst_zip (by simp), hlen, Nat.log2_two_pow]
  exact List.map_congr_left fun i hi => outcome_key_eq n i (List.mem_range.mp hi)

theorem getOutcomeProbs_eq {R : Type} [Zero R] [Mul R] (k : Scal R) (amps : List R) (n : Nat)
    (hlen : amps.length = 2 ^ n) :
    getOutcomeProbs k amps = (List.range (2 ^ n)).map (fun i => ((bits n i).reverse, normSq k (amps.getD i 0))) := by
  simp only [getOutcomeProbs, getProbabilities]
  rw [hlen, Nat.log2_two_pow, zip_range_map _ _ amps 0 hlen]
  exact List.map_congr_left fun i hi => by rw [outcome_key_eq n i (List.mem_range.mp hi)]

theorem sampleBranchSmall_eq (strings : List (List Nat)) (draws : List Nat)
    (h : ∀ i ∈ draws, i < strings.length) :
    sampleBranchSmall strings draws =
      some (draws.map (fun i => Drawn.tuple (bitstringToTuple (strings.getD i [])))) := by
  unfold sampleBranchSmall
  rw [mapM_getElem?_of_lt strings [] draws h, Option.map_some, List.map_map]
  rfl

theorem sampleBranchLarge_eq (strings : List (List Nat)) (draws : List Nat)
    (h : ∀ i ∈ draws, i < strings.length) :
    sampleBranchLarge strings draws =
      some (draws.map (fun i => Drawn.tuple (bitstringToTuple (strings.getD i [])))) := by
  unfold sampleBranchLarge
  rw [mapM_getElem?_of_lt _ Drawn.sentinel draws (fun i hi => by simpa using Nat.lt_succ_of_lt (h i hi))]
  congr 1
  apply List.map_congr_left
  intro i hi
  rw [List.getD_eq_getElem?_getD, List.getElem?_append_left (by simpa using h i hi), List.getElem?_map,
    List.getD_eq_getElem?_getD, List.getElem?_eq_getElem (h i hi)]
  rfl

/-- a draw of the sentinel index (probability 0) yields the non-tuple `0` in the many-samples branch -/
theorem sampleBranchLarge_sentinel (strings : List (List Nat)) :
    sampleBranchLarge strings [strings.length] = some [Drawn.sentinel] := by
  simp [sampleBranchLarge]

/-- eigenvalue ±1 of ∏_{q∈marked} Z_q on the outcome `row` (total function; position q of the row) -/
def signOf (marked : List Nat) (row : List Nat) : Int :=
  if (marked.map (fun q => row.getD q 0)).sum % 2 = 0 then 1 else -1

theorem paritySign_eq (marked row : List Nat) (h : ∀ q ∈ marked, q < row.length) :
    paritySign marked row = some (signOf marked row) := by
  unfold paritySign parityEven signOf
  rw [mapM_getElem?_of_lt row 0 marked h]
  cases marked with
  | nil => rfl
  | cons a l =>
    simp only [List.isEmpty_cons, Bool.false_eq_true, if_false, Option.map_some]
    generalize ((a :: l).map (fun q => row.getD q 0)).sum = S
    rcases Nat.mod_two_eq_zero_or_one S with h0 | h0 <;> simp [Nat.add_mod, h0]

def Counts.wsum {M : Type} [AddCommMonoid M] (f : List Nat → M) (c : Counts) : M :=
  (c.map (fun p => p.2 • f p.1)).sum

theorem wsum_one (c : Counts) : Counts.wsum (fun _ => 1) c = (c.map (·.2)).sum := by
  simp [Counts.wsum]

theorem bump_wsum {M : Type} [AddCommMonoid M] (f : List Nat → M) (c : Counts) (s : List Nat) :
    Counts.wsum f (Counts.bump c s) = Counts.wsum f c + f s := by
  induction c with
  | nil => simp [Counts.bump, Counts.wsum]
  | cons p rest ih =>
    obtain ⟨s', v⟩ := p
    simp only [Counts.bump]
    split
    · rename_i h
      rw [eq_of_beq h]
      simp only [Counts.wsum, List.map_cons, List.sum_cons, succ_nsmul]
      exact add_right_comm _ _ _
    · simp only [Counts.wsum, List.map_cons, List.sum_cons] at ih ⊢
      rw [ih, add_assoc]

theorem bump_get (c : Counts) (s s0 : List Nat) :
    (Counts.bump c s).get s0 = c.get s0 + (if s = s0 then 1 else 0) := by
  induction c with
  | nil => simp [Counts.bump, Counts.get]
  | cons p rest ih =>
    obtain ⟨s', v⟩ := p
    by_cases h1 : s' = s
    · subst h1; by_cases h2 : s' = s0 <;> simp [Counts.bump, Counts.get, h2]
    · by_cases h2 : s' = s0
      · subst h2; simp [Counts.bump, Counts.get, h1, Ne.symm h1]
      · simp [Counts.bump, Counts.get, h1, h2, ih]

theorem getCounts_snoc (shots : List (List Nat)) (t : List Nat) :
    getCounts (shots ++ [t]) = Counts.bump (getCounts shots) t := by
  rw [getCounts, List.foldl_append]; rfl

theorem getCounts_additive {M : Type} [AddCommMonoid M] (φ : Counts → M) (δ : List Nat → M)
    (h : ∀ c s, φ (Counts.bump c s) = φ c + δ s) (shots : List (List Nat)) :
    φ (getCounts shots) = φ [] + (shots.map δ).sum := by
  induction shots using List.reverseRecOn with
  | nil => simp [getCounts]
  | append_singleton l t ih => rw [getCounts_snoc, h, ih, List.map_append, List.sum_append, add_assoc]; simp

theorem getCounts_wsum {M : Type} [AddCommMonoid M] (f : List Nat → M) (shots : List (List Nat)) :
    Counts.wsum f (getCounts shots) = (shots.map f).sum := by
  rw [getCounts_additive _ f (bump_wsum f)]; simp [Counts.wsum]

theorem getCounts_get (shots : List (List Nat)) (s0 : List Nat) :
    (getCounts shots).get s0 = shots.count s0 := by
  rw [getCounts_additive (·.get s0) _ (fun c s => bump_get c s s0)]
  induction shots with
  | nil => rfl
  | cons t ts ih => rw [List.map_cons, List.sum_cons, List.count_cons, ← ih]; simp [Counts.get, Nat.add_comm]

theorem getCounts_total (shots : List (List Nat)) : ((getCounts shots).map (·.2)).sum = shots.length := by
  rw [← wsum_one, getCounts_wsum]; simp

theorem bump_forall (P : List Nat → Prop) (c : Counts) (s : List Nat) (hc : ∀ p ∈ c, P p.1) (hs : P s) :
    ∀ p ∈ Counts.bump c s, P p.1 := by
  induction c with
  | nil => intro p hp; rw [List.mem_singleton.mp hp]; exact hs
  | cons q rest ih =>
    obtain ⟨s', v⟩ := q
    rw [List.forall_mem_cons] at hc
    simp only [Counts.bump]
    split <;> rw [List.forall_mem_cons]
    exacts [hc, ⟨hc.1, ih hc.2⟩]

theorem getCounts_keys (shots : List (List Nat)) : ∀ p ∈ getCounts shots, p.1 ∈ shots := by
  induction shots using List.reverseRecOn with
  | nil => nofun
  | append_singleton l t ih =>
    rw [getCounts_snoc]
    exact bump_forall _ _ _ (fun p hp => List.mem_append_left _ (ih p hp)) (by simp)

theorem getCounts_ne_nil (shots : List (List Nat)) (h : shots ≠ []) : getCounts shots ≠ [] :=
  fun he => h (List.length_eq_zero_iff.mp (by rw [← getCounts_total, he]; rfl))

theorem zip_map_self {α β : Type} (l : List α) (g : α → β) : l.zip (l.map g) = l.map (fun a => (a, g a)) := by
  induction l with
  | nil => rfl
  | cons a l ih => simp [ih]

theorem expectationFromFrequencies_ok (marked : List Nat) (n : Nat) (hn : 1 ≤ n) (freqs : Counts) (hne : freqs ≠ [])
    (hlen : ∀ p ∈ freqs, p.1.length = n) (hm : ∀ q ∈ marked, q < n) :
    expectationFromFrequencies marked freqs =
      .ok ((Counts.wsum (signOf marked) freqs : Int) / (((freqs.map (·.2)).sum : Nat) : Rat)) := by
  cases hf : freqs with
  | nil => exact absurd hf hne
  | cons p0 rest =>
    rw [← hf]
    have h0 : p0.1.length = n := hlen p0 (by simp [hf])
    have hall : freqs.all (fun p => p.1.length == p0.1.length) = true :=
      List.all_eq_true.mpr fun p hp => by simp [hlen p hp, h0]
    have hsig : freqs.mapM (fun p => paritySign marked p.1) = some (freqs.map (fun p => signOf marked p.1)) :=
      mapM_eq_pure_map _ _ _ fun p hp => paritySign_eq marked p.1 (fun q hq => by rw [hlen p hp]; exact hm q hq)
    have : expectationFromFrequencies marked freqs = .ok (((freqs.zip (freqs.map (fun p => signOf marked p.1))).map
        (fun p => ((p.1.2 : Int) * p.2 : Int) / (((freqs.map (·.2)).sum : Nat) : Rat))).sum) := by
      have hw : ¬ p0.1.length = 0 := by omega
      rw [hf] at hall hsig ⊢
      simp only [expectationFromFrequencies, hw, hall, hsig, Bool.not_true, Bool.false_eq_true, if_false]
    rw [this, zip_map_self, List.map_map]
    simp only [Function.comp_def, div_eq_mul_inv, List.sum_map_mul_right, Counts.wsum, nsmul_eq_mul, Int.cast_list_sum,
      List.map_map]

theorem expectationFromFrequencies_counts (marked : List Nat) (n : Nat) (hn : 1 ≤ n) (shots : List (List Nat))
    (hne : shots ≠ []) (hlen : ∀ t ∈ shots, t.length = n) (hm : ∀ q ∈ marked, q < n) :
    expectationFromFrequencies marked (getCounts shots) =
      .ok (((shots.map (signOf marked)).sum : Int) / (shots.length : Rat)) := by
  rw [expectationFromFrequencies_ok marked n hn _ (getCounts_ne_nil shots hne)
    (fun p hp => hlen _ (getCounts_keys shots p hp)) hm, getCounts_wsum, getCounts_total]

open OQ.Pauli

section
variable {R : Type}

/-- exponent of −1 on the diagonal of a Z-string: number of Z-marked qubits whose bit is 1 -/
def zexp (at_ : Nat → Option P) (n i : Nat) : Nat :=
  ∑ q ∈ Finset.range n, if at_ q = some P.Z then bit n i q else 0

theorem zexp_succ (at_ : Nat → Option P) (n i : Nat) :
    zexp at_ (n + 1) i = zexp at_ n (i / 2) + (if at_ n = some P.Z then i % 2 else 0) := by
  unfold zexp
  rw [Finset.sum_range_succ, bit_succ_last]
  exact congrArg (· + _) (Finset.sum_congr rfl fun q hq => by rw [bit_succ_lt n i q (Finset.mem_range.mp hq)])

theorem find_opAt (ops : List (Nat × P)) (hz : ∀ p ∈ ops, p.2 = P.Z) (q : Nat) :
    (ops.find? (fun p => p.1 == q)).map (·.2) = if q ∈ ops.map (·.1) then some P.Z else none := by
  induction ops with
  | nil => rfl
  | cons a l ih =>
    rw [List.forall_mem_cons] at hz
    rw [List.find?_cons]
    by_cases h : a.1 = q
    · simp [h, hz.1]
    · rw [beq_eq_false_iff_ne.mpr h]
      simp only [ih hz.2, List.map_cons, List.mem_cons, Ne.symm h, false_or]

theorem sum_ite_mem_list (n : Nat) (qs : List Nat) (hnd : qs.Nodup) (hr : ∀ q ∈ qs, q < n) (f : Nat → Nat) :
    (∑ q ∈ Finset.range n, if q ∈ qs then f q else 0) = (qs.map f).sum := by
  rw [← Finset.sum_filter, ← List.sum_toFinset f hnd]
  congr 1
  ext q
  simp only [Finset.mem_filter, Finset.mem_range, List.mem_toFinset]
  exact ⟨fun h => h.2, fun h => ⟨hr q h, h⟩⟩

theorem opAt_eq (t : Term R) (hz : ∀ p ∈ t.ops, p.2 = P.Z) (q : Nat) :
    t.opAt q = if q ∈ termQubits t then some P.Z else none :=
  find_opAt t.ops hz q

/-- the diagonal exponent of a Z-type term = the parity sum that `check_parity_of_vector` reads at the
    marked positions of the MSB-first bit tuple -/
theorem zexp_term (t : Term R) (n i : Nat) (hz : ∀ p ∈ t.ops, p.2 = P.Z)
    (hnd : (termQubits t).Nodup) (hr : ∀ q ∈ termQubits t, q < n) :
    zexp t.opAt n i = ((termQubits t).map (fun q => (bits n i).getD q 0)).sum := by
  rw [map_bits_getD n i _ hr, ← sum_ite_mem_list n _ hnd hr]
  apply Finset.sum_congr rfl
  intro q _
  rw [opAt_eq t hz]
  split <;> simp

theorem opAt_ztype (t : Term R) (hz : ∀ p ∈ t.ops, p.2 = P.Z) (q : Nat) :
    t.opAt q = none ∨ t.opAt q = some P.Z := by
  rw [opAt_eq t hz]
  split <;> simp

theorem nQubits_le (n : Nat) (s : PSum R) (h : ∀ t ∈ s, ∀ q ∈ termQubits t, q < n) : PSum.nQubits s ≤ n := by
  unfold PSum.nQubits
  rw [← List.foldl_map (f := Term.nQubits) (g := max), foldl_max_le_iff]
  refine ⟨Nat.zero_le _, List.forall_mem_map.mpr fun t ht => ?_⟩
  unfold Term.nQubits
  rw [← List.foldl_map (f := fun p : Nat × P => p.1 + 1) (g := max), foldl_max_le_iff]
  exact ⟨Nat.zero_le _, List.forall_mem_map.mpr fun p hp => h t ht p.1 (List.mem_map_of_mem hp)⟩

theorem isIsing_of (s : PSum R) (h : ∀ t ∈ s, ∀ p ∈ t.ops, p.2 = P.Z) : isIsing s = true :=
  List.all_eq_true.mpr fun t ht => List.all_eq_true.mpr fun p hp => by simp [h t ht p hp]

end

variable {R : Type} [CommRing R]

theorem pe_diag (k : Scal R) (o : Option P) (ho : o = none ∨ o = some P.Z) (a b : Nat) (ha : a < 2) :
    C09.pe k o a b = if a = b then (-1 : R) ^ (if o = some P.Z then a else 0) else 0 := by
  obtain rfl | rfl := ho
  · simp [C09.pe]
  · obtain rfl | rfl : a = 0 ∨ a = 1 := by omega
    all_goals simp [C09.pe]

theorem strEntry_diag (k : Scal R) (n : Nat) (at_ : Nat → Option P)
    (hz : ∀ q, q < n → at_ q = none ∨ at_ q = some P.Z) (i j : Nat) (hi : i < 2 ^ n) (hj : j < 2 ^ n) :
    C09.strEntry k at_ n i j = if i = j then (-1 : R) ^ zexp at_ n i else 0 := by
  induction n generalizing i j with
  | zero =>
    obtain rfl : i = 0 := by simpa using hi
    obtain rfl : j = 0 := by simpa using hj
    simp [C09.strEntry, zexp]
  | succ n ih =>
    rw [C09.strEntry, ih (fun q hq => hz q (by omega)) _ _ (div_two_lt_pow hi) (div_two_lt_pow hj),
      pe_diag k _ (hz n (by omega)) _ _ (Nat.mod_lt _ (by decide)), zexp_succ, pow_add, ite_zero_mul_ite_zero]
    exact if_congr (by omega) rfl rfl

theorem expectation_diag (k : Scal R) (S : Mat R) (amps : List R) (d : Nat → R)
    (hS : ∀ i j, i < amps.length → j < amps.length → S.get i j = if i = j then d i else 0) :
    expectation k S amps = ∑ i ∈ Finset.range amps.length, normSq k (amps.getD i 0) * d i := by
  unfold expectation normSq
  simp only
  rw [sumTo_eq]
  apply Finset.sum_congr rfl
  intro i hi
  have hi' := Finset.mem_range.mp hi
  rw [sumTo_eq, Finset.sum_congr rfl (fun j hj => by rw [hS i j hi' (Finset.mem_range.mp hj), ite_mul, zero_mul]),
    Finset.sum_ite_eq, if_pos hi]
  ring

theorem neg_one_pow_ite (S : Nat) : (-1 : R) ^ S = if S % 2 = 0 then 1 else -1 := by
  rcases Nat.even_or_odd S with h | h
  · rw [h.neg_one_pow, if_pos (Nat.even_iff.mp h)]
  · rw [h.neg_one_pow, if_neg (by rw [Nat.odd_iff.mp h]; decide)]

theorem signOf_cast (marked row : List Nat) :
    ((signOf marked row : Int) : R) = (-1 : R) ^ (marked.map (fun q => row.getD q 0)).sum := by
  rw [neg_one_pow_ite]; unfold signOf
  split_ifs <;> simp

/-- eigenvalue of a Z-type operator on the outcome `row` (tuple / count string read by POSITION) -/
def eigenvalue (s : PSum R) (row : List Nat) : R :=
  (s.map (fun t => t.coeff * ((signOf (termQubits t) row : Int) : R))).sum

/-- a Z-type operator: every factor is Z, qubit indices of a term distinct (dict keys) and inside the register -/
def ZType (n : Nat) (s : PSum R) : Prop :=
  ∀ t ∈ s, (∀ p ∈ t.ops, p.2 = P.Z) ∧ (termQubits t).Nodup ∧ ∀ q ∈ termQubits t, q < n

omit [CommRing R] in
instance (n : Nat) (s : PSum R) : Decidable (ZType n s) := List.decidableBAll _ s

theorem psum_denote_diag (k : Scal R) (n : Nat) (s : PSum R) (hs : ZType n s) (i j : Nat)
    (hi : i < 2 ^ n) (hj : j < 2 ^ n) :
    (PSum.denote k n s).get i j = if i = j then eigenvalue s (bits n i) else 0 := by
  have : ∀ t ∈ s, t.coeff * C09.strEntry k t.opAt n i j =
      if i = j then t.coeff * ((signOf (termQubits t) (bits n i) : Int) : R) else 0 := by
    intro t ht
    obtain ⟨h1, h2, h3⟩ := hs t ht
    rw [strEntry_diag k n t.opAt (fun q _ => opAt_ztype t h1 q) i j hi hj, zexp_term t n i h1 h2 h3, signOf_cast,
      mul_ite, mul_zero]
  rw [(C09.denote_spec k n s).2.2 i j hi hj, C09.dEntry, List.map_congr_left this]
  unfold eigenvalue
  split <;> simp

theorem expectation_ztype (k : Scal R) (n : Nat) (s : PSum R) (hs : ZType n s) (amps : List R)
    (hlen : amps.length = 2 ^ n) :
    expectation k (PSum.denote k n s) amps =
      ∑ i ∈ Finset.range (2 ^ n), normSq k (amps.getD i 0) * eigenvalue s (bits n i) := by
  rw [expectation_diag k _ amps (fun i => eigenvalue s (bits n i)) (hlen ▸ psum_denote_diag k n s hs), hlen]

theorem getExpectationValue_ztype (k : Scal R) (n : Nat) (s : PSum R) (hs : ZType n s) (amps : List R)
    (hlen : amps.length = 2 ^ n) :
    getExpectationValue k s amps = .ok (expectation k (PSum.denote k n s) amps) := by
  unfold getExpectationValue
  simp only [hlen, Nat.log2_two_pow]
  rw [if_neg (Nat.not_lt.mpr (nQubits_le n s fun t ht => (hs t ht).2.2))]

theorem sum_map_range (n : Nat) (f : Nat → R) : ((List.range n).map f).sum = ∑ i ∈ Finset.range n, f i := rfl

theorem sum_mul_list_sum {α : Type} (N : Nat) (p : Nat → R) (s : List α) (c : α → R) (σ : α → Nat → R) :
    ∑ i ∈ Finset.range N, p i * (s.map (fun t => c t * σ t i)).sum =
      (s.map (fun t => c t * ∑ i ∈ Finset.range N, p i * σ t i)).sum := by
  induction s with
  | nil => simp
  | cons t ts ih =>
    simp only [List.map_cons, List.sum_cons, mul_add, Finset.sum_add_distrib, ih]
    congr 1
    rw [Finset.mul_sum]
    exact Finset.sum_congr rfl fun i _ => by ring

theorem bitsToIndex_bits (n i : Nat) (hi : i < 2 ^ n) : Lift.bitsToIndex (bits n i) = i := by
  induction n generalizing i with
  | zero => simp at hi; subst hi; rfl
  | succ n ih =>
    have := ih (i / 2) (div_two_lt_pow hi)
    unfold Lift.bitsToIndex at this ⊢
    rw [bits_succ, List.foldl_append, this]
    exact Nat.div_add_mod i 2

theorem bits_inj (n i j : Nat) (hi : i < 2 ^ n) (hj : j < 2 ^ n) (h : bits n i = bits n j) : i = j := by
  rw [← bitsToIndex_bits n i hi, ← bitsToIndex_bits n j hj, h]

theorem lookup_of_mem {α β : Type} [BEq α] [LawfulBEq α] (l : List (α × β)) (hnd : (l.map (·.1)).Nodup)
    (a : α) (b : β) (h : (a, b) ∈ l) : List.lookup a l = some b := by
  induction l with
  | nil => simp at h
  | cons p l ih =>
    obtain ⟨a', b'⟩ := p
    rw [List.map_cons, List.nodup_cons] at hnd
    rcases List.mem_cons.mp h with h1 | h2
    · cases h1; simp [List.lookup]
    · have hne : (a == a') = false :=
        beq_eq_false_iff_ne.mpr fun e => hnd.1 (e ▸ List.mem_map_of_mem (f := (·.1)) h2)
      simp only [List.lookup, hne]
      exact ih hnd.2 h2

theorem bits_keys_nodup (n : Nat) : ((List.range (2 ^ n)).map (bits n)).Nodup :=
  List.Nodup.map_on (fun i hi j hj h => bits_inj n i j (List.mem_range.mp hi) (List.mem_range.mp hj) h)
    List.nodup_range

theorem lookup_bits {β : Type} (n : Nat) (f : Nat → β) {j : Nat} (hj : j < 2 ^ n) :
    List.lookup (bits n j) ((List.range (2 ^ n)).map (fun i => (bits n i, f i))) = some (f j) :=
  lookup_of_mem _ (by rw [List.map_map]; exact bits_keys_nodup n) _ _
    (List.mem_map.mpr ⟨j, List.mem_range.mpr hj, rfl⟩)

theorem count_bits (n : Nat) (draws : List Nat) (hd : ∀ d ∈ draws, d < 2 ^ n) (i : Nat) (hi : i < 2 ^ n) :
    (draws.map (bits n)).count (bits n i) = draws.count i := by
  rw [List.count, List.countP_map]
  exact List.countP_congr fun d hd' => by
    simpa using ⟨bits_inj n d i (hd d hd') hi, congrArg (bits n)⟩

open OQ.Spec

/-- the bit assignment (index of the specification) of basis index `k`: qubit `q` ↦ bit `q`, qubit 0 most significant -/
def bv (n k : Nat) : BV (Fin n) := fun q => bit n k q == 1

def qubitSet (n : Nat) (marked : List Nat) : Finset (Fin n) := Finset.univ.filter (fun q => q.val ∈ marked)

theorem bit_of_bv (n k : Nat) (q : Fin n) : bit n k q = if bv n k q then 1 else 0 := by
  unfold bv
  obtain h | h : bit n k q = 0 ∨ bit n k q = 1 := by have := bit_lt_two n k q; omega
  all_goals simp [h]

theorem bv_inj (n i j : Nat) (hi : i < 2 ^ n) (hj : j < 2 ^ n) (h : bv n i = bv n j) : i = j := by
  apply bits_inj n i j hi hj
  apply List.map_congr_left
  intro q hq
  rw [bit_of_bv n i ⟨q, List.mem_range.mp hq⟩, bit_of_bv n j ⟨q, List.mem_range.mp hq⟩, h]

/-- `bv n` is a bijection from the basis indices below 2ⁿ to the bit assignments (injective between sets of equal size) -/
theorem sum_range_eq_sum_bv (n : Nat) (f : Nat → R) (g : BV (Fin n) → R)
    (h : ∀ i, i < 2 ^ n → f i = g (bv n i)) :
    ∑ i ∈ Finset.range (2 ^ n), f i = ∑ x, g x := by
  rw [Finset.sum_range]
  exact Fintype.sum_bijective (fun i : Fin (2 ^ n) => bv n i)
    ((Fintype.bijective_iff_injective_and_card _).mpr
      ⟨fun i j h => Fin.ext (bv_inj n i j i.2 j.2 h), by simp [BV]⟩) _ _ (fun i => h i i.2)

end OQ.C04
