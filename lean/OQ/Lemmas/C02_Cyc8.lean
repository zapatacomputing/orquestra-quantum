/-
  C02 — ℚ(ζ₈) (`OQ.Cyc8`, the ring the driver computes in) is a commutative ⋆-ring whose `+`, `*`, `-`,
  `conj` ARE the executable operations, and `Scal.cyc8` satisfies the laws of the constants.  Hence every
  generic theorem of Props/C02 applies literally to the matrices the driver prints.
-/
import OQ.Lemmas.C02
import Mathlib.Algebra.Order.Field.Rat
import Mathlib.Tactic.Ring
import Mathlib.Tactic.NormNum

namespace OQ.C02
open OQ

theorem cyc_ext {x y : Cyc8} (ha : x.a = y.a) (hb : x.b = y.b) (hc : x.c = y.c) (hd : x.d = y.d) : x = y := by
  cases x; cases y; simp_all

section
variable (x y : Cyc8)
@[simp] theorem cyc_zero_a : (0 : Cyc8).a = 0 := rfl
@[simp] theorem cyc_zero_b : (0 : Cyc8).b = 0 := rfl
@[simp] theorem cyc_zero_c : (0 : Cyc8).c = 0 := rfl
@[simp] theorem cyc_zero_d : (0 : Cyc8).d = 0 := rfl
@[simp] theorem cyc_one_a : (1 : Cyc8).a = 1 := rfl
@[simp] theorem cyc_one_b : (1 : Cyc8).b = 0 := rfl
@[simp] theorem cyc_one_c : (1 : Cyc8).c = 0 := rfl
@[simp] theorem cyc_one_d : (1 : Cyc8).d = 0 := rfl
@[simp] theorem cyc_zero_a' : (@OfNat.ofNat Cyc8 0 Zero.toOfNat0).a = 0 := rfl
@[simp] theorem cyc_zero_b' : (@OfNat.ofNat Cyc8 0 Zero.toOfNat0).b = 0 := rfl
@[simp] theorem cyc_zero_c' : (@OfNat.ofNat Cyc8 0 Zero.toOfNat0).c = 0 := rfl
@[simp] theorem cyc_zero_d' : (@OfNat.ofNat Cyc8 0 Zero.toOfNat0).d = 0 := rfl
@[simp] theorem cyc_one_a' : (@OfNat.ofNat Cyc8 1 One.toOfNat1).a = 1 := rfl
@[simp] theorem cyc_one_b' : (@OfNat.ofNat Cyc8 1 One.toOfNat1).b = 0 := rfl
@[simp] theorem cyc_one_c' : (@OfNat.ofNat Cyc8 1 One.toOfNat1).c = 0 := rfl
@[simp] theorem cyc_one_d' : (@OfNat.ofNat Cyc8 1 One.toOfNat1).d = 0 := rfl
@[simp] theorem cyc_natCast_a (n : Nat) : (n : Cyc8).a = n := rfl
@[simp] theorem cyc_natCast_b (n : Nat) : (n : Cyc8).b = 0 := rfl
@[simp] theorem cyc_natCast_c (n : Nat) : (n : Cyc8).c = 0 := rfl
@[simp] theorem cyc_natCast_d (n : Nat) : (n : Cyc8).d = 0 := rfl
@[simp] theorem cyc_add_a : (x + y).a = x.a + y.a := rfl
@[simp] theorem cyc_add_b : (x + y).b = x.b + y.b := rfl
@[simp] theorem cyc_add_c : (x + y).c = x.c + y.c := rfl
@[simp] theorem cyc_add_d : (x + y).d = x.d + y.d := rfl
@[simp] theorem cyc_neg_a : (-x).a = -x.a := rfl
@[simp] theorem cyc_neg_b : (-x).b = -x.b := rfl
@[simp] theorem cyc_neg_c : (-x).c = -x.c := rfl
@[simp] theorem cyc_neg_d : (-x).d = -x.d := rfl
@[simp] theorem cyc_sub_a : (x - y).a = x.a - y.a := rfl
@[simp] theorem cyc_sub_b : (x - y).b = x.b - y.b := rfl
@[simp] theorem cyc_sub_c : (x - y).c = x.c - y.c := rfl
@[simp] theorem cyc_sub_d : (x - y).d = x.d - y.d := rfl
@[simp] theorem cyc_mul_a : (x * y).a = x.a*y.a - x.b*y.d - x.c*y.c - x.d*y.b := rfl
@[simp] theorem cyc_mul_b : (x * y).b = x.a*y.b + x.b*y.a - x.c*y.d - x.d*y.c := rfl
@[simp] theorem cyc_mul_c : (x * y).c = x.a*y.c + x.b*y.b + x.c*y.a - x.d*y.d := rfl
@[simp] theorem cyc_mul_d : (x * y).d = x.a*y.d + x.b*y.c + x.c*y.b + x.d*y.a := rfl
@[simp] theorem cyc_conj_a : (conj x).a = x.a := rfl
@[simp] theorem cyc_conj_b : (conj x).b = -x.d := rfl
@[simp] theorem cyc_conj_c : (conj x).c = -x.c := rfl
@[simp] theorem cyc_conj_d : (conj x).d = -x.b := rfl
@[simp] theorem cyc_ofRat_a (q : Rat) : (Cyc8.ofRat q).a = q := rfl
@[simp] theorem cyc_ofRat_b (q : Rat) : (Cyc8.ofRat q).b = 0 := rfl
@[simp] theorem cyc_ofRat_c (q : Rat) : (Cyc8.ofRat q).c = 0 := rfl
@[simp] theorem cyc_ofRat_d (q : Rat) : (Cyc8.ofRat q).d = 0 := rfl
end

instance instCommRingCyc8 : CommRing Cyc8 where
  add_assoc x y z := by apply cyc_ext <;> exact add_assoc _ _ _
  zero_add x := by apply cyc_ext <;> exact zero_add _
  add_zero x := by apply cyc_ext <;> exact add_zero _
  add_comm x y := by apply cyc_ext <;> exact add_comm _ _
  mul_assoc x y z := by apply cyc_ext <;> simp only [cyc_mul_a, cyc_mul_b, cyc_mul_c, cyc_mul_d] <;> ring
  one_mul x := by apply cyc_ext <;> simp
  mul_one x := by apply cyc_ext <;> simp
  left_distrib x y z := by apply cyc_ext <;> simp only [cyc_add_a, cyc_add_b, cyc_add_c, cyc_add_d, cyc_mul_a, cyc_mul_b, cyc_mul_c, cyc_mul_d] <;> ring
  right_distrib x y z := by apply cyc_ext <;> simp only [cyc_add_a, cyc_add_b, cyc_add_c, cyc_add_d, cyc_mul_a, cyc_mul_b, cyc_mul_c, cyc_mul_d] <;> ring
  mul_comm x y := by apply cyc_ext <;> simp only [cyc_mul_a, cyc_mul_b, cyc_mul_c, cyc_mul_d] <;> ring
  zero_mul x := by apply cyc_ext <;> simp
  mul_zero x := by apply cyc_ext <;> simp
  neg_add_cancel x := by apply cyc_ext <;> exact neg_add_cancel _
  sub_eq_add_neg x y := by apply cyc_ext <;> exact sub_eq_add_neg _ _
  nsmul := nsmulRec
  zsmul := zsmulRec
  natCast n := Cyc8.ofRat n
  natCast_zero := by apply cyc_ext <;> simp
  natCast_succ n := by apply cyc_ext <;> simp
  intCast n := Cyc8.ofRat n
  intCast_ofNat n := by apply cyc_ext <;> simp
  intCast_negSucc n := by apply cyc_ext <;> simp [Int.negSucc_eq]

/-- complex conjugation ζ ↦ ζ⁻¹ as the ⋆-structure; `star` IS the executable `conj` -/
instance instStarRingCyc8 : StarRing Cyc8 where
  star := conj
  star_involutive x := by apply cyc_ext <;> simp
  star_mul x y := by apply cyc_ext <;> simp only [cyc_conj_a, cyc_conj_b, cyc_conj_c, cyc_conj_d, cyc_mul_a, cyc_mul_b, cyc_mul_c, cyc_mul_d] <;> ring
  star_add x y := by apply cyc_ext <;> simp only [cyc_conj_a, cyc_conj_b, cyc_conj_c, cyc_conj_d, cyc_add_a, cyc_add_b, cyc_add_c, cyc_add_d] <;> ring

theorem cyc_conj_eq_star (x : Cyc8) : conj x = star x := rfl

theorem cyc8_laws : Laws Scal.cyc8 where
  ii := by decide +kernel
  rr := by decide +kernel
  zz := by decide +kernel
  hh := by decide +kernel
  cj := rfl
  si := by decide +kernel
  sr := by decide +kernel
  sz := by decide +kernel

theorem cyc8_two_ne_zero : (2 : Cyc8) ≠ 0 := by decide +kernel

theorem cyc8_valid_of_rat (c s : Rat) (h : c * c + s * s = 1) : Valid (⟨Cyc8.ofRat c, Cyc8.ofRat s⟩ : Ang Cyc8) where
  circle := by apply cyc_ext <;> simp [h]
  sc := by rw [← cyc_conj_eq_star]; apply cyc_ext <;> simp
  ss := by rw [← cyc_conj_eq_star]; apply cyc_ext <;> simp

theorem valid_map_ofRat (ps : List (Rat × Rat)) (hp : ∀ p ∈ ps, p.1 * p.1 + p.2 * p.2 = 1) :
    ∀ a ∈ ps.map (fun p : Rat × Rat => (⟨Cyc8.ofRat p.1, Cyc8.ofRat p.2⟩ : Ang Cyc8)), Valid a :=
  List.forall_mem_map.mpr fun p hpm => cyc8_valid_of_rat _ _ (hp p hpm)

end OQ.C02
