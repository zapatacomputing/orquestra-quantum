/- For the T13 translation ties of the `Wavefunction` views:
   the LAWS of the numpy externals in the C04 model's terms (`ViewLaws`), `dict(pairs)` on distinct keys, the key strings, and
   what a drawn element and an error of the model are in the translated code (`drawnOut`, `errOut`). -/
import OQ.Lemmas.C04
import OQ.Lemmas.C04_Lists
import OQ.Lemmas.Py
import OQ.Lemmas.PyT13
import OQ.Lemmas.PyT4
import OQ.Model.C04_T13
import OQ.Generated.TranslatedC04Wf
namespace OQ.C04.T13
open OQ.Generated OQ.PyT OQ.C04
open OQ.Py (digitChar charDigit formatB zfill sliceTo dictSet Dict)

section
variable {R : Type} [Zero R] [One R] [Add R] [Mul R] [Neg R]

/-- THE ASSUMED LAWS of the externals the translated views use, in the C04 model's terms, for a NUMERIC wavefunction (an ndarray of
    amplitudes; the model of C04 has no symbolic states): `free_symbols` is empty; `np.abs(a) ** 2` is `normSq` entrywise and
    iterating it yields its entries; `len` is the number of amplitudes; `int(log2(n))` is `⌊log₂ n⌋` for `n ≥ 1`; the entries of
    `get_probabilities()` are scalars (the `isinstance(x, (list, np.ndarray))` test is false); `np.random.default_rng(seed)` is a
    generator whose `choice(a, size, p)` returns `a[i]` for the indices `i` it draws – `draws`, exactly `size` of them, each inside
    `a`, anything else being `Exc.other 1` (the model's `Err.draw`) – for an object array (`.tolist()`) and for an array of strings
    (iterating it yields the strings). -/
structure ViewLaws (k : Scal R) (ext : VExt R) : Prop where
  getattr_free_symbols : ∀ v, ext.truthy_FS (ext.getattr_free_symbols v) = false
  np_abs_sq : ∀ v, ext.np_abs_sq v = v.map (normSq k)
  len_vector : ∀ v, ext.len_vector v = (v.length : Int)
  int_log2 : ∀ n : Nat, 0 < n → ext.int_log2 (n : Int) = .ok ((Nat.log2 n : Nat) : Int)
  iter_probs : ∀ a, ext.iter_probs a = a
  default_rng : ∀ d, ext.default_rng d = d
  isinstance_list_or_ndarray : ∀ x, ext.isinstance_list_or_ndarray x = false
  choice_objects : ∀ d a n p, ext.choice_objects d a n p = choose d a n
  choice_strings : ∀ d a n p, ext.choice_strings d a n p = choose d a n
  iter_strings : ∀ s, ext.iter_strings s = s

theorem viewExt_laws (k : Scal R) (isOne : R → Bool) : ViewLaws k (viewExt k isOne) where
  getattr_free_symbols := fun _ => rfl
  np_abs_sq := fun _ => rfl
  len_vector := fun _ => rfl
  int_log2 := fun n hn => if_neg (by omega)
  iter_probs := fun _ => rfl
  default_rng := fun _ => rfl
  isinstance_list_or_ndarray := fun _ => rfl
  choice_objects := fun _ _ _ _ => rfl
  choice_strings := fun _ _ _ _ => rfl
  iter_strings := fun _ => rfl
end

theorem dictOfPairs_nodup {κ ν : Type} [BEq κ] [LawfulBEq κ] (l : List (κ × ν)) (h : (l.map Prod.fst).Nodup) :
    dictOfPairs l = l := by
  induction l using List.reverseRecOn with
  | nil => rfl
  | append_singleton l p ih =>
    rw [List.map_append, List.nodup_append] at h
    rw [dictOfPairs, List.foldl_append, ← dictOfPairs, ih h.1]
    exact OQ.Py.dictSet_of_not_mem l p.1 p.2 fun hp => h.2.2 _ hp _ List.mem_cons_self rfl

theorem formatBinW_eq (n i : Nat) : formatBinW (Int.ofNat i) (n : Int) = (formatBin n i).map digitChar := by
  unfold formatBinW
  rw [formatB_ofNat]
  have hne : OQ.C04.binDigits i ≠ [] := by
    rw [← OQ.Py.binDigits_eq]; exact OQ.Py.binDigitsFuel_ne_nil i i
  have hlt : ∀ d ∈ OQ.C04.binDigits i, d < 10 := by
    intro d hd
    rw [← OQ.Py.binDigits_eq] at hd
    have := OQ.Py.binDigitsFuel_lt_two i i d hd
    omega
  rw [OQ.Py.zfill_digits _ hne hlt n]
  rfl

theorem key_string_eq (n i : Nat) :
    sliceTo ((formatBinW (Int.ofNat i) (n : Int)).reverse) (n : Int) = (((formatBin n i).reverse).take n).map digitChar := by
  rw [formatBinW_eq]
  simp [sliceTo, List.map_reverse, List.map_take]

theorem keys_nodup (n : Nat) :
    ((List.range (2 ^ n)).map (fun i => ((bits n i).reverse).map digitChar)).Nodup := by
  refine List.Nodup.map_on (fun i hi j hj h => ?_) List.nodup_range
  -- reading the characters back as digits recovers the bit tuple
  have hd : ∀ i, ∀ d ∈ (bits n i).reverse, d < 10 := fun i d hd =>
    Nat.lt_trans (bits_lt_two n i d (List.mem_reverse.mp hd)) (by decide)
  have h' := congrArg (List.map charDigit) h
  rw [OQ.Py.map_charDigit_digitChar _ (hd i), OQ.Py.map_charDigit_digitChar _ (hd j)] at h'
  exact bits_inj n i j (List.mem_range.mp hi) (List.mem_range.mp hj)
    (List.reverse_injective (List.map_injective_iff.mpr Int.ofNat_injective h'))

/-- what a drawn element of the model is in the translated code: a tuple of ints, or the int `0` -/
def drawnOut : Drawn → (List Int) ⊕ Int
  | .tuple t => .inl (t.map Int.ofNat)
  | .sentinel => .inr 0

/-- the exception class a model error stands for (`draw`: not something `rng.choice` can return) -/
def errOut : Err → Exc
  | .value => .ValueError
  | .type => .TypeError
  | .index => .IndexError
  | .draw => .other 1

theorem mapM_getElem_map {α β : Type} (f : α → β) (A : List α) (draws : List Nat) :
    draws.mapM (fun i => (A.map f)[i]?) = (draws.mapM (fun i => A[i]?)).map (List.map f) := by
  simp only [List.getElem?_map]
  exact mapM_optionMap _ f draws

theorem mapM_getElem_mem {α : Type} (A : List α) (draws : List Nat) (l : List α)
    (h : draws.mapM (fun i => A[i]?) = some l) : ∀ x ∈ l, x ∈ A := by
  induction draws generalizing l with
  | nil => cases h; nofun
  | cons i draws ih =>
    simp only [List.mapM_cons, Option.bind_eq_bind, Option.bind_eq_some_iff, Option.pure_def, Option.some.injEq] at h
    obtain ⟨a, ha, l', hl', rfl⟩ := h
    exact List.forall_mem_cons.mpr ⟨List.mem_of_getElem? ha, ih l' hl'⟩

end OQ.C04.T13
