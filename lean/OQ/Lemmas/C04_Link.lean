/- C04 linked to the executable circuit application (C01) and the sparse operator (C09): states produced by `Lift.applyAll` as
   states over bit assignments, the X gate as `Spec.lift` of `xGate`, chains of X gates from |0…0⟩, and every view of a basis state. -/
import OQ.Props.C04
import OQ.Props.C09
import OQ.Props.C01
import OQ.Model.Gates
set_option linter.unusedSectionVars false

namespace OQ.C04
variable {R : Type} [CommRing R]

theorem exactDistribution_eq (k : Scal R) (amps : List R) (n : Nat) (hlen : amps.length = 2 ^ n) :
    exactDistribution k amps = (List.range (2 ^ n)).map (fun i => (bits n i, normSq k (amps.getD i 0))) :=
  dist_key_eq_bits k amps n hlen

end OQ.C04

namespace OQ.C04.Link
open OQ OQ.Pauli OQ.Spec Matrix OQ.Lift

section
variable {R : Type} [CommRing R]

theorem sumTo_congr (n : Nat) (f g : Nat → R) (h : ∀ i, i < n → f i = g i) : sumTo n f = sumTo n g := by
  rw [sumTo_eq, sumTo_eq]
  exact Finset.sum_congr rfl (fun i hi => h i (Finset.mem_range.mp hi))

theorem expectation_congr (k : Scal R) (M M' : Mat R) (ψ : List R)
    (h : ∀ i j, i < ψ.length → j < ψ.length → M.get i j = M'.get i j) :
    C09.expectation k M ψ = expectation k M' ψ :=
  sumTo_congr _ _ _ fun i hi => congrArg _ (sumTo_congr _ _ _ fun j hj => by rw [h i j hi hj])

theorem ztype_sumWF (n : Nat) (s : PSum R) (hs : ZType n s) : C09.SumWF s :=
  fun t ht => (hs t ht).2.1

theorem bv_eq_bvEquiv (n i : Nat) (hi : i < 2 ^ n) : bv n i = C01.bvEquiv n ⟨i, hi⟩ := by
  funext q
  rw [C01.bvEquiv_apply]
  simp only [bv, bit, Nat.testBit_eq_decide_div_mod_eq]
  rfl

/-- the amplitude list handed to `Wavefunction(...)`: column 0 of the state column -/
def colAmps (w : Mat R) : List R := (List.range w.r).map (fun i => w.get i 0)

theorem colAmps_length (w : Mat R) : (colAmps w).length = w.r := by simp [colAmps]

theorem colAmps_getD (w : Mat R) (i : Nat) (hi : i < w.r) : (colAmps w).getD i 0 = w.get i 0 :=
  getD_map_range _ 0 hi

/-- the state over bit assignments of an executable state column -/
noncomputable def stateOf (n : Nat) (w : Mat R) : BV (Fin n) → R := fun x => C01.toBVv n w x 0

theorem stateOf_bv (n : Nat) (w : Mat R) (i : Nat) (hi : i < 2 ^ n) :
    stateOf n w (bv n i) = w.get i 0 := by
  unfold stateOf C01.toBVv
  rw [bv_eq_bvEquiv n i hi]
  simp [Mat.toM]

theorem stateOf_mul (n : Nat) (w v : Mat R) (A : Matrix (BV (Fin n)) (BV (Fin n)) R)
    (h : C01.toBVv n w = A * C01.toBVv n v) : stateOf n w = A *ᵥ stateOf n v := by
  funext x
  unfold stateOf
  rw [h]
  rfl

theorem amps_state (n : Nat) (w : Mat R) (hr : w.r = 2 ^ n) (i : Nat) (hi : i < 2 ^ n) :
    (colAmps w).getD i 0 = stateOf n w (bv n i) := by
  rw [colAmps_getD w i (by omega), stateOf_bv n w i hi]

theorem exec_spec (n : Nat) (gs : List (Op R)) (h : ∀ o ∈ gs, C01.OpValid n o) (v : Mat R)
    (hvr : v.r = 2 ^ n) (hvc : v.c = 1) :
    ∃ w, Lift.applyAll gs v = some w ∧ w.r = 2 ^ n ∧ w.c = 1 ∧
      stateOf n w = C01.circSem n (gs.map C01.Oper.gate) *ᵥ stateOf n v := by
  have hv : ∀ op ∈ gs.map C01.Oper.gate, C01.OperValid n op := by
    intro op hop
    obtain ⟨o, ho, rfl⟩ := List.mem_map.mp hop
    exact h o ho
  obtain ⟨w, hw, hr, hc, hs⟩ := C01.applyAll_eq_circuit_matrix n (gs.map C01.Oper.gate) hv v hvr hvc
  exact ⟨w, by rw [C01.lift_applyAll_eq gs (fun o ho => ⟨(h o ho).mr, (h o ho).mc⟩) v, hw], hr, hc, stateOf_mul n w v _ hs⟩

theorem exec_snoc (n : Nat) (gs : List (Op R)) (hgs : ∀ o ∈ gs, C01.OpValid n o) (o : Op R) (ho : C01.OpValid n o)
    (v : Mat R) (hvr : v.r = 2 ^ n) (hvc : v.c = 1) :
    ∃ w w', Lift.applyAll gs v = some w ∧ Lift.applyAll (gs ++ [o]) v = some w' ∧ w.r = 2 ^ n ∧ w'.r = 2 ^ n ∧
      stateOf n w' = lift (C01.sigmaOf o.qs n ho.nodup ho.lt) (C01.toBV o.qs.length o.m) *ᵥ stateOf n w := by
  obtain ⟨w, h1, hr, _, hs⟩ := exec_spec n gs hgs v hvr hvc
  obtain ⟨w', h2, hr', _, hs'⟩ := exec_spec n (gs ++ [o])
    (fun p hp => (List.mem_append.mp hp).elim (hgs p) fun h => List.mem_singleton.mp h ▸ ho) v hvr hvc
  refine ⟨w, w', h1, h2, hr, hr', ?_⟩
  rw [hs', hs, List.map_append, List.map_singleton, C01.circSem_snoc, ← Matrix.mulVec_mulVec]
  exact congrArg (· *ᵥ _) (dif_pos ho)

theorem exec_dims (n : Nat) (gs : List (Op R)) (h : ∀ o ∈ gs, C01.OpValid n o) (v : Mat R)
    (hvr : v.r = 2 ^ n) (hvc : v.c = 1) {w : Mat R} (hw : Lift.applyAll gs v = some w) : w.r = 2 ^ n := by
  obtain ⟨w0, h0, hr, _⟩ := exec_spec n gs h v hvr hvc
  rw [h0] at hw
  exact Option.some.inj hw ▸ hr

theorem x_get (i j : Nat) (hi : i < 2) (hj : j < 2) : (Gates.x (R := R)).get i j = if i = j then 0 else 1 := by
  show (Mat.ofFn 2 2 (fun i j => ([[(0 : R), 1], [1, 0]].getD i []).getD j 0)).get i j = _
  rw [Mat.get_ofFn _ _ _ _ _ hi hj]
  obtain rfl | rfl : i = 0 ∨ i = 1 := by omega
  all_goals obtain rfl | rfl : j = 0 ∨ j = 1 := by omega
  all_goals rfl

def xOp (q : Nat) : Op R := ⟨Gates.x, [q]⟩

theorem xValid (n q : Nat) (hq : q < n) : C01.OpValid n (xOp (R := R) q) :=
  ⟨by simp [xOp], by simp [xOp], by simpa [xOp] using hq, rfl, rfl⟩

theorem xOps_valid (n : Nat) (F : List Nat) (hF : ∀ q ∈ F, q < n) : ∀ o ∈ F.map (xOp (R := R)), C01.OpValid n o := by
  intro o ho
  obtain ⟨q, hq, rfl⟩ := List.mem_map.mp ho
  exact xValid n q (hF q hq)

/-- placement of a one-qubit gate on qubit `q` of `n`, with the gate's own qubit indexed by `Unit` -/
def sigmaX (n q : Nat) (hq : q < n) : Unit ⊕ {p : Fin n // p.val ∉ [q]} ≃ Fin n :=
  (Equiv.sumCongr (finOneEquiv.symm) (Equiv.refl _)).trans
    (C01.sigmaOf [q] n (List.nodup_singleton q) (by simpa using hq))

theorem sigmaX_inl (n q : Nat) (hq : q < n) : sigmaX n q hq (Sum.inl ()) = ⟨q, hq⟩ := by
  apply Fin.ext; rfl

theorem lift_x_eq (n q : Nat) (hq : q < n) (h1 : [q].Nodup) (h2 : ∀ p ∈ [q], p < n) :
    lift (C01.sigmaOf [q] n h1 h2) (C01.toBV 1 (Gates.x (R := R))) = lift (sigmaX n q hq) (xGate (R := R)) := by
  ext x y
  rw [lift_apply, lift_apply]
  refine if_congr Iff.rfl ?_ rfl
  rw [C01.toBV_apply, x_get _ _ (Fin.isLt _) (Fin.isLt _)]
  refine if_congr ?_ rfl rfl
  rw [Fin.val_inj, (C01.bvEquiv 1).symm.injective.eq_iff]
  exact ⟨fun h => congrFun h 0, fun h => funext fun k => by rw [Fin.fin_one_eq_zero k]; exact h⟩

theorem operSem_x (n q : Nat) (hq : q < n) :
    C01.operSem n (.gate (xOp (R := R) q)) = lift (sigmaX n q hq) (xGate (R := R)) :=
  (dif_pos (xValid n q hq)).trans (lift_x_eq n q hq _ _)

def indicator (n : Nat) (F : List Nat) : List Nat := (List.range n).map (fun q => if q ∈ F then 1 else 0)

/-- the basis index whose MSB-first bits are the indicator of `F` -/
def basisIndex (n : Nat) (F : List Nat) : Nat := bitsToIndex (indicator n F)

theorem indicator_length (n : Nat) (F : List Nat) : (indicator n F).length = n := by simp [indicator]

theorem indicator_lt (n : Nat) (F : List Nat) : ∀ b ∈ indicator n F, b < 2 := by
  intro b hb
  obtain ⟨q, _, rfl⟩ := List.mem_map.mp hb
  split <;> decide

theorem basisIndex_lt (n : Nat) (F : List Nat) : basisIndex n F < 2 ^ n := by
  have := C01.bitsToIndex_lt (indicator n F) (indicator_lt n F)
  rwa [indicator_length] at this

theorem bits_basisIndex (n : Nat) (F : List Nat) : bits n (basisIndex n F) = indicator n F := by
  apply C01.bitsToIndex_inj _ _ (by rw [bits_length, indicator_length])
  · exact bits_lt_two n _
  · exact indicator_lt n F
  · exact bitsToIndex_bits n (basisIndex n F) (basisIndex_lt n F)

theorem bits_eq_indicator_iff (n : Nat) (F : List Nat) (i : Nat) (hi : i < 2 ^ n) :
    bits n i = indicator n F ↔ i = basisIndex n F := by
  rw [← bits_basisIndex]
  exact ⟨bits_inj n _ _ hi (basisIndex_lt n F), fun e => by rw [e]⟩

theorem bv_basisIndex (n : Nat) (F : List Nat) : bv n (basisIndex n F) = fun p => decide (p.val ∈ F) := by
  funext p
  have h : bit n (basisIndex n F) p = if p.val ∈ F then 1 else 0 := by
    rw [← getD_map_range (bit n _) 0 p.2, ← getD_map_range (fun q => if q ∈ F then 1 else 0) 0 p.2]
    exact congrArg (·.getD p 0) (bits_basisIndex n F)
  unfold bv
  rw [h]
  split <;> simp [*]

theorem stateOf_zeroState (n : Nat) :
    stateOf n (zeroState (R := R) n) = fun x => if x = (fun _ => false) then 1 else 0 := by
  have h0 : bv n 0 = fun _ => false := by funext q; simp [bv, bit]
  funext x
  obtain ⟨i, rfl⟩ := (C01.bvEquiv n).surjective x
  rw [← bv_eq_bvEquiv n i.val i.2, stateOf_bv n _ i.val i.2, ← h0]
  unfold zeroState
  rw [Mat.get_ofFn _ _ _ _ _ i.2 (by decide)]
  exact if_congr ⟨fun h => by rw [h], bv_inj n _ _ i.2 (Nat.two_pow_pos n)⟩ rfl rfl

def tog (n : Nat) (F : List Nat) (x : BV (Fin n)) : BV (Fin n) := fun p => if p.val ∈ F then !x p else x p

theorem flipAt_tog (n q : Nat) (hq : q < n) (F : List Nat) (hqF : q ∉ F) (x : BV (Fin n)) :
    flipAt (⟨q, hq⟩ : Fin n) (tog n F x) = tog n (q :: F) x := by
  funext p
  by_cases hp : p = ⟨q, hq⟩
  · subst hp
    rw [flipAt_self]
    simp [tog, hqF]
  · rw [flipAt_of_ne hp]
    have : p.val ≠ q := fun e => hp (Fin.ext e)
    simp [tog, this]

theorem circSem_xOps (n : Nat) (F : List Nat) (hnd : F.Nodup) (hF : ∀ q ∈ F, q < n) (ψ : BV (Fin n) → R) :
    C01.circSem n ((F.map xOp).map C01.Oper.gate) *ᵥ ψ = fun x => ψ (tog n F x) := by
  induction F generalizing ψ with
  | nil => rw [List.map_nil, List.map_nil, C01.circSem_nil, Matrix.one_mulVec]; funext x; congr 1
  | cons q F ih =>
    rw [List.forall_mem_cons] at hF
    rw [List.nodup_cons] at hnd
    rw [List.map_cons, List.map_cons, C01.circSem_cons, ← Matrix.mulVec_mulVec, ih hnd.2 hF.2]
    funext x
    rw [operSem_x n q hF.1, lift_x_mulVec, sigmaX_inl, flipAt_tog n q hF.1 F hnd.1]

theorem tog_eq_false_iff (n : Nat) (F : List Nat) (x : BV (Fin n)) :
    tog n F x = (fun _ => false) ↔ x = fun p => decide (p.val ∈ F) := by
  simp only [funext_iff, tog]
  refine forall_congr' fun p => ?_
  by_cases hp : p.val ∈ F <;> simp [hp]

def basisAmps (n j : Nat) : List R := (List.range (2 ^ n)).map (fun i => if i = j then (1 : R) else 0)

theorem exec_x_chain_zero (n : Nat) (F : List Nat) (hnd : F.Nodup) (hF : ∀ q ∈ F, q < n) :
    ∃ w, Lift.applyAll (F.map xOp) (zeroState (R := R) n) = some w ∧ w.r = 2 ^ n ∧ w.c = 1 ∧
      colAmps w = basisAmps n (basisIndex n F) := by
  obtain ⟨w, h1, hr, hc, hs⟩ := exec_spec n _ (xOps_valid n F hF) (zeroState (R := R) n) rfl rfl
  refine ⟨w, h1, hr, hc, ?_⟩
  unfold colAmps basisAmps
  rw [hr]
  apply List.map_congr_left
  intro i hi
  have hi' := List.mem_range.mp hi
  rw [← stateOf_bv n w i hi', hs, circSem_xOps n F hnd hF, stateOf_zeroState]
  refine if_congr ?_ rfl rfl
  rw [tog_eq_false_iff, ← bv_basisIndex]
  exact ⟨bv_inj n _ _ hi' (basisIndex_lt n F), fun e => by rw [e]⟩

end

section
variable {R : Type} [CommRing R] [StarRing R]

theorem toBV_unitary (k : Nat) (m : Mat R)
    (h : (Mat.toM (2 ^ k) (2 ^ k) m)ᴴ * Mat.toM (2 ^ k) (2 ^ k) m = 1) :
    (C01.toBV k m)ᴴ * C01.toBV k m = 1 := by
  unfold C01.toBV
  simp only [Matrix.reindex_apply]
  rw [Matrix.conjTranspose_submatrix, Matrix.submatrix_mul_equiv, h, Matrix.submatrix_one_equiv]

end

section
variable {R : Type} [CommRing R]

/-- the Z-type operator `c · ∏_{q ∈ marked} Z_q` as a one-term sum -/
def zString (marked : List Nat) (c : R) : PSum R := [⟨marked.map (fun q => (q, P.Z)), c⟩]

theorem zString_qubits (marked : List Nat) (c : R) :
    termQubits (⟨marked.map (fun q => (q, P.Z)), c⟩ : Term R) = marked := by
  simp [termQubits, List.map_map, Function.comp_def]

theorem zString_ztype (n : Nat) (marked : List Nat) (hnd : marked.Nodup) (hr : ∀ q ∈ marked, q < n) (c : R) :
    ZType n (zString marked c) := by
  intro t ht
  rw [List.mem_singleton.mp ht, zString_qubits]
  refine ⟨fun p hp => ?_, hnd, hr⟩
  obtain ⟨q, _, rfl⟩ := List.mem_map.mp hp
  rfl

theorem eigenvalue_zString (marked : List Nat) (c : R) (row : List Nat) :
    eigenvalue (zString marked c) row = c * ((signOf marked row : Int) : R) := by
  simp only [eigenvalue, zString, List.map_cons, List.map_nil, List.sum_cons, List.sum_nil, add_zero, zString_qubits]

/-- Heisenberg picture of an X gate on qubit `q`: every term containing `Z_q` changes sign -/
def xConj (q : Nat) (s : PSum R) : PSum R :=
  s.map (fun t => ⟨t.ops, (if q ∈ termQubits t then -1 else 1) * t.coeff⟩)

theorem xConj_ztype (n q : Nat) (s : PSum R) (hs : ZType n s) : ZType n (xConj q s) := by
  intro t ht
  obtain ⟨u, hu, rfl⟩ := List.mem_map.mp ht
  exact hs u hu

theorem xConj_zString (q : Nat) (marked : List Nat) (c : R) :
    xConj q (zString marked c) = zString marked ((if q ∈ marked then -1 else 1) * c) := by
  simp only [xConj, zString, List.map_cons, List.map_nil, zString_qubits]

theorem mem_qubitSet (n q : Nat) (hq : q < n) (marked : List Nat) :
    (⟨q, hq⟩ : Fin n) ∈ qubitSet n marked ↔ q ∈ marked := by
  simp only [qubitSet, Finset.mem_filter, Finset.mem_univ, true_and]

theorem basisAmps_length (n j : Nat) : (basisAmps (R := R) n j).length = 2 ^ n := by
  simp [basisAmps]

section
variable (k : Scal R) (h1 : k.cj 1 = 1) (n j : Nat) (hj : j < 2 ^ n)
include h1 hj

theorem basis_normSq (i : Nat) : normSq k ((basisAmps (R := R) n j).getD i 0) = if i = j then 1 else 0 := by
  have : (basisAmps (R := R) n j).getD i 0 = if i = j then 1 else 0 := by
    by_cases hi : i < 2 ^ n
    · exact getD_map_range _ 0 hi
    · rw [List.getD_eq_getElem?_getD, List.getElem?_eq_none (by simpa [basisAmps] using hi), if_neg (by omega)]
      rfl
  rw [this, normSq]
  split
  · rw [h1, mul_one]
  · rw [zero_mul]

theorem basis_distribution :
    exactDistribution k (basisAmps (R := R) n j) =
      (List.range (2 ^ n)).map (fun i => (bits n i, if i = j then (1 : R) else 0)) := by
  simp only [dist_key_eq_bits k _ n (basisAmps_length n j), basis_normSq k h1 n j hj]

theorem basis_lookup : List.lookup (bits n j) (exactDistribution k (basisAmps (R := R) n j)) = some 1 := by
  rw [basis_distribution k h1 n j hj, lookup_bits n _ hj, if_pos rfl]

/-- under the law of `rng.choice` only the index `j` is drawn -/
theorem basis_samples (nSamples : Int) (hs : 1 ≤ nSamples) (draws : List Nat)
    (hcount : (draws.length : Int) = nSamples)
    (hlaw : ∀ i ∈ draws, normSq k ((basisAmps (R := R) n j).getD i 0) ≠ 0) :
    runAndMeasure k (basisAmps (R := R) n j) nSamples draws = .ok (List.replicate draws.length (bits n j)) := by
  have hd : ∀ i ∈ draws, i = j := fun i hi => by
    by_contra h
    exact hlaw i hi (by rw [basis_normSq k h1 n j hj, if_neg h])
  rw [(tuple_of_index k _ n (basisAmps_length n j) nSamples hs draws hcount (fun i hi => hd i hi ▸ hj)).2]
  congr 1
  rw [List.eq_replicate_iff]
  refine ⟨List.length_map _, fun t ht => ?_⟩
  obtain ⟨i, hi, rfl⟩ := List.mem_map.mp ht
  rw [hd i hi]

theorem basis_mkWavefunction (isOne : R → Bool) (hone : isOne 1 = true) :
    mkWavefunction k isOne (basisAmps (R := R) n j) = .ok (basisAmps n j) := by
  have : (getProbabilities k (basisAmps (R := R) n j)).foldl (· + ·) 0 = 1 := by
    rw [← List.sum_eq_foldl, getProbabilities]
    conv_lhs => rw [list_eq_map_range_getD (basisAmps (R := R) n j) 0, basisAmps_length n j]
    rw [List.map_map, sum_map_range]
    simp only [Function.comp_def, basis_normSq k h1 n j hj, Finset.sum_ite_eq', Finset.mem_range, hj, if_true]
  unfold mkWavefunction
  rw [basisAmps_length n j, C01.log2Exact_pow]
  simp only [this, hone, if_true]

end

theorem basis_counts (m : Nat) (t : List Nat) :
    (getCounts (List.replicate m t)).get (tupleToBitstring t) = m := by
  rw [getCounts_get]; simp [tupleToBitstring]

theorem basis_measured (ofRat : Rat → R) (n : Nat) (hn : 1 ≤ n) (row : List Nat) (hrow : row.length = n) (s : PSum R)
    (hs : ZType n s) (m : Nat) (hm : 1 ≤ m) :
    measuredExpectationValues ofRat s (List.replicate m row) =
      .ok (s.map (fun t => t.coeff * ofRat ((signOf (termQubits t) row : Int) : Rat))) := by
  rw [measured_expectation_eq_shot_average_partial ofRat n hn s hs _ (by
      intro h; have := congrArg List.length h; simp at this; omega)
    (fun t ht => by rw [(List.mem_replicate.mp ht).2]; exact hrow)]
  congr 1
  apply List.map_congr_left
  intro t _
  have hm' : (m : Rat) ≠ 0 := by exact_mod_cast (by omega : m ≠ 0)
  rw [List.map_replicate, List.sum_replicate, List.length_replicate, nsmul_eq_mul, Int.cast_mul, Int.cast_natCast,
    mul_div_cancel_left₀ _ hm']

theorem nQubits_valid (n : Nat) (gs : List (Op R)) (h : ∀ o ∈ gs, C01.OpValid n o) : Lift.nQubits n gs = n := by
  unfold Lift.nQubits
  induction gs with
  | nil => rfl
  | cons o gs ih =>
    rw [List.forall_mem_cons] at h
    have hlt : listMax o.qs < n := h.1.lt _ (C01.listMax_mem o.qs h.1.ne)
    have hne : o.qs.isEmpty = false := by
      cases hq : o.qs with
      | nil => exact absurd hq h.1.ne
      | cons _ _ => rfl
    simp only [List.foldl_cons, hne, Bool.false_eq_true, if_false]
    rw [Nat.max_eq_left (by omega)]
    exact ih h.2

/-- the register qubits named by the gate's own slots `S'` (slot j ↦ `qs[j]`), as a list of operator qubit indices -/
def slotQubits (qs : List Nat) (S' : Finset (Fin qs.length)) : List Nat :=
  ((List.finRange qs.length).filter (fun j => j ∈ S')).map (fun j => qs[j.val])

theorem slotQubits_nodup (qs : List Nat) (hd : qs.Nodup) (S' : Finset (Fin qs.length)) : (slotQubits qs S').Nodup :=
  List.Nodup.map_on (fun a _ b _ h => Fin.ext ((hd.getElem_inj_iff).mp h)) ((List.nodup_finRange _).filter _)

theorem slotQubits_lt (qs : List Nat) (n : Nat) (hlt : ∀ q ∈ qs, q < n) (S' : Finset (Fin qs.length)) :
    ∀ q ∈ slotQubits qs S', q < n := by
  intro q hq
  obtain ⟨j, _, rfl⟩ := List.mem_map.mp hq
  exact hlt _ (List.getElem_mem _)

theorem qubitSet_slotQubits (qs : List Nat) (n : Nat) (hd : qs.Nodup) (hlt : ∀ q ∈ qs, q < n)
    (S' : Finset (Fin qs.length)) :
    qubitSet n (slotQubits qs S') =
      S'.map ⟨fun j => C01.sigmaOf qs n hd hlt (Sum.inl j), fun a b h => by simpa using h⟩ := by
  ext q
  simp only [qubitSet, slotQubits, Finset.mem_filter, Finset.mem_univ, true_and, List.mem_map, List.mem_filter,
    List.mem_finRange, decide_eq_true_eq, Finset.mem_map]
  exact ⟨fun ⟨j, hj, e⟩ => ⟨j, hj, Fin.ext e⟩, fun ⟨j, hj, e⟩ => ⟨j, hj, congrArg Fin.val e⟩⟩

end
end OQ.C04.Link
