/-
  Lemmas for C20.  The store only grows (`h <+: h'`), and everything that can be read or observed is monotone along
  `<+:`.  Each store helper is specified once: that it only appends, and what the reference it returns denotes.
  `effects_frame` (no call writes an existing cell) and `effects_denotes` (a returned object is where the call says)
  put these together, call by call.  Core Lean only.
-/
import OQ.Model.C20
namespace OQ.C20

theorem prefix_get {h h' : Heap} (hp : h <+: h') {r : Ref} {c : Cell} (hc : h[r]? = some c) : h'[r]? = some c := by
  obtain ⟨t, rfl⟩ := hp
  rw [List.getElem?_append_left (List.getElem?_eq_some_iff.1 hc).1]; exact hc

theorem alloc_prefix {h0 h : Heap} (c : Cell) (hp : h0 <+: h) : h0 <+: (alloc h c).1 :=
  hp.trans (List.prefix_append _ _)

theorem write_prefix {h0 h : Heap} (r : Ref) (c : Cell) (hp : h0 <+: h) (hr : h0.length ≤ r) :
    h0 <+: write h r c := by
  obtain ⟨t, rfl⟩ := hp
  exact ⟨_, (List.set_append_right _ _ hr).symm⟩

theorem get_fst (h : Heap) (c d : Cell) : (h ++ [c, d])[h.length]? = some c := by
  rw [List.getElem?_append_right (Nat.le_refl _), Nat.sub_self]; rfl

theorem get_snd (h : Heap) (c d : Cell) : (h ++ [c, d])[h.length + 1]? = some d := by
  rw [List.getElem?_append_right (Nat.le_add_right _ _), Nat.add_sub_cancel_left]; rfl

theorem getOps_eq_some {h : Heap} {r : Ref} {v} : getOps h r = some v ↔ h[r]? = some (.olist v) := by
  unfold getOps; split
  · next o ho => simp [ho]
  · next hn => exact ⟨nofun, fun e => (hn _ e).elim⟩
theorem getPdict_eq_some {h : Heap} {r : Ref} {v} : getPdict h r = some v ↔ h[r]? = some (.pdict v) := by
  unfold getPdict; split
  · next o ho => simp [ho]
  · next hn => exact ⟨nofun, fun e => (hn _ e).elim⟩
theorem getTlist_eq_some {h : Heap} {r : Ref} {v} : getTlist h r = some v ↔ h[r]? = some (.tlist v) := by
  unfold getTlist; split
  · next o ho => simp [ho]
  · next hn => exact ⟨nofun, fun e => (hn _ e).elim⟩
theorem getBlist_eq_some {h : Heap} {r : Ref} {v} : getBlist h r = some v ↔ h[r]? = some (.blist v) := by
  unfold getBlist; split
  · next o ho => simp [ho]
  · next hn => exact ⟨nofun, fun e => (hn _ e).elim⟩
theorem getDdict_eq_some {h : Heap} {r : Ref} {v} : getDdict h r = some v ↔ h[r]? = some (.ddict v) := by
  unfold getDdict; split
  · next o ho => simp [ho]
  · next hn => exact ⟨nofun, fun e => (hn _ e).elim⟩
theorem getArr_eq_some {h : Heap} {r : Ref} {v} : getArr h r = some v ↔ h[r]? = some (.arr v) := by
  unfold getArr; split
  · next o ho => simp [ho]
  · next hn => exact ⟨nofun, fun e => (hn _ e).elim⟩

theorem getTerm_eq_some {h : Heap} {r : Ref} {t : TermV} :
    getTerm h r = some t ↔ ∃ d, h[r]? = some (.term d t.2) ∧ h[d]? = some (.pdict t.1) := by
  constructor
  · intro hv
    unfold getTerm at hv
    split at hv
    · split at hv <;> cases hv
      exact ⟨_, ‹_›, getPdict_eq_some.1 ‹_›⟩
    · cases hv
  · rintro ⟨d, h1, h2⟩
    simp only [getTerm, h1, getPdict_eq_some.2 h2]

theorem getTerm_mono {h h' : Heap} (hp : h <+: h') {r : Ref} {v} (hv : getTerm h r = some v) : getTerm h' r = some v :=
  let ⟨d, h1, h2⟩ := getTerm_eq_some.1 hv
  getTerm_eq_some.2 ⟨d, prefix_get hp h1, prefix_get hp h2⟩

theorem getTerms_mono {h h' : Heap} (hp : h <+: h') {rs : List Ref} {vs} (hv : getTerms h rs = some vs) :
    getTerms h' rs = some vs := by
  induction rs generalizing vs with
  | nil => exact hv
  | cons r rs ih =>
    unfold getTerms at hv ⊢
    split at hv
    · rename_i v vs' h1 h2
      rw [getTerm_mono hp h1, ih h2]; exact hv
    · cases hv

/-- `view?` as a relation: one rule per kind of cell.  Reading an observation back is `cases`, producing one is
    a rule, and every rule survives an extension of the store. -/
inductive Views (h : Heap) (r : Ref) : Obs → Prop
  | olist {o} : h[r]? = some (.olist o) → Views h r (.oplist o)
  | circuit {l n o} : h[r]? = some (.circuit l n) → h[l]? = some (.olist o) → Views h r (.circuit o n)
  | pdict {o} : h[r]? = some (.pdict o) → Views h r (.pdict o)
  | term {t} : getTerm h r = some t → Views h r (.term t)
  | tlist {l ts} : h[r]? = some (.tlist l) → getTerms h l = some ts → Views h r (.tlist ts)
  | psum {l rs ts} : h[r]? = some (.psum l) → h[l]? = some (.tlist rs) → getTerms h rs = some ts → Views h r (.psum ts)
  | blist {b} : h[r]? = some (.blist b) → Views h r (.blist b)
  | meas {l b} : h[r]? = some (.meas l) → h[l]? = some (.blist b) → Views h r (.meas b)
  | ddict {d} : h[r]? = some (.ddict d) → Views h r (.ddict d)
  | dist {l d} : h[r]? = some (.dist l) → h[l]? = some (.ddict d) → Views h r (.dist d)
  | arr {a} : h[r]? = some (.arr a) → Views h r (.arr a)
  | wf {l a} : h[r]? = some (.wf l) → h[l]? = some (.arr a) → Views h r (.wf a)

theorem view?_iff {h : Heap} {r : Ref} {o : Obs} : view? h r = some o ↔ Views h r o := by
  constructor
  · intro hv
    unfold view? at hv
    split at hv
    case h_1 => cases hv
    case h_2 hc => cases hv; exact .olist hc
    case h_3 hc => split at hv <;> cases hv; exact .circuit hc (getOps_eq_some.1 ‹_›)
    case h_4 hc => cases hv; exact .pdict hc
    case h_5 hc => split at hv <;> cases hv; exact .term (getTerm_eq_some.2 ⟨_, hc, getPdict_eq_some.1 ‹_›⟩)
    case h_6 hc => split at hv <;> cases hv; exact .tlist hc ‹_›
    case h_7 hc =>
      split at hv
      · split at hv <;> cases hv; exact .psum hc (getTlist_eq_some.1 ‹_›) ‹_›
      · cases hv
    case h_8 hc => cases hv; exact .blist hc
    case h_9 hc => split at hv <;> cases hv; exact .meas hc (getBlist_eq_some.1 ‹_›)
    case h_10 hc => cases hv; exact .ddict hc
    case h_11 hc => split at hv <;> cases hv; exact .dist hc (getDdict_eq_some.1 ‹_›)
    case h_12 hc => cases hv; exact .arr hc
    case h_13 hc => split at hv <;> cases hv; exact .wf hc (getArr_eq_some.1 ‹_›)
  · intro hv
    cases hv with
    | term ht =>
      obtain ⟨d, h1, h2⟩ := getTerm_eq_some.1 ht
      simp only [view?, h1, getPdict_eq_some.2 h2]
    | circuit hc hl => simp only [view?, hc, getOps_eq_some.2 hl]
    | tlist hc hl => simp only [view?, hc, hl]
    | psum hc hl ht => simp only [view?, hc, getTlist_eq_some.2 hl, ht]
    | meas hc hl => simp only [view?, hc, getBlist_eq_some.2 hl]
    | dist hc hl => simp only [view?, hc, getDdict_eq_some.2 hl]
    | wf hc hl => simp only [view?, hc, getArr_eq_some.2 hl]
    | _ hc => simp only [view?, hc]

theorem Views.mono {h h' : Heap} (hp : h <+: h') {r : Ref} {o : Obs} (hv : Views h r o) : Views h' r o := by
  cases hv with
  | olist hc => exact .olist (prefix_get hp hc)
  | circuit hc hl => exact .circuit (prefix_get hp hc) (prefix_get hp hl)
  | pdict hc => exact .pdict (prefix_get hp hc)
  | term ht => exact .term (getTerm_mono hp ht)
  | tlist hc hl => exact .tlist (prefix_get hp hc) (getTerms_mono hp hl)
  | psum hc hl ht => exact .psum (prefix_get hp hc) (prefix_get hp hl) (getTerms_mono hp ht)
  | blist hc => exact .blist (prefix_get hp hc)
  | meas hc hl => exact .meas (prefix_get hp hc) (prefix_get hp hl)
  | ddict hc => exact .ddict (prefix_get hp hc)
  | dist hc hl => exact .dist (prefix_get hp hc) (prefix_get hp hl)
  | arr hc => exact .arr (prefix_get hp hc)
  | wf hc hl => exact .wf (prefix_get hp hc) (prefix_get hp hl)

theorem view?_mono {h h' : Heap} (hp : h <+: h') {r : Ref} {o} (hv : view? h r = some o) : view? h' r = some o :=
  view?_iff.2 ((view?_iff.1 hv).mono hp)

theorem allocTerm_eq (h : Heap) (v : TermV) :
    allocTerm h v = (h ++ [.pdict v.1, .term h.length v.2], h.length + 1) := by
  simp [allocTerm, alloc]

theorem allocTerm_prefix (h : Heap) (v : TermV) : h <+: (allocTerm h v).1 := by
  rw [allocTerm_eq]; exact List.prefix_append _ _

theorem allocTerm_spec (h : Heap) (v : TermV) : getTerm (allocTerm h v).1 (allocTerm h v).2 = some v := by
  rw [allocTerm_eq]; exact getTerm_eq_some.2 ⟨_, get_snd _ _ _, get_fst _ _ _⟩

theorem mkCircuit_eq (h : Heap) (ops : List GOp) (nq : Nat) :
    mkCircuit h ops nq = (h ++ [.olist ops, .circuit h.length nq], h.length + 1) := by
  simp [mkCircuit, alloc]

theorem mkCircuit_prefix (h : Heap) (ops : List GOp) (n : Nat) : h <+: (mkCircuit h ops n).1 := by
  rw [mkCircuit_eq]; exact List.prefix_append _ _

/-- `q` is the constructor's `ctorQubits …`: the circuit stores the number of qubits it could determine -/
theorem mkCircuit_view (h : Heap) (ops : List GOp) {q : Option Nat} {n : Nat} (hn : q = some n) :
    view? (mkCircuit h ops (q.getD 0)).1 (mkCircuit h ops (q.getD 0)).2 = some (.circuit ops n) := by
  subst hn; rw [mkCircuit_eq]; exact view?_iff.2 (.circuit (get_snd _ _ _) (get_fst _ _ _))

theorem mkSum_eq (h : Heap) (rs : List Ref) : mkSum h rs = (h ++ [.tlist rs, .psum h.length], h.length + 1) := by
  simp [mkSum, alloc]

theorem mkSum_prefix (h : Heap) (rs : List Ref) : h <+: (mkSum h rs).1 := by
  rw [mkSum_eq]; exact List.prefix_append _ _

theorem mkSum_view {h : Heap} {rs : List Ref} {vs : List TermV} (hg : getTerms h rs = some vs) :
    view? (mkSum h rs).1 (mkSum h rs).2 = some (.psum vs) := by
  rw [mkSum_eq]
  exact view?_iff.2 (.psum (get_snd _ _ _) (get_fst _ _ _) (getTerms_mono (List.prefix_append _ _) hg))

theorem allocTerms_spec (h : Heap) (vs : List TermV) :
    h <+: (allocTerms h vs).1 ∧ getTerms (allocTerms h vs).1 (allocTerms h vs).2 = some vs := by
  induction vs generalizing h with
  | nil => exact ⟨List.prefix_rfl, rfl⟩
  | cons v vs ih =>
    have ⟨hp, hg⟩ := ih (allocTerm h v).1
    exact ⟨(allocTerm_prefix h v).trans hp, by
      simp only [allocTerms, getTerms, getTerm_mono hp (allocTerm_spec h v), hg]⟩

/-- located terms really are where they are said to be -/
def LocOk (h : Heap) (lts : Located) : Prop := ∀ p ∈ lts, getTerm h p.1 = some p.2

theorem LocOk.mono {h h' : Heap} {lts : Located} (hp : h <+: h') (hl : LocOk h lts) : LocOk h' lts :=
  fun p hpm => getTerm_mono hp (hl p hpm)

theorem LocOk.nil {h : Heap} : LocOk h [] := fun _ hp => nomatch hp

theorem LocOk.cons {h : Heap} {p : Ref × TermV} {lts : Located} (hp : getTerm h p.1 = some p.2) (hl : LocOk h lts) :
    LocOk h (p :: lts) := by
  intro q hq
  rcases List.mem_cons.1 hq with rfl | hq
  · exact hp
  · exact hl q hq

theorem LocOk.concat {h : Heap} {lts : Located} {p : Ref × TermV} (hl : LocOk h lts) (hp : getTerm h p.1 = some p.2) :
    LocOk h (lts ++ [p]) := fun q hq =>
  (List.mem_append.1 hq).elim (hl q) fun hq => List.mem_singleton.1 hq ▸ hp

theorem getTerms_of_locOk {h : Heap} {lts : Located} (hl : LocOk h lts) :
    getTerms h (lts.map (·.1)) = some (lts.map (·.2)) := by
  induction lts with
  | nil => rfl
  | cons p ps ih =>
    simp only [List.map_cons, getTerms]
    rw [hl p (List.mem_cons_self ..), ih (fun q hq => hl q (List.mem_cons_of_mem _ hq))]

theorem locOk_of_getTerms {h : Heap} {rs : List Ref} {vs : List TermV} (hg : getTerms h rs = some vs) :
    LocOk h (locate rs vs) ∧ (locate rs vs).map (·.2) = vs := by
  induction rs generalizing vs with
  | nil => cases hg; exact ⟨.nil, rfl⟩
  | cons r rs ih =>
    unfold getTerms at hg
    split at hg <;> cases hg
    next v vs' h1 h2 =>
    have ⟨hl, hm⟩ := ih h2
    exact ⟨.cons h1 hl, congrArg (v :: ·) hm⟩

theorem locate_fst (rs : List Ref) (vs : List TermV) (hl : rs.length = vs.length) :
    (locate rs vs).map (·.1) = rs :=
  List.map_fst_zip (Nat.le_of_eq hl)

theorem allocDecisions_spec (h : Heap) (lts : Located) (ds : List Decision) :
    h <+: (allocDecisions h lts ds).1 ∧ (LocOk h lts →
      LocOk (allocDecisions h lts ds).1 (allocDecisions h lts ds).2 ∧
      (allocDecisions h lts ds).2.map (·.2) = ds.filterMap (decisionValue (lts.map (·.2)))) := by
  induction ds generalizing h with
  | nil => exact ⟨List.prefix_rfl, fun _ => ⟨.nil, rfl⟩⟩
  | cons d ds ih =>
    cases d with
    | share i =>
      have ⟨hp, ih⟩ := ih h
      simp only [allocDecisions, List.filterMap_cons, decisionValue, List.getElem?_map]
      cases hi : lts[i]? with
      | none => exact ⟨hp, ih⟩
      | some p =>
        refine ⟨hp, fun hl => ?_⟩
        have ⟨h1, h2⟩ := ih hl
        exact ⟨.cons (getTerm_mono hp (hl _ (List.mem_of_getElem? hi))) h1, congrArg (p.2 :: ·) h2⟩
    | fresh v =>
      have ⟨hp, ih⟩ := ih (allocTerm h v).1
      simp only [allocDecisions, List.filterMap_cons, decisionValue]
      refine ⟨(allocTerm_prefix h v).trans hp, fun hl => ?_⟩
      have ⟨h1, h2⟩ := ih (hl.mono (allocTerm_prefix h v))
      exact ⟨.cons (getTerm_mono hp (allocTerm_spec h v)) h1, congrArg (v :: ·) h2⟩

theorem simplifyE_prefix (h : Heap) (lts : Located) : h <+: (simplifyE h lts).1 :=
  (allocDecisions_spec h lts _).1.trans (mkSum_prefix _ _)

theorem simplifyE_spec {h : Heap} {lts : Located} (hl : LocOk h lts) :
    (simplifyE h lts).2.2.map (·.2) = simplifyV (lts.map (·.2)) ∧
    view? (simplifyE h lts).1 (simplifyE h lts).2.1 = some (.psum (simplifyV (lts.map (·.2)))) := by
  have hs := (allocDecisions_spec h lts (simplifyD (lts.map (·.2)))).2 hl
  have h2 : _ = simplifyV (lts.map (·.2)) := hs.2
  exact ⟨h2, mkSum_view (h2 ▸ getTerms_of_locOk hs.1)⟩

theorem simplifyE_locate {h : Heap} {rs : List Ref} {vs : List TermV} (hg : getTerms h rs = some vs) :
    (simplifyE h (locate rs vs)).2.2.map (·.2) = simplifyV vs ∧
    view? (simplifyE h (locate rs vs)).1 (simplifyE h (locate rs vs)).2.1 = some (.psum (simplifyV vs)) := by
  have ⟨hl, hm⟩ := locOk_of_getTerms hg
  have := simplifyE_spec hl
  rwa [hm] at this

/-- `PauliSum([t.copy() for t in …]).simplify()`: the copies are where the new sum's list says -/
theorem copySimplify_spec (h : Heap) (vs : List TermV) :
    let r := simplifyE (mkSum (allocTerms h vs).1 (allocTerms h vs).2).1 (locate (allocTerms h vs).2 vs)
    h <+: r.1 ∧ r.2.2.map (·.2) = simplifyV vs ∧ view? r.1 r.2.1 = some (.psum (simplifyV vs)) :=
  ⟨((allocTerms_spec h vs).1.trans (mkSum_prefix _ _)).trans (simplifyE_prefix _ _),
    simplifyE_locate (getTerms_mono (mkSum_prefix _ _) (allocTerms_spec h vs).2)⟩

theorem termMulE_spec (h : Heap) (a b : TermV) :
    h <+: (termMulE h a b).1 ∧ getTerm (termMulE h a b).1 (termMulE h a b).2 = some (termMulV a b) :=
  ⟨(allocTerms_spec h _).1.trans (allocTerm_prefix _ _), allocTerm_spec _ _⟩

theorem productsE_spec (h : Heap) (va vb : List TermV) :
    h <+: (productsE h va vb).1 ∧ LocOk (productsE h va vb).1 (productsE h va vb).2 ∧
    (productsE h va vb).2.map (·.2) = productsV va vb := by
  -- the loop on the store, in step with the list of values it collects
  have := List.foldl_rel (l := productsE.productsV' va vb) (a := ((h, []) : Heap × Located)) (b := [])
    (r := fun acc vs => h <+: acc.1 ∧ LocOk acc.1 acc.2 ∧ acc.2.map (·.2) = vs)
    (f := fun acc lr => ((termMulE acc.1 lr.1 lr.2).1, acc.2 ++ [((termMulE acc.1 lr.1 lr.2).2, termMulV lr.1 lr.2)]))
    (g := fun vs lr => vs ++ [termMulV lr.1 lr.2])
    ⟨List.prefix_rfl, .nil, rfl⟩
    (fun lr _ acc vs ⟨hp, hl, hm⟩ =>
      have ⟨h1, h2⟩ := termMulE_spec acc.1 lr.1 lr.2
      ⟨hp.trans h1, (hl.mono h1).concat h2, by rw [List.map_append, hm]; rfl⟩)
  have hv : (productsE.productsV' va vb).map (fun lr => termMulV lr.1 lr.2) = productsV va vb := by
    simp only [productsE.productsV', productsV, List.map_flatMap, List.map_map]; rfl
  rwa [List.foldl_append_eq_append, List.nil_append, ← List.flatMap_def, ← List.map_eq_flatMap, hv] at this

theorem sumMulE_spec (h : Heap) (va vb : List TermV) :
    h <+: (sumMulE h va vb).1 ∧
    view? (sumMulE h va vb).1 (sumMulE h va vb).2.1 = some (.psum (sumMulV va vb)) := by
  have ⟨h1, hl, hm⟩ := productsE_spec h va vb
  have hs := simplifyE_spec (hl.mono (mkSum_prefix _ ((productsE h va vb).2.map (·.1))))
  rw [hm] at hs
  exact ⟨(h1.trans (mkSum_prefix _ _)).trans (simplifyE_prefix _ _), hs.2⟩

theorem termPowE_spec (h : Heap) (x : TermV) (fuel n : Nat) :
    h <+: (termPowE h x fuel n).1 ∧ (termPowE h x fuel n).2.2 = effExp termMulV identityTerm x fuel n ∧
    getTerm (termPowE h x fuel n).1 (termPowE h x fuel n).2.1 = some (effExp termMulV identityTerm x fuel n) := by
  induction fuel generalizing n with
  | zero => exact ⟨allocTerm_prefix _ _, rfl, allocTerm_spec _ _⟩
  | succ f ih =>
    unfold termPowE effExp
    split
    · exact ⟨allocTerm_prefix _ _, rfl, allocTerm_spec _ _⟩
    · -- odd or even: one more product, of the values the recursive call returned (`dsimp` first: through the
      -- `let`s the unifier is slow)
      split <;> dsimp only <;> rw [← (ih _).2.1] <;>
        exact ⟨(ih _).1.trans (termMulE_spec _ _ _).1, rfl, (termMulE_spec _ _ _).2⟩

theorem identitySum_spec (h : Heap) :
    h <+: (mkSum (allocTerm h identityTerm).1 [(allocTerm h identityTerm).2]).1 ∧
    view? (mkSum (allocTerm h identityTerm).1 [(allocTerm h identityTerm).2]).1
      (mkSum (allocTerm h identityTerm).1 [(allocTerm h identityTerm).2]).2 = some (.psum [identityTerm]) :=
  ⟨(allocTerm_prefix _ _).trans (mkSum_prefix _ _),
    mkSum_view (by simp only [getTerms, allocTerm_spec])⟩

theorem sumPowE_spec (h : Heap) (x : List TermV) (fuel n : Nat) :
    h <+: (sumPowE h x fuel n).1 ∧ (sumPowE h x fuel n).2.2 = effExp sumMulV [identityTerm] x fuel n ∧
    view? (sumPowE h x fuel n).1 (sumPowE h x fuel n).2.1 = some (.psum (effExp sumMulV [identityTerm] x fuel n)) := by
  induction fuel generalizing n with
  | zero => exact ⟨(identitySum_spec h).1, rfl, (identitySum_spec h).2⟩
  | succ f ih =>
    unfold sumPowE effExp
    split
    · exact ⟨(identitySum_spec h).1, rfl, (identitySum_spec h).2⟩
    · split <;> dsimp only <;> rw [← (ih _).2.1] <;>
        exact ⟨(ih _).1.trans (sumMulE_spec _ _ _).1, rfl, (sumMulE_spec _ _ _).2⟩

theorem sumConjE_spec (h : Heap) (va : List TermV) :
    h <+: (sumConjE h va).1 ∧ view? (sumConjE h va).1 (sumConjE h va).2.1 = some (.psum (sumConjV va)) := by
  have := List.foldl_rel (l := va)
    (r := fun (acc : Heap × Ref × Located) (a : List TermV) =>
      h <+: acc.1 ∧ view? acc.1 acc.2.1 = some (.psum a) ∧ acc.2.2.map (·.2) = a)
    (a := ((mkSum h []).1, (mkSum h []).2, [])) (b := [])
    (g := fun a t => simplifyV (a ++ [conjV t]))
    ⟨mkSum_prefix h [], mkSum_view rfl, rfl⟩
    (fun t _ acc a ⟨hp, _, hm⟩ => by
      subst hm
      have hs := copySimplify_spec (mkSum (allocTerm acc.1 (conjV t)).1 [(allocTerm acc.1 (conjV t)).2]).1
        (acc.2.2.map (·.2) ++ [conjV t])
      exact ⟨((hp.trans (allocTerm_prefix _ _)).trans (mkSum_prefix _ _)).trans hs.1, hs.2.2, hs.2.1⟩)
  exact ⟨this.1, this.2.1⟩

/-- The constructor builds its own dict, normalises THAT in place, and allocates the object:
    two fresh cells, whatever the outcome. -/
theorem distCtorE_eq (h : Heap) (d : DDict) (nrm : Bool) :
    distCtorE h d nrm = (h ++ [.ddict (match distCtorV (preprocessV d) nrm with | .ok d' => d' | .error _ => preprocessV d),
      .dist h.length], h.length + 1) := by
  have hset : ∀ c c' : Cell, write (h ++ [c]) h.length c' = h ++ [c'] := fun c c' => by
    rw [write, List.set_append_right _ _ (Nat.le_refl _), Nat.sub_self]; rfl
  unfold distCtorE
  cases distCtorV (preprocessV d) nrm with
  | error e => simp [alloc]
  | ok d' => by_cases he : d' = preprocessV d <;> simp [alloc, he, hset]

theorem distCtorE_prefix (h : Heap) (d : DDict) (nrm : Bool) : h <+: (distCtorE h d nrm).1 := by
  rw [distCtorE_eq]; exact List.prefix_append _ _

theorem distCtorE_spec (h : Heap) (d : DDict) (nrm : Bool) {d' : DDict} (hv : distCtorV (preprocessV d) nrm = .ok d') :
    view? (distCtorE h d nrm).1 (distCtorE h d nrm).2 = some (.dist d') := by
  rw [distCtorE_eq, hv]; exact view?_iff.2 (.dist (get_snd _ _ _) (get_fst _ _ _))

theorem foldl_write_prefix {α : Type} {h0 : Heap} {r : Ref} (hr : h0.length ≤ r)
    (g : α → Cell) (xs : List α) {acc : Heap} (hp : h0 <+: acc) :
    h0 <+: xs.foldl (fun acc x => write acc r (g x)) acc := by
  induction xs generalizing acc with
  | nil => exact hp
  | cons x xs ih => exact ih (write_prefix _ _ hp hr)

/-- `from_counts`: the `+=` hit the list that `cls()` has just made, and nothing else -/
theorem fromCounts_fold (h : Heap) (counts : List (Bits × Nat)) (bs : List Bits) :
    (counts.foldl (fun (acc : Heap × List Bits) c =>
      (write acc.1 h.length (.blist (acc.2 ++ List.replicate c.2 c.1)), acc.2 ++ List.replicate c.2 c.1))
      (h ++ [.blist bs, .meas h.length], bs)).1 =
    h ++ [.blist (bs ++ counts.flatMap (fun c => List.replicate c.2 c.1)), .meas h.length] := by
  induction counts generalizing bs with
  | nil => simp
  | cons c cs ih =>
    rw [List.foldl_cons, write, List.set_append_right _ _ (Nat.le_refl _), Nat.sub_self]
    simpa [List.append_assoc] using ih (bs ++ List.replicate c.2 c.1)

theorem effects_fromCounts (h : Heap) (counts : List (Bits × Nat)) (vs : List (Option Obs)) :
    effects h (.measFromCounts counts) vs =
      (h ++ [.blist (counts.flatMap (fun c => List.replicate c.2 c.1)), .meas h.length], some (h.length + 1)) := by
  conv => lhs; whnf
  simp only [alloc, List.append_assoc, List.length_append, List.length_singleton, List.cons_append,
    List.nil_append]
  rw [fromCounts_fold]; rfl

theorem effects_frame (h : Heap) (c : Call) (vs : List (Option Obs)) : h <+: (effects h c vs).1 := by
  have h0 : h <+: h := List.prefix_rfl
  have fr : ∀ {p : Heap × Option Ref} {h' : Heap} {r : Option Ref}, (h', r) = p → h <+: h' → h <+: p.1 :=
    fun he hp => he ▸ hp
  cases c
  case measFromCounts => rw [effects_fromCounts]; exact List.prefix_append _ _
  -- head-normalising reaches the call's own branch (unfolding would carry all 35 into every case); under a name,
  -- so that `fr` reads the new store off the pair instead of unifying through `Prod.fst`
  all_goals generalize he : effects _ _ _ = p
  all_goals conv at he => lhs; whnf
  case measCounts | wfProbs | report => exact fr he h0
  case litOps | litTerms | litBits | litDict | litArr => exact fr he (alloc_prefix _ h0)
  case termNew => exact fr he (allocTerm_prefix _ _)
  case circNew => split at he; exact fr he (mkCircuit_prefix _ _ _); exact fr he h0
  case circAdd | circAddOp | circInverse | circControlled =>
    split at he; exact fr he ((alloc_prefix _ h0).trans (mkCircuit_prefix _ _ _)); exact fr he h0
  case circBind =>
    split at he
    · split at he; exact fr he ((alloc_prefix _ h0).trans (mkCircuit_prefix _ _ _)); exact fr he h0
    · exact fr he h0
  case termCopy | termScale => split at he; exact fr he (allocTerm_prefix _ _); exact fr he h0
  case termMul => split at he; exact fr he (termMulE_spec _ _ _).1; exact fr he h0
  case termAdd => split at he; exact fr he ((mkSum_prefix _ _).trans (simplifyE_prefix _ _)); exact fr he h0
  case termPow => split at he; exact fr he ((allocTerm_prefix _ _).trans (termPowE_spec _ _ _ _).1); exact fr he h0
  case sumNew | measNew | wfNew => split at he; exact fr he (alloc_prefix _ h0); exact fr he h0
  case sumAdd =>
    split at he
    · split at he
      · -- `PauliSum([other])` first when the other operand is a term
        refine fr he (List.IsPrefix.trans ?_ (copySimplify_spec _ _).1)
        split; exact mkSum_prefix _ _; exact h0
      · exact fr he h0
    · exact fr he h0
  case sumMul =>
    split at he
    · split at he
      · -- `PauliTerm.identity() * other` first when the other operand is a term
        refine fr he (List.IsPrefix.trans ?_ (sumMulE_spec _ _ _).1)
        split; exact (allocTerm_prefix _ _).trans (termMulE_spec _ _ _).1; exact h0
      · exact fr he h0
    · exact fr he h0
  case sumRMul => split at he; exact fr he ((allocTerms_spec _ _).1.trans (copySimplify_spec _ _).1); exact fr he h0
  case sumPow => split at he; exact fr he (sumPowE_spec _ _ _ _).1; exact fr he h0
  case sumSimplify => split at he; exact fr he (simplifyE_prefix _ _); exact fr he h0
  case opConj => split at he; exact fr he (allocTerm_prefix _ _); exact fr he (sumConjE_spec _ _).1; exact fr he h0
  case measDistribution => split at he; exact fr he ((alloc_prefix _ h0).trans (distCtorE_prefix _ _ _)); exact fr he h0
  case measRepresenting => split at he; exact fr he (alloc_prefix _ (alloc_prefix _ (alloc_prefix _ h0))); exact fr he h0
  case distNew => split at he; exact fr he (distCtorE_prefix _ _ _); exact fr he h0
  case distSub =>
    split at he
    · -- `new_counts[k] = …` in place on the dict created at the top
      exact fr he ((foldl_write_prefix (Nat.le_refl _) _ _ (alloc_prefix _ (alloc_prefix _ h0))).trans
        (distCtorE_prefix _ _ _))
    · exact fr he h0
  case wfBind => split at he; exact fr he h0; exact fr he h0

theorem getTerm_of_view? {h : Heap} {r : Ref} {t : TermV} (hv : view? h r = some (.term t)) : getTerm h r = some t := by
  cases view?_iff.1 hv; assumption

theorem getTerms_of_allSome {h : Heap} {ts : List Ref} {os : List Obs} {tvs : List TermV}
    (h1 : allSome (ts.map (view? h)) = some os)
    (h2 : allSome (os.map (fun o => match o with | .term t => some t | _ => none)) = some tvs) :
    getTerms h ts = some tvs := by
  induction ts generalizing os tvs with
  | nil => cases h1; cases h2; rfl
  | cons r rs ih =>
    simp only [List.map_cons] at h1
    cases hr : view? h r with
    | none => rw [hr] at h1; cases h1
    | some o =>
      rw [hr] at h1
      simp only [allSome] at h1
      split at h1 <;> cases h1
      next ys hys =>
      simp only [List.map_cons] at h2
      cases o <;> simp only [allSome] at h2 <;> try (cases h2; done)
      split at h2 <;> cases h2
      next zs hzs =>
      simp only [getTerms, getTerm_of_view? hr, ih hys hzs]

theorem effects_denotes {h : Heap} {c : Call} {vs : List (Option Obs)} {o : Obs}
    (hvs : argViews h c = vs) (hv : valueOf c vs = .ok (.obj o)) :
    ∃ r, (effects h c vs).2 = some r ∧ view? (effects h c vs).1 r = some o := by
  have obj : ∀ {p : Heap × Option Ref} {h' : Heap} {r : Ref} {o : Obs}, (h', some r) = p → view? h' r = some o →
      ∃ r, p.2 = some r ∧ view? p.1 r = some o :=
    fun he hs => he ▸ ⟨_, rfl, hs⟩
  cases c
  case litTerms ts =>
    subst hvs
    conv at hv => lhs; whnf
    split at hv
    · next os hos =>
      split at hv <;> cases hv
      next tvs htvs =>
      exact obj rfl (view?_iff.2 (.tlist List.getElem?_concat_length
        (getTerms_mono (List.prefix_append _ _) (getTerms_of_allSome hos htvs))))
    · cases hv
  case measFromCounts =>
    cases hv; rw [effects_fromCounts]
    exact obj rfl (view?_iff.2 (.meas (get_snd _ _ _) (get_fst _ _ _)))
  -- `valueOf` and `effects` head-normalised to the call's own branch, as in `effects_frame`
  all_goals conv at hv => lhs; whnf
  case measCounts | wfProbs | report => split at hv <;> cases hv
  all_goals generalize he : effects _ _ _ = p
  all_goals conv at he => lhs; whnf
  case litOps | litBits | litDict | litArr =>
    cases hv; exact obj he (by simp only [alloc, view?, List.getElem?_concat_length])
  case circNew | circAdd | circInverse | circControlled =>
    split at hv
    · split at hv <;> cases hv
      next n hn => exact obj he (mkCircuit_view _ _ hn)
    · cases hv
  case circAddOp a op =>
    split at hv
    · obtain ⟨g, _ | ⟨q, qs⟩⟩ := op <;> conv at hv => lhs; whnf
      · cases hv
      · split at hv <;> cases hv
        next n hn => exact obj he (mkCircuit_view _ _ hn)
    · cases hv
  case circBind a m =>
    split at hv
    · next oa na =>
      cases hb : bindAll m oa with
      | error e => simp only [hb] at hv; cases hv
      | ok ops =>
        simp only [hb] at hv he
        split at hv <;> cases hv
        next n hn => exact obj he (mkCircuit_view _ _ hn)
    · cases hv
  case termNew => cases hv; exact obj he (view?_iff.2 (.term (allocTerm_spec _ _)))
  case termCopy | termScale =>
    split at hv <;> cases hv
    exact obj he (view?_iff.2 (.term (allocTerm_spec _ _)))
  case termMul =>
    split at hv <;> cases hv
    exact obj he (view?_iff.2 (.term (termMulE_spec _ _ _).2))
  case termAdd ra rb =>
    split at hv <;> cases hv
    -- `PauliSum([self, other])` holds the arguments themselves
    have h1 := getTerm_of_view? (List.cons.inj hvs).1
    have h2 := getTerm_of_view? (List.cons.inj (List.cons.inj hvs).2).1
    exact obj he (simplifyE_spec (((LocOk.nil.cons h2).cons h1).mono (mkSum_prefix h [ra, rb]))).2
  case termPow =>
    split at hv <;> cases hv
    exact obj he (view?_iff.2 (.term (termPowE_spec _ _ _ _).2.2))
  case sumNew l =>
    split at hv <;> cases hv
    cases view?_iff.1 (List.cons.inj hvs).1 with
    | tlist hc hg =>
      have hp := List.prefix_append h [Cell.psum l]
      exact obj he (view?_iff.2 (.psum List.getElem?_concat_length (prefix_get hp hc) (getTerms_mono hp hg)))
  case sumAdd =>
    split at hv
    · split at hv <;> cases hv
      next vb hvb =>
      simp only [hvb] at he
      exact obj he (copySimplify_spec _ _).2.2
    · cases hv
  case sumMul =>
    split at hv
    · split at hv <;> cases hv
      next vb hvb =>
      simp only [hvb] at he
      exact obj he (sumMulE_spec _ _ _).2
    · cases hv
  case sumRMul =>
    split at hv <;> cases hv
    exact obj he (copySimplify_spec _ _).2.2
  case sumPow =>
    split at hv <;> cases hv
    exact obj he (sumPowE_spec _ _ _ _).2.2
  case sumSimplify ra =>
    split at hv <;> cases hv
    cases view?_iff.1 (List.cons.inj hvs).1 with
    | @psum l rs _ hc hl hg =>
      have hrefs : termRefs h ra = rs := by simp only [termRefs, hc, getTlist_eq_some.2 hl, Option.getD_some]
      simp only [hrefs] at he
      exact obj he (simplifyE_locate hg).2
  case opConj =>
    split at hv <;> cases hv
    · exact obj he (view?_iff.2 (.term (allocTerm_spec _ _)))
    · exact obj he (sumConjE_spec _ _).2
  case measNew l =>
    split at hv <;> cases hv
    cases view?_iff.1 (List.cons.inj hvs).1 with
    | blist hc =>
      exact obj he (view?_iff.2 (.meas List.getElem?_concat_length (prefix_get (List.prefix_append _ _) hc)))
  case measDistribution | distNew =>
    split at hv
    · split at hv <;> cases hv
      next d' hd => exact obj he (distCtorE_spec _ _ _ hd)
    · cases hv
  case measRepresenting =>
    split at hv <;> cases hv
    exact obj he (view?_iff.2 (.meas List.getElem?_concat_length
      (prefix_get (List.prefix_append _ _) List.getElem?_concat_length)))
  case distSub =>
    split at hv
    · split at hv
      · cases hv
      · split at hv <;> cases hv
        next d' hd => exact obj he (distCtorE_spec _ _ _ hd)
    · cases hv
  case wfNew l =>
    split at hv
    · split at hv
      · cases hv
      · split at hv <;> cases hv
        cases view?_iff.1 (List.cons.inj hvs).1 with
        | arr hc =>
          exact obj he (view?_iff.2 (.wf List.getElem?_concat_length (prefix_get (List.prefix_append _ _) hc)))
    · cases hv
  case wfBind =>
    split at hv <;> cases hv
    exact obj he (List.cons.inj hvs).1

def witnessStore : Heap := (run [] [.litDict [([0, 1], 1/2), ([1, 1], 1/2)], .distNew 0 true]).1

def gRX : GOp := ⟨.base "RX" [.sym "theta"] false, [0]⟩
def gCN : GOp := ⟨.base "CNOT" [] true, [0, 2]⟩
def gT : GOp := ⟨.base "T" [] false, [1]⟩

def histC : List Call :=
  [.litOps [gRX, gCN, gT], .circNew 0 none, .circInverse 2, .circAdd 2 5, .circBind 8 [("theta", 1/2)],
   .circControlled 2 1]

def histP : List Call :=
  [.termNew [(0, .X), (1, .Y)] ⟨1/2, 0⟩, .termNew [(1, .Z)] ⟨0, 1⟩, .termMul 1 3, .termAdd 1 3,
   .litTerms [1, 3, 1], .sumNew 14, .sumSimplify 15, .sumMul 15 15, .opConj 15, .sumPow 15 2]

def histD : List Call :=
  [.litDict [([0, 1], 1), ([1, 1], 1), ([1, 0], 2)], .distNew 0 true, .distSub 2 [1], .distSub 2 [1, 0],
   .distSub 2 [2], .litBits [[0, 1], [1, 1], [0, 1]], .measNew 11, .measCounts 12, .measFromCounts [([1], 2), ([0], 1)]]

end OQ.C20
