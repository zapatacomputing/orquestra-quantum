/-
  The derivative circuits over ℂ: each term's factor with its derivative and its two shifted versions (`dataOf`), the n-step
  matrix `Wt` as a function of the total time with its derivative, and the matrices of the circuits
  `time_evolution_derivatives` returns, which are the shifted products of the Leibniz sum.
-/
import OQ.Lemmas.C16_Calculus
import Mathlib.Algebra.Star.BigOperators
set_option linter.unusedSectionVars false
namespace OQ.C16
open OQ.Pauli Matrix OQ.Spec Complex

section herm
variable {R : Type} [CommRing R] [StarRing R] {ι : Type} [Fintype ι] [DecidableEq ι]

theorem tensor_conjTranspose (g : ι → Matrix Bool Bool R) : (tensor g)ᴴ = tensor (fun q => (g q)ᴴ) := by
  ext x y
  simp only [tensor, Matrix.conjTranspose_apply, star_prod]

theorem pauliB_hermitian (k : Scal R) (hk : ScalLaws k) (o : Option P) : (pauliB k o)ᴴ = pauliB k o := by
  rcases o with _ | (_ | _ | _) <;>
    (show (toB (Gates.m2 _ _ _ _))ᴴ = toB (Gates.m2 _ _ _ _)
     rw [toB_m2_conjTranspose]
     simp only [star_one, star_zero, star_neg, hk.star_i, neg_neg])

theorem pauliString_hermitian (k : Scal R) (hk : ScalLaws k) (pa : ι → Option P) :
    (pauliString k pa)ᴴ = pauliString k pa := by
  unfold pauliString
  rw [tensor_conjTranspose]
  congr 1
  funext q
  exact pauliB_hermitian k hk _
end herm

variable {ι : Type} [Fintype ι] [DecidableEq ι]

/-- the Pauli string of a term on the register -/
noncomputable def pOf (rg : Register ι) (t : Term (ℝ × ℝ)) : Matrix (BV ι) (BV ι) ℂ :=
  pauliString Scal.complex (fun p => t.opAt (rg.lab p))

theorem termFactor_rotC (rg : Register ι) (t : Term (ℝ × ℝ)) (θ : ℝ) :
    termFactor Scal.complex angReal rg t θ = if t.ops = [] then 1 else rotC (pOf rg t) (θ / 2) := rfl

/-- the factor of one term in one Trotter step, as a function of the total time s -/
noncomputable def Vt (rg : Register ι) (n : ℕ) (t : Term (ℝ × ℝ)) (s : ℝ) : Matrix (BV ι) (BV ι) ℂ :=
  if t.ops = [] then 1 else rotC (pOf rg t) (s * (t.coeff.1 / n))

/-- the factor with its derivative direction, its two shifted versions and its rate -/
noncomputable def dataOf (rg : Register ι) (n : ℕ) (time : ℝ) (t : Term (ℝ × ℝ)) : FData (BV ι) ℂ :=
  if t.ops = [] then ⟨1, 0, 1, 1, ((t.coeff.1 / n : ℝ) : ℂ)⟩
  else
    ⟨rotC (pOf rg t) (time * (t.coeff.1 / n)),
     rotM Scal.complex (pOf rg t) (-(Real.sin (time * (t.coeff.1 / n)) : ℂ)) (Real.cos (time * (t.coeff.1 / n)) : ℂ),
     rotM Scal.complex (pOf rg t)
       (Scal.complex.r * ((Real.cos (time * (t.coeff.1 / n)) : ℂ) - (Real.sin (time * (t.coeff.1 / n)) : ℂ)))
       (Scal.complex.r * ((Real.cos (time * (t.coeff.1 / n)) : ℂ) + (Real.sin (time * (t.coeff.1 / n)) : ℂ))),
     rotM Scal.complex (pOf rg t)
       (Scal.complex.r * ((Real.cos (time * (t.coeff.1 / n)) : ℂ) + (Real.sin (time * (t.coeff.1 / n)) : ℂ)))
       (Scal.complex.r * ((Real.sin (time * (t.coeff.1 / n)) : ℂ) - (Real.cos (time * (t.coeff.1 / n)) : ℂ))),
     ((t.coeff.1 / n : ℝ) : ℂ)⟩

theorem dataOf_V (rg : Register ι) (n : ℕ) (time : ℝ) (t : Term (ℝ × ℝ)) : (dataOf rg n time t).V = Vt rg n t time := by
  unfold dataOf Vt; split_ifs <;> rfl

theorem dataOf_r (rg : Register ι) (n : ℕ) (time : ℝ) (t : Term (ℝ × ℝ)) :
    (dataOf rg n time t).r = ((t.coeff.1 / n : ℝ) : ℂ) := by
  unfold dataOf; split_ifs <;> rfl

theorem dataOf_shiftOK (rg : Register ι) (n : ℕ) (time : ℝ) (t : Term (ℝ × ℝ)) : (dataOf rg n time t).ShiftOK := by
  apply FData.shiftOK_of_core _ (by rw [dataOf_r]; exact Complex.conj_ofReal _)
  intro X
  unfold dataOf
  split_ifs
  · simp
  · exact param_shift_core Scal.complex scalLaws_complex (pOf rg t) _ _ X

theorem Vt_deriv (rg : Register ι) (n : ℕ) (time : ℝ) (t : Term (ℝ × ℝ)) :
    MDeriv (fun s => Vt rg n t s) ((dataOf rg n time t).r • (dataOf rg n time t).V') time := by
  by_cases h0 : t.ops = []
  · simp only [Vt, dataOf, h0, if_true, smul_zero]
    exact MDeriv.const 1 time
  · simp only [Vt, dataOf, h0, if_false]
    exact rotC_deriv (pOf rg t) (t.coeff.1 / n) time

theorem sum_flatMap_map {α β M : Type} [AddMonoid M] (L : List α) (f : α → List β) (g : β → M) :
    ((L.flatMap f).map g).sum = (L.map (fun x => ((f x).map g).sum)).sum := by
  induction L with
  | nil => rfl
  | cons x L ih => simp [ih]

/-- the n-step evolution matrix as a function of the total time -/
noncomputable def Wt (rg : Register ι) (n : ℕ) (h : PSum (ℝ × ℝ)) (s : ℝ) : Matrix (BV ι) (BV ι) ℂ :=
  seqProd (h.map (fun t => Vt rg n t s)) ^ n

theorem data_V_map (rg : Register ι) (n : ℕ) (time : ℝ) (l : PSum (ℝ × ℝ)) :
    (l.map (dataOf rg n time)).map (·.V) = l.map (fun t => Vt rg n t time) := by
  rw [List.map_map]; apply List.map_congr_left; intro t _; exact dataOf_V rg n time t

theorem Wt_deriv (rg : Register ι) (n : ℕ) (time : ℝ) (h : PSum (ℝ × ℝ)) :
    MDeriv (fun s => Wt rg n h s) (dProd n (h.map (dataOf rg n time))) time := by
  have hS := mderiv_seqProd
    (h.map (fun t => ((fun s => Vt rg n t s), (dataOf rg n time t).r • (dataOf rg n time t).V'))) time
    (by intro f hf; obtain ⟨t, _, rfl⟩ := List.mem_map.mp hf; exact Vt_deriv rg n time t)
  simp only [List.map_map] at hS
  have hW := mderiv_pow hS n
  unfold Wt
  refine hW.congr_deriv ?_
  unfold dProd places
  rw [sum_flatMap_map]
  apply congrArg List.sum
  apply List.map_congr_left
  intro p _
  rw [splits_map, splits_map, List.map_map, List.map_map, List.map_map, ← List.sum_map_mul_left, ← List.sum_map_mul_right]
  apply congrArg List.sum
  rw [List.map_map]
  apply List.map_congr_left
  intro s _
  simp only [List.map_map, Function.comp_def, funext (dataOf_V rg n time), Matrix.mul_smul, Matrix.smul_mul, Matrix.mul_assoc]

variable [DecidableEq ℝ]

theorem plain_angle (time c : ℝ) (n : ℕ) : plainTime realAlg time n * c = time * (c / n) := by
  simp only [plainTime, realAlg]; ring

theorem rep_angle (time c : ℝ) (n : ℕ) :
    realAlg.smul (1 / ((1 : ℕ) : ℝ)) (plainTime realAlg time n) * c = time * (c / n) := by
  simp only [plainTime, realAlg]; push_cast; ring

theorem shift_angle (time : ℝ) (n : ℕ) (hn : n ≠ 0) (t : Term (ℝ × ℝ)) (hc : t.coeff.1 ≠ 0) (f : ℝ) :
    shiftTime realAlg time n t f * t.coeff.1 = time * (t.coeff.1 / n) + f * (Real.pi / 4) := by
  simp only [shiftTime, rate, realAlg]
  have : (n : ℝ) ≠ 0 := Nat.cast_ne_zero.mpr hn
  push_cast
  field_simp

theorem rotC_shift_plus (P : Matrix (BV ι) (BV ι) ℂ) (φ : ℝ) :
    rotC P (φ + 1 * (Real.pi / 4))
      = rotM Scal.complex P (Scal.complex.r * ((Real.cos φ : ℂ) - (Real.sin φ : ℂ)))
          (Scal.complex.r * ((Real.cos φ : ℂ) + (Real.sin φ : ℂ))) := by
  unfold rotC
  rw [one_mul, Real.cos_add, Real.sin_add, Real.cos_pi_div_four, Real.sin_pi_div_four]
  simp only [Scal.complex]
  congr 1 <;> (push_cast; ring)

theorem rotC_shift_minus (P : Matrix (BV ι) (BV ι) ℂ) (φ : ℝ) :
    rotC P (φ + (-1) * (Real.pi / 4))
      = rotM Scal.complex P (Scal.complex.r * ((Real.cos φ : ℂ) + (Real.sin φ : ℂ)))
          (Scal.complex.r * ((Real.sin φ : ℂ) - (Real.cos φ : ℂ))) := by
  unfold rotC
  have : φ + (-1) * (Real.pi / 4) = φ - Real.pi / 4 := by ring
  rw [this, Real.cos_sub, Real.sin_sub, Real.cos_pi_div_four, Real.sin_pi_div_four]
  simp only [Scal.complex]
  congr 1 <;> (push_cast; ring)

/-- every term lives on the register and has distinct qubits -/
def Good (rg : Register ι) (h : PSum (ℝ × ℝ)) : Prop := ∀ t ∈ h, rg.Covers t ∧ (t.ops.map (·.1)).Nodup

theorem evo_sem (rg : Register ι) (n : ℕ) (t : Term (ℝ × ℝ)) (ht : rg.Covers t ∧ (t.ops.map (·.1)).Nodup) (τ s : ℝ)
    (hτ : τ * t.coeff.1 = s * (t.coeff.1 / n)) :
    circSem Scal.complex angReal rg.e (evoCirc realAlg t τ) = Vt rg n t s := by
  rw [evoCirc_sem Scal.complex scalLaws_complex realAlg angReal angReal_half_pi rg t ht.1 ht.2, termFactor_rotC,
    central_half, hτ]
  rfl

theorem evo_list_sem (rg : Register ι) (n : ℕ) (ts : PSum (ℝ × ℝ)) (hg : Good rg ts) (τ s : ℝ)
    (hτ : ∀ c : ℝ, τ * c = s * (c / n)) :
    circSem Scal.complex angReal rg.e (ts.flatMap (fun t => evoCirc realAlg t τ))
      = seqProd (ts.map (fun t => Vt rg n t s)) := by
  rw [circSem_flatMap]
  exact congrArg seqProd (List.map_congr_left fun t ht => evo_sem rg n t (hg t ht) τ s (hτ _))

theorem evo_shift_sem (rg : Register ι) (n : ℕ) (hn : n ≠ 0) (time : ℝ) (t : Term (ℝ × ℝ))
    (ht : rg.Covers t ∧ (t.ops.map (·.1)).Nodup) (hc : t.coeff.1 ≠ 0) :
    circSem Scal.complex angReal rg.e (evoCirc realAlg t (shiftTime realAlg time n t 1)) = (dataOf rg n time t).Vp ∧
    circSem Scal.complex angReal rg.e (evoCirc realAlg t (shiftTime realAlg time n t (-1))) = (dataOf rg n time t).Vm := by
  simp only [evoCirc_sem Scal.complex scalLaws_complex realAlg angReal angReal_half_pi rg t ht.1 ht.2, termFactor_rotC,
    central_half, shift_angle time n hn t hc]
  unfold dataOf
  split_ifs
  · exact ⟨rfl, rfl⟩
  · exact ⟨rotC_shift_plus _ _, rotC_shift_minus _ _⟩

theorem spliceCirc_sem {R : Type} [CommRing R] [StarRing R] {T : Type} (k : Scal R) (ang : T → Ang R) (e : ℕ → ι)
    (rep d : Circ T) (n p : ℕ) :
    circSem k ang e (spliceCirc rep n p d)
      = circSem k ang e rep ^ (n - p - 1) * circSem k ang e d * circSem k ang e rep ^ p := by
  unfold spliceCirc
  rw [circSem_append, circSem_append, circSem_replicate, circSem_replicate, Matrix.mul_assoc]

theorem timeEvolution_sem (rg : Register ι) (n : ℕ) (h : PSum (ℝ × ℝ)) (hg : Good rg h) (s : ℝ) :
    circSem Scal.complex angReal rg.e
      (List.replicate n (h.flatMap fun t => evoCirc realAlg t (realAlg.smul (1 / (n : ℝ)) s))).flatten = Wt rg n h s := by
  rw [circSem_replicate, evo_list_sem rg n h hg _ s (fun c => by simp only [realAlg]; ring)]
  rfl

/-- a term the code skips (rate 0) is still listed in `shiftList`, with factor 0: that is why the two sums agree -/
theorem deriv_sum_sem (rg : Register ι) (h : PSum (ℝ × ℝ)) (time : ℝ) (n : ℕ) (hn : 1 ≤ n) (hg : Good rg h)
    (F : Matrix (BV ι) (BV ι) ℂ → ℂ) :
    (((List.range n).flatMap fun p => (singleList realAlg time n h).map
        fun x => (x.1, spliceCirc (repStep realAlg time n h) n p x.2)).map
      fun x => (x.1 : ℂ) * F (circSem Scal.complex angReal rg.e x.2)).sum
    = ((shiftList n (h.map (dataOf rg n time))).map fun y => y.1 * F y.2).sum := by
  have hn0 : n ≠ 0 := by omega
  have hrep : circSem Scal.complex angReal rg.e (repStep realAlg time n h)
      = seqProd ((h.map (dataOf rg n time)).map (·.V)) := by
    rw [data_V_map]
    exact evo_list_sem rg n h hg _ time (fun c => rep_angle time c n)
  unfold shiftList places singleList
  rw [List.flatMap_assoc, sum_flatMap_map, sum_flatMap_map]
  refine congrArg List.sum (List.map_congr_left fun p hp => ?_)
  have e : n - p - 1 = n - 1 - p := by omega
  rw [List.map_map, sum_flatMap_map, splits_map, List.map_map, List.flatMap_map, sum_flatMap_map]
  refine congrArg List.sum (List.map_congr_left fun s hs => ?_)
  obtain ⟨hg1, ht, hg2⟩ := splits_forall _ h hg s hs
  unfold derivTwo
  by_cases hr : rate n s.2.1 = ((0 : ℕ) : ℝ)
  · have : s.2.1.coeff.1 / (n : ℝ) = 0 := hr.trans Nat.cast_zero
    rw [if_pos hr]
    simp only [List.map_cons, List.map_nil, List.sum_cons, List.sum_nil, Function.comp, dataOf_r, this, Complex.ofReal_zero,
      neg_zero, zero_mul, add_zero]
  · have hc : s.2.1.coeff.1 ≠ 0 := fun h0 => hr (by simp [rate, h0])
    have hsh := evo_shift_sem rg n hn0 time s.2.1 ht hc
    have ha := evo_list_sem rg n s.1 hg1 (plainTime realAlg time n) time (fun c => plain_angle time c n)
    have hb := evo_list_sem rg n s.2.2 hg2 (plainTime realAlg time n) time (fun c => plain_angle time c n)
    rw [if_neg hr]
    simp only [List.map_cons, List.map_nil, Function.comp, derivCirc, spliceCirc_sem, circSem_append, hrep, hsh.1,
      hsh.2, ha, hb, data_V_map, dataOf_r, rate, e, Matrix.mul_assoc, mul_one, mul_neg, Complex.ofReal_neg]

theorem derivative_sem (rg : Register ι) (h : PSum (ℝ × ℝ)) (hg : Good rg h) (time : ℝ) (n : ℕ) (hn : 1 ≤ n)
    (O : Matrix (BV ι) (BV ι) ℂ) (ψ : BV ι → ℂ) :
    HasDerivAt (fun s => expect O (Wt rg n h s) ψ)
      ((((List.range n).flatMap fun p => (singleList realAlg time n h).map
          fun x => (x.1, spliceCirc (repStep realAlg time n h) n p x.2)).map
        fun x => (x.1 : ℂ) * expect O (circSem Scal.complex angReal rg.e x.2) ψ).sum) time := by
  refine (expect_deriv (Wt_deriv rg n time h) O ψ).congr_deriv ?_
  have hL := leibniz_shift_list (places n (h.map (dataOf rg n time))) _ O
    (places_spec n _ _ fun d hd => by obtain ⟨t, _, rfl⟩ := List.mem_map.mp hd; exact dataOf_shiftOK rg n time t)
  rw [data_V_map] at hL
  rw [deriv_sum_sem rg h time n hn hg fun U => expect O U ψ]
  unfold dProd Wt shiftList
  rw [hL, quad_list_sum]
  refine congrArg List.sum (List.map_congr_left fun y _ => ?_)
  rw [quad_smul, expect_eq_quad]

end OQ.C16
