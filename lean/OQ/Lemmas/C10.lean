/- The histogram `getCounts shots` is a dictionary that stands for the shots (`expand` of it is a permutation of them), so a sum weighted
   by the counts is a sum over the shots.  On keys of one width each function of the model is characterised completely, value and every
   exception (`convert_eq`, `checkParity_eq`, `expectation_eq`, `getEV_eq`), in the vocabulary of the specification: the ±1 eigenvalue
   `zval` and the parity `evenParity` of a shot on a set of qubits, sample means, and the records `evSpec` / `paritySpec` that the two
   entry points must return. -/
import OQ.Model.C10
import Mathlib.Tactic.Ring
import Mathlib.Algebra.BigOperators.Group.List.Basic
import Mathlib.Algebra.BigOperators.Ring.List
import Mathlib.Data.List.Count
import Mathlib.Data.List.Perm.Basic
import Mathlib.Data.List.Nodup
import Mathlib.Data.List.Induction
import Mathlib.Data.Int.Cast.Lemmas
import Mathlib.Algebra.Field.Basic
import Mathlib.Algebra.CharZero.Defs
import Mathlib.Data.Nat.Cast.Field
namespace OQ.C10

theorem mapE_ok {α β : Type} (f : α → Except Err β) (g : α → β) (l : List α)
    (h : ∀ x ∈ l, f x = .ok (g x)) : mapE f l = .ok (l.map g) := by
  induction l with
  | nil => rfl
  | cons x xs ih =>
    rw [List.forall_mem_cons] at h
    simp only [mapE, h.1, ih h.2, List.map_cons]

theorem mapE_ite {α β : Type} (f : α → Except Err β) (P : α → Prop) [DecidablePred P] (g : α → β) (e : Err)
    (l : List α) (h : ∀ x ∈ l, f x = if P x then .ok (g x) else .error e) :
    mapE f l = if ∀ x ∈ l, P x then .ok (l.map g) else .error e := by
  induction l with
  | nil => rfl
  | cons x xs ih =>
    rw [List.forall_mem_cons] at h
    rw [mapE, h.1, ih h.2]
    by_cases hx : P x
    · by_cases hxs : ∀ y ∈ xs, P y
      · rw [if_pos hx, if_pos hxs, if_pos (List.forall_mem_cons.mpr ⟨hx, hxs⟩)]; rfl
      · rw [if_pos hx, if_neg hxs, if_neg fun h => hxs (List.forall_mem_cons.mp h).2]
    · rw [if_neg hx, if_neg fun h => hx (List.forall_mem_cons.mp h).1]

def Counts.keys (c : Counts) : List Shot := c.map (fun p => p.1)

@[simp] theorem keys_cons (p : Shot × Nat) (c : Counts) : Counts.keys (p :: c) = p.1 :: c.keys := rfl

theorem keys_bump (c : Counts) (k : Shot) :
    (c.bump k).keys = if k ∈ c.keys then c.keys else c.keys ++ [k] := by
  induction c with
  | nil => rfl
  | cons p rest ih =>
    obtain ⟨k', v⟩ := p
    by_cases h : k' = k
    · simp [Counts.bump, h]
    · simp only [Counts.bump, if_neg h, keys_cons, ih, List.mem_cons, Ne.symm h, false_or]
      split <;> rfl

theorem bump_keys_nodup (c : Counts) (k : Shot) (h : c.keys.Nodup) : (c.bump k).keys.Nodup := by
  rw [keys_bump]
  split
  · exact h
  · next hk => rw [← List.concat_eq_append]; exact h.concat hk

theorem bump_pos (c : Counts) (k : Shot) (h : ∀ p ∈ c, 0 < p.2) : ∀ p ∈ c.bump k, 0 < p.2 := by
  induction c with
  | nil => simp [Counts.bump]
  | cons p rest ih =>
    obtain ⟨k', v⟩ := p
    rw [List.forall_mem_cons] at h
    rw [Counts.bump]
    split
    · exact List.forall_mem_cons.mpr ⟨Nat.succ_pos v, h.2⟩
    · exact List.forall_mem_cons.mpr ⟨h.1, ih h.2⟩

theorem getCounts_concat (shots : List Shot) (s : Shot) : getCounts (shots ++ [s]) = (getCounts shots).bump s := by
  simp [getCounts]

theorem getCounts_inv (shots : List Shot) :
    (getCounts shots).keys.Nodup ∧ ∀ p ∈ getCounts shots, 0 < p.2 := by
  induction shots using List.reverseRecOn with
  | nil => exact ⟨List.nodup_nil, by simp [getCounts]⟩
  | append_singleton l s ih => rw [getCounts_concat]; exact ⟨bump_keys_nodup _ s ih.1, bump_pos _ s ih.2⟩

/-- the shots a histogram stands for: each key repeated count-many times, in dictionary order -/
def expand (c : Counts) : List Shot := c.flatMap (fun p => List.replicate p.2 p.1)

/-- a histogram as Python hands it to `add_counts` (values are ints) -/
def castCounts (c : Counts) : List (Shot × Int) := c.map (fun p => (p.1, (p.2 : Int)))

@[simp] theorem expand_cons (p : Shot × Nat) (c : Counts) : expand (p :: c) = List.replicate p.2 p.1 ++ expand c := rfl

theorem addCounts_eq (b : List Shot) (c : List (Shot × Int)) :
    addCounts b c = b ++ c.flatMap (fun p => List.replicate p.2.toNat p.1) := by
  unfold addCounts
  induction c generalizing b with
  | nil => simp
  | cons p ps ih => simp only [List.foldl_cons, ih, List.flatMap_cons, List.append_assoc]

theorem fromCounts_cast (c : Counts) : fromCounts (castCounts c) = expand c := by
  simp only [fromCounts, addCounts_eq, List.nil_append, castCounts, expand, List.flatMap_map, Int.toNat_natCast]

theorem expand_bump_perm (c : Counts) (k : Shot) : (expand (c.bump k)).Perm (k :: expand c) := by
  induction c with
  | nil => simp [expand, Counts.bump]
  | cons p rest ih =>
    obtain ⟨k', v⟩ := p
    rw [Counts.bump]
    split
    · next h => subst h; simp [List.replicate_succ]
    · exact (List.Perm.append_left _ ih).trans List.perm_middle

theorem expand_getCounts_perm (shots : List Shot) : (expand (getCounts shots)).Perm shots := by
  induction shots using List.reverseRecOn with
  | nil => exact List.Perm.refl _
  | append_singleton l s ih =>
    rw [getCounts_concat]
    exact (expand_bump_perm _ s).trans ((ih.cons s).trans (List.perm_append_singleton s l).symm)

theorem sum_nsmul_expand {M : Type} [AddCommMonoid M] (g : Shot → M) (c : Counts) :
    (c.map (fun p => p.2 • g p.1)).sum = ((expand c).map g).sum := by
  induction c with
  | nil => rfl
  | cons p rest ih => simp [ih]

theorem sum_nsmul_getCounts {M : Type} [AddCommMonoid M] (g : Shot → M) (shots : List Shot) :
    ((getCounts shots).map (fun p => p.2 • g p.1)).sum = (shots.map g).sum :=
  (sum_nsmul_expand g _).trans ((expand_getCounts_perm shots).map g).sum_eq

theorem getCounts_total (shots : List Shot) : (getCounts shots).total = shots.length := by
  simpa [Counts.total] using sum_nsmul_getCounts (fun _ => (1 : Nat)) shots

theorem getCounts_ne_nil (shots : List Shot) (hne : shots ≠ []) : getCounts shots ≠ [] := by
  intro h
  exact hne (List.eq_nil_of_length_eq_zero ((getCounts_total shots).symm.trans (congrArg Counts.total h)))

theorem mem_expand (c : Counts) (hp : ∀ p ∈ c, 0 < p.2) (x : Shot) : x ∈ expand c ↔ x ∈ c.keys := by
  simp only [expand, Counts.keys, List.mem_flatMap, List.mem_replicate, List.mem_map]
  exact ⟨fun ⟨p, hm, _, e⟩ => ⟨p, hm, e.symm⟩, fun ⟨p, hm, e⟩ => ⟨p, hm, (hp p hm).ne', e.symm⟩⟩

theorem mem_keys_getCounts (shots : List Shot) (x : Shot) : x ∈ (getCounts shots).keys ↔ x ∈ shots := by
  rw [← mem_expand _ (getCounts_inv shots).2, (expand_getCounts_perm shots).mem_iff]

theorem getCounts_key_length (shots : List Shot) (w : Nat) (hl : ∀ s ∈ shots, s.length = w) :
    ∀ k ∈ (getCounts shots).map (fun p => p.1), k.length = w :=
  fun k hk => hl k ((mem_keys_getCounts shots k).mp hk)

theorem get_of_not_mem (c : Counts) (k : Shot) (h : k ∉ c.keys) : c.get k = 0 := by
  induction c with
  | nil => rfl
  | cons p rest ih =>
    obtain ⟨k', v⟩ := p
    rw [keys_cons, List.mem_cons, not_or] at h
    rw [Counts.get, if_neg (Ne.symm h.1), ih h.2]

theorem get_of_mem (c : Counts) (hn : c.keys.Nodup) (p : Shot × Nat) (hp : p ∈ c) : c.get p.1 = p.2 := by
  induction c with
  | nil => cases hp
  | cons q rest ih =>
    obtain ⟨k', v⟩ := q
    rw [keys_cons, List.nodup_cons] at hn
    rcases List.mem_cons.mp hp with rfl | hp'
    · simp [Counts.get]
    · have hne : ¬ k' = p.1 := fun e => hn.1 (by rw [e]; exact List.mem_map_of_mem (f := fun q => q.1) hp')
      rw [Counts.get, if_neg hne, ih hn.2 hp']

theorem count_expand (c : Counts) (k : Shot) :
    (expand c).count k = ((c.filter (fun p => p.1 = k)).map (fun p => p.2)).sum := by
  induction c with
  | nil => simp [expand]
  | cons p rest ih =>
    obtain ⟨k', v⟩ := p
    rw [expand_cons, List.count_append, ih]
    by_cases h : k' = k
    · subst h; simp [List.count_replicate_self]
    · simp [h, List.count_replicate]

theorem count_expand_eq_get (c : Counts) (hn : c.keys.Nodup) (k : Shot) : (expand c).count k = c.get k := by
  induction c with
  | nil => rfl
  | cons p rest ih =>
    obtain ⟨k', v⟩ := p
    rw [keys_cons, List.nodup_cons] at hn
    rw [expand_cons, List.count_append, ih hn.2, Counts.get]
    by_cases h : k' = k
    · subst h; simp [get_of_not_mem rest k' hn.1]
    · simp [h, List.count_replicate]

theorem getCounts_get (shots : List Shot) (k : Shot) : (getCounts shots).get k = shots.count k := by
  rw [← count_expand_eq_get _ (getCounts_inv shots).1, (expand_getCounts_perm shots).count_eq]

theorem bump_append (a b : Counts) (k : Shot) (h : k ∉ a.keys) : (a ++ b).bump k = a ++ b.bump k := by
  induction a with
  | nil => rfl
  | cons p rest ih =>
    obtain ⟨k', v⟩ := p
    rw [keys_cons, List.mem_cons, not_or] at h
    rw [List.cons_append, Counts.bump, if_neg (Ne.symm h.1), ih h.2, List.cons_append]

theorem keys_append (a b : Counts) : Counts.keys (a ++ b) = a.keys ++ b.keys := List.map_append

theorem getCounts_expand (c : Counts) (hn : c.keys.Nodup) (hp : ∀ p ∈ c, 0 < p.2) : getCounts (expand c) = c := by
  induction c using List.reverseRecOn with
  | nil => rfl
  | append_singleton c p ih =>
    obtain ⟨k, v⟩ := p
    rw [keys_append, List.nodup_append] at hn
    have hk : k ∉ Counts.keys c := fun h => hn.2.2 k h k (List.mem_singleton_self k) rfl
    have ih' := ih hn.1 fun p h => hp p (List.mem_append_left _ h)
    have key : ∀ n, getCounts (expand c ++ List.replicate (n + 1) k) = c ++ [(k, n + 1)] := fun n => by
      induction n with
      | zero => rw [List.replicate_one, getCounts_concat, ih']; simpa [Counts.bump] using bump_append c [] k hk
      | succ n ihn =>
        rw [List.replicate_succ', ← List.append_assoc, getCounts_concat, ihn, bump_append c _ k hk]
        simp [Counts.bump]
    obtain ⟨n, rfl⟩ := Nat.exists_eq_succ_of_ne_zero (hp (k, v) (List.mem_append_right _ (List.mem_singleton_self _))).ne'
    simpa [expand] using key n

/-- the measured bit of qubit `q` -/
def bitAt (s : Shot) (q : Nat) : Bool := s.getD q false

/-- the ±1 eigenvalue of the Z-string on `marked` for the shot `s`: ∏ (1 − 2·bit) -/
def zval (marked : List Nat) (s : Shot) : Int := (marked.map (fun q => if bitAt s q then (-1 : Int) else 1)).prod

/-- number of marked qubits measured as 1 -/
def onesCount (marked : List Nat) (s : Shot) : Nat := marked.countP (fun q => bitAt s q)

def evenParity (marked : List Nat) (s : Shot) : Bool := onesCount marked s % 2 == 0

theorem sum_toNat_eq_count (marked : List Nat) (s : Shot) :
    (marked.map (fun q => (bitAt s q).toNat)).sum = onesCount marked s := by
  induction marked with
  | nil => rfl
  | cons q qs ih =>
    simp only [onesCount, List.map_cons, List.sum_cons, List.countP_cons] at ih ⊢
    rw [ih, Nat.add_comm]; cases bitAt s q <;> rfl

theorem zval_eq_pow (marked : List Nat) (s : Shot) : zval marked s = (-1) ^ onesCount marked s := by
  induction marked with
  | nil => rfl
  | cons q qs ih =>
    simp only [zval, onesCount, List.map_cons, List.prod_cons, List.countP_cons] at ih ⊢
    rw [ih]; cases bitAt s q <;> simp [pow_succ]

theorem zval_eq_ite (marked : List Nat) (s : Shot) :
    zval marked s = if evenParity marked s then 1 else -1 := by
  rw [zval_eq_pow, evenParity]
  rcases Nat.even_or_odd (onesCount marked s) with h | h
  · simp [Nat.even_iff.mp h, h.neg_one_pow]
  · simp [Nat.odd_iff.mp h, h.neg_one_pow]

theorem succ_mod_two (n : Nat) : (n + 1) % 2 = if n % 2 == 0 then 1 else 0 := by
  rcases Nat.mod_two_eq_zero_or_one n with h | h <;> simp [Nat.add_mod, h]

theorem sign_eq_zval (marked : List Nat) (s : Shot) :
    (((if evenParity marked s then 1 else 0 : Nat) : Nat) : Int) * 2 - 1 = zval marked s := by
  rw [zval_eq_ite]; cases evenParity marked s <;> rfl

theorem zval_mul_self (marked : List Nat) (s : Shot) : zval marked s * zval marked s = 1 := by
  rw [zval_eq_ite]; cases evenParity marked s <;> rfl

theorem zval_nil (s : Shot) : zval [] s = 1 := rfl

theorem inter_perm (a b : List Nat) (ha : a.Nodup) (hb : b.Nodup) :
    (a.filter (fun q => b.contains q)).Perm (b.filter (fun q => a.contains q)) := by
  rw [List.perm_ext_iff_of_nodup (ha.filter _) (hb.filter _)]
  intro x; simp only [List.mem_filter, List.contains_iff_mem]; exact and_comm

theorem onesCount_symmDiff (a b : List Nat) (ha : a.Nodup) (hb : b.Nodup) (s : Shot) :
    onesCount a s + onesCount b s =
      onesCount (symmDiff a b) s + 2 * onesCount (a.filter (fun q => b.contains q)) s := by
  have h1 := List.countP_eq_countP_filter_add a (fun q => bitAt s q) (fun q => b.contains q)
  have h2 := List.countP_eq_countP_filter_add b (fun q => bitAt s q) (fun q => a.contains q)
  have h3 := (inter_perm a b ha hb).countP_eq (fun q => bitAt s q)
  simp only [onesCount, symmDiff, List.countP_append] at *
  omega

theorem zval_symmDiff (a b : List Nat) (ha : a.Nodup) (hb : b.Nodup) (s : Shot) :
    zval (symmDiff a b) s = zval a s * zval b s := by
  rw [zval_eq_pow, zval_eq_pow, zval_eq_pow, ← pow_add, onesCount_symmDiff a b ha hb s, pow_add, pow_mul]
  simp

theorem mem_symmDiff (a b : List Nat) (q : Nat) (h : q ∈ symmDiff a b) : q ∈ a ∨ q ∈ b := by
  simp only [symmDiff, List.mem_append, List.mem_filter] at h
  exact h.imp And.left And.left

theorem rowsOf_flatten (keys : List Shot) (w : Nat) (h : ∀ k ∈ keys, k.length = w) :
    rowsOf keys.length w keys.flatten = keys := by
  induction keys with
  | nil => rfl
  | cons k ks ih =>
    rw [List.forall_mem_cons] at h
    rw [List.length_cons, rowsOf, List.flatten_cons, List.take_left' h.1, List.drop_left' h.1, ih h.2]

theorem flatten_length_eq (keys : List Shot) (w : Nat) (h : ∀ k ∈ keys, k.length = w) :
    keys.flatten.length = keys.length * w := by
  rw [List.length_flatten, List.map_congr_left h, List.map_const', List.sum_replicate_nat]

theorem convert_eq (keys : List Shot) (w : Nat) (h : ∀ k ∈ keys, k.length = w) :
    convertBitstringsToVector keys =
      if keys = [] then .error .index else if w = 0 then .error .value else .ok keys := by
  cases keys with
  | nil => rfl
  | cons k0 ks =>
    simp only [convertBitstringsToVector, h k0 (by simp), flatten_length_eq _ w h, reduceCtorEq, if_false]
    split
    · rfl
    · next hw => rw [if_neg (by simp), Nat.mul_div_cancel _ (Nat.pos_of_ne_zero hw), rowsOf_flatten _ w h]

theorem mapE_bitOf (r : Shot) (marked : List Nat) :
    mapE (bitOf r) marked =
      if ∀ q ∈ marked, q < r.length then .ok (marked.map (fun q => (bitAt r q).toNat)) else .error .index :=
  mapE_ite _ _ _ _ _ fun q _ => by
    unfold bitOf bitAt
    split_ifs with hq
    · rw [List.getElem?_eq_getElem hq, List.getD_eq_getElem?_getD, List.getElem?_eq_getElem hq]; rfl
    · rw [List.getElem?_eq_none (Nat.le_of_not_gt hq)]

theorem rowParity_eq (marked : List Nat) (r : Shot) :
    rowParity marked r =
      if ∀ q ∈ marked, q < r.length then .ok (if evenParity marked r then 1 else 0) else .error .index := by
  rw [rowParity, mapE_bitOf]
  by_cases h : ∀ q ∈ marked, q < r.length
  · rw [if_pos h, if_pos h]; simp only [sum_toNat_eq_count, succ_mod_two, evenParity]; rfl
  · rw [if_neg h, if_neg h]

theorem checkParity_eq (rows : List Shot) (marked : List Nat) (w : Nat) (h : ∀ r ∈ rows, r.length = w) :
    checkParityOfVector rows marked =
      if rows = [] ∨ ∀ q ∈ marked, q < w then .ok (rows.map (fun r => if evenParity marked r then 1 else 0))
      else .error .index := by
  rw [checkParityOfVector]
  split
  · next he => rw [List.isEmpty_iff.mp he, if_pos (Or.inr (List.forall_mem_nil _))]; rfl
  · rw [mapE_ite _ _ _ _ rows fun r _ => rowParity_eq marked r]
    refine if_congr ⟨fun H => ?_, ?_⟩ rfl rfl
    · cases rows with
      | nil => exact Or.inl rfl
      | cons r rs => exact Or.inr fun q hq => h r (List.mem_cons_self ..) ▸ H r (List.mem_cons_self ..) q hq
    · rintro (rfl | H) r hr
      · cases hr
      · rw [h r hr]; exact H

theorem zipWith_map_map {α β γ δ : Type} (f : β → γ → δ) (a : α → β) (b : α → γ) (l : List α) :
    List.zipWith f (l.map a) (l.map b) = l.map (fun x => f (a x) (b x)) := by
  rw [List.zipWith_map, List.zipWith_self]

theorem sum_map_div {R α : Type} [Field R] (f : α → R) (l : List α) (d : R) :
    (l.map (fun x => f x / d)).sum = (l.map f).sum / d := by
  simp only [div_eq_mul_inv, List.sum_map_mul_right]

theorem cast_sum_map {R α : Type} [Field R] (g : α → Int) (l : List α) :
    (((l.map g).sum : Int) : R) = (l.map (fun s => ((g s : Int) : R))).sum := by
  induction l with
  | nil => simp
  | cons x xs ih => simp only [List.map_cons, List.sum_cons, Int.cast_add, ih]

theorem broadcastMul_map {α : Type} (c : α → Nat) (s : α → Int) (l : List α) :
    broadcastMul (l.map c) (l.map s) = .ok (l.map (fun x => ((c x : Nat) : Int) * s x)) := by
  rw [broadcastMul, if_pos (by rw [List.length_map, List.length_map]), zipWith_map_map]

theorem expectation_eq {R : Type} [Field R] (marked : List Nat) (freq : Counts) (w : Nat)
    (hk : ∀ p ∈ freq, p.1.length = w) :
    expectationFromFrequencies (R := R) marked freq =
      if freq = [] then .error .index else if w = 0 then .error .value
      else if ∀ q ∈ marked, q < w then
        if freq.total = 0 then .error .nan
        else .ok ((((freq.map (fun p => ((p.2 : Nat) : Int) * zval marked p.1)).sum : Int) : R) /
              ((freq.total : Nat) : R))
      else .error .index := by
  have hkeys : ∀ k ∈ freq.map (fun p => p.1), k.length = w := List.forall_mem_map.mpr hk
  by_cases h1 : freq = []
  · subst h1; rfl
  have h1' : ¬ freq.map (fun p => p.1) = [] := mt List.map_eq_nil_iff.mp h1
  unfold expectationFromFrequencies
  rw [convert_eq _ w hkeys, if_neg h1', if_neg h1]
  by_cases h2 : w = 0
  · rw [if_pos h2, if_pos h2]
  rw [if_neg h2, if_neg h2]
  simp only [checkParity_eq _ marked w hkeys, h1', false_or]
  by_cases h3 : ∀ q ∈ marked, q < w
  swap
  · rw [if_neg h3, if_neg h3]
  rw [if_pos h3, if_pos h3]
  simp only [List.map_map, Function.comp_def, sign_eq_zval, broadcastMul_map]
  refine if_congr Int.natCast_eq_zero rfl (congrArg _ ?_)
  rw [sum_map_div, ← cast_sum_map, Int.cast_natCast]
  rfl

/-- the sample mean of `f` over the shots (with repetitions) -/
def mean {R : Type} [Field R] (f : Shot → R) (shots : List Shot) : R :=
  (shots.map f).sum / ((shots.length : Nat) : R)

/-- sample mean of the ±1 eigenvalue of the Z-string on `A` -/
def meanZ {R : Type} [Field R] (A : List Nat) (shots : List Shot) : R :=
  mean (fun s => ((zval A s : Int) : R)) shots

theorem mean_congr {R : Type} [Field R] (f g : Shot → R) (shots : List Shot) (h : ∀ s ∈ shots, f s = g s) :
    mean f shots = mean g shots := by
  unfold mean; rw [List.map_congr_left h]

theorem mean_const_mul {R : Type} [Field R] (k : R) (f : Shot → R) (shots : List Shot) :
    mean (fun s => k * f s) shots = k * mean f shots := by
  unfold mean; rw [List.sum_map_mul_left, mul_div_assoc]

theorem cast_length_ne_zero {R : Type} [Field R] [CharZero R] (shots : List Shot) (hne : shots ≠ []) :
    ((shots.length : Nat) : R) ≠ 0 :=
  Nat.cast_ne_zero.mpr (List.length_pos_iff.mpr hne).ne'

theorem mean_const {R : Type} [Field R] [CharZero R] (k : R) (shots : List Shot) (hne : shots ≠ []) :
    mean (fun _ => k) shots = k := by
  unfold mean
  rw [List.map_const', List.sum_replicate, nsmul_eq_mul, mul_div_cancel_left₀ k (cast_length_ne_zero shots hne)]

theorem meanZ_nil {R : Type} [Field R] [CharZero R] (shots : List Shot) (hne : shots ≠ []) :
    meanZ (R := R) [] shots = 1 := by
  unfold meanZ
  rw [mean_congr _ (fun _ => (1 : R)) shots (fun s _ => by simp [zval_nil]), mean_const _ _ hne]

theorem weighted_mean_getCounts {R : Type} [Field R] (marked : List Nat) (shots : List Shot) :
    ((((getCounts shots).map (fun p => ((p.2 : Nat) : Int) * zval marked p.1)).sum : Int) : R) /
      ((shots.length : Nat) : R) = meanZ marked shots := by
  have := sum_nsmul_getCounts (zval marked) shots
  simp only [nsmul_eq_mul] at this
  rw [this, cast_sum_map]; rfl

theorem expectation_getCounts_eq {R : Type} [Field R] (marked : List Nat) (shots : List Shot) (w : Nat)
    (hl : ∀ s ∈ shots, s.length = w) :
    expectationFromFrequencies (R := R) marked (getCounts shots) =
      if shots = [] then .error .index else if w = 0 then .error .value
      else if ∀ q ∈ marked, q < w then .ok (meanZ marked shots) else .error .index := by
  by_cases hne : shots = []
  · subst hne; rfl
  · rw [expectation_eq marked _ w (List.forall_mem_map.mp (getCounts_key_length shots w hl)), getCounts_total,
      weighted_mean_getCounts, if_neg (getCounts_ne_nil shots hne), if_neg hne,
      if_neg (List.length_pos_iff.mpr hne).ne']

theorem termValues_eq {R : Type} [Field R] (shots : List Shot) (terms : List (Term R)) (w : Nat)
    (hl : ∀ s ∈ shots, s.length = w) (hq : ∀ t ∈ terms, ∀ q ∈ t.qubits, q < w) :
    mapE (termValue (getCounts shots)) terms =
      if terms = [] ∨ (shots ≠ [] ∧ w ≠ 0) then .ok (terms.map (fun t => t.coeff * meanZ t.qubits shots))
      else .error (if shots = [] then .index else .value) := by
  by_cases hd : terms = [] ∨ (shots ≠ [] ∧ w ≠ 0)
  · rw [if_pos hd]
    refine mapE_ok _ _ _ fun t ht => ?_
    obtain ⟨hs, hw⟩ := hd.resolve_left (List.ne_nil_of_mem ht)
    rw [termValue, expectation_getCounts_eq _ shots w hl, if_neg hs, if_neg hw, if_pos (hq t ht)]
  · obtain ⟨t, ts, rfl⟩ := List.exists_cons_of_ne_nil (not_or.mp hd).1
    rw [if_neg hd, mapE, termValue, expectation_getCounts_eq _ shots w hl]
    by_cases hs : shots = []
    · rw [if_pos hs, if_pos hs]
    · rw [if_neg hs, if_neg hs, if_pos (not_not.mp fun hw => hd (Or.inr ⟨hs, hw⟩))]

/-- entry `[i, j]` as the loops compute it -/
def entrySpec {R : Type} [Field R] (shots : List Shot) (a b : Nat × Term R) : R :=
  if a.1 = b.1 then a.2.coeff * a.2.coeff
  else if b.1 < a.1 then a.2.coeff * b.2.coeff * meanZ (symmDiff a.2.qubits b.2.qubits) shots
  else b.2.coeff * a.2.coeff * meanZ (symmDiff b.2.qubits a.2.qubits) shots

theorem corrEntry_ok {R : Type} [Field R] (a b : Nat × Term R) (shots : List Shot) (w : Nat)
    (hne : shots ≠ []) (hw : 0 < w) (hl : ∀ s ∈ shots, s.length = w)
    (ha : ∀ q ∈ a.2.qubits, q < w) (hb : ∀ q ∈ b.2.qubits, q < w) :
    corrEntry (getCounts shots) a b = .ok (entrySpec shots a b) := by
  unfold corrEntry entrySpec
  have h1 : ∀ q ∈ symmDiff a.2.qubits b.2.qubits, q < w := fun q hq =>
    (mem_symmDiff _ _ q hq).elim (ha q) (hb q)
  have h2 : ∀ q ∈ symmDiff b.2.qubits a.2.qubits, q < w := fun q hq =>
    (mem_symmDiff _ _ q hq).elim (hb q) (ha q)
  simp only [expectation_getCounts_eq _ shots w hl, if_neg hne, if_neg hw.ne', if_pos h1, if_pos h2, apply_ite Except.ok]

theorem withIdx_map_snd {α β : Type} (f : α → β) (i : Nat) (l : List α) :
    (withIdx i l).map (fun a => f a.2) = l.map f := by
  induction l generalizing i with
  | nil => rfl
  | cons x xs ih => simp [withIdx, ih]

theorem withIdx_mem {α : Type} (i : Nat) (l : List α) (a : Nat × α) (h : a ∈ withIdx i l) : a.2 ∈ l := by
  have := List.mem_map_of_mem (f := fun a => a.2) h
  rwa [withIdx_map_snd (fun x => x), List.map_id'] at this

theorem withIdx_map_fst {α : Type} (i : Nat) (l : List α) :
    (withIdx i l).map (fun a => a.1) = List.range' i l.length := by
  induction l generalizing i with
  | nil => rfl
  | cons x xs ih => simp [withIdx, ih, List.range'_succ]

theorem withIdx_inj {α : Type} (i : Nat) (l : List α) (a b : Nat × α)
    (ha : a ∈ withIdx i l) (hb : b ∈ withIdx i l) (h : a.1 = b.1) : a = b :=
  List.inj_on_of_nodup_map (by rw [withIdx_map_fst]; exact List.nodup_range') ha hb h

/-- the sample mean of the product of the values of two terms -/
def corrSpec {R : Type} [Field R] (shots : List Shot) (ti tj : Term R) : R :=
  mean (fun s => (ti.coeff * ((zval ti.qubits s : Int) : R)) * (tj.coeff * ((zval tj.qubits s : Int) : R))) shots

theorem corrSpec_self {R : Type} [Field R] [CharZero R] (shots : List Shot) (hne : shots ≠ []) (t : Term R) :
    corrSpec shots t t = t.coeff * t.coeff := by
  rw [corrSpec, mean_congr _ (fun _ => t.coeff * t.coeff) shots, mean_const _ _ hne]
  intro s _
  rw [mul_mul_mul_comm, ← Int.cast_mul, zval_mul_self, Int.cast_one, mul_one]

theorem corrSpec_comm {R : Type} [Field R] (shots : List Shot) (ti tj : Term R) :
    corrSpec shots ti tj = corrSpec shots tj ti :=
  mean_congr _ _ shots fun _ _ => mul_comm _ _

theorem corrSpec_eq_symmDiff {R : Type} [Field R] (shots : List Shot) (ti tj : Term R)
    (hi : ti.qubits.Nodup) (hj : tj.qubits.Nodup) :
    corrSpec shots ti tj = ti.coeff * tj.coeff * meanZ (symmDiff ti.qubits tj.qubits) shots := by
  rw [meanZ, ← mean_const_mul]
  apply mean_congr
  intro s _
  rw [zval_symmDiff _ _ hi hj, Int.cast_mul]; ring

theorem entrySpec_eq {R : Type} [Field R] [CharZero R] (shots : List Shot) (hne : shots ≠ [])
    (terms : List (Term R)) (a b : Nat × Term R)
    (ha : a ∈ withIdx 0 terms) (hb : b ∈ withIdx 0 terms)
    (hna : a.2.qubits.Nodup) (hnb : b.2.qubits.Nodup) :
    entrySpec shots a b = corrSpec shots a.2 b.2 := by
  unfold entrySpec
  split_ifs with h
  · rw [← withIdx_inj 0 terms a b ha hb h, corrSpec_self shots hne]
  · rw [corrSpec_eq_symmDiff shots _ _ hna hnb]
  · rw [corrSpec_comm, corrSpec_eq_symmDiff shots _ _ hnb hna]

theorem covMatrix_map {R : Type} [Field R] (terms : List (Term R)) (M : Term R → Term R → R)
    (V : Term R → R) (d : Int) :
    covMatrix (terms.map (fun ti => terms.map (M ti))) (terms.map V) d =
      terms.map (fun ti => terms.map (fun tj => divOrNan (M ti tj - V ti * V tj) d)) := by
  simp only [covMatrix, zipWith_map_map]

/-- the record `get_expectation_values` must return: values, correlations, covariances -/
def evSpec {R : Type} [Field R] (shots : List Shot) (terms : List (Term R)) (bessel : Bool) :
    ExpectationValues R :=
  ⟨terms.map (fun t => t.coeff * meanZ t.qubits shots),
   terms.map (fun ti => terms.map (corrSpec shots ti)),
   terms.map (fun ti => terms.map (fun tj =>
     divOrNan (corrSpec shots ti tj - (ti.coeff * meanZ ti.qubits shots) * (tj.coeff * meanZ tj.qubits shots))
       (if bessel then (shots.length : Int) - 1 else (shots.length : Int))))⟩

/-- what `get_expectation_values` computes when nothing raises, before any algebra: the values, the table as the loops
    fill it, the covariances from the two -/
def evRaw {R : Type} [Field R] (shots : List Shot) (terms : List (Term R)) (bessel : Bool) : ExpectationValues R :=
  let values := terms.map (fun t => t.coeff * meanZ t.qubits shots)
  let corr := (withIdx 0 terms).map (fun a => (withIdx 0 terms).map (entrySpec shots a))
  ⟨values, corr, covMatrix corr values (if bessel then (shots.length : Int) - 1 else (shots.length : Int))⟩

theorem getEV_not_ising {R : Type} [Field R] (shots : List Shot) (terms : List (Term R)) (bessel : Bool)
    (h : ¬ (terms.all Term.isIsing = true)) : getExpectationValues shots terms bessel = .error .type := by
  unfold getExpectationValues
  exact if_pos (by rw [Bool.eq_false_of_not_eq_true h]; rfl)

theorem getEV_eq {R : Type} [Field R] (shots : List Shot) (terms : List (Term R)) (bessel : Bool) (w : Nat)
    (hl : ∀ s ∈ shots, s.length = w) (hq : ∀ t ∈ terms, ∀ q ∈ t.qubits, q < w) :
    getExpectationValues shots terms bessel =
      if terms.all Term.isIsing = true then
        if terms = [] ∨ (shots ≠ [] ∧ w ≠ 0) then .ok (evRaw shots terms bessel)
        else .error (if shots = [] then .index else .value)
      else .error .type := by
  by_cases hI : terms.all Term.isIsing = true
  swap
  · rw [if_neg hI, getEV_not_ising shots terms bessel hI]
  unfold getExpectationValues
  rw [if_pos hI, if_neg (by simp [hI])]
  simp only [termValues_eq shots terms w hl hq]
  by_cases hd : terms = [] ∨ (shots ≠ [] ∧ w ≠ 0)
  swap
  · rw [if_neg hd, if_neg hd]
  rw [if_pos hd, if_pos hd]
  -- the values are there: on to the `match` arm that fills the table
  simp only []
  rw [mapE_ok _ _ _ fun a ha => mapE_ok _ _ _ fun b hb =>
    have hd' := hd.resolve_left (List.ne_nil_of_mem (withIdx_mem 0 terms a ha))
    corrEntry_ok a b shots w hd'.1 (Nat.pos_of_ne_zero hd'.2) hl
      (hq _ (withIdx_mem 0 terms a ha)) (hq _ (withIdx_mem 0 terms b hb))]
  rfl

theorem evRaw_eq {R : Type} [Field R] [CharZero R] (shots : List Shot) (terms : List (Term R)) (bessel : Bool)
    (hne : shots ≠ []) (hn : ∀ t ∈ terms, t.qubits.Nodup) : evRaw shots terms bessel = evSpec shots terms bessel := by
  have htab : (withIdx 0 terms).map (fun a => (withIdx 0 terms).map (entrySpec shots a)) =
      terms.map (fun ti => terms.map (corrSpec shots ti)) := by
    rw [← withIdx_map_snd (fun t => terms.map (corrSpec shots t)) 0 terms]
    refine List.map_congr_left fun a ha => ?_
    rw [← withIdx_map_snd (corrSpec shots a.2) 0 terms]
    exact List.map_congr_left fun b hb => entrySpec_eq shots hne terms a b ha hb
      (hn _ (withIdx_mem 0 terms a ha)) (hn _ (withIdx_mem 0 terms b hb))
  simp only [evRaw, htab, covMatrix_map]
  rfl

theorem getEV_spec {R : Type} [Field R] [CharZero R] (shots : List Shot) (terms : List (Term R))
    (bessel : Bool) (w : Nat) (ev : ExpectationValues R)
    (hne : shots ≠ []) (hl : ∀ s ∈ shots, s.length = w)
    (hq : ∀ t ∈ terms, ∀ q ∈ t.qubits, q < w) (hn : ∀ t ∈ terms, t.qubits.Nodup)
    (h : getExpectationValues shots terms bessel = .ok ev) : ev = evSpec shots terms bessel := by
  rw [getEV_eq shots terms bessel w hl hq, evRaw_eq shots terms bessel hne hn] at h
  split_ifs at h
  exact (Except.ok.inj h).symm

theorem divOrNan_bessel {R : Type} [Field R] (x : R) (n : Nat) (bessel : Bool) (hn : n ≠ 0)
    (hb : bessel = true → 2 ≤ n) :
    divOrNan x (if bessel then (n : Int) - 1 else (n : Int)) =
      some (x / (if bessel then ((n : Nat) : R) - 1 else ((n : Nat) : R))) := by
  cases bessel
  · exact (if_neg (Int.natCast_ne_zero.mpr hn)).trans (by simp)
  · have := hb rfl
    exact (if_neg (by simp only [if_true]; omega)).trans (by simp)

theorem sameLength_iff (keys : List Shot) :
    sameLength keys = true ↔ ∀ x ∈ keys, ∀ y ∈ keys, x.length = y.length := by
  cases keys with
  | nil => simp [sameLength]
  | cons k ks =>
    simp only [sameLength, List.all_eq_true, beq_iff_eq]
    refine ⟨fun h x hx y hy => ?_, fun h x hx => h x (List.mem_cons_of_mem _ hx) k (List.mem_cons_self ..)⟩
    have key : ∀ z ∈ k :: ks, z.length = k.length := List.forall_mem_cons.mpr ⟨rfl, h⟩
    rw [key x hx, key y hy]

theorem sameLength_of (keys : List Shot) (w : Nat) (h : ∀ k ∈ keys, k.length = w) : sameLength keys = true :=
  (sameLength_iff keys).mpr fun x hx y hy => (h x hx).trans (h y hy).symm

theorem sum_counts_div {R : Type} [Field R] [CharZero R] (shots : List Shot) (hne : shots ≠ []) :
    ((getCounts shots).map (fun p => ((p.2 : Nat) : R) / ((shots.length : Nat) : R))).sum = 1 := by
  have h := sum_nsmul_getCounts (fun _ => (1 : R)) shots
  simp only [nsmul_one, List.map_const', List.sum_replicate] at h
  rw [sum_map_div, h]
  exact div_self (cast_length_ne_zero shots hne)

theorem sum_indicator {α : Type} (P : α → Bool) (l : List α) :
    (l.map (fun s => if P s then 1 else 0)).sum = l.countP P := by
  induction l with
  | nil => rfl
  | cons x xs ih => cases h : P x <;> simp [h, ih, Nat.add_comm]

/-- the 0/1 vector of a predicate over the distinct shots (the rows of `get_parities_from_measurements`) -/
def ind (shots : List Shot) (P : Shot → Bool) : List Nat :=
  ((getCounts shots).map (fun p => p.1)).map (fun r => if P r then 1 else 0)

theorem tally (shots : List Shot) (P : Shot → Bool) :
    dot (ind shots P) ((getCounts shots).map (fun p => p.2)) = shots.countP P := by
  rw [← sum_indicator P shots, ← sum_nsmul_getCounts, dot, ind, List.map_map, zipWith_map_map]
  simp only [Function.comp_def, nsmul_eq_mul, Nat.cast_id, Nat.mul_comm]

theorem ind_not (shots : List Shot) (P : Shot → Bool) :
    (ind shots P).map (fun p => 1 - p) = ind shots (fun r => !P r) := by
  rw [ind, ind, List.map_map]
  exact List.map_congr_left fun r _ => by dsimp only [Function.comp]; cases P r <;> rfl

theorem ind_differ (shots : List Shot) (P Q : Shot → Bool) :
    List.zipWith (fun (x y : Nat) => (((x : Nat) : Int) - ((y : Nat) : Int)).natAbs) (ind shots P) (ind shots Q) =
      ind shots (fun r => P r != Q r) := by
  rw [ind, ind, ind, zipWith_map_map]
  exact List.map_congr_left fun r _ => by cases P r <;> cases Q r <;> rfl

theorem parityOf_ok (rows : List Shot) (marked : List Nat) (w : Nat)
    (h : ∀ r ∈ rows, r.length = w) (hm : ∀ q ∈ marked, q < w) (hne : rows ≠ [] ∨ marked = []) :
    parityOf rows marked = .ok (rows.map (fun r => if evenParity marked r then 1 else 0)) := by
  rw [parityOf, checkParity_eq rows marked w h, if_pos (Or.inr hm), if_neg]
  rcases hne with h1 | h1 <;> simp [h1]

/-- the record `get_parities_from_measurements` must return -/
def paritySpec {R : Type} (shots : List Shot) (terms : List (Term R)) : Parities :=
  ⟨terms.map (fun t => (shots.countP (evenParity t.qubits), shots.countP (fun s => !evenParity t.qubits s))),
   terms.map (fun t1 => terms.map (fun t2 =>
     (shots.countP (fun s => evenParity t1.qubits s == evenParity t2.qubits s),
      shots.countP (fun s => evenParity t1.qubits s != evenParity t2.qubits s))))⟩

theorem parityOf_getCounts (shots : List Shot) (qubits : List Nat) (w : Nat)
    (hl : ∀ s ∈ shots, s.length = w) (hq : ∀ q ∈ qubits, q < w) (hne : shots ≠ [] ∨ qubits = []) :
    parityOf ((getCounts shots).map (fun p => p.1)) qubits = .ok (ind shots (evenParity qubits)) :=
  parityOf_ok _ qubits w (getCounts_key_length shots w hl) hq
    (hne.imp_left fun h => mt List.map_eq_nil_iff.mp (getCounts_ne_nil shots h))

theorem termTally_ok {R : Type} (shots : List Shot) (t : Term R) (w : Nat)
    (hl : ∀ s ∈ shots, s.length = w) (hq : ∀ q ∈ t.qubits, q < w) (hne : shots ≠ [] ∨ t.qubits = []) :
    termTally ((getCounts shots).map (fun p => p.1)) ((getCounts shots).map (fun p => p.2)) t =
      .ok (shots.countP (evenParity t.qubits), shots.countP (fun s => !evenParity t.qubits s)) := by
  simp only [termTally, parityOf_getCounts shots t.qubits w hl hq hne, ind_not, tally]

theorem pairTally_ok {R : Type} (shots : List Shot) (t1 t2 : Term R) (w : Nat)
    (hl : ∀ s ∈ shots, s.length = w) (hq1 : ∀ q ∈ t1.qubits, q < w) (hq2 : ∀ q ∈ t2.qubits, q < w)
    (hne1 : shots ≠ [] ∨ t1.qubits = []) (hne2 : shots ≠ [] ∨ t2.qubits = []) :
    pairTally ((getCounts shots).map (fun p => p.1)) ((getCounts shots).map (fun p => p.2)) t1 t2 =
      .ok (shots.countP (fun s => evenParity t1.qubits s == evenParity t2.qubits s),
           shots.countP (fun s => evenParity t1.qubits s != evenParity t2.qubits s)) := by
  simp only [pairTally, parityOf_getCounts shots _ w hl hq1 hne1, parityOf_getCounts shots _ w hl hq2 hne2,
    ind_differ, ind_not, tally, bne, Bool.not_not]

theorem getParities_ok {R : Type} (shots : List Shot) (terms : List (Term R)) (w : Nat)
    (hl : ∀ s ∈ shots, s.length = w) (hI : ∀ t ∈ terms, t.isIsing = true)
    (hq : ∀ t ∈ terms, ∀ q ∈ t.qubits, q < w) (hne : shots ≠ [] ∨ ∀ t ∈ terms, t.qubits = []) :
    getParities shots terms = .ok (paritySpec shots terms) := by
  have hnt : ∀ t ∈ terms, shots ≠ [] ∨ t.qubits = [] := fun t ht => hne.imp_right fun h => h t ht
  simp only [getParities, List.all_eq_true.mpr hI, sameLength_of _ w (getCounts_key_length shots w hl),
    Bool.not_true, Bool.false_eq_true, if_false,
    mapE_ok _ _ terms fun t ht => termTally_ok shots t w hl (hq t ht) (hnt t ht),
    mapE_ok _ _ terms fun t1 h1 => mapE_ok _ _ terms fun t2 h2 =>
      pairTally_ok shots t1 t2 w hl (hq t1 h1) (hq t2 h2) (hnt t1 h1) (hnt t2 h2)]
  rfl

theorem termTally_nil {R : Type} (t : Term R) :
    termTally [] [] t = if t.qubits = [] then .ok (0, 0) else .error .index := by
  unfold termTally parityOf
  cases t.qubits <;> rfl

theorem getParities_nil_inv {R : Type} (terms : List (Term R)) (p : Parities)
    (h : getParities [] terms = .ok p) : ∀ t ∈ terms, t.qubits = [] := by
  by_contra hq
  have hv := mapE_ite (termTally (R := R) [] []) _ _ _ terms fun t _ => termTally_nil t
  rw [if_neg hq] at hv
  -- the tallies raise, and so does every branch of the call
  unfold getParities at h
  simp only [getCounts, List.foldl_nil, List.map_nil, hv] at h
  split_ifs at h

theorem getParities_not_ising {R : Type} (shots : List Shot) (terms : List (Term R))
    (h : ¬ (terms.all Term.isIsing = true)) : getParities shots terms = .error .type := by
  unfold getParities
  exact if_pos (by rw [Bool.eq_false_of_not_eq_true h]; rfl)

theorem getParities_spec {R : Type} (shots : List Shot) (terms : List (Term R)) (w : Nat) (p : Parities)
    (hl : ∀ s ∈ shots, s.length = w) (hq : ∀ t ∈ terms, ∀ q ∈ t.qubits, q < w)
    (h : getParities shots terms = .ok p) : p = paritySpec shots terms := by
  by_cases hall : terms.all Term.isIsing = true
  · have hne : shots ≠ [] ∨ ∀ t ∈ terms, t.qubits = [] :=
      (ne_or_eq shots []).imp_right fun (e : shots = []) => getParities_nil_inv terms p (e ▸ h)
    rw [getParities_ok shots terms w hl (List.all_eq_true.mp hall) hq hne] at h
    exact (Except.ok.inj h).symm
  · rw [getParities_not_ising shots terms hall] at h; cases h

end OQ.C10
