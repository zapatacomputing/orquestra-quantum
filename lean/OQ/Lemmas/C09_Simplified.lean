/- Simplified sums are fixed points of `simplify`, so the `+=` loops just collect their terms. -/
import OQ.Lemmas.C09_Ops

set_option linter.unusedSectionVars false
namespace OQ.C09
open OQ OQ.Pauli

variable {R : Type} [CommRing R]

/-- what `simplify` produces: pairwise different operation sets (earlier vs later term) and no
    negligible coefficient -/
def Simplified (tol : Tol R) (s : PSum R) : Prop :=
  s.Pairwise (fun a b => sameOps a.ops b.ops = false) ∧ ∀ t ∈ s, tol.negl t.coeff = false

theorem groupInsert_fresh (acc : List (Term R)) (t : Term R) (h : ∀ a ∈ acc, sameOps a.ops t.ops = false) :
    groupInsert (acc.map (fun a => [a])) t = acc.map (fun a => [a]) ++ [[t]] := by
  induction acc with
  | nil => rfl
  | cons a acc ih =>
    simp only [List.map_cons, groupInsert, h a (by simp), Bool.false_eq_true, if_false, List.cons_append]
    rw [ih (fun b hb => h b (by simp [hb]))]

theorem foldl_groupInsert_fresh (s : List (Term R)) (h : s.Pairwise (fun a b => sameOps a.ops b.ops = false)) :
    s.foldl groupInsert [] = s.map (fun a => [a]) := by
  induction s using List.reverseRecOn with
  | nil => rfl
  | append_singleton s t ih =>
    obtain ⟨hs, -, hst⟩ := List.pairwise_append.1 h
    rw [List.foldl_append, ih hs, List.map_append]
    exact groupInsert_fresh s t fun a ha => hst a ha t (List.mem_singleton_self t)

theorem simplify_id (tol : Tol R) (s : PSum R) (h : Simplified tol s) : simplify tol s = s := by
  have hres : ∀ t ∈ s, (groupResult tol ∘ fun a => [a]) t = some t := fun t ht =>
    if_neg (by rw [h.2 t ht]; exact Bool.false_ne_true)
  rw [simplify, foldl_groupInsert_fresh s h.1, List.filterMap_map, List.filterMap_congr hres, List.filterMap_some]

theorem simplified_prefix (tol : Tol R) (a b : PSum R) (h : Simplified tol (a ++ b)) : Simplified tol a :=
  ⟨(List.pairwise_append.1 h.1).1, fun t ht => h.2 t (List.mem_append_left b ht)⟩

theorem foldl_addTerm_id {α : Type} (tol : Tol R) (f : α → Term R) (l : List α) (acc : PSum R)
    (h : Simplified tol (acc ++ l.map f)) :
    l.foldl (fun acc a => addTerm tol acc (f a)) acc = acc ++ l.map f := by
  induction l generalizing acc with
  | nil => exact (List.append_nil acc).symm
  | cons a l ih =>
    rw [List.map_cons, List.append_cons] at h ⊢
    rw [List.foldl_cons, addTerm, simplify_id tol _ (simplified_prefix tol _ _ h), ih _ h]

theorem sameOps_map_reverse (n : Nat) (a b : List (Nat × P)) (ha : ∀ x ∈ a, x.1 < n) (hb : ∀ x ∈ b, x.1 < n) :
    sameOps (a.map (fun qp => (n - 1 - qp.1, qp.2))) (b.map (fun qp => (n - 1 - qp.1, qp.2))) = sameOps a b := by
  unfold sameOps
  simp only [List.length_map]
  congr 1
  rw [Bool.eq_iff_iff]
  simp only [List.all_eq_true, List.contains_iff_mem, List.mem_map]
  constructor
  · intro h x hx
    obtain ⟨y, hy, hxy⟩ := h _ ⟨x, hx, rfl⟩
    have hx1 := ha x hx
    have hy1 := hb y hy
    simp only [Prod.mk.injEq] at hxy
    have : y = x := Prod.ext (by omega) hxy.2
    rw [← this]; exact hy
  · rintro h _ ⟨x, hx, rfl⟩
    exact ⟨x, h x hx, rfl⟩

theorem reverseTerm_reverseTerm (n : Nat) (t : Term R) (hn : ∀ x ∈ t.ops, x.1 < n) :
    reverseTerm n (reverseTerm n t) = t := by
  obtain ⟨ops, c⟩ := t
  simp only [reverseTerm, List.map_map, Term.mk.injEq, and_true]
  conv_rhs => rw [← List.map_id ops]
  apply List.map_congr_left
  intro x hx
  have := hn x hx
  simp only [Function.comp, id]
  exact Prod.ext (by simp only; omega) rfl

theorem simplified_map_reverse (tol : Tol R) (n : Nat) (s : PSum R) (h : Simplified tol s)
    (hn : ∀ t ∈ s, ∀ x ∈ t.ops, x.1 < n) : Simplified tol (s.map (reverseTerm n)) := by
  constructor
  · rw [List.pairwise_map]
    refine List.Pairwise.imp_of_mem ?_ h.1
    intro a b ha hb hab
    simp only [reverseTerm]
    rw [sameOps_map_reverse n _ _ (hn a ha) (hn b hb)]; exact hab
  · intro t ht
    obtain ⟨u, hu, rfl⟩ := List.mem_map.1 ht
    exact h.2 u hu

theorem reverse_simplified (tol : Tol R) (n : Nat) (s : PSum R) (h : Simplified tol s)
    (hn : PSum.nQubits s ≤ n) : reverseQubitOrder tol s n = some (s.map (reverseTerm n)) := by
  rw [reverseQubitOrder_of_le tol s n hn,
    foldl_addTerm_id tol (reverseTerm n) s [] (simplified_map_reverse tol n s h ((sum_nQubits_le s n).1 hn))]
  rfl

theorem nQubits_map_reverse (n : Nat) (s : PSum R) (hn : PSum.nQubits s ≤ n) :
    PSum.nQubits (s.map (reverseTerm n)) ≤ n := by
  have hops := (sum_nQubits_le s n).1 hn
  rw [sum_nQubits_le]
  intro t ht
  obtain ⟨u, hu, rfl⟩ := List.mem_map.1 ht
  exact reverseTerm_ops_lt n u (hops u hu)

theorem map_reverse_map_reverse (n : Nat) (s : PSum R) (hn : PSum.nQubits s ≤ n) :
    (s.map (reverseTerm n)).map (reverseTerm n) = s := by
  rw [List.map_map]
  conv_rhs => rw [← List.map_id s]
  exact List.map_congr_left fun t ht => reverseTerm_reverseTerm n t ((sum_nQubits_le s n).1 hn t ht)

end OQ.C09
