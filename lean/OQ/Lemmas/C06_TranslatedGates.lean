/- C06 — translation tie of the gate CLASSES: embedding of the model's gates into the REGENERATED classes
   (`OQ.Generated.TranslatedGates`, harness/translate_cls.py) and helper lemmas.  The tie theorems are in
   OQ/Props/C06_TranslatedGates.lean (read its header first). -/
import OQ.Generated.TranslatedGates
import OQ.Lemmas.C06
namespace OQ.C06
open OQ.Generated
namespace TG

/-- the generated gate type at the model's parameters -/
abbrev TGate := TranslatedGates.Gate Param Factory Rat

/-- the model's gate tree as an object of the generated classes -/
def emb : Gate → TGate
  | .mf nm fac ps nq herm => .MatrixFactoryGate nm fac ps (nq : Int) herm
  | .ctrl g n => .ControlledGate (emb g) (n : Int)
  | .dag g => .Dagger (emb g)
  | .exp g => .Exponential (emb g)
  | .pow g e => .Power (emb g) e

/-- INSTANTIATION of the externals: the model's `get_free_symbols` and `sub_symbols` (argument order of the Python function) -/
def ext : TranslatedGates.Ext Param String SymMap := ⟨getFreeSymbols, fun p m => subSymbols m p⟩

/-- exception classes of the generated code as the model's error values -/
def errOf : TranslatedGates.Err → Err
  | .ValueError => .value
  | .NotImplementedError => .notimpl

def toRes {α : Type} : Except TranslatedGates.Err α → Res α
  | .ok a => .ok a
  | .error e => .err (errOf e)

/-- well-formedness: every control count in the tree is ≥ 1 (what `ControlledGate.__post_init__` guarantees of every object) -/
def CtlPos : Gate → Prop
  | .mf _ _ _ _ _ => True
  | .ctrl g n => 1 ≤ n ∧ CtlPos g
  | .dag g => CtlPos g
  | .exp g => CtlPos g
  | .pow g _ => CtlPos g

@[simp] theorem toRes_ok {α} (a : α) : toRes (.ok a : Except TranslatedGates.Err α) = .ok a := rfl
@[simp] theorem toRes_error {α} (e : TranslatedGates.Err) : toRes (.error e : Except TranslatedGates.Err α) = .err (errOf e) := rfl
@[simp] theorem bind_ok {ε α β} (a : α) (f : α → Except ε β) : Except.bind (.ok a) f = f a := rfl
@[simp] theorem bind_error {ε α β} (e : ε) (f : α → Except ε β) : Except.bind (.error e : Except ε α) f = .error e := rfl
theorem toRes_bind {α β} (r : Except TranslatedGates.Err α) (f : α → Except TranslatedGates.Err β) :
    toRes (Except.bind r f) = Res.bind (toRes r) (fun a => toRes (f a)) := by
  cases r <;> rfl

theorem toRes_bind_tie {α α' β β'} {r : Except TranslatedGates.Err α'} {x : Res α} {f : α → α'} {f' : β → β'}
    {K : α' → Except TranslatedGates.Err β'} {k : α → Res β}
    (hr : toRes r = x.map f) (hk : ∀ a, x = .ok a → toRes (K (f a)) = (k a).map f') :
    toRes (Except.bind r K) = (x.bind k).map f' := by
  rw [toRes_bind, hr]
  cases x with
  | err e => rfl
  | ok a => exact hk a rfl

theorem mk_ControlledGate_ok (t : TGate) (z : Int) (hz : 1 ≤ z) :
    TranslatedGates.mk_ControlledGate t z = .ok (.ControlledGate t z) :=
  if_neg (Int.not_lt.mpr hz)

theorem mk_ControlledGate_pos (t : TGate) (k : Nat) (hk : 1 ≤ k) :
    TranslatedGates.mk_ControlledGate t (k : Int) = .ok (.ControlledGate t (k : Int)) :=
  mk_ControlledGate_ok t k (by omega)

theorem toRes_ctrl_tie {r : Except TranslatedGates.Err TGate} {x : Res Gate} (k : Nat) (hk : 1 ≤ k)
    (hr : toRes r = x.map emb) :
    toRes (Except.bind r fun t => TranslatedGates.mk_ControlledGate t k) = (x.map (.ctrl · k)).map emb := by
  rw [toRes_bind, hr]
  cases x with
  | err e => rfl
  | ok a => exact congrArg toRes (mk_ControlledGate_pos _ k hk)

theorem toRes_eq_map_ok {α β} {r : Except TranslatedGates.Err β} {x : Res α} {f : α → β} {t : β}
    (tie : toRes r = x.map f) (hr : r = .ok t) : ∃ a, x = .ok a ∧ t = f a := by
  subst hr
  cases x with
  | err e => cases tie
  | ok a => exact ⟨a, rfl, Res.ok.inj tie⟩

theorem transparent_ctlPos : Transparent CtlPos (1 ≤ ·) where
  ctrl := Iff.rfl
  dag := Iff.rfl
  exp := Iff.rfl
  pow := Iff.rfl
  add hk _ := Nat.le_add_right_of_le hk

end TG
end OQ.C06
