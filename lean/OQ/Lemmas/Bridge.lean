/- Bridge between the executable `OQ.Mat` (Array-backed) and Mathlib `Matrix`. -/
import OQ.Exec.Mat
import OQ.Exec.Scal
import Mathlib.Data.Matrix.Mul
import Mathlib.Algebra.BigOperators.Fin
import Mathlib.LinearAlgebra.Matrix.Kronecker
import Mathlib.Tactic.Ring

namespace OQ
open Matrix

theorem div_two_lt_pow {n i : Nat} (h : i < 2 ^ (n + 1)) : i / 2 < 2 ^ n := Nat.div_lt_of_lt_mul (Nat.pow_succ' ▸ h)

theorem sumTo_eq {R : Type} [AddCommMonoid R] (n : Nat) (f : Nat → R) :
    sumTo n f = ∑ k ∈ Finset.range n, f k := by
  unfold sumTo
  induction n with
  | zero => simp
  | succ n ih => rw [List.range_succ, List.foldl_append, ih, Finset.sum_range_succ]; simp

namespace Mat
variable {R : Type}

@[simp] theorem ofFn_r (r c : Nat) (f : Nat → Nat → R) : (ofFn r c f).r = r := rfl
@[simp] theorem ofFn_c (r c : Nat) (f : Nat → Nat → R) : (ofFn r c f).c = c := rfl

theorem get_ofFn [Zero R] (r c : Nat) (f : Nat → Nat → R) (i j : Nat) (hi : i < r) (hj : j < c) :
    (ofFn r c f).get i j = f i j := by
  unfold get
  simp only [ofFn_r, ofFn_c, hi, hj, and_self, if_true]
  have hlt : i * c + j < r * c := by
    calc i * c + j < i * c + c := by omega
      _ = (i + 1) * c := by ring
      _ ≤ r * c := Nat.mul_le_mul_right c hi
  unfold ofFn
  simp only [Array.getD, Array.size_ofFn, hlt, dite_true]
  rw [Array.getInternal_eq_getElem, Array.getElem_ofFn]
  simp only
  have hc : 0 < c := by omega
  congr 1
  · rw [Nat.mul_comm, Nat.mul_add_div hc, Nat.div_eq_of_lt hj]; simp
  · rw [Nat.mul_comm, Nat.mul_add_mod, Nat.mod_eq_of_lt hj]

theorem get_out [Zero R] (m : Mat R) (i j : Nat) (h : ¬ (i < m.r ∧ j < m.c)) : m.get i j = 0 := by
  unfold get; simp [h]

/-- an executable matrix read as an `r × c` Mathlib matrix; `r`, `c` are given, not taken from `A` (`get` is 0 outside `A`'s own bounds) -/
def toM [Zero R] (r c : Nat) (A : Mat R) : Matrix (Fin r) (Fin c) R := fun i j => A.get i j

theorem toM_ofFn [Zero R] (r c : Nat) (f : Nat → Nat → R) :
    toM r c (ofFn r c f) = Matrix.of (fun (i : Fin r) (j : Fin c) => f i j) := by
  funext i j; exact get_ofFn r c f i j i.2 j.2

theorem toM_mul [NonUnitalNonAssocSemiring R] (A B : Mat R) (r k c : Nat)
    (hr : A.r = r) (hk : A.c = k) (_hk' : B.r = k) (hc : B.c = c) :
    toM r c (A.mul B) = toM r k A * toM k c B := by
  subst hr hk hc
  funext i j
  simp only [toM, mul]
  rw [get_ofFn _ _ _ _ _ i.2 j.2, sumTo_eq, Matrix.mul_apply, Finset.sum_range]
  rfl

theorem toM_identity [Zero R] [One R] (d : Nat) : toM d d (identity (R := R) d) = 1 := by
  funext i j
  simp only [toM, identity]
  rw [get_ofFn _ _ _ _ _ i.2 j.2, Matrix.one_apply]
  simp [Fin.ext_iff]

theorem toM_transpose [Zero R] (A : Mat R) : toM A.c A.r A.transpose = (toM A.r A.c A)ᵀ := by
  funext i j
  simp only [toM, transpose, Matrix.transpose_apply]
  rw [get_ofFn _ _ _ _ _ i.2 j.2]

theorem toM_add [Zero R] [Add R] (A B : Mat R) :
    toM A.r A.c (A.add B) = toM A.r A.c A + toM A.r A.c B := by
  funext i j
  simp only [toM, add, Matrix.add_apply]
  rw [get_ofFn _ _ _ _ _ i.2 j.2]

theorem toM_smul [Zero R] [Mul R] (x : R) (A : Mat R) :
    toM A.r A.c (A.smul x) = x • toM A.r A.c A := by
  funext i j
  simp only [toM, smul, Matrix.smul_apply, smul_eq_mul]
  rw [get_ofFn _ _ _ _ _ i.2 j.2]

theorem kron_get [Zero R] [Mul R] (A B : Mat R) (i j : Nat) (hi : i < A.r * B.r) (hj : j < A.c * B.c) :
    (A.kron B).get i j = A.get (i / B.r) (j / B.c) * B.get (i % B.r) (j % B.c) := by
  unfold kron; rw [get_ofFn _ _ _ _ _ hi hj]

end Mat
end OQ
