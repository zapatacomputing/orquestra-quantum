/- Entries of Pauli-string matrices: `stringMatrix` and `denote` in closed form (`strEntry`, `dEntry`).
   The executable side is reasoned about through `Is M d f`: "`M` is the `d × d` matrix with entries `f`". -/
import OQ.Model.C09
import OQ.Lemmas.Bridge
import Mathlib.Algebra.BigOperators.Group.List.Basic
import Mathlib.Algebra.Ring.Basic
import Mathlib.Tactic.Ring
import Mathlib.Tactic.Linarith
import Mathlib.Tactic.IntervalCases

namespace OQ.C09
open OQ OQ.Pauli

theorem div_two_div_pow (x g : Nat) : x / 2 / 2 ^ g = x / 2 ^ (g + 1) := by
  rw [Nat.div_div_eq_div_mul, pow_succ, Nat.mul_comm]

theorem div_two_mod_pow (x g : Nat) : x / 2 % 2 ^ g = x % 2 ^ (g + 1) / 2 := by
  rw [pow_succ, Nat.mul_comm, Nat.mod_mul]; omega

theorem mod_pow_succ_mod_two (x g : Nat) : x % 2 ^ (g + 1) % 2 = x % 2 := by
  rw [pow_succ, Nat.mul_comm, Nat.mod_mul]; omega

theorem two_mul_add_div (x f : Nat) (hf : f < 2) : (2 * x + f) / 2 = x := by omega

theorem two_mul_add_mod (x f : Nat) (hf : f < 2) : (2 * x + f) % 2 = f := by omega

theorem mod_two_lt (x : Nat) : x % 2 < 2 := Nat.mod_lt x (by decide)

variable {R : Type} [CommRing R]

/-- entry of a 2×2 Pauli matrix in closed form -/
def pe (k : Scal R) : Option P → Nat → Nat → R
  | none, a, b => if a = b then 1 else 0
  | some .X, a, b => if a = b then 0 else 1
  | some .Y, a, b => if a = b then 0 else if a = 0 then -k.i else k.i
  | some .Z, a, b => if a = b then (if a = 0 then 1 else -1) else 0

def Is (M : Mat R) (d : Nat) (f : Nat → Nat → R) : Prop :=
  M.r = d ∧ M.c = d ∧ ∀ i j, i < d → j < d → M.get i j = f i j

theorem Is.ofFn (d : Nat) (f : Nat → Nat → R) : Is (Mat.ofFn d d f) d f :=
  ⟨rfl, rfl, fun i j hi hj => Mat.get_ofFn d d f i j hi hj⟩

theorem Is.congr {M : Mat R} {d : Nat} {f g : Nat → Nat → R} (h : Is M d f)
    (hfg : ∀ i j, i < d → j < d → f i j = g i j) : Is M d g :=
  ⟨h.1, h.2.1, fun i j hi hj => (h.2.2 i j hi hj).trans (hfg i j hi hj)⟩

theorem Is.kron {A B : Mat R} {a b : Nat} {f g : Nat → Nat → R} (hA : Is A a f) (hB : Is B b g) :
    Is (A.kron B) (a * b) (fun i j => f (i / b) (j / b) * g (i % b) (j % b)) := by
  obtain ⟨rfl, hAc, hA⟩ := hA
  obtain ⟨rfl, hBc, hB⟩ := hB
  refine ⟨rfl, congrArg₂ (· * ·) hAc hBc, fun i j hi hj => ?_⟩
  have hb : 0 < B.r := Nat.pos_of_ne_zero (fun h => by rw [h] at hi; exact absurd hi (Nat.not_lt_zero _))
  rw [Mat.kron_get _ _ _ _ hi (by rw [hAc, hBc]; exact hj), hBc,
    hA _ _ (Nat.div_lt_of_lt_mul (by rwa [Nat.mul_comm])) (Nat.div_lt_of_lt_mul (by rwa [Nat.mul_comm])),
    hB _ _ (Nat.mod_lt _ hb) (Nat.mod_lt _ hb)]

theorem Is.add {A B : Mat R} {d : Nat} {f g : Nat → Nat → R} (hA : Is A d f) (hB : Is B d g) :
    Is (A.add B) d (fun i j => f i j + g i j) := by
  obtain ⟨rfl, hAc, hA⟩ := hA
  refine ⟨rfl, hAc, fun i j hi hj => ?_⟩
  rw [Mat.add, Mat.get_ofFn _ _ _ _ _ hi (by rw [hAc]; exact hj), hA i j hi hj, hB.2.2 i j hi hj]

theorem Is.smul {A : Mat R} {d : Nat} {f : Nat → Nat → R} (c : R) (hA : Is A d f) :
    Is (Mat.smul c A) d (fun i j => c * f i j) := by
  obtain ⟨rfl, hAc, hA⟩ := hA
  refine ⟨rfl, hAc, fun i j hi hj => ?_⟩
  rw [Mat.smul, Mat.get_ofFn _ _ _ _ _ hi (by rw [hAc]; exact hj), hA i j hi hj]

theorem Is.toM {M : Mat R} {d : Nat} {f : Nat → Nat → R} (h : Is M d f) :
    Mat.toM d d M = Matrix.of fun i j : Fin d => f i j := by
  funext i j; exact h.2.2 i j i.2 j.2

theorem identity_is (d : Nat) : Is (Mat.identity (R := R) d) d (fun a b => if a = b then 1 else 0) := Is.ofFn d _

theorem pauliMat_is (k : Scal R) (o : Option P) : Is (pauliMat k o) 2 (pe k o) := by
  have h : ∀ a b c d : R, Is (Mat.ofLists [[a, b], [c, d]]) 2 (fun i j => ([[a, b], [c, d]].getD i []).getD j 0) :=
    fun a b c d => Is.ofFn 2 _
  rcases o with _ | _ | _ | _ <;> refine (h _ _ _ _).congr fun i j hi hj => ?_ <;>
    interval_cases i <;> interval_cases j <;> rfl

theorem pauliMat_get (k : Scal R) (o : Option P) (a b : Nat) (ha : a < 2) (hb : b < 2) :
    (pauliMat k o).get a b = pe k o a b := (pauliMat_is k o).2.2 a b ha hb

/-- entry `(i, j)` of `σ_{at 0} ⊗ … ⊗ σ_{at (n-1)}`: the last qubit is the least significant bit -/
def strEntry (k : Scal R) (at_ : Nat → Option P) : Nat → Nat → Nat → R
  | 0, _, _ => 1
  | n + 1, i, j => strEntry k at_ n (i / 2) (j / 2) * pe k (at_ n) (i % 2) (j % 2)

theorem stringMatrix_succ (k : Scal R) (n : Nat) (at_ : Nat → Option P) :
    stringMatrix k (n + 1) at_ = (stringMatrix k n at_).kron (pauliMat k (at_ n)) := by
  unfold stringMatrix
  rw [List.range_succ, List.foldl_append]
  rfl

theorem stringMatrix_spec (k : Scal R) (at_ : Nat → Option P) (n : Nat) :
    (stringMatrix k n at_).r = 2 ^ n ∧ (stringMatrix k n at_).c = 2 ^ n ∧
    ∀ i j, i < 2 ^ n → j < 2 ^ n → (stringMatrix k n at_).get i j = strEntry k at_ n i j := by
  show Is (stringMatrix k n at_) (2 ^ n) (strEntry k at_ n)
  induction n with
  | zero => exact (identity_is 1).congr fun i j hi hj => if_pos (by omega)
  | succ n ih => rw [stringMatrix_succ, pow_succ]; exact ih.kron (pauliMat_is k (at_ n))

theorem strEntry_congr (k : Scal R) (a b : Nat → Option P) (n : Nat) (h : ∀ q, q < n → a q = b q) (i j : Nat) :
    strEntry k a n i j = strEntry k b n i j := by
  induction n generalizing i j with
  | zero => rfl
  | succ n ih => rw [strEntry, strEntry, ih (fun q hq => h q (by omega)), h n (by omega)]

theorem strEntry_add (k : Scal R) (at_ : Nat → Option P) (m g i j : Nat) :
    strEntry k at_ (m + g) i j =
      strEntry k at_ m (i / 2 ^ g) (j / 2 ^ g) * strEntry k (fun q => at_ (m + q)) g (i % 2 ^ g) (j % 2 ^ g) := by
  induction g generalizing i j with
  | zero => simp only [strEntry, pow_zero, Nat.div_one, Nat.add_zero, mul_one]
  | succ g ih =>
    rw [← Nat.add_assoc, strEntry, ih, strEntry.eq_2 k (fun q => at_ (m + q)), div_two_div_pow, div_two_div_pow,
      div_two_mod_pow, div_two_mod_pow, mod_pow_succ_mod_two, mod_pow_succ_mod_two, mul_assoc]

theorem strEntry_none (k : Scal R) (at_ : Nat → Option P) (g : Nat) (h : ∀ q, q < g → at_ q = none) (a b : Nat)
    (ha : a < 2 ^ g) (hb : b < 2 ^ g) : strEntry k at_ g a b = if a = b then 1 else 0 := by
  induction g generalizing a b with
  | zero => exact (if_pos (by omega)).symm
  | succ g ih =>
    have key : (a / 2 = b / 2 ∧ a % 2 = b % 2) ↔ a = b := by omega
    rw [strEntry, ih (fun q hq => h q (by omega)) _ _ (div_two_lt_pow ha) (div_two_lt_pow hb), h g (by omega), pe,
      ite_mul, one_mul, zero_mul, ← ite_and]
    exact if_congr key rfl rfl

/-- entry `(i, j)` of the matrix a sum denotes on `n` qubits -/
def dEntry (k : Scal R) (n : Nat) (s : PSum R) (i j : Nat) : R :=
  (s.map (fun t => t.coeff * strEntry k t.opAt n i j)).sum

theorem dEntry_nil (k : Scal R) (n i j : Nat) : dEntry k n ([] : PSum R) i j = 0 := rfl

theorem dEntry_cons (k : Scal R) (n : Nat) (t : Term R) (s : PSum R) (i j : Nat) :
    dEntry k n (t :: s) i j = t.coeff * strEntry k t.opAt n i j + dEntry k n s i j := by
  rw [dEntry, List.map_cons, List.sum_cons]; rfl

theorem dEntry_append (k : Scal R) (n : Nat) (a b : PSum R) (i j : Nat) :
    dEntry k n (a ++ b) i j = dEntry k n a i j + dEntry k n b i j := by
  rw [dEntry, List.map_append, List.sum_append]; rfl

theorem dEntry_singleton (k : Scal R) (n : Nat) (t : Term R) (i j : Nat) :
    dEntry k n [t] i j = t.coeff * strEntry k t.opAt n i j := by
  rw [dEntry_cons, dEntry_nil, add_zero]

theorem termDenote_spec (k : Scal R) (n : Nat) (t : Term R) :
    (t.denote k n).r = 2 ^ n ∧ (t.denote k n).c = 2 ^ n ∧
    ∀ i j, i < 2 ^ n → j < 2 ^ n → (t.denote k n).get i j = t.coeff * strEntry k t.opAt n i j :=
  Is.smul t.coeff (stringMatrix_spec k t.opAt n)

theorem denote_spec (k : Scal R) (n : Nat) (s : PSum R) :
    (PSum.denote k n s).r = 2 ^ n ∧ (PSum.denote k n s).c = 2 ^ n ∧
    ∀ i j, i < 2 ^ n → j < 2 ^ n → (PSum.denote k n s).get i j = dEntry k n s i j := by
  have h : ∀ (s : PSum R) (acc : Mat R) (f : Nat → Nat → R), Is acc (2 ^ n) f →
      Is (s.foldl (fun acc t => Mat.add acc (t.denote k n)) acc) (2 ^ n) (fun i j => f i j + dEntry k n s i j) := by
    intro s
    induction s with
    | nil => exact fun acc f h => h.congr fun i j _ _ => (add_zero _).symm
    | cons t s ih =>
      exact fun acc f h => (ih _ _ (h.add (termDenote_spec k n t))).congr fun i j _ _ => by
        rw [dEntry_cons, add_assoc]
  exact (h s _ _ (Is.ofFn _ _)).congr fun i j _ _ => zero_add _

theorem toM_denote (k : Scal R) (n : Nat) (s : PSum R) :
    Mat.toM (2 ^ n) (2 ^ n) (PSum.denote k n s) = Matrix.of fun i j : Fin (2 ^ n) => dEntry k n s i j :=
  Is.toM (denote_spec k n s)

theorem toM_termDenote (k : Scal R) (n : Nat) (t : Term R) :
    Mat.toM (2 ^ n) (2 ^ n) (t.denote k n) = Mat.toM (2 ^ n) (2 ^ n) (PSum.denote k n [t]) := by
  rw [toM_denote, Is.toM (termDenote_spec k n t)]; simp only [dEntry_singleton]

end OQ.C09
