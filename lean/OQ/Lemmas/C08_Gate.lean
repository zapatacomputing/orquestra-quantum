/- C08, gate level: canonical matrices, the algebra of `adj` / `ctrlMat`, the regular gates, and the faithfulness of
   the re-association rules `dagger` / `power` / `controlled` on them; two externals that satisfy the assumed laws. -/
import OQ.Model.C08
import OQ.Lemmas.C07
import Mathlib.Algebra.Star.Basic
import Mathlib.Tactic.Tauto
set_option linter.unusedSectionVars false

namespace OQ.C08
open OQ

/-- a matrix whose backing array has exactly `r * c` entries (everything `Mat.ofFn` builds) -/
def Canon {R : Type} (m : Mat R) : Prop := m.a.size = m.r * m.c

theorem canon_ofFn {R : Type} (r c : Nat) (f : Nat → Nat → R) : Canon (Mat.ofFn r c f) := Array.size_ofFn

theorem canon_ofLists {R : Type} [Zero R] (rows : List (List R)) : Canon (Mat.ofLists rows) := canon_ofFn _ _ _

namespace Gate
variable {R : Type} [CommRing R] [StarRing R]

@[simp] theorem adj_r (k : Scal R) (m : Mat R) : (adj k m).r = m.c := rfl
@[simp] theorem adj_c (k : Scal R) (m : Mat R) : (adj k m).c = m.r := rfl
@[simp] theorem ctrlMat_r (d : Nat) (m : Mat R) : (ctrlMat d m).r = d + m.r := rfl
@[simp] theorem ctrlMat_c (d : Nat) (m : Mat R) : (ctrlMat d m).c = d + m.c := rfl
theorem canon_adj (k : Scal R) (m : Mat R) : Canon (adj k m) := canon_ofFn _ _ _
theorem canon_ctrlMat (d : Nat) (m : Mat R) : Canon (ctrlMat d m) := canon_ofFn _ _ _

theorem adj_get (k : Scal R) (hk : k.cj = star) (m : Mat R) (i j : Nat) :
    (adj k m).get i j = star (m.get j i) := by
  by_cases h : i < m.c ∧ j < m.r
  · unfold adj; rw [Mat.get_ofFn _ _ _ _ _ h.1 h.2, hk]
  · rw [Mat.get_out _ _ _ (by simpa using h), Mat.get_out m j i (by tauto), star_zero]

/-- `i < d ∨ j < d`, not `∧`: in the off-diagonal blocks the indices differ, so the entry of the unit matrix there is
    the 0 of `diag(1_d, M)` -/
theorem ctrlMat_get (d : Nat) (m : Mat R) (i j : Nat) :
    (ctrlMat d m).get i j = if i < d ∨ j < d then (if i = j then 1 else 0) else m.get (i - d) (j - d) := by
  by_cases hr : i < d + m.r ∧ j < d + m.c
  · unfold ctrlMat; rw [Mat.get_ofFn _ _ _ _ _ hr.1 hr.2]
    by_cases h : i < d ∨ j < d
    · rw [if_pos h]
      by_cases h' : i < d ∧ j < d
      · rw [if_pos h']
      · rw [if_neg h', if_neg (by omega), if_neg (by omega)]
    · rw [if_neg h, if_neg (by omega), if_pos (by omega)]
  · rw [Mat.get_out _ _ _ hr]
    by_cases h : i < d ∨ j < d
    · rw [if_pos h, if_neg (by omega)]
    · rw [if_neg h, Mat.get_out _ _ _ (by omega)]

theorem adj_adj (k : Scal R) (hk : k.cj = star) (m : Mat R) (hm : Canon m) : adj k (adj k m) = m := by
  apply Mat.ext_get (canon_adj _ _) hm rfl rfl
  intro i j _ _
  rw [adj_get k hk, adj_get k hk, star_star]

theorem adj_ctrlMat (k : Scal R) (hk : k.cj = star) (d : Nat) (m : Mat R) :
    adj k (ctrlMat d m) = ctrlMat d (adj k m) := by
  apply Mat.ext_get (canon_adj _ _) (canon_ctrlMat _ _) rfl rfl
  intro i j _ _
  rw [adj_get k hk, ctrlMat_get, ctrlMat_get, adj_get k hk, apply_ite star, apply_ite star, star_one, star_zero]
  exact if_congr Or.comm (if_congr eq_comm rfl rfl) rfl

/-- `diag(1, M)` and the adjoint are the same functions as in the model of the gate classes (OQ/Model/C07.lean), so
    what is proved there holds here -/
theorem ctrlMat_eq_ctlMatrix (d : Nat) (m : Mat R) : ctrlMat d m = C07.ctlMatrix d m := rfl
theorem adj_eq_adjointWith (k : Scal R) (m : Mat R) : adj k m = C07.adjointWith k.cj m := rfl

theorem ctrlMat_ctrlMat (d1 d2 : Nat) (m : Mat R) : ctrlMat d1 (ctrlMat d2 m) = ctrlMat (d1 + d2) m :=
  C07.ctlMatrix_ctlMatrix d1 d2 m

/-- what is assumed of sympy's `Matrix.exp` / `Matrix.__pow__` (integer exponents): results are well-formed
    matrices of the same size as the argument, both commute with the adjoint, and the power of a block-diagonal
    `diag(1, A)` is `diag(1, A^e)` – each including *whether* sympy raises. -/
structure ExtLaws (k : Scal R) (x : Ext R) : Prop where
  exp_canon : ∀ A B, Canon A → x.mexp A = some B → Canon B ∧ B.r = A.r ∧ B.c = A.c
  pow_canon : ∀ A e B, Canon A → x.mpow A e = some B → Canon B ∧ B.r = A.r ∧ B.c = A.c
  exp_adj : ∀ A, Canon A → A.r = A.c → x.mexp (adj k A) = (x.mexp A).map (adj k)
  pow_adj : ∀ A e, Canon A → A.r = A.c → e.den = 1 → x.mpow (adj k A) e = (x.mpow A e).map (adj k)
  pow_ctrl : ∀ A d e, Canon A → A.r = A.c → e.den = 1 → x.mpow (ctrlMat d A) e = (x.mpow A e).map (ctrlMat d)

/-- the gates on which the re-association rules are faithful: well-formed base matrices of the declared
    size, a truthful `is_hermitian` flag, and only INTEGER exponents under `Power` (F16: for a fractional
    power `Power.dagger` is not the adjoint). -/
inductive Regular (k : Scal R) : Gate R → Prop
  | base (nm : String) (m : Mat R) (n : Nat) (h : Bool) :
      Canon m → m.r = 2 ^ n → m.c = 2 ^ n → (h = true → adj k m = m) → Regular k (base nm m n h)
  | ctrl (g : Gate R) (c : Nat) : Regular k g → Regular k (ctrl g c)
  | dag (g : Gate R) : Regular k g → Regular k (dag g)
  | exp (g : Gate R) : Regular k g → Regular k (exp g)
  | pow (g : Gate R) (e : Rat) : Regular k g → e.den = 1 → Regular k (pow g e)

/-! An optional matrix (`none` = sympy raised further in), as `Gate.matrix` hands it to the externals. -/

theorem bind_map_comm {o : Option (Mat R)} {P : Mat R → Prop} (ho : ∀ m, o = some m → P m) (φ : Mat R → Mat R)
    (f : Mat R → Option (Mat R)) (h : ∀ m, P m → f (φ m) = (f m).map φ) : (o.map φ).bind f = (o.bind f).map φ := by
  cases o with
  | none => rfl
  | some m => exact h m (ho m rfl)

theorem bind_dims {o : Option (Mat R)} (f : Mat R → Option (Mat R))
    (hf : ∀ A B, Canon A → f A = some B → Canon B ∧ B.r = A.r ∧ B.c = A.c) {n : Nat}
    (ho : ∀ m, o = some m → Canon m ∧ m.r = n ∧ m.c = n) (m' : Mat R) (h : o.bind f = some m') :
    Canon m' ∧ m'.r = n ∧ m'.c = n := by
  obtain ⟨m, hm, hm'⟩ := Option.bind_eq_some_iff.mp h
  obtain ⟨h1, h2, h3⟩ := ho m hm
  obtain ⟨e1, e2, e3⟩ := hf m m' h1 hm'
  exact ⟨e1, e2.trans h2, e3.trans h3⟩

theorem two_pow_le (a c : Nat) : 2 ^ a ≤ 2 ^ (a + c) := Nat.pow_le_pow_right (by decide) (Nat.le_add_right a c)

theorem power_ctrl (g : Gate R) (c : Nat) (e : Rat) : power (ctrl g c) e = ctrl (power g e) c := rfl

theorem nq_power (g : Gate R) (e : Rat) : nq (power g e) = nq g := by
  induction g with
  | ctrl g c ih => simp only [power, nq, ih]
  | _ => rfl

theorem nq_dagger (g : Gate R) : nq (dagger g) = nq g := by
  induction g with
  | base nm m n h => cases h <;> rfl
  | ctrl g c ih => simp only [dagger, nq, ih]
  | dag g ih => rfl
  | exp g ih => simp only [dagger, nq, ih]
  | pow g e ih => simp only [dagger, nq, nq_power, ih]

theorem nq_controlled (g : Gate R) (j : Nat) : nq (controlled g j) = nq g + j := by
  induction g with
  | base nm m n h => rfl
  | ctrl g c ih => simp only [controlled, nq, Nat.add_assoc]
  | dag g ih => simp only [controlled, nq, nq_dagger, ih]
  | exp g ih => rfl
  | pow g e ih => simp only [controlled, nq, nq_power, ih]

theorem regular_power (k : Scal R) (g : Gate R) (e : Rat) (he : e.den = 1) (hg : Regular k g) :
    Regular k (power g e) := by
  induction g with
  | ctrl g c ih => cases hg with | ctrl _ _ hg' => exact Regular.ctrl _ _ (ih hg')
  | _ => exact Regular.pow _ e hg he

theorem regular_dagger (k : Scal R) (g : Gate R) (hg : Regular k g) : Regular k (dagger g) := by
  induction hg with
  | base nm m n h h1 h2 h3 h4 =>
    cases h
    · exact Regular.dag _ (Regular.base nm m n false h1 h2 h3 h4)
    · exact Regular.base nm m n true h1 h2 h3 h4
  | ctrl g c _ ih => exact Regular.ctrl _ _ ih
  | dag g hg _ => exact hg
  | exp g _ ih => exact Regular.exp _ ih
  | pow g e _ he ih => exact regular_power k _ e he ih

theorem regular_controlled (k : Scal R) (g : Gate R) (j : Nat) (hg : Regular k g) : Regular k (controlled g j) := by
  induction hg with
  | base nm m n h h1 h2 h3 h4 => exact Regular.ctrl _ _ (Regular.base nm m n h h1 h2 h3 h4)
  | ctrl g c hg _ => exact Regular.ctrl _ _ hg
  | dag g _ ih => exact regular_dagger k _ ih
  | exp g hg _ => exact Regular.ctrl _ _ (Regular.exp g hg)
  | pow g e _ he ih => exact regular_power k _ e he ih

theorem regular_dims (k : Scal R) (x : Ext R) (hx : ExtLaws k x) (g : Gate R) (hg : Regular k g) :
    ∀ m, matrix k x g = some m → Canon m ∧ m.r = 2 ^ nq g ∧ m.c = 2 ^ nq g := by
  induction hg with
  | base nm m n h h1 h2 h3 h4 => rintro _ ⟨⟩; exact ⟨h1, h2, h3⟩
  | ctrl g c _ ih =>
    intro m' hm'
    obtain ⟨m, hm, rfl⟩ := Option.map_eq_some_iff.mp hm'
    obtain ⟨_, h2, h3⟩ := ih m hm
    have := Nat.sub_add_cancel (two_pow_le (nq g) c)
    exact ⟨canon_ctrlMat _ _, by rw [ctrlMat_r, h2]; exact this, by rw [ctrlMat_c, h3]; exact this⟩
  | dag g _ ih =>
    intro m' hm'
    obtain ⟨m, hm, rfl⟩ := Option.map_eq_some_iff.mp hm'
    obtain ⟨_, h2, h3⟩ := ih m hm
    exact ⟨canon_adj _ _, h3, h2⟩
  | exp g _ ih => exact bind_dims _ hx.exp_canon ih
  | pow g e _ _ ih => exact bind_dims _ (fun A B => hx.pow_canon A e B) ih

theorem regular_sq {k : Scal R} {x : Ext R} (hx : ExtLaws k x) {g : Gate R} (hg : Regular k g) (m : Mat R)
    (hm : matrix k x g = some m) : Canon m ∧ m.r = m.c :=
  have ⟨h1, h2, h3⟩ := regular_dims k x hx g hg m hm
  ⟨h1, h2.trans h3.symm⟩

/-- `.power(e)` denotes the power (integer `e`) – also through `ControlledGate.power` -/
theorem power_faithful (k : Scal R) (x : Ext R) (hx : ExtLaws k x) (g : Gate R) (hg : Regular k g)
    (e : Rat) (he : e.den = 1) :
    matrix k x (power g e) = (matrix k x g).bind (fun m => x.mpow m e) := by
  induction hg with
  | ctrl g c hg ih =>
    simp only [power, matrix, nq_power, ih]
    exact (bind_map_comm (regular_sq hx hg) _ _ (fun m hm => hx.pow_ctrl m _ e hm.1 hm.2 he)).symm
  | base nm m n h h1 h2 h3 h4 => rfl
  | dag g hg _ => rfl
  | exp g hg _ => rfl
  | pow g e' hg he' _ => rfl

/-- `.dagger` denotes the adjoint on regular gates -/
theorem dagger_faithful (k : Scal R) (hk : k.cj = star) (x : Ext R) (hx : ExtLaws k x) (g : Gate R)
    (hg : Regular k g) : matrix k x (dagger g) = (matrix k x g).map (adj k) := by
  induction hg with
  | base nm m n h h1 h2 h3 h4 =>
    cases h
    · rfl
    · simp only [dagger, if_true, matrix, Option.map_some, h4 rfl]
  | ctrl g c hg ih =>
    simp only [dagger, matrix, nq_dagger, ih, Option.map_map]
    congr 1; funext m; exact (adj_ctrlMat k hk _ m).symm
  | dag g hg _ =>
    cases hm : matrix k x g with
    | none => simp only [dagger, matrix, hm, Option.map_none]
    | some m => simp only [dagger, matrix, hm, Option.map_some, adj_adj k hk m (regular_sq hx hg m hm).1]
  | exp g hg ih =>
    simp only [dagger, matrix, ih]
    exact bind_map_comm (regular_sq hx hg) _ _ (fun m hm => hx.exp_adj m hm.1 hm.2)
  | pow g e hg he ih =>
    simp only [dagger, matrix]
    rw [power_faithful k x hx _ (regular_dagger k g hg) e he, ih]
    exact bind_map_comm (regular_sq hx hg) _ _ (fun m hm => hx.pow_adj m e hm.1 hm.2 he)

/-- `.controlled(j)` denotes `diag(1, M)` with the identity block filling up to `2^(nq + j)`, on regular gates:
    controls merge (`ctrlMat_ctrlMat`), and a dagger or power above commutes with the block form -/
theorem controlled_faithful (k : Scal R) (hk : k.cj = star) (x : Ext R) (hx : ExtLaws k x) (g : Gate R)
    (hg : Regular k g) (j : Nat) :
    matrix k x (controlled g j) = (matrix k x g).map (ctrlMat (2 ^ (nq g + j) - 2 ^ nq g)) := by
  induction hg with
  | base nm m n h h1 h2 h3 h4 => rfl
  | exp g hg _ => rfl
  | ctrl g c hg _ =>
    simp only [controlled, matrix, nq, Option.map_map]
    congr 1; funext m
    have h1 := two_pow_le (nq g) c
    have h2 := two_pow_le (nq g + c) j
    rw [Function.comp, ctrlMat_ctrlMat, Nat.add_assoc]
    rw [Nat.add_assoc] at h2
    congr 1; omega
  | dag g hg ih =>
    simp only [controlled, matrix, nq, Option.map_map]
    rw [dagger_faithful k hk x hx _ (regular_controlled k g j hg), ih, Option.map_map]
    congr 1; funext m; exact adj_ctrlMat k hk _ m
  | pow g e hg he ih =>
    simp only [controlled, matrix, nq]
    rw [power_faithful k x hx _ (regular_controlled k g j hg) e he, ih]
    exact bind_map_comm (regular_sq hx hg) _ _ (fun m hm => hx.pow_ctrl m _ e hm.1 hm.2 he)

/-- `.controlled(1)` denotes `diag(1, M)` on regular gates -/
theorem ctrl_faithful (k : Scal R) (hk : k.cj = star) (x : Ext R) (hx : ExtLaws k x) (g : Gate R)
    (hg : Regular k g) :
    matrix k x (controlled g 1) = (matrix k x g).map (ctrlMat (2 ^ nq g)) := by
  rw [controlled_faithful k hk x hx g hg 1, Nat.pow_succ, Nat.mul_two, Nat.add_sub_cancel]

end Gate

namespace Link
variable {R : Type} [CommRing R] [StarRing R]

/-- an external that knows only the first power (`M ** 1 = M`): it satisfies the assumed laws -/
def xPow1 : Ext R := ⟨fun _ => none, fun m e => if e = 1 then some m else none⟩

theorem xPow1_laws (k : Scal R) : Gate.ExtLaws k (xPow1 : Ext R) :=
  { exp_canon := fun _ _ _ h => nomatch h
    pow_canon := fun A e B hA h => by
      obtain ⟨-, ⟨⟩⟩ := Option.ite_none_right_eq_some.mp h
      exact ⟨hA, rfl, rfl⟩
    exp_adj := fun _ _ _ => rfl
    pow_adj := fun A e _ _ _ => (apply_ite (Option.map (Gate.adj k)) (e = 1) (some A) none).symm
    pow_ctrl := fun A d e _ _ _ => (apply_ite (Option.map (Gate.ctrlMat d)) (e = 1) (some A) none).symm }

/-- the external that always raises: it satisfies the assumed laws vacuously -/
def xNone : Ext R := ⟨fun _ => none, fun _ _ => none⟩

theorem xNone_laws (k : Scal R) : Gate.ExtLaws k (xNone : Ext R) :=
  { exp_canon := fun _ _ _ h => nomatch h
    pow_canon := fun _ _ _ _ h => nomatch h
    exp_adj := fun _ _ _ => rfl
    pow_adj := fun _ _ _ _ _ => rfl
    pow_ctrl := fun _ _ _ _ _ _ => rfl }

end Link
end OQ.C08
