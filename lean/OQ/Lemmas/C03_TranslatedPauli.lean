/- C03 — what the tie between the TRANSLATED classes PauliTerm / PauliSum (`OQ/Generated/TranslatedC03.lean`, regenerated from
   /repo by harness/translate_t7.py) and the hand-written model `OQ/Model/C03.lean` rests on: the embedding of model terms into object
   states, the dict operations of the prelude on embedded dicts, loops that never raise. -/
import OQ.Lemmas.C03_Eq
import OQ.Lemmas.PyT4
import OQ.Lemmas.Fold
import OQ.Generated.TranslatedC03

set_option linter.unusedSectionVars false
set_option linter.unusedSimpArgs false
set_option linter.unusedVariables false

namespace OQ.C03
open OQ.Pauli OQ.Py OQ.Generated

variable {R : Type} [CommRing R] (k : Scal R) (x : TranslatedPauli.Ext R)

/-- the dict `_ops` of a model term: the same keys in the same order, letters as Python strs (`some p`; "I" never occurs) -/
def up (ops : List (Nat × P)) : Dict Nat TranslatedPauli.Letter := ops.map (fun p => (p.1, some p.2))

/-- the object state of a model term -/
def ofTerm (t : Term R) : TranslatedPauli.PTerm R := ⟨up t.ops, t.coeff⟩

/-- the object state of a model sum -/
def ofSum (s : PSum R) : TranslatedPauli.PSum R := s.map ofTerm

/-- a model value as a Python value -/
def ofVal : Val R → TranslatedPauli.PVal R
  | .num x => .num x
  | .term t => .term (ofTerm t)
  | .sum s => .sum (ofSum s)

/-- the model's parameters read off the translated code's externals -/
def neglOf (x : TranslatedPauli.Ext R) : R → Bool := fun c => x.isclose c 0
def recipOf (x : TranslatedPauli.Ext R) : R → Option R := fun y => x.truediv 1 y

/-- LAW of the externals assumed (explicitly) by the ties of `__truediv__`: a number that Python's `==` calls equal to 0
    (`x.num_eq c 0`: the guard `if isinstance(other, Number) and other == 0: raise ZeroDivisionError` of the repaired source) has no
    quotient `1.0 / c` either.  It holds of Python numbers (0, 0.0, 0j, False: `1.0 / c` raises ZeroDivisionError); the guard only
    extends ZeroDivisionError to the numpy zeros, for which `1.0 / c` is inf – these are outside the model's numbers.  Under the law
    the guard raises nothing that `1.0 / c` would not raise (`truediv_guard`).
    SATISFIABLE: `ext_zeroDivLaw` of OQ/Generated/TranslatedDriverT7.lean proves it of the externals the self-check runs with, and
    `zeroDivLaw_sat` below of a family over every ring with decidable equality. -/
def ZeroDivLaw (x : TranslatedPauli.Ext R) : Prop := ∀ c : R, x.num_eq c 0 = true → x.truediv 1 c = none

theorem zeroDivLaw_sat [DecidableEq R] (isc allc : R → R → Bool) (quot : R → R → R) (it : List Nat → List Nat) :
    ZeroDivLaw (⟨isc, allc, fun a b => if b = 0 then none else some (quot a b), fun a b => decide (a = b), it⟩ : TranslatedPauli.Ext R) := by
  intro c h
  have hc : c = 0 := of_decide_eq_true h
  simp [hc]

@[simp] theorem ofTerm_ops (t : Term R) : (ofTerm t)._ops = up t.ops := rfl
@[simp] theorem ofTerm_coeff (t : Term R) : (ofTerm t).coefficient = t.coeff := rfl
@[simp] theorem up_nil : up [] = [] := rfl
@[simp] theorem up_cons (p : Nat × P) (ops : List (Nat × P)) : up (p :: ops) = (p.1, some p.2) :: up ops := rfl
theorem up_append (a b : List (Nat × P)) : up (a ++ b) = up a ++ up b := by simp [up]
theorem up_keys (ops : List (Nat × P)) : dictKeys (up ops) = ops.map (·.1) := by simp [up, dictKeys, List.map_map, Function.comp_def]

theorem dictHas_up (ops : List (Nat × P)) (q : Nat) : dictHas (up ops) q = (lookup ops q).isSome := by
  induction ops with
  | nil => rfl
  | cons p ops ih =>
    rw [lookup_cons]
    simp only [up_cons, dictHas, List.any_cons] at ih ⊢
    by_cases h : p.1 = q
    · simp [h]
    · simp [h, ih]

theorem dictGetE_up (ops : List (Nat × P)) (q : Nat) :
    dictGetE (up ops) q = match lookup ops q with | some a => .ok (some a) | none => .error .key := by
  induction ops with
  | nil => rfl
  | cons p ops ih =>
    rw [lookup_cons]
    simp only [up_cons, dictGetE]
    by_cases h : p.1 = q
    · simp [h]
    · simp [h, ih]

theorem dictGetD_up (ops : List (Nat × P)) (q : Nat) : dictGetD (up ops) q none = lookup ops q := by
  induction ops with
  | nil => rfl
  | cons p ops ih =>
    rw [lookup_cons]
    simp only [up_cons, dictGetD]
    by_cases h : p.1 = q
    · simp [h]
    · simp [h, ih]

theorem dictSet_up_new (ops : List (Nat × P)) (q : Nat) (o : P) (h : lookup ops q = none) :
    dictSet (up ops) q (some o) = up (ops ++ [(q, o)]) := by
  rw [dictSet_of_not_mem, up_append]
  · rfl
  · rw [up_keys]; exact (lookup_none_iff ops q).mp h

theorem opsSet_of_not_mem (ops : List (Nat × P)) (q : Nat) (o : P) (h : q ∉ ops.map (·.1)) : opsSet ops q o = ops := by
  unfold opsSet
  conv_rhs => rw [← List.map_id ops]
  refine List.map_congr_left fun a ha => ?_
  have : a.1 ≠ q := fun e => h (e ▸ List.mem_map_of_mem (f := (·.1)) ha)
  simp [this]

/-- `d[q] = o` for a key that is present: the first entry with that key is replaced – the only one, in a dict -/
theorem dictSet_up_old (ops : List (Nat × P)) (q : Nat) (o : P) (w : OpsWF ops) (h : (lookup ops q).isSome) :
    dictSet (up ops) q (some o) = up (opsSet ops q o) := by
  induction ops with
  | nil => cases h
  | cons p ops ih =>
    obtain ⟨hp, w'⟩ := List.nodup_cons.mp w
    rw [lookup_cons] at h
    simp only [up_cons, dictSet]
    by_cases hq : p.1 = q
    · subst hq
      have hs : opsSet (p :: ops) p.1 o = (p.1, o) :: ops := by
        unfold opsSet
        rw [List.map_cons, if_pos (beq_self_eq_true _)]
        exact congrArg _ (opsSet_of_not_mem ops p.1 o hp)
      rw [hs]; simp
    · rw [if_neg hq] at h
      rw [if_neg (by simpa using hq), ih w' h]
      simp [opsSet, up, hq]

theorem dictDelE_up (ops : List (Nat × P)) (q : Nat) (h : (lookup ops q).isSome) :
    dictDelE (up ops) q = .ok (up (opsErase ops q)) := by
  unfold dictDelE
  rw [dictHas_up, h]
  simp only [if_true]
  congr 1
  simp only [up, opsErase, List.filter_map]
  congr 1

theorem foldl_dictSet_nodup (l acc : Dict Nat TranslatedPauli.Letter) (h : (dictKeys (acc ++ l)).Nodup) :
    l.foldl (fun (acc : Dict Nat TranslatedPauli.Letter) (p0 : Nat × TranslatedPauli.Letter) => dictSet acc p0.1 p0.2) acc = acc ++ l := by
  induction l generalizing acc with
  | nil => simp
  | cons p l ih =>
    rw [List.foldl_cons, dictSet_of_not_mem]
    · rw [ih]
      · simp
      · simpa using h
    · simp only [dictKeys, List.map_append, List.map_cons] at h
      have := (List.nodup_append.mp h).2.2
      intro hm
      exact this _ hm _ (List.mem_cons_self) rfl

theorem term_init_up (ops : List (Nat × P)) (c : R) (w : OpsWF ops) :
    TranslatedPauli.term_init k x (up ops) (some c) = .ok (ofTerm ⟨ops, c⟩) := by
  have h1 : ((dictKeys (up ops)).map (fun (qubit_idx : Nat) => decide (qubit_idx ≥ (0 : Nat)))).all id = true := by
    simp
  have h2 : ((dictValues (up ops)).map (fun (op : TranslatedPauli.Letter) => TranslatedPauli.ALLOWED_OPERATORS.contains op)).all id = true := by
    rw [List.all_map, List.all_eq_true]
    intro v hv
    simp only [dictValues, up, List.map_map, List.mem_map, Function.comp] at hv
    obtain ⟨p, _, rfl⟩ := hv
    rcases p with ⟨q, a⟩
    cases a <;> rfl
  have h3 : (dictItems (up ops)).filter (fun (p0 : Nat × TranslatedPauli.Letter) => !(p0.2 == (none : TranslatedPauli.Letter))) = up ops := by
    rw [dictItems, List.filter_eq_self]
    simp only [up, List.mem_map]
    rintro _ ⟨p, _, rfl⟩
    simp
  unfold TranslatedPauli.term_init
  simp only [h1, h2, Bool.not_true, Bool.false_eq_true, if_false]
  rw [h3, foldl_dictSet_nodup]
  · rfl
  · simpa [up_keys, OpsWF] using w

theorem term_copy_some (t : Term R) (c : R) (w : OpsWF t.ops) :
    TranslatedPauli.term_copy k x (ofTerm t) (some c) = .ok (ofTerm ⟨t.ops, c⟩) := by
  unfold TranslatedPauli.term_copy
  simp only [ofTerm_ops]
  exact term_init_up k x t.ops c w

theorem term_copy_none (t : Term R) (w : OpsWF t.ops) :
    TranslatedPauli.term_copy k x (ofTerm t) none = .ok (ofTerm t) := by
  unfold TranslatedPauli.term_copy
  simp only [ofTerm_ops, ofTerm_coeff]
  exact term_init_up k x t.ops t.coeff w

theorem opmap_lookup (a o : P) (h : a ≠ o) :
    dictGetE TranslatedPauli.OPERATOR_MAP (TranslatedPauli.ordL (some a) + TranslatedPauli.ordL (some o)) = .ok (some (Gen.opTable a o)) := by
  cases a <;> cases o <;> first | exact absurd rfl h | rfl

theorem coeffmap_lookup (a o : P) (h : a ≠ o) :
    dictGetE (TranslatedPauli.COEFF_MAP k) [some a, some o] = .ok (phase k (Gen.coeffTable a o)) := by
  cases a <;> cases o <;> first | exact absurd rfl h | rfl

theorem foldlE_emb {σ τ α β : Type} (f : σ → α → Except Exc4 σ) (emb : τ → σ) (h : β → α) (g : τ → β → τ) (P : τ → Prop)
    (l : List β) (hf : ∀ s, ∀ b ∈ l, P s → f (emb s) (h b) = .ok (emb (g s b)) ∧ P (g s b)) (s : τ) (hs : P s) :
    foldlE f (emb s) (l.map h) = .ok (emb (l.foldl g s)) ∧ P (l.foldl g s) := by
  induction l generalizing s with
  | nil => exact ⟨rfl, hs⟩
  | cons b l ih =>
    obtain ⟨h1, h2⟩ := hf s b List.mem_cons_self hs
    simp only [List.map_cons, foldlE, h1, List.foldl_cons]
    exact ih (fun s b hb => hf s b (List.mem_cons_of_mem _ hb)) _ h2

theorem foldlE_ok {σ α : Type} (f : σ → α → Except Exc4 σ) (g : σ → α → σ) (P : σ → Prop)
    (hf : ∀ s a, P s → f s a = .ok (g s a) ∧ P (g s a)) (s : σ) (hs : P s) (l : List α) :
    foldlE f s l = .ok (l.foldl g s) ∧ P (l.foldl g s) := by
  simpa using foldlE_emb f id id g P l (fun s a _ => hf s a) s hs

theorem mapE_ok_on {α β : Type} (f : α → Except Exc4 β) (g : α → β) (l : List α) (h : ∀ a ∈ l, f a = .ok (g a)) :
    mapE f l = .ok (l.map g) :=
  (mapE_congr f (fun a => .ok (g a)) l h).trans (mapE_ok g l)

theorem mulTermOrd_iter_id (it : List Nat → List Nat) (hid : ∀ l, it l = l) :
    (fun t u : Term R => mulTermOrd k (it (keys u.ops)) t u) = mulTerm k := by
  funext t u; rw [hid]; rfl

theorem int_pow_tests (p : Nat) :
    ((p : Int) == 0) = decide (p = 0) ∧ (Int.fmod (p : Int) 2 == 1) = decide (p % 2 = 1) ∧ Int.fdiv (p : Int) 2 = ((p / 2 : Nat) : Int) := by
  refine ⟨by by_cases h : p = 0 <;> simp [h], ?_, ?_⟩
  · rw [Int.fmod_eq_emod_of_nonneg _ (by decide), show (p : Int) % 2 = ((p % 2 : Nat) : Int) by norm_cast]
    by_cases h : p % 2 = 1
    · simp [h]
    · simpa [h] using (by omega : (p : Int) % 2 = 0)
  · rw [Int.fdiv_eq_ediv_of_nonneg _ (by decide)]; norm_cast

/-- `_efficient_exponentiation` as the translator renders it for either class: `F` is the recursion on the int exponent with explicit
    fuel (exhaustion = RecursionError), `hF` its defining equation, `oneE` / `mulE` the object-level unit and product. -/
theorem fuelExp_tie {A α : Type} (F : Nat → A → Int → Except Exc4 A) (oneE : Except Exc4 A) (mulE : A → A → Except Exc4 A)
    (hF : ∀ f a p, F (f + 1) a p = if p == 0 then oneE else if Int.fmod p 2 == 1 then
      Except.bind (F f a (p - 1)) (fun r => mulE a r) else Except.bind (F f a (Int.fdiv p 2)) (fun r => mulE r r))
    (emb : α → A) (I : α → Prop) (one : α) (mul : α → α → α) (hone : oneE = .ok (emb one) ∧ I one)
    (hmul : ∀ a b, I a → mulE (emb a) (emb b) = .ok (emb (mul a b)) ∧ I (mul a b)) (x : α) (hx : I x) (p : Nat) :
    ∀ fuel, p + 1 ≤ fuel → F fuel (emb x) (p : Int) = .ok (emb (effExp mul one x p)) ∧ I (effExp mul one x p) := by
  refine effExp_induction mul one x (fun p r => ∀ fuel, p + 1 ≤ fuel → F fuel (emb x) (p : Int) = .ok (emb r) ∧ I r) ?_ ?_ ?_ p
  · intro fuel hf
    obtain ⟨f, rfl⟩ : ∃ f, fuel = f + 1 := ⟨fuel - 1, by omega⟩
    rw [hF]
    exact hone
  · intro p r h1 ih fuel hf
    obtain ⟨f, rfl⟩ : ∃ f, fuel = f + 1 := ⟨fuel - 1, by omega⟩
    obtain ⟨t0, t1, _⟩ := int_pow_tests p
    have e := ih f (by omega)
    rw [hF, t0, t1, decide_eq_false (by omega), decide_eq_true h1, if_neg Bool.false_ne_true, if_pos rfl,
      show (p : Int) - 1 = ((p - 1 : Nat) : Int) by omega, e.1]
    exact hmul x r hx
  · intro p r h0 h1 ih fuel hf
    obtain ⟨f, rfl⟩ : ∃ f, fuel = f + 1 := ⟨fuel - 1, by omega⟩
    obtain ⟨t0, t1, t2⟩ := int_pow_tests p
    have e := ih f (by omega)
    rw [hF, t0, t1, t2, decide_eq_false h0, decide_eq_false h1, if_neg Bool.false_ne_true, if_neg Bool.false_ne_true, e.1]
    exact hmul r r e.2

/-- `__truediv__` of either class: the zero guard, then `1.0 / other` handed to a product `F` that never raises -/
theorem truediv_guard {α : Type} (x : TranslatedPauli.Ext R) (hz : ZeroDivLaw x) (c : R) (F : R → Except Exc4 α) (G : R → α)
    (hF : ∀ r, F r = .ok (G r)) :
    (if (true && x.num_eq c 0) then .error .zeroDiv else Except.bind (ofOption Exc4.zeroDiv (x.truediv 1 c)) F)
      = match recipOf x c with | some r => .ok (G r) | none => .error .zeroDiv := by
  unfold recipOf
  cases hg : x.num_eq c 0 with
  | true => rw [hz c hg]; rfl
  | false => cases x.truediv 1 c with
    | none => rfl
    | some r => exact hF r

theorem foldl_max_map_le {α : Type} (f : α → Nat) (l : List α) (a b : Nat) :
    l.foldl (fun acc x => max acc (f x)) a ≤ b ↔ a ≤ b ∧ ∀ x ∈ l, f x ≤ b := by
  rw [← List.forall_mem_map (P := (· ≤ b)), ← foldl_max_le_iff, List.foldl_map]

/-- `0 if self.is_constant else max(self.qubits) + 1`, where `is_constant` says that the set `S` of qubits is empty, is the least `b`
    with `q + 1 ≤ b` for every qubit `q`; the `max` of an empty set (ValueError) is never taken -/
theorem nQubits_tie (S : List Nat) (c : Bool) (b : Nat) (hc : c = true ↔ ∀ q, q ∉ S) (hb : ∀ m, b ≤ m ↔ ∀ q ∈ S, q + 1 ≤ m) :
    (if c then Except.ok 0 else Except.bind (maxNatE S) (fun m => Except.ok (m + 1))) = (Except.ok b : Except Exc4 Nat) := by
  cases S with
  | nil => rw [if_pos (hc.mpr fun _ => List.not_mem_nil), Nat.le_zero.mp ((hb 0).mpr nofun)]
  | cons h tl =>
    rw [if_neg fun hc' => hc.mp hc' h List.mem_cons_self]
    have hub : ∀ q ∈ h :: tl, q ≤ tl.foldl max h := List.forall_mem_cons.mpr (le_foldl_max tl h)
    exact congrArg _ (Nat.le_antisymm ((hb _).mp le_rfl _ (foldl_max_mem tl h))
      ((hb _).mpr fun q hq => Nat.succ_le_succ (hub q hq)))

theorem setOfList_keys (ops : List (Nat × P)) : setOfList (dictKeys (up ops)) = keys ops := by
  rw [up_keys]
  unfold setOfList keys
  rw [List.foldl_map]

theorem dictFind_up (ops : List (Nat × P)) (q : Nat) : dictFind? (up ops) q = (lookup ops q).map some := by
  induction ops with
  | nil => rfl
  | cons p ops ih =>
    rw [lookup_cons]
    simp only [up_cons, dictFind?]
    by_cases h : p.1 = q
    · simp [h]
    · simp [h, ih]

theorem frozenItemsEq_up (a b : List (Nat × P)) : frozenItemsEq (up a) (up b) = opsEq a b := by
  unfold frozenItemsEq opsEq
  have h : ∀ (a b : List (Nat × P)), (up a).all (fun p => dictFind? (up b) p.1 == some p.2) = a.all (fun p => lookup b p.1 == some p.2) := by
    intro a b
    simp only [up, List.all_map]
    congr 1
    funext p
    simp only [Function.comp]
    have := dictFind_up b p.1
    simp only [up] at this
    rw [this]
    cases lookup b p.1 <;> simp
  rw [h a b, h b a]

/-- the value of the OrderedDict `like_terms` for a list of model groups: key = the first term's `operations` -/
def ofGroups (gs : List (Group R)) : Dict (FrozenItems Nat TranslatedPauli.Letter) (List (TranslatedPauli.PTerm R)) :=
  gs.map (fun g => (up g.first.ops, ofTerm g.first :: g.rest.map ofTerm))

/-- the body of the first loop of `simplify` (as generated) -/
def likeStep (k : Scal R) (x : TranslatedPauli.Ext R)
    (like_terms : Dict (FrozenItems Nat TranslatedPauli.Letter) (List (TranslatedPauli.PTerm R))) (term : TranslatedPauli.PTerm R) :
    Except Exc4 (Dict (FrozenItems Nat TranslatedPauli.Letter) (List (TranslatedPauli.PTerm R))) :=
  let key := TranslatedPauli.term_operations k x term
  if dictHasBy frozenItemsEq like_terms key then
    Except.bind (dictGetByE frozenItemsEq like_terms key) (fun l =>
      Except.ok (dictSetBy frozenItemsEq like_terms key (l ++ [term])))
  else Except.ok (dictSetBy frozenItemsEq like_terms key [term])

theorem likeStep_cons (p) (d) (term : TranslatedPauli.PTerm R) :
    likeStep k x (p :: d) term =
      if frozenItemsEq p.1 (TranslatedPauli.term_operations k x term) then .ok ((p.1, p.2 ++ [term]) :: d)
      else (likeStep k x d term).map (p :: ·) := by
  unfold likeStep
  generalize TranslatedPauli.term_operations k x term = key
  simp only [dictHasBy, List.any_cons, dictGetByE, dictSetBy]
  by_cases h : frozenItemsEq p.1 key = true
  · simp only [h, Bool.true_or, if_true]; rfl
  · simp only [h, Bool.false_or, Bool.false_eq_true, if_false]
    by_cases h2 : (d.any fun q => frozenItemsEq q.1 key) = true
    · simp only [h2, if_true]
      cases dictGetByE frozenItemsEq d key <;> rfl
    · simp only [h2, Bool.false_eq_true, if_false]; rfl

theorem likeStep_eq (gs : List (Group R)) (t : Term R) :
    likeStep k x (ofGroups gs) (ofTerm t) = .ok (ofGroups (insertGroup gs t)) := by
  induction gs with
  | nil => rfl
  | cons g gs ih =>
    rw [ofGroups, List.map_cons, likeStep_cons, ← ofGroups, ih]
    simp only [TranslatedPauli.term_operations, dictItems, ofTerm_ops, frozenItemsEq_up, insertGroup]
    split
    · simp only [ofGroups, List.map_cons, List.map_append, List.map_nil, List.cons_append]
    · rfl
theorem likeLoop_eq (s : PSum R) (gs : List (Group R)) :
    foldlE (likeStep k x) (ofGroups gs) (ofSum s) = .ok (ofGroups (s.foldl insertGroup gs)) :=
  (foldlE_emb (likeStep k x) ofGroups ofTerm insertGroup (fun _ => True) s (fun gs t _ _ => ⟨likeStep_eq k x gs t, trivial⟩) gs
    trivial).1

/-- the body of the second loop of `simplify` (as generated) -/
def emitStep (k : Scal R) (x : TranslatedPauli.Ext R) (terms : List (TranslatedPauli.PTerm R)) (term_list : List (TranslatedPauli.PTerm R)) :
    Except Exc4 (List (TranslatedPauli.PTerm R)) :=
  Except.bind (indexE term_list (0 : Int)) (fun first_term =>
    if ((((term_list.length : Nat) : Int) == (1 : Int)) && (!(x.isclose first_term.coefficient (0 : R)))) then
      Except.ok (terms ++ [first_term])
    else
      let coeff : R := ((term_list.map (fun (t : TranslatedPauli.PTerm R) => t.coefficient)).foldl (fun (acc : R) (c : R) => acc + c) (0 : R))
      if (!(x.isclose coeff (0 : R))) then
        Except.bind (indexE term_list (0 : Int)) (fun t3 =>
          Except.bind (TranslatedPauli.term_copy k x t3 (some coeff)) (fun t4 => Except.ok (terms ++ [t4])))
      else Except.ok terms)

theorem emitStep_eq (terms : List (TranslatedPauli.PTerm R)) (g : Group R)
    (w : OpsWF g.first.ops) :
    emitStep k x terms (ofTerm g.first :: g.rest.map ofTerm) = .ok (terms ++ ofSum (simplifyGroup (neglOf x) g)) := by
  unfold emitStep simplifyGroup
  have hsum : (((ofTerm g.first :: g.rest.map ofTerm).map (fun (t : TranslatedPauli.PTerm R) => t.coefficient)).foldl
      (fun (acc : R) (c : R) => acc + c) (0 : R)) = g.coeffSum := by
    unfold Group.coeffSum
    rw [← List.map_cons, List.map_map, List.foldl_map]
    rfl
  have hlen : ((((ofTerm g.first :: g.rest.map ofTerm).length : Nat) : Int) == (1 : Int)) = g.rest.isEmpty := by
    cases g.rest with
    | nil => rfl
    | cons a l => simpa using fun h => by omega
  rw [indexE_zero_cons]
  simp only [bind_ok, hsum, hlen, neglOf, ofTerm_coeff]
  by_cases h1 : (g.rest.isEmpty && !x.isclose g.first.coeff 0) = true
  · simp [h1, ofSum]
  · simp only [h1, if_false, Bool.false_eq_true]
    by_cases h2 : (!x.isclose g.coeffSum 0) = true
    · simp only [h2, if_true]
      rw [term_copy_some k x g.first _ w]
      simp [ofSum]
    · simp [h2, ofSum]

theorem emitLoop_eq (gs : List (Group R)) (w : ∀ g ∈ gs, OpsWF g.first.ops) :
    foldlE (emitStep k x) [] (dictValues (ofGroups gs)) = .ok (ofSum (gs.flatMap (simplifyGroup (neglOf x)))) := by
  rw [List.flatMap_eq_foldl, dictValues, ofGroups, List.map_map]
  exact (foldlE_emb (emitStep k x) ofSum _ (fun acc g => acc ++ simplifyGroup (neglOf x) g) (fun _ => True) gs
    (fun acc g hg _ => ⟨(emitStep_eq k x _ g (w g hg)).trans (by simp [ofSum]), trivial⟩) [] trivial).1

theorem insertGroup_wf (gs : List (Group R)) (t : Term R) (w : ∀ g ∈ gs, OpsWF g.first.ops) (wt : OpsWF t.ops) :
    ∀ g ∈ insertGroup gs t, OpsWF g.first.ops :=
  insertGroup_first (Q := fun t => OpsWF t.ops) gs t w wt

theorem sum_init_ok (l : List (TranslatedPauli.PTerm R)) :
    TranslatedPauli.sum_init k x l = .ok l := by
  unfold TranslatedPauli.sum_init
  have : ((l.map (fun (term : TranslatedPauli.PTerm R) => true)).all id) = true := by simp
  simp [this]

theorem simplify_wf (negl : R → Bool) (s : PSum R) (hs : ∀ t ∈ s, OpsWF t.ops) : ∀ t ∈ simplify negl s, OpsWF t.ops := by
  intro t ht
  obtain ⟨u, hu, e⟩ := simplify_ops_mem ht
  exact e ▸ hs u hu

end OQ.C03
