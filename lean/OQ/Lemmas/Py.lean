import OQ.Exec.Py
import OQ.Model.C04
import Mathlib.Tactic.IntervalCases
namespace OQ.Py

theorem charDigit_digitChar (d : Nat) (h : d < 10) : charDigit (digitChar d) = (d : Int) := by
  interval_cases d <;> rfl

theorem binDigitsFuel_eq (f i : Nat) : binDigitsFuel f i = OQ.C04.binDigitsFuel f i := by
  induction f generalizing i with
  | zero => rfl
  | succ f ih => simp only [binDigitsFuel, OQ.C04.binDigitsFuel, ih]

theorem binDigits_eq (i : Nat) : binDigits i = OQ.C04.binDigits i := binDigitsFuel_eq i i

theorem binDigitsFuel_lt_two (f i : Nat) : ∀ d ∈ binDigitsFuel f i, d < 2 := by
  induction f generalizing i with
  | zero => intro d hd; simp [binDigitsFuel] at hd; omega
  | succ f ih =>
    intro d hd
    simp only [binDigitsFuel] at hd
    split at hd
    · simp at hd; omega
    · simp only [List.mem_append, List.mem_singleton] at hd
      rcases hd with h | h
      · exact ih _ d h
      · omega

theorem map_charDigit_digitChar (l : List Nat) (h : ∀ d ∈ l, d < 10) :
    (l.map digitChar).map charDigit = l.map Int.ofNat := by
  induction l with
  | nil => rfl
  | cons a l ih =>
    simp only [List.map_cons]
    rw [charDigit_digitChar a (h a (by simp)), ih (fun d hd => h d (by simp [hd]))]
    rfl

theorem bin_ofNat (i : Nat) : bin (i : Int) = '0' :: 'b' :: (binDigits i).map digitChar := by
  unfold bin
  simp

theorem sliceFrom_bin (i : Nat) : sliceFrom (bin (i : Int)) 2 = (binDigits i).map digitChar := by
  rw [bin_ofNat]; rfl

theorem binDigitsFuel_ne_nil (f i : Nat) : binDigitsFuel f i ≠ [] := by
  cases f with
  | zero => simp [binDigitsFuel]
  | succ f => simp only [binDigitsFuel]; split <;> simp

theorem digitChar_not_sign (d : Nat) (h : d < 10) : (digitChar d == '-' || digitChar d == '+') = false := by
  interval_cases d <;> rfl

theorem zfill_digits (l : List Nat) (hne : l ≠ []) (h : ∀ d ∈ l, d < 10) (w : Nat) :
    zfill (l.map digitChar) (w : Int) = (List.replicate (w - l.length) 0 ++ l).map digitChar := by
  cases l with
  | nil => exact absurd rfl hne
  | cons a l =>
    simp only [zfill, List.map_cons, digitChar_not_sign a (h a (by simp)), Bool.false_eq_true, if_false,
      Int.toNat_natCast, List.length_cons, List.length_map, List.map_append, List.map_replicate]
    rfl

end OQ.Py
