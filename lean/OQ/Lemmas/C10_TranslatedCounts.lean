/- Shots as int tuples / as bitstrings (`encT`, `encS`), histograms as Python dicts (`countsToPy`, `intCountsToPy`), the loops of the
   translated counting methods against the model's recursions, and `get_distribution` through the translated C17 constructor. -/
import OQ.Lemmas.C10
import OQ.Lemmas.Fold
import OQ.Lemmas.PyT4
import OQ.Generated.TranslatedC10
import OQ.Lemmas.C13_Iter
import OQ.Lemmas.C17_TranslatedDist
namespace OQ.C10
open OQ.Generated OQ.Py

/-- a shot as the tuple of ints `Measurements.bitstrings` holds -/
def encT (s : Shot) : List Int := s.map (fun b => if b then 1 else 0)
/-- a shot as the bitstring `get_counts` uses as key -/
def encS (s : Shot) : List Char := s.map (fun b => if b then '1' else '0')
/-- a histogram of the model as the Python dict (bitstring ↦ int count) -/
def countsToPy (c : Counts) : OQ.Py.Dict (List Char) Int := c.map (fun p => (encS p.1, (p.2 : Int)))
/-- a histogram with int counts (what `add_counts` accepts) as the Python dict -/
def intCountsToPy (c : List (Shot × Int)) : OQ.Py.Dict (List Char) Int := c.map (fun p => (encS p.1, p.2))

theorem map_bool_injective {α : Type} (a b : α) (h : a ≠ b) :
    Function.Injective (List.map (fun x : Bool => if x then a else b)) :=
  List.map_injective_iff.mpr fun x y hxy => by cases x <;> cases y <;> simp_all [h.symm]

theorem encS_injective : Function.Injective encS := map_bool_injective '1' '0' (by decide)

theorem encT_injective : Function.Injective encT := map_bool_injective 1 0 (by decide)

@[simp] theorem length_encT (s : Shot) : (encT s).length = s.length := List.length_map _

theorem nodup_map_keys {κ κ' ν ν' : Type} (enc : κ → κ') (he : Function.Injective enc) (f : κ × ν → ν')
    (c : List (κ × ν)) (h : (c.map (fun p => p.1)).Nodup) :
    ((c.map (fun p => (enc p.1, f p))).map (fun p => p.1)).Nodup := by
  have := h.map he
  rwa [List.map_map] at this ⊢

theorem join_nil_singletons (l : List Char) : OQ.Py.join [] (l.map (fun c => [c])) = l := by
  rw [join_nil_eq, ← List.flatMap_def, List.flatMap_singleton']

theorem dictSet_bump (c : Counts) (k : Shot) :
    dictSet (countsToPy c) (encS k) (counterGet (countsToPy c) (encS k) + 1) = countsToPy (c.bump k) := by
  induction c with
  | nil => rfl
  | cons p rest ih =>
    obtain ⟨k', v⟩ := p
    simp only [countsToPy, List.map_cons, dictSet, counterGet, Counts.bump] at ih ⊢
    by_cases h : k' = k
    · subst h; simp
    · have : ¬ (encS k' == encS k) = true := fun he => h (encS_injective (eq_of_beq he))
      rw [if_neg this, if_neg this, if_neg h, List.map_cons, ih]

theorem counterOfList_foldl (shots : List Shot) (acc : Counts) :
    (shots.map encS).foldl (fun c x => dictSet c x (counterGet c x + 1)) (countsToPy acc) = countsToPy (shots.foldl Counts.bump acc) := by
  induction shots generalizing acc with
  | nil => rfl
  | cons s rest ih => simp only [List.map_cons, List.foldl_cons, dictSet_bump, ih]

/-- the sum of the counts of a Python histogram -/
def pyTotal {κ : Type} (d : OQ.Py.Dict κ Int) : Int := (d.map (fun p => p.2)).sum

theorem pyTotal_counterOfList {κ : Type} [BEq κ] (xs : List κ) : pyTotal (counterOfList xs) = xs.length := by
  have h := OQ.C13.foldl_add_hom pyTotal (fun c x => dictSet c x (counterGet c x + 1)) (fun _ => (1 : Int))
    (fun d x => OQ.C13.dictSet_add_total d x 1) xs []
  rw [List.map_const', List.sum_replicate, nsmul_one] at h
  exact h.trans (zero_add _)

theorem countsToPy_cast (c : Counts) : countsToPy c = intCountsToPy (castCounts c) := by
  simp [countsToPy, intCountsToPy, castCounts]

theorem castCounts_keys (c : Counts) : (castCounts c).map (fun p => p.1) = c.keys := by
  simp [castCounts, Counts.keys]

theorem dictKeys_countsToPy (c : Counts) : dictKeys (countsToPy c) = (c.map (fun p => p.1)).map encS := by
  simp only [dictKeys, countsToPy, List.map_map, Function.comp_def]

theorem dictValues_countsToPy (c : Counts) : dictValues (countsToPy c) = (c.map (fun p => p.2)).map Int.ofNat := by
  simp only [dictValues, countsToPy, List.map_map, Function.comp_def, Int.ofNat_eq_natCast]

theorem intOfStr_bit (b : Bool) : intOfStr [if b then '1' else '0'] = .ok (if b then 1 else 0) := by
  cases b <;> decide

theorem foldlE_digits (s : Shot) (acc : List Int) :
    foldlE (fun (st : List Int) (c : Char) => Except.bind (intOfStr [c]) (fun t => Except.ok (st ++ [t]))) acc (encS s)
      = .ok (acc ++ encT s) := by
  induction s generalizing acc with
  | nil => exact congrArg Except.ok (List.append_nil acc).symm
  | cons b rest ih =>
    show foldlE _ acc ((if b then '1' else '0') :: encS rest) = _
    rw [foldlE, intOfStr_bit, bind_ok, bind_ok, ih, List.append_assoc]
    rfl

theorem foldlE_add_counts (counts : OQ.Py.Dict (List Char) Int) (todo : List (Shot × Int)) (bs : List Shot)
    (hget : ∀ p ∈ todo, dictGetE counts (encS p.1) = .ok p.2) :
    foldlE (fun (st : List (List Int)) (bitstring : List Char) =>
        Except.bind (foldlE (fun (st : List Int) (c : Char) => Except.bind (intOfStr [c]) (fun t => Except.ok (st ++ [t]))) [] bitstring)
          (fun measurement => Except.bind (dictGetE counts bitstring)
            (fun n => Except.ok (st ++ List.replicate (Int.toNat n) measurement))))
      (bs.map encT) (dictKeys (intCountsToPy todo)) = .ok ((addCounts bs todo).map encT) := by
  induction todo generalizing bs with
  | nil => rfl
  | cons p rest ih =>
    obtain ⟨k, n⟩ := p
    simp only [intCountsToPy, dictKeys, List.map_cons, foldlE, foldlE_digits, List.nil_append, bind_ok,
      hget (k, n) (by simp)]
    have e : bs.map encT ++ List.replicate n.toNat (encT k) = (bs ++ List.replicate n.toNat k).map encT := by simp
    rw [e]
    have := ih (bs ++ List.replicate n.toNat k) (fun p hp => hget p (by simp [hp]))
    simp only [intCountsToPy, dictKeys] at this
    rw [this]
    simp [addCounts]

/-- the model's exception classes among the translated code's (`nan` is not an exception; `get_distribution` never yields it) -/
def toExc10 : Err → Exc4
  | .type => .type
  | .index => .index
  | .value => .value
  | .runtime => .runtime
  | .nan => .zeroDiv

/-- a result of the model read with the translated code's exception classes -/
def up {α : Type} (r : Except Err α) : Except Exc4 α :=
  match r with
  | .ok a => .ok a
  | .error e => .error (toExc10 e)

/-- the model's result of `get_distribution` as the translated method returns it: keys as int tuples -/
def distResult (r : Except Err (List (Shot × Rat))) : Except Exc4 (OQ.C17.Dict OQ.C17.Key) :=
  match r with
  | .ok d => .ok (d.map (fun p => (encT p.1, p.2)))
  | .error e => .error (toExc10 e)

theorem foldlE_dictSet_of_get {κ ν ν' : Type} [BEq κ] [LawfulBEq κ] (src : OQ.Py.Dict κ ν) (g : ν → ν')
    (todo : OQ.Py.Dict κ ν) (acc : OQ.Py.Dict κ ν') (hget : ∀ p ∈ todo, dictGetE src p.1 = .ok p.2)
    (hnd : (dictKeys acc ++ dictKeys todo).Nodup) :
    foldlE (fun (st : OQ.Py.Dict κ ν') (k : κ) => Except.bind (dictGetE src k) (fun v => Except.ok (dictSet st k (g v))))
      acc (dictKeys todo) = .ok (acc ++ todo.map (fun p => (p.1, g p.2))) := by
  induction todo generalizing acc with
  | nil => exact congrArg Except.ok (List.append_nil acc).symm
  | cons p rest ih =>
    rw [List.forall_mem_cons] at hget
    have hk : p.1 ∉ dictKeys acc := fun hmem => (List.nodup_append.mp hnd).2.2 _ hmem _ (List.mem_cons_self ..) rfl
    show foldlE _ acc (p.1 :: dictKeys rest) = _
    rw [foldlE, hget.1, bind_ok, bind_ok, dictSet_of_not_mem acc _ _ hk, ih _ hget.2, List.append_assoc]
    · rfl
    · rw [dictKeys, List.map_append, List.append_assoc]
      exact hnd

theorem encDigits_encT (s : Shot) : OQ.C17.encDigits (encT s) = encS s := by
  unfold OQ.C17.encDigits encT encS
  rw [List.map_map]
  apply List.map_congr_left
  intro b _
  cases b <;> rfl

theorem map_charDigit_encS (s : Shot) : (encS s).map charDigit = encT s := by
  unfold encS encT
  rw [List.map_map]
  exact List.map_congr_left fun b _ => by cases b <;> rfl

theorem isDigits_encT (s : Shot) : OQ.C17.IsDigits (encT s) := by
  intro e he
  obtain ⟨b, _, rfl⟩ := List.mem_map.mp he
  cases b <;> decide

/-- the distribution as the C17 model's dictionary (int-tuple keys) -/
def distD (n : Int) (c : Counts) : OQ.C17.Dict OQ.C17.Key := c.map (fun p => (encT p.1, (((p.2 : Nat) : Int) : Rat) / ((n : Int) : Rat)))

theorem dictStrKeys_dist (n : Int) (c : Counts) :
    dictStrKeys ((countsToPy c).map (fun p => (p.1, ((p.2 : Int) : Rat) / ((n : Int) : Rat)))) =
      OQ.C17.toPyItems ((distD n c).map (fun p => (OQ.C17.RawKey.str (OQ.C17.encDigits p.1), p.2))) := by
  simp only [dictStrKeys, countsToPy, distD, OQ.C17.toPyItems, OQ.C17.toPyKey, encDigits_encT, List.map_map, Function.comp_def]

theorem distD_total (shots : List Shot) (hne : shots ≠ []) :
    OQ.C17.Dict.total (distD (shots.length : Int) (getCounts shots)) = 1 := by
  simp only [OQ.C17.Dict.total, OQ.C17.Dict.vals, distD, List.map_map, Function.comp_def, Int.cast_natCast]
  exact sum_counts_div shots hne

theorem isDistribution_distD (shots : List Shot) (hne : shots ≠ []) :
    OQ.C17.isDistribution (distD (shots.length : Int) (getCounts shots)) =
      sameLength ((getCounts shots).map (fun p => p.1)) := by
  rw [Bool.eq_iff_iff, OQ.C17.isDistribution_iff, sameLength_iff]
  simp only [distD, List.forall_mem_map, ne_eq, List.map_eq_nil_iff, length_encT]
  exact ⟨fun h => h.2.2.1, fun h => ⟨getCounts_ne_nil shots hne, fun q _ => by positivity, h,
    fun q _ e he => (isDigits_encT q.1 e he).1⟩⟩

end OQ.C10
