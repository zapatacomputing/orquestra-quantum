/- C07 — translation tie of the `matrix` properties (work package T17): helper lemmas about the INSTANTIATION `mext` (OQ/Model/C07_T17.lean) of the sympy
   operations (`MExt`, the parameter record of the regenerated `Gate.matrix`, harness/translate_t17.py) by the model's matrix operations.  The tie
   theorems are in OQ/Props/C07_TranslatedMatrix.lean (read its header first). -/
import OQ.Model.C07_T17
import OQ.Lemmas.C07_TranslatedGates
namespace OQ.C07
open OQ.Generated
namespace TG
variable {P R : Type}

theorem diagBlocks_identity [Zero R] [One R] [Add R] [Mul R] (d0 : Nat) (M : Mat R) :
    diagBlocks (Mat.identity d0) M = ctlMatrix d0 M :=
  Mat.ofFn_congr _ _ _ _ fun i j _ _ => by
    by_cases h : i < d0 ∧ j < d0
    · exact (if_pos h).trans ((Mat.get_ofFn d0 d0 _ i j h.1 h.2).trans (if_pos h).symm)
    · exact (if_neg h).trans (if_neg h).symm

/-- the dimension argument of `sympy.eye` in `ControlledGate.matrix`, computed on Python ints -/
theorem eye_dim (a b : Nat) : (((2 : Int) ^ Int.toNat (a : Int)) - ((2 : Int) ^ Int.toNat (b : Int))).toNat = 2 ^ a - 2 ^ b := by
  rw [Int.toNat_natCast, Int.toNat_natCast]
  exact_mod_cast Int.toNat_sub (2 ^ a) (2 ^ b)

end TG
end OQ.C07
