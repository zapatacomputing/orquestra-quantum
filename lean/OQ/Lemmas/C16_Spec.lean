/-
  The matrix algebra under the circuit semantics: tensor products `tensor g = ⊗_q g_q` on the bit-assignment basis, permutation
  matrices, and "the executable matrix `M` on the qubits `qs`" (`gateOn` = `Spec.lift` along listed qubits | the others) with its
  entries; a one-qubit gate is a tensor factor, CNOT the permutation that xors the control into the target.
-/
import OQ.Model.C16
import OQ.Lemmas.Bridge
import OQ.Spec.Lift
import Mathlib.Algebra.BigOperators.Ring.Finset
import Mathlib.Data.Fintype.BigOperators
import Mathlib.Algebra.BigOperators.Pi
import Mathlib.Tactic.IntervalCases

set_option linter.unusedSectionVars false
namespace OQ.C16
open Matrix OQ.Spec

variable {R : Type} [CommRing R] {ι : Type} [Fintype ι] [DecidableEq ι]

/-- ⊗_q g_q on the bit-assignment basis -/
def tensor (g : ι → Matrix Bool Bool R) : Matrix (BV ι) (BV ι) R :=
  fun x y => ∏ q, g q (x q) (y q)

theorem tensor_mul (g h : ι → Matrix Bool Bool R) :
    tensor g * tensor h = tensor (fun q => g q * h q) := by
  ext x y
  simp only [tensor, Matrix.mul_apply]
  rw [Finset.prod_univ_sum]
  simp only [Fintype.piFinset_univ, Finset.prod_mul_distrib]

theorem tensor_diagonal (d : ι → Bool → R) :
    tensor (fun q => Matrix.diagonal (d q)) = Matrix.diagonal (fun x => ∏ q, d q (x q)) := by
  ext x y
  simp only [tensor, Matrix.diagonal_apply]
  by_cases h : x = y
  · subst h; simp
  · rw [if_neg h]
    obtain ⟨q, hq⟩ := Function.ne_iff.mp h
    exact Finset.prod_eq_zero (Finset.mem_univ q) (by simp [hq])

theorem tensor_one : tensor (fun _ : ι => (1 : Matrix Bool Bool R)) = 1 := by
  simp only [← Matrix.diagonal_one (n := Bool), tensor_diagonal, Finset.prod_const_one]
  exact Matrix.diagonal_one

/-- the permutation matrix sending the basis vector `y` to `f y` -/
def permM (f : BV ι → BV ι) : Matrix (BV ι) (BV ι) R := fun x y => if x = f y then 1 else 0

theorem permM_conj_diagonal (f : BV ι → BV ι) (hf : Function.Involutive f) (d : BV ι → R) :
    permM f * Matrix.diagonal d * permM f = Matrix.diagonal (d ∘ f) := by
  ext x y
  rw [Matrix.mul_apply, Finset.sum_eq_single_of_mem (f y) (Finset.mem_univ _) fun z _ hz => by simp [permM, hz],
    Matrix.mul_diagonal, Matrix.diagonal_apply]
  simp only [permM, hf y, if_true, mul_one, ite_mul, one_mul, zero_mul, Function.comp]
  split_ifs with h
  · rw [h]
  · rfl

theorem permM_mul_self (f : BV ι → BV ι) (hf : Function.Involutive f) :
    permM f * permM f = (1 : Matrix (BV ι) (BV ι) R) := by
  have := permM_conj_diagonal (R := R) f hf (fun _ => 1)
  have h1 : Matrix.diagonal (fun _ : BV ι => (1 : R)) = 1 := Matrix.diagonal_one
  have h2 : (Matrix.diagonal ((fun _ : BV ι => (1 : R)) ∘ f)) = 1 := Matrix.diagonal_one
  rw [h1, h2, Matrix.mul_one] at this
  exact this

/-- the listed qubits / the others -/
def part (qs : List ι) : {q // q ∈ qs} ⊕ {q // ¬ q ∈ qs} ≃ ι := Equiv.sumCompl (fun q => q ∈ qs)

/-- index into a 2^k-dimensional executable matrix: bits of the listed qubits, first listed = most significant -/
def bitIndex {κ : Type} (qs : List κ) (x : κ → Bool) : Nat :=
  Lift.bitsToIndex (qs.map (fun q => if x q then 1 else 0))

def onBits (M : Mat R) (qs : List ι) : Matrix (BV {q // q ∈ qs}) (BV {q // q ∈ qs}) R :=
  fun x y => M.get (bitIndex qs.attach x) (bitIndex qs.attach y)

/-- "the gate with executable matrix `M` on the qubits `qs` of the register ι" -/
def gateOn (M : Mat R) (qs : List ι) : Matrix (BV ι) (BV ι) R := Spec.lift (part qs) (onBits M qs)

theorem gateOn_apply (M : Mat R) (qs : List ι) (x y : BV ι) :
    gateOn M qs x y = if (∀ m, m ∉ qs → x m = y m) then M.get (bitIndex qs x) (bitIndex qs y) else 0 := by
  unfold gateOn
  rw [lift_apply]
  have hc : (∀ m : {q // ¬ q ∈ qs}, x (part qs (Sum.inr m)) = y (part qs (Sum.inr m))) ↔ (∀ m, m ∉ qs → x m = y m) := by
    constructor
    · intro h m hm; exact h ⟨m, hm⟩
    · intro h m; exact h m.1 m.2
  have hb : ∀ z : BV ι, bitIndex qs.attach (fun k => z (part qs (Sum.inl k))) = bitIndex qs z := by
    intro z
    unfold bitIndex
    congr 1
    conv_rhs => rw [← List.attach_map_subtype_val qs]
    rw [List.map_map]
    apply List.map_congr_left
    intro q _
    rfl
  by_cases h : (∀ m, m ∉ qs → x m = y m)
  · rw [if_pos h, if_pos (hc.mpr h)]
    simp only [onBits, hb]
  · rw [if_neg h, if_neg (fun hh => h (hc.mp hh))]

theorem get_m2 (a b c d : R) (i j : Nat) (hi : i < 2) (hj : j < 2) :
    (Gates.m2 a b c d).get i j = if i = 0 then (if j = 0 then a else b) else (if j = 0 then c else d) := by
  unfold Gates.m2 Mat.ofLists
  rw [Mat.get_ofFn _ _ _ _ _ (by simpa using hi) (by simpa using hj)]
  interval_cases i <;> interval_cases j <;> rfl

theorem cnot_get (i j : Nat) (hi : i < 4) (hj : j < 4) :
    (Gates.cnot : Mat R).get i j = if (i = j ∧ i < 2) ∨ (i = 2 ∧ j = 3) ∨ (i = 3 ∧ j = 2) then 1 else 0 := by
  unfold Gates.cnot Gates.m4 Mat.ofLists
  rw [Mat.get_ofFn _ _ _ _ _ (by simpa using hi) (by simpa using hj)]
  interval_cases i <;> interval_cases j <;> rfl

theorem cnot_bits (p q r s : Bool) :
    (Gates.cnot : Mat R).get (2 * (if p then 1 else 0) + (if q then 1 else 0)) (2 * (if r then 1 else 0) + (if s then 1 else 0))
      = if p = r ∧ q = xor r s then 1 else 0 := by
  have hlt : ∀ p q : Bool, 2 * (if p then 1 else 0) + (if q then 1 else 0) < 4 := by decide
  rw [cnot_get _ _ (hlt p q) (hlt r s)]
  exact if_congr (by revert p q r s; decide) rfl rfl

/-- a 2×2 executable matrix read on Booleans (false ↦ row/column 0, true ↦ 1) -/
def toB (M : Mat R) : Matrix Bool Bool R := fun a b => M.get (if a then 1 else 0) (if b then 1 else 0)

/-- the single-qubit operator `m` on qubit `q`, identity elsewhere, as a tensor product -/
def on1 (q : ι) (m : Matrix Bool Bool R) : Matrix (BV ι) (BV ι) R :=
  tensor (Function.update (fun _ => (1 : Matrix Bool Bool R)) q m)

theorem on1_apply (q : ι) (m : Matrix Bool Bool R) (x y : BV ι) :
    on1 q m x y = if (∀ p, p ≠ q → x p = y p) then m (x q) (y q) else 0 := by
  unfold on1 tensor
  rw [← Finset.mul_prod_erase Finset.univ _ (Finset.mem_univ q)]
  simp only [Function.update_self]
  have : ∀ p ∈ Finset.univ.erase q,
      (Function.update (fun _ => (1 : Matrix Bool Bool R)) q m p) (x p) (y p) = if x p = y p then 1 else 0 := by
    intro p hp
    rw [Function.update_of_ne (Finset.ne_of_mem_erase hp), Matrix.one_apply]
  rw [Finset.prod_congr rfl this, Finset.prod_ite_zero]
  simp only [Finset.prod_const_one, Finset.mem_erase, Finset.mem_univ, and_true, mul_ite, mul_one, mul_zero]

theorem bitIndex_single {κ : Type} (q : κ) (x : κ → Bool) : bitIndex [q] x = if x q then 1 else 0 := by
  simp [bitIndex, Lift.bitsToIndex]

theorem bitIndex_pair {κ : Type} (a b : κ) (x : κ → Bool) :
    bitIndex [a, b] x = 2 * (if x a then 1 else 0) + (if x b then 1 else 0) := by
  simp [bitIndex, Lift.bitsToIndex]

theorem gateOn_single (M : Mat R) (q : ι) : gateOn M [q] = on1 q (toB M) := by
  ext x y
  rw [gateOn_apply, on1_apply]
  simp only [List.mem_singleton, bitIndex_single, toB]

/-- the action of CNOT(a, b) on bit assignments: the target `b` receives `x a xor x b` -/
def cnotMap (a b : ι) (x : BV ι) : BV ι := Function.update x b (xor (x a) (x b))

theorem cnotMap_involutive (a b : ι) (hab : a ≠ b) : Function.Involutive (cnotMap a b) := by
  intro x
  funext p
  unfold cnotMap
  by_cases hp : p = b
  · subst hp; simp [Function.update_of_ne hab]
  · simp [Function.update_of_ne hp]

theorem eq_cnotMap_iff (a b : ι) (hab : a ≠ b) (x y : BV ι) :
    x = cnotMap a b y ↔ (∀ m, m ∉ [a, b] → x m = y m) ∧ x a = y a ∧ x b = xor (y a) (y b) := by
  constructor
  · rintro rfl
    refine ⟨fun m hm => Function.update_of_ne (by simp at hm; exact hm.2) _ _, Function.update_of_ne hab _ _, Function.update_self _ _ _⟩
  · rintro ⟨h, h1, h2⟩
    funext p
    unfold cnotMap
    by_cases hp : p = b
    · subst hp; rw [Function.update_self]; exact h2
    · rw [Function.update_of_ne hp]
      by_cases hpa : p = a
      · subst hpa; exact h1
      · exact h p (by simp [hpa, hp])

theorem gateOn_cnot (a b : ι) (hab : a ≠ b) :
    gateOn (Gates.cnot : Mat R) [a, b] = permM (cnotMap a b) := by
  ext x y
  rw [gateOn_apply, bitIndex_pair, bitIndex_pair, cnot_bits, permM, ← ite_and]
  exact if_congr (eq_cnotMap_iff a b hab x y).symm rfl rfl
end OQ.C16
