/- C05, what the round-trip theorems of OQ/Props/C05.lean rest on: the invariant of `_make_symbols_map`, the hygiene of the lookup
   namespace, the assumed law of `str` / `sympify`, the cascade of `_gate_from_dict` by its equation lemmas, collection of custom
   definitions, the functor laws of `map`, and a toy codec inhabiting the hypotheses. -/
import OQ.Model.C05
namespace OQ.C05

theorem alookup_aset {α β : Type} [DecidableEq α] (m : List (α × β)) (k k' : α) (v : β) :
    alookup (aset m k v) k' = if k' = k then some v else alookup m k' := by
  induction m with
  | nil => simp only [aset, alookup, eq_comm]
  | cons p rest ih =>
    obtain ⟨k0, v0⟩ := p
    by_cases h : k0 = k
    · subst h
      by_cases h' : k' = k0 <;> simp [aset, alookup, h', eq_comm]
    · by_cases h' : k' = k
      · subst h'; simp [aset, alookup, h, ih]
      · simp [aset, alookup, h, h', ih]

def NoBaseClash (names : List Name) : Prop :=
  ∀ a ∈ names, ∀ b ∈ names, parseIndexed a = none →
    ∀ base ds, parseIndexed b = some (base, ds) → a ≠ base

def IndexInj (names : List Name) : Prop :=
  ∀ a ∈ names, ∀ b ∈ names, ∀ base da db, parseIndexed a = some (base, da) →
    parseIndexed b = some (base, db) → digitsToNat da = digitsToNat db → a = b

theorem noBaseClash_nil : NoBaseClash [] := fun _ ha => nomatch ha
theorem indexInj_nil : IndexInj [] := fun _ ha => nomatch ha

structure SymInv (pre : List Name) (m : SymMap) : Prop where
  res : ∀ s ∈ pre, resolve m s = some s
  symKey : ∀ k n, alookup m k = some (.sym n) → k ∈ pre ∧ parseIndexed k = none
  unbound : ∀ k, k ∉ pre.map baseOf → alookup m k = none

theorem baseOf_plain {s : Name} (h : parseIndexed s = none) : baseOf s = s := by simp only [baseOf, h]
theorem baseOf_indexed {s b : Name} {ds : List Char} (h : parseIndexed s = some (b, ds)) : baseOf s = b := by
  simp only [baseOf, h]

theorem resolve_aset (m : SymMap) (k : Name) (v : SymEntry) (s : Name) (h : baseOf s ≠ k) :
    resolve (aset m k v) s = resolve m s := by
  unfold resolve
  cases hp : parseIndexed s with
  | none => rw [baseOf_plain hp] at h; simp only [alookup_aset, if_neg h]
  | some bd => rw [baseOf_indexed hp] at h; simp only [alookup_aset, if_neg h]

theorem SymInv.aset {pre : List Name} {m : SymMap} {x : Name} {v : SymEntry} (inv : SymInv pre m)
    (hv : ∀ n, v = .sym n → parseIndexed x = none)
    (hres : ∀ s ∈ pre ++ [x], baseOf s = baseOf x → resolve (aset m (baseOf x) v) s = some s) :
    SymInv (pre ++ [x]) (aset m (baseOf x) v) where
  res := by
    intro s hs
    by_cases hb : baseOf s = baseOf x
    · exact hres s hs hb
    · rw [resolve_aset _ _ _ _ hb]
      rcases List.mem_append.mp hs with hs | hs
      · exact inv.res s hs
      · rw [List.mem_singleton.mp hs] at hb; exact absurd rfl hb
  symKey := by
    intro k n hk
    rw [alookup_aset] at hk
    split at hk
    · next hkx =>
      have hp := hv n (Option.some.inj hk)
      rw [hkx, baseOf_plain hp]
      exact ⟨List.mem_append_right _ (List.mem_singleton_self x), hp⟩
    · exact ⟨List.mem_append_left _ (inv.symKey k n hk).1, (inv.symKey k n hk).2⟩
  unbound := by
    intro k hk
    rw [List.map_append, List.mem_append, not_or, List.map_singleton, List.mem_singleton] at hk
    rw [alookup_aset, if_neg hk.2, inv.unbound k hk.1]

theorem symStep_inv (all pre : List Name) (m : SymMap) (x : Name)
    (hc : NoBaseClash all) (hi : IndexInj all) (hall : ∀ s ∈ pre ++ [x], s ∈ all)
    (inv : SymInv pre m) : ∃ m', symStep m x = .ok m' ∧ SymInv (pre ++ [x]) m' := by
  have hx : x ∈ all := hall x (List.mem_append_right _ (List.mem_singleton_self x))
  cases hp : parseIndexed x with
  | none =>
    refine ⟨aset m x (.sym x), by simp only [symStep, hp], ?_⟩
    have key := inv.aset (x := x) (v := .sym x) (fun _ _ => hp)
    rw [baseOf_plain hp] at key
    refine key fun s hs hb => ?_
    cases hps : parseIndexed s with
    | none =>
      rw [baseOf_plain hps] at hb
      subst hb
      simp only [resolve, hps, alookup_aset, if_true]
    | some bd =>
      rw [baseOf_indexed hps] at hb
      exact absurd hb.symm (hc x hx s (hall s hs) hp bd.1 bd.2 hps)
  | some bd =>
    obtain ⟨b, ds⟩ := bd
    have plain_ne : ∀ s ∈ all, parseIndexed s = none → s ≠ b := fun s hs hps => hc s hs x hx hps b ds hp
    -- `d`: the index dictionary already filed under `b`, empty if there is none
    obtain ⟨d, hstep, hd⟩ : ∃ d, symStep m x = .ok (aset m b (.dict (aset d (digitsToNat ds) x))) ∧
        ∀ s ds', parseIndexed s = some (b, ds') → resolve m s = alookup d (digitsToNat ds') := by
      cases hl : alookup m b with
      | none => exact ⟨[], by simp only [symStep, hp, hl, aset], fun s ds' hps => by simp only [resolve, hps, hl, alookup]⟩
      | some e =>
        cases e with
        | sym n =>
          have := inv.symKey b n hl
          exact absurd rfl (plain_ne b (hall b (List.mem_append_left _ this.1)) this.2)
        | dict d => exact ⟨d, by simp only [symStep, hp, hl], fun s ds' hps => by simp only [resolve, hps, hl]⟩
    refine ⟨_, hstep, ?_⟩
    have key := inv.aset (x := x) (v := .dict (aset d (digitsToNat ds) x)) (fun _ hv => SymEntry.noConfusion hv)
    rw [baseOf_indexed hp] at key
    refine key fun s hs hb => ?_
    cases hps : parseIndexed s with
    | none =>
      rw [baseOf_plain hps] at hb
      exact absurd hb (plain_ne s (hall s hs) hps)
    | some bd' =>
      obtain ⟨b', ds'⟩ := bd'
      rw [baseOf_indexed hps] at hb
      subst hb
      simp only [resolve, hps, alookup_aset, if_true]
      split
      · next hn => rw [hi s (hall s hs) x hx b' ds' ds hps hp hn]
      · next hn =>
        rcases List.mem_append.mp hs with hs | hs
        · rw [← hd s ds' hps]; exact inv.res s hs
        · rw [List.mem_singleton.mp hs, hp] at hps
          rw [(Prod.mk.inj (Option.some.inj hps)).2] at hn
          exact absurd rfl hn

theorem symFold_inv (all : List Name) (hc : NoBaseClash all) (hi : IndexInj all) :
    ∀ (rest pre : List Name) (m : SymMap), (∀ s ∈ pre ++ rest, s ∈ all) → SymInv pre m →
      ∃ m', symFold m rest = .ok m' ∧ SymInv (pre ++ rest) m' := by
  intro rest
  induction rest with
  | nil => intro pre m _ inv; exact ⟨m, rfl, by rwa [List.append_nil]⟩
  | cons x rest ih =>
    intro pre m hall inv
    rw [List.append_cons] at hall ⊢
    obtain ⟨m1, h1, inv1⟩ := symStep_inv all pre m x hc hi (fun s hs => hall s (List.mem_append_left _ hs)) inv
    obtain ⟨m2, h2, inv2⟩ := ih (pre ++ [x]) m1 hall inv1
    exact ⟨m2, by simp only [symFold, h1, h2], inv2⟩

theorem makeSymbolsMap_inv (names : List Name) (hc : NoBaseClash names) (hi : IndexInj names) :
    ∃ m, makeSymbolsMap names = .ok m ∧ SymInv names m :=
  symFold_inv names hc hi names [] [] (fun _ hs => hs)
    ⟨fun _ h => (nomatch h), fun _ _ h => (nomatch h), fun _ _ => rfl⟩

theorem mapM_map_ok {α β γ : Type} (e : α → β) (f : β → Except Err γ) (g : α → γ) (l : List α)
    (h : ∀ x ∈ l, f (e x) = .ok (g x)) : (l.map e).mapM f = .ok (l.map g) := by
  induction l with
  | nil => rfl
  | cons x xs ih =>
    rw [List.map_cons, List.mapM_cons, h x List.mem_cons_self, ih fun y hy => h y (List.mem_cons_of_mem _ hy)]
    rfl

theorem mapM_rt {α β γ : Type} (f : α → Except Err β) (g : β → Except Err γ) (k : α → γ) (l : List α)
    (h : ∀ a ∈ l, ∃ b, f a = .ok b ∧ g b = .ok (k a)) : ∃ bs, l.mapM f = .ok bs ∧ bs.mapM g = .ok (l.map k) := by
  induction l with
  | nil => exact ⟨[], rfl, rfl⟩
  | cons a as ih =>
    obtain ⟨b, h1, h2⟩ := h a List.mem_cons_self
    obtain ⟨bs, h3, h4⟩ := ih fun y hy => h y (List.mem_cons_of_mem _ hy)
    exact ⟨b :: bs, by rw [List.mapM_cons, h1, h3]; rfl, by rw [List.mapM_cons, h2, h4]; rfl⟩

theorem mem_of_mapM_ok {α β : Type} {f : α → Except Err β} :
    ∀ {l : List α} {bs : List β}, l.mapM f = .ok bs → ∀ b ∈ bs, ∃ a ∈ l, f a = .ok b := by
  intro l
  induction l with
  | nil => intro bs h b hb; rw [← Except.ok.inj h] at hb; exact nomatch hb
  | cons a as ih =>
    intro bs h b hb
    rw [List.mapM_cons] at h
    cases ha : f a with
    | error e => rw [ha] at h; exact nomatch h
    | ok b0 =>
      cases has : as.mapM f with
      | error e => rw [ha, has] at h; exact nomatch h
      | ok bs0 =>
        rw [ha, has] at h
        rw [← Except.ok.inj h] at hb
        rcases List.mem_cons.mp hb with rfl | hb
        · exact ⟨a, List.mem_cons_self, ha⟩
        · obtain ⟨a', ha', h'⟩ := ih has b hb
          exact ⟨a', List.mem_cons_of_mem _ ha', h'⟩

theorem mem_foldr_insert {α : Type} {ins : α → List α → List α}
    (hins : ∀ x y l, y ∈ ins x l ↔ y = x ∨ y ∈ l) (y : α) (l : List α) : y ∈ l.foldr ins [] ↔ y ∈ l := by
  induction l with
  | nil => rfl
  | cons x xs ih => rw [List.foldr_cons, hins, ih, List.mem_cons]

theorem mem_insertName (x y : Name) (l : List Name) : y ∈ insertName x l ↔ y = x ∨ y ∈ l := by
  induction l with
  | nil => simp [insertName]
  | cons z zs ih =>
    simp only [insertName]
    split
    · rename_i h; subst h; simp
    · split
      · simp
      · simp only [List.mem_cons, ih, or_left_comm]

theorem mem_sortDedup (y : Name) (l : List Name) : y ∈ sortDedup l ↔ y ∈ l := mem_foldr_insert mem_insertName y l

theorem sortDedup_eq_nil {l : List Name} (h : sortDedup l = []) : l = [] :=
  List.eq_nil_iff_forall_not_mem.mpr fun x hx => List.not_mem_nil (h ▸ (mem_sortDedup x l).mpr hx)

theorem containsSub_of_prefix {s sub : Name} (h : sub.isPrefixOf s = true) : containsSub s sub = true := by
  cases s with
  | nil => exact h
  | cons c cs => simp only [containsSub, h, Bool.true_or]

theorem containsSub_append (a p t : Name) : containsSub (a ++ p ++ t) p = true := by
  induction a with
  | nil => exact containsSub_of_prefix (List.isPrefixOf_iff_prefix.mpr (List.prefix_append p t))
  | cons c cs ih => simp only [List.cons_append, containsSub, ih, Bool.or_true]

def allNames (env : Env) : List Name := env.gates.map (fun gi => gi.key) ++ env.others

theorem lookup_missing (env : Env) (n : Name) (h : n ∉ allNames env) : lookupGlobal env n = .missing := by
  rw [allNames, List.mem_append, not_or] at h
  have h1 : env.gates.find? (fun gi => gi.key == n) = none :=
    List.find?_eq_none.mpr fun gi hgi hk => h.1 (List.mem_map.mpr ⟨gi, hgi, eq_of_beq hk⟩)
  simp [lookupGlobal, h1, h.2]

theorem lookup_gate (env : Env) (n : Name) (gi : GateInfo) (h : lookupGlobal env n = .gate gi) :
    gi ∈ env.gates ∧ gi.key = n := by
  unfold lookupGlobal at h
  cases hf : env.gates.find? (fun gi => gi.key == n) with
  | none =>
    rw [hf] at h
    dsimp only at h
    split at h <;> exact nomatch h
  | some g =>
    rw [hf] at h
    obtain rfl := Lookup.gate.inj h
    have hk := List.find?_some hf
    exact ⟨List.mem_of_find?_eq_some hf, eq_of_beq hk⟩

/-- what the cascade needs to know about the generated namespace and markers (all decidable) -/
structure EnvHygienic (env : Env) : Prop where
  ctrl_free : env.control ∉ allNames env
  exp_free : env.exponential ∉ allNames env
  no_dagger_name : ∀ n ∈ allNames env, env.dagger.isSuffixOf n = false
  no_power_name : ∀ n ∈ allNames env, containsSub n env.power = false
  ctrl_not_dagger : env.dagger.isSuffixOf env.control = false
  exp_ne_ctrl : env.exponential ≠ env.control
  exp_not_dagger : env.dagger.isSuffixOf env.exponential = false
  ctrl_no_power : containsSub env.control env.power = false
  exp_no_power : containsSub env.exponential env.power = false
  dagger_ne : env.dagger ≠ []
  power_ne : env.power ≠ []
  dagger_last_not_power : ∀ c ∈ env.dagger.getLast?, c ∉ env.power
  key_is_name : ∀ gi ∈ env.gates, gi.key = gi.gateName
  proto_iff : ∀ gi ∈ env.gates, (gi.prototype = true ↔ 0 < gi.nParams)

theorem ne_of_test {α : Type} (t : α → Bool) {a b : α} (ha : t a = true) (hb : t b = false) : a ≠ b :=
  fun he => Bool.noConfusion (ha.symm.trans ((congrArg t he).trans hb))

theorem not_mem_of_test {α : Type} (t : α → Bool) {l : List α} (hl : ∀ b ∈ l, t b = false) {a : α} (ha : t a = true) : a ∉ l :=
  fun hm => ne_of_test t ha (hl a hm) rfl

theorem dagger_name_suffix (env : Env) (n : Name) : env.dagger.isSuffixOf (n ++ '_' :: env.dagger) = true :=
  List.isSuffixOf_iff_suffix.mpr ⟨n ++ ['_'], by rw [List.append_assoc]; rfl⟩

/-- the last character of `n ++ power ++ txt` is one of `power` or `txt`, that of `dagger` is in neither -/
theorem power_name_not_dagger (env : Env) (h : EnvHygienic env) (n txt : Name)
    (htxt : ∀ c ∈ env.dagger.getLast?, c ∉ txt) : env.dagger.isSuffixOf (n ++ env.power ++ txt) = false := by
  refine Bool.eq_false_iff.mpr fun hb => ?_
  obtain ⟨pre, hpre⟩ := List.isSuffixOf_iff_suffix.mp hb
  obtain ⟨c, hc⟩ : ∃ c, env.dagger.getLast? = some c :=
    Option.ne_none_iff_exists'.mp fun hd => h.dagger_ne (List.getLast?_eq_none_iff.mp hd)
  have hl : (n ++ (env.power ++ txt)).getLast? = some c := by
    rw [← List.append_assoc, ← hpre, List.getLast?_append, hc]; rfl
  rw [List.getLast?_append] at hl
  cases hq : (env.power ++ txt).getLast? with
  | none => exact h.power_ne (List.append_eq_nil_iff.mp (List.getLast?_eq_none_iff.mp hq)).1
  | some c' =>
    rw [hq] at hl
    obtain rfl : c' = c := Option.some.inj hl
    rcases List.mem_append.mp (List.mem_of_getLast? hq) with hm | hm
    · exact h.dagger_last_not_power c' hc hm
    · exact htxt c' hc hm

variable {P E : Type}

/-- Law of the external text codec.  `nrm` is what one print/parse cycle does to an expression (Python `int`
    becomes `Integer`, a `float` a `Float`, a `Float` is rounded to its 15 printed digits); `okName` are the
    admissible symbol names (identifiers other than keywords, canonical indices, not a name the printed text
    also uses for something else); `auto s`: the bare text `s`, unbound, is parsed as the symbol `s`
    (a plain identifier that sympy's namespace does not define). -/
structure SympifyLaw (C : Codec P E) (nrm : P → P) (okName auto : Name → Prop) : Prop where
  sympify_ser : ∀ (m : SymMap) (p : P),
    (∀ s ∈ C.free p, okName s ∧ (resolve m s = some s ∨ (auto s ∧ alookup m s = none))) →
    C.sympify m (C.ser p) = .ok (nrm p)
  free_nrm : ∀ p, C.free (nrm p) = C.free p
  defNe_irrefl : ∀ d, C.defNe d d = false

/-- every free symbol of `p` is supplied by the table built from `names`, or needs none -/
def Readable (C : Codec P E) (okName auto : Name → Prop) (names : List Name) (p : P) : Prop :=
  ∀ s ∈ C.free p, okName s ∧ (s ∈ names ∨ (auto s ∧ s ∉ names.map baseOf))

theorem de_ser (C : Codec P E) (nrm : P → P) (okName auto : Name → Prop) (L : SympifyLaw C nrm okName auto)
    (names : List Name) (hc : NoBaseClash names) (hi : IndexInj names) (p : P)
    (hr : Readable C okName auto names p) : deserializeExpr C names (C.ser p) = .ok (nrm p) := by
  obtain ⟨m, hm, inv⟩ := makeSymbolsMap_inv names hc hi
  simp only [deserializeExpr, hm]
  exact L.sympify_ser m p fun s hs => ⟨(hr s hs).1, (hr s hs).2.imp (inv.res s) fun h => ⟨h.1, inv.unbound s h.2⟩⟩

def GateOK (env : Env) (C : Codec P E) (okName auto : Name → Prop) : Gate P E → Prop
  | .builtin n ps =>
    (∃ gi, lookupGlobal env n = .gate gi ∧ ps.length = gi.nParams) ∧
    NoBaseClash (Gate.free C (.builtin n ps : Gate P E)) ∧ IndexInj (Gate.free C (.builtin n ps : Gate P E)) ∧
    ∀ s ∈ Gate.free C (.builtin n ps : Gate P E), okName s
  | .custom d ps =>
    d.gateName ∉ allNames env ∧ NoBaseClash d.ordering ∧ IndexInj d.ordering ∧
    NoBaseClash (Gate.free C (.custom d ps : Gate P E)) ∧ IndexInj (Gate.free C (.custom d ps : Gate P E)) ∧
    ∀ s ∈ Gate.free C (.custom d ps : Gate P E), okName s
  | .controlled g k => 1 ≤ k ∧ GateOK env C okName auto g
  | .dagger g => GateOK env C okName auto g
  | .exponential g => Gate.free C g = [] ∧ GateOK env C okName auto g
  | .power g e => Gate.free C g = [] ∧ (∀ c ∈ env.dagger.getLast?, c ∉ C.expoText e) ∧ GateOK env C okName auto g

theorem mem_free (C : Codec P E) (g : Gate P E) {p : P} {s : Name} (hp : p ∈ g.params) (hs : s ∈ C.free p) :
    s ∈ Gate.free C g :=
  (mem_sortDedup s _).mpr (List.mem_flatMap.mpr ⟨p, hp, hs⟩)

theorem params_rt (C : Codec P E) (nrm : P → P) (okName auto : Name → Prop) (L : SympifyLaw C nrm okName auto)
    (names : List Name) (hc : NoBaseClash names) (hi : IndexInj names) (ps : List P)
    (hr : ∀ p ∈ ps, Readable C okName auto names p) :
    (ps.map C.ser).mapM (deserializeExpr C names) = .ok (ps.map nrm) :=
  mapM_map_ok _ _ nrm ps fun p hp => de_ser C nrm okName auto L names hc hi p (hr p hp)

theorem params_rt_free (C : Codec P E) (nrm : P → P) (okName auto : Name → Prop) (L : SympifyLaw C nrm okName auto)
    (g : Gate P E) (hc : NoBaseClash (Gate.free C g)) (hi : IndexInj (Gate.free C g))
    (hn : ∀ s ∈ Gate.free C g, okName s) :
    (g.params.map C.ser).mapM (deserializeExpr C (Gate.free C g)) = .ok (g.params.map nrm) :=
  params_rt C nrm okName auto L _ hc hi _ fun _ hp s hs => ⟨hn s (mem_free C g hp hs), Or.inl (mem_free C g hp hs)⟩

/-- `try: return a  except KeyError: pass;  b` -/
def orKey {α : Type} (a b : Except Err α) : Except Err α :=
  match a with
  | .ok g => .ok g
  | .error .key => b
  | .error e => .error e

theorem cascade_eq (env : Env) (C : Codec P E) (defs : List (CustomDef P)) (name : Option Name) (ps fs : List Name)
    (inner : Option (Except Err (Gate P E))) (nc : Option Int) (ex : Option E) :
    cascade env C defs name ps fs inner nc ex = orKey (builtinFromDict env C name ps fs)
      (orKey (specialFromDict env C name inner nc ex) (customFromDict C defs name ps fs)) := by
  unfold cascade orKey
  cases builtinFromDict env C name ps fs with
  | ok g => rfl
  | error e =>
    cases e with
    | key => cases specialFromDict env C name inner nc ex with
      | ok g => rfl
      | error e => cases e <;> rfl
    | _ => rfl

/-- a wrapper is rebuilt from the result for its `wrapped_gate` entry; the entry missing is a KeyError -/
def withInner (inner : Option (Except Err (Gate P E))) (k : Gate P E → Except Err (Gate P E)) : Except Err (Gate P E) :=
  match inner with
  | none => .error .key
  | some r => r.bind k

theorem specialFromDict_some (env : Env) (C : Codec P E) (n : Name) (inner : Option (Except Err (Gate P E)))
    (nc : Option Int) (ex : Option E) :
    specialFromDict env C (some n) inner nc ex =
      if n = env.control then withInner inner fun g => (optKey nc).bind (mkControlled g)
      else if env.dagger.isSuffixOf n then withInner inner fun g => .ok (.dagger g)
      else if n = env.exponential then withInner inner (mkExponential C)
      else if containsSub n env.power then withInner inner fun g => (optKey ex).bind (mkPower C g)
      else .error .key := by
  unfold specialFromDict
  cases inner with
  | none => rfl
  | some r =>
    cases r with
    | error e => rfl
    | ok g => cases nc <;> cases ex <;> rfl

theorem special_leaf (env : Env) (C : Codec P E) (name : Option Name) (nc : Option Int) (ex : Option E) :
    specialFromDict env C name none nc ex = .error .key := by
  cases name with
  | none => rfl
  | some n => simp only [specialFromDict_some, withInner, ite_self]

theorem builtin_missing (env : Env) (C : Codec P E) {n : Name} (h : n ∉ allNames env) (ps fs : List Name) :
    builtinFromDict env C (some n) ps fs = .error .key := by
  simp only [builtinFromDict, lookup_missing env n h]

theorem builtin_hit (env : Env) (h : EnvHygienic env) (C : Codec P E) (nrm : P → P) (n : Name) (ps : List P)
    (free : List Name) (gi : GateInfo) (hl : lookupGlobal env n = .gate gi) (hlen : ps.length = gi.nParams)
    (hm : (ps.map C.ser).mapM (deserializeExpr C free) = .ok (ps.map nrm)) :
    builtinFromDict env C (some n) (ps.map C.ser) free = .ok (.builtin n (ps.map nrm)) := by
  obtain ⟨hmem, hkey⟩ := lookup_gate env n gi hl
  have hname : gi.gateName = n := (h.key_is_name gi hmem).symm.trans hkey
  have hproto := h.proto_iff gi hmem
  rw [← hlen] at hproto
  simp only [builtinFromDict, hl, hm, hname]
  cases ps with
  | nil => simp only [Bool.eq_false_iff.mpr fun hp => Nat.lt_irrefl 0 (hproto.mp hp), List.map_nil, List.isEmpty_nil,
      if_true, Bool.false_eq_true, if_false]
  | cons p ps => simp only [hproto.mpr (Nat.succ_pos _), List.map_cons, List.isEmpty_cons, Bool.false_eq_true, if_false, if_true]

theorem cascade_special (env : Env) (C : Codec P E) (defs : List (CustomDef P)) {n : Name} (hn : n ∉ allNames env)
    (ps fs : List Name) (inner : Option (Except Err (Gate P E))) (nc : Option Int) (ex : Option E) (g : Gate P E)
    (h : specialFromDict env C (some n) inner nc ex = .ok g) :
    cascade env C defs (some n) ps fs inner nc ex = .ok g := by
  rw [cascade_eq, builtin_missing env C hn, h]; rfl

def DefOK (C : Codec P E) (okName auto : Name → Prop) (d : CustomDef P) : Prop :=
  shapeOk d.matrix = true ∧ NoBaseClash d.ordering ∧ IndexInj d.ordering ∧
  ∀ row ∈ d.matrix, ∀ e ∈ row, Readable C okName auto d.ordering e

theorem shapeOk_map {α β : Type} (f : α → β) (rows : List (List α)) :
    shapeOk (rows.map (fun r => r.map f)) = shapeOk rows := by
  simp only [shapeOk, List.length_map, List.all_map, Function.comp_def]

theorem def_rt (C : Codec P E) (nrm : P → P) (okName auto : Name → Prop) (L : SympifyLaw C nrm okName auto)
    (d : CustomDef P) (hd : DefOK C okName auto d) : defFromDict C (defToDict C d) = .ok (d.map nrm) := by
  obtain ⟨hs, hc, hi, hr⟩ := hd
  have hm : (d.matrix.map fun row => row.map C.ser).mapM (fun row => row.mapM (deserializeExpr C d.ordering)) =
      .ok (d.matrix.map fun r => r.map nrm) :=
    mapM_map_ok _ _ (fun r => r.map nrm) _ fun row hrow => params_rt C nrm okName auto L _ hc hi row (hr row hrow)
  simp only [defFromDict, defToDict, hm, shapeOk_map, hs, if_true, CustomDef.map]

theorem mem_insertDef (d x : CustomDef P) (l : List (CustomDef P)) : x ∈ insertDef d l ↔ x = d ∨ x ∈ l := by
  induction l with
  | nil => simp [insertDef]
  | cons y ys ih =>
    simp only [insertDef]
    split
    · simp only [List.mem_cons, ih, or_left_comm]
    · simp

theorem mem_sortDefs (x : CustomDef P) (l : List (CustomDef P)) : x ∈ sortDefs l ↔ x ∈ l := mem_foldr_insert mem_insertDef x l

def Consistent (all : List (CustomDef P)) : Prop :=
  ∀ a ∈ all, ∀ b ∈ all, a.gateName = b.gateName → a = b

theorem find_of_mem (all l : List (CustomDef P)) (H : Consistent all) (hl : l ⊆ all) (d : CustomDef P) (hd : d ∈ all)
    (d0 : CustomDef P) (hf : l.find? (nameEq d.gateName) = some d0) : d0 = d :=
  H d0 (hl (List.mem_of_find?_eq_some hf)) d hd (by simpa [nameEq] using List.find?_some hf)

theorem find_unique (all l : List (CustomDef P)) (H : Consistent all) (hl : l ⊆ all)
    (d : CustomDef P) (hd : d ∈ l) : l.find? (nameEq d.gateName) = some d := by
  cases hf : l.find? (nameEq d.gateName) with
  | none => exact absurd (beq_self_eq_true d.gateName) (List.find?_eq_none.mp hf d hd)
  | some x => rw [find_of_mem all l H hl d (hl hd) x hf]

theorem addDef_ok (C : Codec P E) (hirr : ∀ d, C.defNe d d = false) (all : List (CustomDef P)) (H : Consistent all)
    (acc : List (CustomDef P)) (d : CustomDef P) (ha : acc ⊆ all) (hd : d ∈ all) :
    ∃ acc', addDef C acc d = .ok acc' ∧ acc' ⊆ all ∧ acc ⊆ acc' ∧ d ∈ acc' := by
  cases hf : acc.find? (nameEq d.gateName) with
  | none =>
    exact ⟨acc ++ [d], by simp only [addDef, hf], List.append_subset.mpr ⟨ha, List.cons_subset.mpr ⟨hd, List.nil_subset _⟩⟩,
      List.subset_append_left _ _, List.mem_append_right _ (List.mem_singleton_self d)⟩
  | some d0 =>
    obtain rfl := find_of_mem all acc H ha d hd d0 hf
    exact ⟨acc, by simp only [addDef, hf, hirr, Bool.false_eq_true, if_false], ha, List.Subset.refl _,
      List.mem_of_find?_eq_some hf⟩

theorem addDefs_ok (C : Codec P E) (hirr : ∀ d, C.defNe d d = false) (all : List (CustomDef P))
    (H : Consistent all) :
    ∀ (ds acc : List (CustomDef P)), acc ⊆ all → ds ⊆ all →
      ∃ u, addDefs C acc ds = .ok u ∧ u ⊆ all ∧ acc ⊆ u ∧ ds ⊆ u := by
  intro ds
  induction ds with
  | nil => intro acc ha _; exact ⟨acc, rfl, ha, List.Subset.refl _, List.nil_subset _⟩
  | cons d ds ih =>
    intro acc ha hds
    obtain ⟨hd, hds⟩ := List.cons_subset.mp hds
    obtain ⟨acc', h1, h2, h3, h4⟩ := addDef_ok C hirr all H acc d ha hd
    obtain ⟨u, hu, k1, k2, k3⟩ := ih acc' h2 hds
    exact ⟨u, by simp only [addDefs, h1, hu], k1, h3.trans k2, List.cons_subset.mpr ⟨k2 h4, k3⟩⟩

theorem collectDefs_ok (C : Codec P E) (hirr : ∀ d, C.defNe d d = false) (ops : List (Op P E))
    (H : Consistent (ops.filterMap customDefOf)) :
    ∃ defs, collectDefs C ops = .ok defs ∧ defs ⊆ ops.filterMap customDefOf ∧ ops.filterMap customDefOf ⊆ defs := by
  obtain ⟨u, hu, h1, _, h3⟩ := addDefs_ok C hirr _ H _ [] (List.nil_subset _) (List.Subset.refl _)
  exact ⟨sortDefs u, by simp only [collectDefs, hu], fun x hx => h1 ((mem_sortDefs x u).mp hx),
    fun x hx => (mem_sortDefs x u).mpr (h3 hx)⟩

theorem sizeByOps_map (f : P → P) (ops : List (Op P E)) : sizeByOps (ops.map (Op.map f)) = sizeByOps ops := by
  simp only [sizeByOps, List.isEmpty_map, List.flatMap_map, Op.map]

theorem mkCircuit_map (f : P → P) (ops : List (Op P E)) (n : Int) :
    mkCircuit (ops.map (Op.map f)) n = (mkCircuit ops n).map (Circuit.map f) := by
  unfold mkCircuit
  rw [sizeByOps_map]
  split
  · cases sizeByOps ops <;> rfl
  · split <;> rfl

/-- what construction through the library guarantees, plus the readable domain -/
structure CircuitOK (env : Env) (C : Codec P E) (okName auto : Name → Prop) (c : Circuit P E) : Prop where
  gates : ∀ o ∈ c.ops, GateOK env C okName auto o.gate
  defs : ∀ d ∈ c.ops.filterMap customDefOf, DefOK C okName auto d
  consistent : Consistent (c.ops.filterMap customDefOf)
  ctor : mkCircuit c.ops c.nQubits = .ok c

theorem CustomDef.map_map {Q R : Type} (f : P → Q) (g : Q → R) (d : CustomDef P) :
    (d.map f).map g = d.map (g ∘ f) := by
  simp only [CustomDef.map, List.map_map, Function.comp_def]

theorem Gate.map_map {Q R : Type} (f : P → Q) (g : Q → R) (x : Gate P E) :
    (x.map f).map g = x.map (g ∘ f) := by
  induction x with
  | builtin n ps => simp only [Gate.map, List.map_map]
  | custom d ps => simp only [Gate.map, List.map_map, CustomDef.map_map]
  | _ => simp only [Gate.map, *]

theorem Op.map_map {Q R : Type} (f : P → Q) (g : Q → R) (o : Op P E) : (o.map f).map g = o.map (g ∘ f) :=
  congrArg (Op.mk · o.qubits) (Gate.map_map f g o.gate)

theorem Circuit.map_map {Q R : Type} (f : P → Q) (g : Q → R) (c : Circuit P E) : (c.map f).map g = c.map (g ∘ f) := by
  simp only [Circuit.map, List.map_map, Function.comp_def, Op.map_map]

/-- every expression a gate carries: its parameters and, for a custom gate, the entries of its definition -/
def Gate.allP : Gate P E → List P
  | .builtin _ ps => ps
  | .custom d ps => ps ++ d.matrix.flatten
  | .controlled g _ => g.allP
  | .dagger g => g.allP
  | .exponential g => g.allP
  | .power g _ => g.allP

theorem map_eq_self {α : Type} (f : α → α) (l : List α) (h : ∀ p ∈ l, f p = p) : l.map f = l :=
  (List.map_congr_left h).trans (List.map_id l)

theorem Gate.map_id_of (f : P → P) (g : Gate P E) (h : ∀ p ∈ g.allP, f p = p) : g.map f = g := by
  induction g with
  | builtin n ps => rw [Gate.map, map_eq_self f ps h]
  | custom d ps =>
    have h1 := map_eq_self f ps fun p hp => h p (List.mem_append_left _ hp)
    have h2 := map_eq_self (fun r => r.map f) d.matrix fun r hr =>
      map_eq_self f r fun p hp => h p (List.mem_append_right _ (List.mem_flatten.mpr ⟨r, hr, hp⟩))
    rw [Gate.map, CustomDef.map, h1, h2]
  | _ => rename_i ih; rw [Gate.map, ih h]

theorem params_map {Q : Type} (f : P → Q) (g : Gate P E) : (g.map f).params = g.params.map f := by
  induction g with
  | builtin n ps => rfl
  | custom d ps => rfl
  | _ => simpa only [Gate.map, Gate.params]

theorem free_map (C : Codec P E) (nrm : P → P) (hf : ∀ p, C.free (nrm p) = C.free p) (g : Gate P E) :
    Gate.free C (g.map nrm) = Gate.free C g := by
  simp only [Gate.free, params_map, List.flatMap_map, hf]

/-- what C01/C02/C06/C07 say the pieces mean; here only compositionality matters -/
structure Sem (P E V M : Type) where
  eval : P → (Name → V) → V                 -- value of an expression under an assignment
  builtinMat : Name → List V → M            -- matrix factory of a built-in gate at parameter values
  entriesMat : List (List V) → M
  ctrl : Int → M → M
  adj : M → M
  mexp : M → M
  mpow : E → M → M

/-- the assignment extended by formal ↦ value (simultaneous substitution of a custom gate) -/
def override {V : Type} (σ : Name → V) : List Name → List V → Name → V
  | n :: ns, v :: vs, x => if x = n then v else override σ ns vs x
  | _, _, x => σ x

def gateMat {V M : Type} (S : Sem P E V M) : Gate P E → (Name → V) → M
  | .builtin n ps, σ => S.builtinMat n (ps.map (fun p => S.eval p σ))
  | .custom d ps, σ =>
    S.entriesMat (d.matrix.map (fun r => r.map (fun e =>
      S.eval e (override σ d.ordering (ps.map (fun p => S.eval p σ))))))
  | .controlled g k, σ => S.ctrl k (gateMat S g σ)
  | .dagger g, σ => S.adj (gateMat S g σ)
  | .exponential g, σ => S.mexp (gateMat S g σ)
  | .power g e, σ => S.mpow e (gateMat S g σ)

theorem gateMat_map {V M : Type} (S : Sem P E V M) (nrm : P → P) (hv : ∀ p σ, S.eval (nrm p) σ = S.eval p σ)
    (g : Gate P E) (σ : Name → V) : gateMat S (g.map nrm) σ = gateMat S g σ := by
  induction g with
  | builtin n ps => simp only [Gate.map, gateMat, List.map_map, Function.comp_def, hv]
  | custom d ps => simp only [Gate.map, gateMat, CustomDef.map, List.map_map, Function.comp_def, hv]
  | _ => simp only [Gate.map, gateMat, *]

instance (names : List Name) : Decidable (NoBaseClash names) :=
  decidable_of_iff (∀ a ∈ names, ∀ b ∈ names, parseIndexed a = none → ∀ p ∈ parseIndexed b, a ≠ p.1)
    ⟨fun h a ha b hb hpa base ds hpb => h a ha b hb hpa (base, ds) hpb,
     fun h a ha b hb hpa p hpb => h a ha b hb hpa p.1 p.2 hpb⟩

instance (names : List Name) : Decidable (IndexInj names) :=
  decidable_of_iff (∀ a ∈ names, ∀ b ∈ names, ∀ p ∈ parseIndexed a, ∀ q ∈ parseIndexed b,
      p.1 = q.1 → digitsToNat p.2 = digitsToNat q.2 → a = b)
    ⟨fun h a ha b hb base da db hpa hpb hd => h a ha b hb (base, da) hpa (base, db) hpb rfl hd,
     fun h a ha b hb p hpa q hpb hbase hd => h a ha b hb p.1 p.2 q.2 hpa (hbase ▸ hpb) hd⟩

/-- toy expressions: a number (`none`, printed `1`) or a bare symbol -/
def toySympify (m : SymMap) (t : Name) : Except Err (Option Name) :=
  if t = ['1'] then .ok none
  else if alookup m t = none ∧ parseIndexed t = none then .ok (some t)
  else match resolve m t with
    | some n => .ok (some n)
    | none => .error .type

def toyCodec : Codec (Option Name) Expo where
  ser := fun p => p.getD ['1']
  sympify := toySympify
  free := fun p => p.toList
  expoText := fun e => e.text
  defNe := fun a b => a != b

def toyOk (s : Name) : Prop := s ≠ ['1']
def toyAuto (s : Name) : Prop := parseIndexed s = none

theorem toyLaw : SympifyLaw toyCodec id toyOk toyAuto where
  sympify_ser := by
    intro m p hp
    cases p with
    | none => simp [toyCodec, toySympify]
    | some s =>
      obtain ⟨hok, hres⟩ := hp s (by simp [toyCodec])
      have h1 : s ≠ ['1'] := hok
      simp only [toyCodec, Option.getD_some, toySympify, h1, if_false, id]
      split
      · rfl
      · rename_i hn
        rcases hres with hr | ⟨ha, hu⟩
        · rw [hr]
        · exact absurd ⟨hu, ha⟩ hn
  free_nrm := fun _ => rfl
  defNe_irrefl := by intro d; simp [toyCodec]

def toyDef : CustomDef (Option Name) :=
  ⟨"U".toList, [[some "theta".toList, none], [none, some "theta".toList]], ["theta".toList]⟩

/-- a concrete circuit inside the domain of the round-trip theorem: wrappers, an indexed symbol in a built-in
    gate, a custom gate applied to its own formal and to an indexed symbol, idle qubits -/
def toySample : Circuit (Option Name) Expo :=
  ⟨5, [⟨.controlled (.dagger (.builtin ['R', 'X'] [some "x[3]".toList])) 1, [3, 0]⟩,
       ⟨.exponential (.power (.builtin ['X'] []) ⟨false, 1, 2, "0.5".toList⟩), [0]⟩,
       ⟨.dagger (.custom toyDef [some "theta".toList]), [1]⟩,
       ⟨.custom toyDef [some "x[3]".toList], [2]⟩]⟩

instance : DecidablePred toyOk := fun s => inferInstanceAs (Decidable (s ≠ ['1']))
instance : DecidablePred toyAuto := fun s => inferInstanceAs (Decidable (parseIndexed s = none))

theorem toySample_ok : CircuitOK genEnv toyCodec toyOk toyAuto toySample where
  gates := by
    intro o ho
    simp only [toySample, List.mem_cons, List.not_mem_nil, or_false] at ho
    rcases ho with rfl | rfl | rfl | rfl
    · exact ⟨by decide, ⟨⟨['R','X'], ['R','X'], 1, 1, false, true⟩, by decide, by decide⟩,
        by decide, by decide, by decide⟩
    · exact ⟨by decide, by decide, by decide, ⟨⟨['X'], ['X'], 1, 0, true, false⟩, by decide, by decide⟩,
        by decide, by decide, by decide⟩
    · exact ⟨by decide, by decide, by decide,
        by decide, by decide, by decide⟩
    · exact ⟨by decide, by decide, by decide,
        by decide, by decide, by decide⟩
  defs := by
    have h : toySample.ops.filterMap customDefOf = [toyDef, toyDef] := by decide
    rw [h]
    intro d hd
    obtain rfl : d = toyDef := by simpa using hd
    exact ⟨by decide, by decide, by decide, by unfold Readable; decide⟩
  consistent := by
    have h : toySample.ops.filterMap customDefOf = [toyDef, toyDef] := by decide
    rw [h]
    unfold Consistent
    decide
  ctor := by decide

end OQ.C05
