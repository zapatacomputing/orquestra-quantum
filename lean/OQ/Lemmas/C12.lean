/- What the C12 property theorems are made of: the invariant `Inv` and the bit reversal `bitrev` their statements speak of, the
   constructor as a single test (`construct_eq`), one specification of a step (`Step`, `step_spec`), the flip as a permutation,
   Hamming weights by induction over the binary digits, the Gosper step in closed form, the Dicke loop. -/
import OQ.Model.C12
import Mathlib.Tactic.Linarith
import Mathlib.Tactic.Ring
import Mathlib.Algebra.BigOperators.Group.List.Basic
import Mathlib.Algebra.Order.BigOperators.Group.List
import Mathlib.Data.List.Induction
import Mathlib.Data.List.Perm.Basic
import Mathlib.Data.List.Nodup
namespace OQ.C12

theorem popcountAux_indep (f g x : Nat) (hf : x ≤ f) (hg : x ≤ g) : popcountAux f x = popcountAux g x := by
  induction f generalizing g x with
  | zero => obtain rfl := Nat.le_zero.mp hf; cases g <;> rfl
  | succ f ih =>
    cases g with
    | zero => obtain rfl := Nat.le_zero.mp hg; rfl
    | succ g =>
      rw [popcountAux, popcountAux]
      split
      · rfl
      · rw [ih g (x / 2) (by omega) (by omega)]

theorem popcount_unfold (x : Nat) : popcount x = if x = 0 then 0 else x % 2 + popcount (x / 2) := by
  unfold popcount
  cases x with
  | zero => simp [popcountAux]
  | succ f =>
    simp only [popcountAux, Nat.succ_ne_zero, if_false]
    rw [popcountAux_indep f ((f + 1) / 2) ((f + 1) / 2) (by omega) (le_refl _)]

theorem popcount_zero : popcount 0 = 0 := by rw [popcount_unfold]; simp

theorem popcount_double (x b : Nat) (hb : b < 2) : popcount (2 * x + b) = popcount x + b := by
  rw [popcount_unfold]
  split
  · rename_i h
    obtain ⟨hx, rfl⟩ := Nat.add_eq_zero_iff.mp h
    rw [(Nat.mul_eq_zero.mp hx).resolve_left (by decide), popcount_zero]
  · rw [Nat.mul_add_mod, Nat.mod_eq_of_lt hb, Nat.mul_add_div Nat.two_pos, Nat.div_eq_of_lt hb, Nat.add_zero, Nat.add_comm]

theorem bit_induction {P : Nat → Prop} (h0 : P 0) (h : ∀ x b, b < 2 → P x → P (2 * x + b)) (n : Nat) : P n := by
  induction n using Nat.strongRecOn with
  | _ n ih =>
    rcases Nat.eq_zero_or_pos n with rfl | hn
    · exact h0
    · have := h (n / 2) (n % 2) (Nat.mod_lt _ (by omega)) (ih _ (by omega))
      rwa [Nat.div_add_mod] at this

theorem popcount_eq_zero_iff (x : Nat) : popcount x = 0 ↔ x = 0 := by
  induction x using bit_induction with
  | h0 => simp [popcount_zero]
  | h x b hb ih => simp [popcount_double x b hb, ih]

theorem popcount_split (L H r : Nat) (hr : r < 2 ^ L) : popcount (2 ^ L * H + r) = popcount H + popcount r := by
  induction L generalizing r with
  | zero =>
    obtain rfl : r = 0 := by simpa using hr
    simp [popcount_zero]
  | succ L ih =>
    have hb : r % 2 < 2 := Nat.mod_lt _ (by omega)
    have e : 2 ^ (L + 1) * H + r = 2 * (2 ^ L * H + r / 2) + r % 2 := by
      rw [pow_succ, Nat.mul_assoc, Nat.mul_left_comm]; omega
    rw [e, popcount_double _ _ hb, ih _ (by rw [pow_succ] at hr; omega)]
    conv_rhs => rw [← Nat.div_add_mod r 2, popcount_double _ _ hb]
    omega

theorem popcount_two_pow (k : Nat) : popcount (2 ^ k) = 1 := by
  have := popcount_split k 1 0 (Nat.two_pow_pos k)
  rwa [Nat.mul_one, Nat.add_zero, popcount_zero] at this

theorem popcount_eq_one_iff (n : Nat) : popcount n = 1 ↔ ∃ k, n = 2 ^ k := by
  refine ⟨?_, fun ⟨k, hk⟩ => hk ▸ popcount_two_pow k⟩
  induction n using bit_induction with
  | h0 => intro h; rw [popcount_zero] at h; cases h
  | h x b hb ih =>
    intro h
    rw [popcount_double x b hb] at h
    obtain rfl | rfl : b = 0 ∨ b = 1 := by omega
    · obtain ⟨k, rfl⟩ := ih h
      exact ⟨k + 1, by rw [pow_succ]; omega⟩
    · obtain rfl := (popcount_eq_zero_iff x).mp (by omega)
      exact ⟨0, rfl⟩

theorem two_pow_succ_pred {m c : Nat} (hc : 2 ^ m = c + 1) : 2 ^ (m + 1) - 1 = 2 * c + 1 :=
  Nat.sub_eq_of_eq_add (by rw [pow_succ, hc, Nat.add_mul, Nat.mul_comm])

theorem popcount_two_pow_sub_one (m : Nat) : popcount (2 ^ m - 1) = m := by
  induction m with
  | zero => exact popcount_zero
  | succ m ih =>
    obtain ⟨c, hc⟩ : ∃ c, 2 ^ m = c + 1 := Nat.exists_eq_add_of_le' (Nat.two_pow_pos m)
    rw [hc, Nat.add_sub_cancel] at ih
    rw [two_pow_succ_pred hc, popcount_double _ _ Nat.one_lt_two, ih]

theorem popcount_lower (s : Nat) : 2 ^ popcount s ≤ s + 1 := by
  induction s using bit_induction with
  | h0 => simp [popcount_zero]
  | h x b hb ih =>
    rw [popcount_double x b hb]
    obtain rfl | rfl : b = 0 ∨ b = 1 := by omega
    · rw [Nat.add_zero]; omega
    · rw [pow_succ]; omega

theorem popcount_upper (r K : Nat) (hr : r < 2 ^ (popcount r + K)) : r + 2 ^ K ≤ 2 ^ (popcount r + K) := by
  induction r using bit_induction generalizing K with
  | h0 => simp [popcount_zero]
  | h x b hb ih =>
    rw [popcount_double x b hb] at hr ⊢
    obtain rfl | rfl : b = 0 ∨ b = 1 := by omega
    · simp only [Nat.add_zero] at hr ⊢
      cases K with
      | zero => simp only [Nat.add_zero, pow_zero] at hr ⊢; omega
      | succ K =>
        have := ih K
        rw [← Nat.add_assoc, pow_succ] at hr ⊢
        rw [pow_succ]; omega
    · have := ih K
      have hK := Nat.two_pow_pos K
      rw [show popcount x + 1 + K = popcount x + K + 1 by omega, pow_succ] at hr ⊢
      omega

theorem popcount_mul_two_pow (x j : Nat) : popcount (x * 2 ^ j) = popcount x := by
  have := popcount_split j x 0 (Nat.two_pow_pos j)
  rwa [Nat.add_zero, popcount_zero, Nat.add_zero, Nat.mul_comm] at this

theorem popcount_one : popcount 1 = 1 := by decide

theorem writeAt_length {α : Type} (v : List α) (ps : List Nat) (xs : List α) :
    (writeAt v ps xs).length = v.length := by
  induction ps generalizing v xs with
  | nil => simp [writeAt]
  | cons p ps ih =>
    cases xs with
    | nil => simp [writeAt]
    | cons x xs => simp only [writeAt]; rw [ih]; simp

theorem writeAt_getElem?_of_not_mem {α : Type} (v : List α) (ps : List Nat) (xs : List α) (q : Nat)
    (hq : q ∉ ps) : (writeAt v ps xs)[q]? = v[q]? := by
  induction ps generalizing v xs with
  | nil => simp [writeAt]
  | cons p ps ih =>
    cases xs with
    | nil => simp [writeAt]
    | cons x xs =>
      simp only [writeAt]
      have hp : p ≠ q := fun h => hq (by simp [h])
      rw [ih _ _ (fun h => hq (by simp [h])), List.getElem?_set]
      simp [hp]

theorem restore_aux {α : Type} (v w : List α) (ps : List Nat) (old : List α)
    (hlen : w.length = v.length) (hoff : ∀ q, q ∉ ps → w[q]? = v[q]?) (hold : readAt v ps = some old) :
    writeAt w ps old = v := by
  induction ps generalizing w old with
  | nil =>
    simp only [readAt, Option.some.injEq] at hold; subst hold
    simp only [writeAt]
    exact List.ext_getElem? (fun q => hoff q (by simp))
  | cons p ps ih =>
    simp only [readAt] at hold
    split at hold
    · rename_i a rest h1 h2
      simp only [Option.some.injEq] at hold; subst hold
      simp only [writeAt]
      apply ih
      · simp [hlen]
      · intro q hq
        rw [List.getElem?_set]
        by_cases hpq : p = q
        · subst hpq
          have hp : p < v.length := by
            by_contra hc
            rw [List.getElem?_eq_none (by omega)] at h1; simp at h1
          rw [h1]; simp [hlen, hp]
        · simp only [hpq, if_false]
          exact hoff q (by simp [hq, Ne.symm hpq])
      · exact h2
    · simp at hold

theorem restore_write {α : Type} (v : List α) (ps : List Nat) (vals old : List α)
    (hold : readAt v ps = some old) : writeAt (writeAt v ps vals) ps old = v :=
  restore_aux v _ ps old (writeAt_length _ _ _) (fun q hq => writeAt_getElem?_of_not_mem _ _ _ q hq) hold

/-- what the property demands of an object: a power-of-two number of amplitudes; squared magnitudes summing
    to 1 (in the sense of `close`) when there is no symbol, those of the numeric entries summing to at most 1 otherwise -/
def Inv (close : Rat → Bool) (s : Store) : Prop :=
  (∃ k, s.length = 2 ^ k) ∧
  (allNum s.entries = true → close (numSq s.entries) = true) ∧
  (allNum s.entries = false → numSq s.entries ≤ 1)

theorem checkNorm_iff (close : Rat → Bool) (v : List Lin) :
    checkNorm close v = true ↔
      (allNum v = true → close (numSq v) = true) ∧ (allNum v = false → numSq v ≤ 1) := by
  unfold checkNorm
  cases allNum v <;> simp

theorem arr1_entries (v : List QI) : (Store.arr1 v).entries = v.map Lin.ofNum := rfl
theorem arr2_entries (v : List QI) : (Store.arr2 v).entries = v.map Lin.ofNum := rfl
theorem mat_entries (v : List Lin) : (Store.mat v).entries = v := rfl

theorem inv_iff (close : Rat → Bool) (s : Store) :
    Inv close s ↔ (∃ k, s.length = 2 ^ k) ∧ checkNorm close s.entries = true :=
  Iff.rfl.and (checkNorm_iff close s.entries).symm

theorem allNum_ofNum (v : List QI) : allNum (v.map Lin.ofNum) = true := by
  simp [allNum, Lin.isNum, Lin.ofNum]

theorem numSq_allNum (v : List Lin) (h : allNum v = true) : numSq v = (v.map (fun e => e.c.normSq)).sum := by
  unfold numSq
  rw [List.filter_eq_self.mpr (List.all_eq_true.mp h)]

theorem numSq_ofNum (v : List QI) : numSq (v.map Lin.ofNum) = (v.map QI.normSq).sum := by
  rw [numSq_allNum _ (allNum_ofNum v), List.map_map]; rfl

theorem checkNorm_arr (close : Rat → Bool) (v : List QI) :
    checkNorm close (v.map Lin.ofNum) = close ((v.map QI.normSq).sum) := by
  rw [checkNorm, allNum_ofNum, numSq_ofNum]; rfl

theorem map_c_ofNum (v : List Lin) (h : allNum v = true) : (v.map (fun e => e.c)).map Lin.ofNum = v := by
  rw [List.map_map]
  conv_rhs => rw [← List.map_id v]
  apply List.map_congr_left
  intro e he
  obtain ⟨c, terms⟩ := e
  have ht : terms = [] := List.isEmpty_iff.mp (List.all_eq_true.mp h _ he)
  subst ht; rfl

/-- whether an object counts as a column when it is handed to the constructor again: everything but a 1-d array -/
def Store.col : Store → Bool
  | .arr1 _ => false
  | _ => true

/-- the object `Wavefunction(v)` holds once it has accepted `v`: `np.array(v, dtype=complex)` of the argument's shape
    where that succeeds, `Matrix(v)` otherwise -/
def Store.ofInput (col : Bool) (v : List Lin) : Store :=
  if allNum v then (if col then .arr2 (v.map (·.c)) else .arr1 (v.map (·.c))) else .mat v

theorem entries_ofInput (col : Bool) (v : List Lin) : (Store.ofInput col v).entries = v := by
  unfold Store.ofInput
  cases h : allNum v
  · rfl
  · cases col <;> exact map_c_ofNum v h

theorem ofInput_ofNum (col : Bool) (v : List QI) :
    Store.ofInput col (v.map Lin.ofNum) = if col then .arr2 v else .arr1 v := by
  have : (fun e : Lin => e.c) ∘ Lin.ofNum = id := rfl
  rw [Store.ofInput, allNum_ofNum, if_pos rfl, List.map_map, this, List.map_id]

theorem construct_eq (close : Rat → Bool) (col : Bool) (v : List Lin) :
    construct close col v =
      if popcount v.length = 1 ∧ checkNorm close v = true then .ok (Store.ofInput col v) else .error .value := by
  unfold construct checkNorm Store.ofInput
  by_cases hp : popcount v.length = 1 <;> cases allNum v <;> simp [hp, -not_lt]

theorem construct_eq_ok (close : Rat → Bool) (col : Bool) (v : List Lin) (s : Store) :
    construct close col v = .ok s ↔
      ((∃ k, v.length = 2 ^ k) ∧ checkNorm close v = true) ∧ Store.ofInput col v = s := by
  rw [construct_eq, ← popcount_eq_one_iff]
  split
  · rename_i h; exact ⟨fun e => ⟨h, Except.ok.inj e⟩, fun e => congrArg _ e.2⟩
  · rename_i h; exact ⟨nofun, fun e => absurd e.1 h⟩

theorem construct_error (close : Rat → Bool) (col : Bool) (v : List Lin) (e : Err)
    (h : construct close col v = .error e) : e = .value := by
  rw [construct_eq] at h
  split at h
  · cases h
  · exact (Except.error.inj h).symm

theorem inv_of_construct {close : Rat → Bool} {col : Bool} {v : List Lin} {s : Store}
    (h : construct close col v = .ok s) : Inv close s := by
  obtain ⟨hv, rfl⟩ := (construct_eq_ok close col v s).mp h
  rw [inv_iff, Store.length, entries_ofInput]; exact hv

theorem entries_of_construct {close : Rat → Bool} {col : Bool} {v : List Lin} {s : Store}
    (h : construct close col v = .ok s) : s.entries = v := by
  obtain ⟨-, rfl⟩ := (construct_eq_ok close col v s).mp h
  exact entries_ofInput col v

/-- what every `__setitem__` returns for the stored vector `v`, ndarray or Matrix, `good` being the re-check: the written
    vector, of the old length and accepted by the re-check; or an error, with `v` itself back -/
def SetSpec {α : Type} (good : List α → Bool) (v : List α) (r : List α × Outcome) : Prop :=
  (r.2 = .ok ∧ r.1.length = v.length ∧ good r.1 = true) ∨ (r.2 ≠ .ok ∧ r.1 = v)

theorem SetSpec.refused {α : Type} (good : List α → Bool) (v : List α) (e : Err) : SetSpec good v (v, .err e) :=
  Or.inr ⟨nofun, rfl⟩

theorem SetSpec.recheck {α : Type} (good : List α → Bool) {v w : List α} (e : Err) (hl : w.length = v.length) :
    SetSpec good v (if good w = true then (w, .ok) else (v, .err e)) := by
  split
  · exact Or.inl ⟨rfl, hl, ‹_›⟩
  · exact .refused good v e

theorem setArr_spec (close : Rat → Bool) (v : List QI) (ps : List Nat) (vals : List QI) :
    SetSpec (fun w => close ((w.map QI.normSq).sum)) v (setArr close v ps vals) :=
  .recheck _ _ (writeAt_length v ps vals)

theorem setIntArr_spec (close : Rat → Bool) (v : List QI) (i : Int) (val : Lin) :
    SetSpec (fun w => close ((w.map QI.normSq).sum)) v (setIntArr close v i val) := by
  unfold setIntArr
  split
  · exact .refused ..
  · split
    · exact .refused ..
    · exact setArr_spec ..

theorem setSliceArr_spec (close : Rat → Bool) (twoD : Bool) (v : List QI) (a b : Nat) (val : SliceVal) :
    SetSpec (fun w => close ((w.map QI.normSq).sum)) v (setSliceArr close twoD v a b val) := by
  unfold setSliceArr
  dsimp only
  split
  · exact .refused ..
  · exact setArr_spec ..

theorem setIntMat_spec (close : Rat → Bool) (v : List Lin) (i : Int) (val : Lin) :
    SetSpec (checkNorm close) v (setIntMat close v i val) := by
  unfold setIntMat
  split
  · exact .refused ..
  · exact .recheck _ _ (writeAt_length ..)

theorem setSliceMat_spec (close : Rat → Bool) (v : List Lin) (a b : Nat) (val : SliceVal) :
    SetSpec (checkNorm close) v (setSliceMat close v a b val) := by
  unfold setSliceMat
  cases val with
  | list xs =>
    dsimp only
    split
    · exact .recheck _ _ rfl
    · exact .refused ..
  | scalar x =>
    dsimp only
    split
    · exact .recheck _ _ (List.length_set ..)
    · exact .refused ..

/-- the index permutation behind `_get_ordering`: write `i` with `k` binary digits and read them backwards -/
def bitrev (k i : Nat) : Nat := ravel (lsbDigits k i)

theorem lsbDigits_length (k i : Nat) : (lsbDigits k i).length = k := by
  induction k generalizing i with
  | zero => rfl
  | succ k ih => simp [lsbDigits, ih]

theorem ravel_foldl (ds : List Nat) (a : Nat) :
    ds.foldl (fun acc d => 2 * acc + d) a = a * 2 ^ ds.length + ravel ds := by
  induction ds generalizing a with
  | nil => simp [ravel]
  | cons d ds ih =>
    simp only [List.foldl_cons, List.length_cons, ravel]
    rw [ih (2 * a + d), ih (2 * 0 + d)]
    rw [pow_succ]; ring

theorem ravel_cons (d : Nat) (ds : List Nat) : ravel (d :: ds) = d * 2 ^ ds.length + ravel ds := by
  have := ravel_foldl ds (2 * 0 + d)
  simp only [ravel, List.foldl_cons] at this ⊢
  rw [this]; simp

theorem bitrev_succ (k i : Nat) : bitrev (k + 1) i = 2 ^ k * (i % 2) + bitrev k (i / 2) := by
  rw [bitrev, lsbDigits, ravel_cons, lsbDigits_length, Nat.mul_comm]; rfl

theorem bitrev_lt (k i : Nat) : bitrev k i < 2 ^ k := by
  induction k generalizing i with
  | zero => exact Nat.one_pos
  | succ k ih =>
    have := ih (i / 2)
    have : 2 ^ k * (i % 2) ≤ 2 ^ k * 1 := Nat.mul_le_mul_left _ (by omega)
    rw [bitrev_succ, pow_succ]; omega

theorem bitrev_testBit (k i p : Nat) (hp : p < k) : (bitrev k i).testBit p = i.testBit (k - 1 - p) := by
  induction k generalizing i with
  | zero => omega
  | succ k ih =>
    rw [bitrev_succ, Nat.testBit_two_pow_mul_add _ (bitrev_lt k _)]
    split
    · rw [ih _ ‹_›, Nat.testBit_div_two, show k - 1 - p + 1 = k + 1 - 1 - p by omega]
    · obtain rfl : p = k := by omega
      rw [Nat.sub_self, Nat.add_sub_cancel, Nat.sub_self, Nat.testBit_zero, Nat.testBit_zero, Nat.mod_mod]

theorem bitrev_bitrev (k i : Nat) (h : i < 2 ^ k) : bitrev k (bitrev k i) = i := by
  refine Nat.eq_of_testBit_eq fun p => ?_
  rcases Nat.lt_or_ge p k with hp | hp
  · rw [bitrev_testBit _ _ _ hp, bitrev_testBit _ _ _ (by omega), show k - 1 - (k - 1 - p) = p by omega]
  · have hpow := Nat.pow_le_pow_right Nat.two_pos hp
    rw [Nat.testBit_lt_two_pow (Nat.lt_of_lt_of_le (bitrev_lt k _) hpow),
      Nat.testBit_lt_two_pow (Nat.lt_of_lt_of_le h hpow)]

theorem bitrev_range_perm (k : Nat) : ((List.range (2 ^ k)).map (bitrev k)).Perm (List.range (2 ^ k)) := by
  have hnd : ((List.range (2 ^ k)).map (bitrev k)).Nodup := by
    apply List.Nodup.map_on _ List.nodup_range
    intro x hx y hy hxy
    rw [List.mem_range] at hx hy
    rw [← bitrev_bitrev k x hx, ← bitrev_bitrev k y hy, hxy]
  rw [List.perm_ext_iff_of_nodup hnd List.nodup_range]
  intro a
  simp only [List.mem_map, List.mem_range]
  constructor
  · rintro ⟨i, _, rfl⟩; exact bitrev_lt k i
  · intro ha; exact ⟨bitrev k a, bitrev_lt k a, bitrev_bitrev k a ha⟩

theorem ordering_two_pow (k : Nat) : ordering (2 ^ k) = (List.range (2 ^ k)).map (bitrev k) := by
  simp only [ordering, numBits, Nat.log2_two_pow, unravel, List.reverse_reverse]
  rfl

theorem readAt_eq_pmap {α : Type} (v : List α) (ps : List Nat) (h : ∀ p ∈ ps, p < v.length) :
    readAt v ps = some (ps.pmap (fun p hp => v[p]) h) := by
  induction ps with
  | nil => rfl
  | cons p ps ih =>
    rw [readAt, ih (fun q hq => h q (List.mem_cons_of_mem _ hq)), List.getElem?_eq_getElem (h p List.mem_cons_self)]
    rfl

theorem pmap_getElem_range {α : Type} (v : List α) :
    (List.range v.length).pmap (fun i hi => v[i]) (fun _ => List.mem_range.mp) = v :=
  List.ext_getElem (by simp) (by simp)

theorem flipList_eq {α : Type} (v : List α) (k : Nat) (hlen : v.length = 2 ^ k) :
    ∃ H, flipList v = some (((List.range v.length).map (bitrev k)).pmap (fun p hp => v[p]) H) := by
  have H : ∀ p ∈ (List.range v.length).map (bitrev k), p < v.length := by
    intro p hp
    obtain ⟨i, -, rfl⟩ := List.mem_map.mp hp
    rw [hlen]; exact bitrev_lt k i
  refine ⟨H, ?_⟩
  rw [flipList, if_neg (by rw [hlen]; exact (Nat.two_pow_pos k).ne'), ← readAt_eq_pmap]
  congr 1
  rw [hlen, ordering_two_pow]

theorem flipList_spec {α : Type} (v : List α) (k : Nat) (hlen : v.length = 2 ^ k) :
    ∃ w, flipList v = some w ∧ w.length = 2 ^ k ∧ ∀ i, i < 2 ^ k → w[i]? = v[bitrev k i]? := by
  obtain ⟨H, hw⟩ := flipList_eq v k hlen
  refine ⟨_, hw, by rw [List.length_pmap, List.length_map, List.length_range, hlen], fun i hi => ?_⟩
  rw [← hlen] at hi
  simp [List.getElem?_pmap, List.getElem?_range hi]

theorem flipList_perm {α : Type} (v w : List α) (k : Nat) (hlen : v.length = 2 ^ k)
    (h : flipList v = some w) : w.Perm v := by
  obtain ⟨H, hw⟩ := flipList_eq v k hlen
  obtain rfl := Option.some.inj (h.symm.trans hw)
  have hp : ((List.range v.length).map (bitrev k)).Perm (List.range v.length) := by rw [hlen]; exact bitrev_range_perm k
  exact (hp.pmap _).trans (.of_eq (pmap_getElem_range v))

theorem numSq_perm (v w : List Lin) (h : w.Perm v) : numSq w = numSq v := by
  unfold numSq
  exact ((h.filter _).map _).sum_eq

theorem allNum_perm (v w : List Lin) (h : w.Perm v) : allNum w = allNum v := by
  unfold allNum
  rw [Bool.eq_iff_iff]
  simp only [List.all_eq_true]
  exact ⟨fun hw x hx => hw x (h.mem_iff.mpr hx), fun hv x hx => hv x (h.mem_iff.mp hx)⟩

theorem checkNorm_perm (close : Rat → Bool) (v w : List Lin) (h : w.Perm v) : checkNorm close w = checkNorm close v := by
  unfold checkNorm; rw [numSq_perm v w h, allNum_perm v w h]

theorem readAt_map {α β : Type} (f : α → β) (v : List α) (ps : List Nat) :
    readAt (v.map f) ps = (readAt v ps).map (List.map f) := by
  induction ps with
  | nil => rfl
  | cons p ps ih =>
    simp only [readAt, ih, List.getElem?_map]
    cases v[p]? <;> cases readAt v ps <;> rfl

theorem flipList_map {α β : Type} (f : α → β) (v : List α) : flipList (v.map f) = (flipList v).map (List.map f) := by
  unfold flipList
  simp only [List.length_map]
  split
  · rfl
  · exact readAt_map f v _

theorem flipWf_eq (close : Rat → Bool) (s : Store) :
    flipWf close s = match flipList s.entries with
      | none => .error .type
      | some w => construct close s.col w := by
  cases s with
  | arr1 v | arr2 v => simp only [flipWf, arr1_entries, arr2_entries, flipList_map, Store.col]; cases flipList v <;> rfl
  | mat v => rfl

theorem flipWf_ok (close : Rat → Bool) (s s' : Store) (h : flipWf close s = .ok s') : Inv close s' := by
  rw [flipWf_eq] at h
  split at h
  · cases h
  · exact inv_of_construct h

/-- the flipped vector is a permutation of the old one, so it passes the constructor's tests again -/
theorem flipWf_spec (close : Rat → Bool) (s : Store) (hinv : Inv close s) :
    ∃ s', flipWf close s = .ok s' ∧ flipList s.entries = some s'.entries := by
  obtain ⟨⟨k, hk⟩, hc⟩ := (inv_iff close s).mp hinv
  obtain ⟨w, hw, hwl, -⟩ := flipList_spec s.entries k hk
  rw [← checkNorm_perm close _ _ (flipList_perm _ _ k hk hw)] at hc
  refine ⟨Store.ofInput s.col w, ?_, by rw [hw, entries_ofInput]⟩
  rw [flipWf_eq, hw]
  exact (construct_eq_ok ..).mpr ⟨⟨⟨k, hwl⟩, hc⟩, rfl⟩

theorem load_ok (close : Rat → Bool) (col : Bool) (re : List Rat) (im : Option (List Rat)) (s' : Store)
    (h : load close col re im = .ok s') : Inv close s' := by
  unfold load at h
  split at h
  · cases h
  · exact inv_of_construct h

/-- what one operation can do to the object `s`, `r` being the object afterwards and what the caller saw: nothing; or it
    succeeded and wrote a vector of the same length that passed `_check_normalization`; or it succeeded and left a freshly
    constructed object -/
inductive Step (close : Rat → Bool) (s : Store) : Store × Outcome → Prop
  | same (o : Outcome) : Step close s (s, o)
  | written (s' : Store) : s'.length = s.length → checkNorm close s'.entries = true → Step close s (s', .ok)
  | built (s' : Store) : Inv close s' → Step close s (s', .ok)

theorem Step.unchanged {close : Rat → Bool} {s : Store} {r : Store × Outcome} (h : Step close s r) (hr : r.2 ≠ .ok) :
    r.1 = s := by
  cases h with
  | same => rfl
  | written => exact absurd rfl hr
  | built => exact absurd rfl hr

theorem Step.inv {close : Rat → Bool} {s : Store} {r : Store × Outcome} (h : Step close s r) (hinv : Inv close s) :
    Inv close r.1 := by
  cases h with
  | same => exact hinv
  | written s' hl hc => exact (inv_iff close s').mpr ⟨hl ▸ hinv.1, hc⟩
  | built s' h => exact h

theorem SetSpec.step {α : Type} {close : Rat → Bool} {good : List α → Bool} {v : List α} {r : List α × Outcome}
    (h : SetSpec good v r) (mk : List α → Store) (hlen : ∀ w, (mk w).length = w.length)
    (hgood : ∀ w, checkNorm close (mk w).entries = good w) : Step close (mk v) (mk r.1, r.2) := by
  rcases h with ⟨ho, hl, hg⟩ | ⟨-, hv⟩
  · rw [ho]; exact .written _ (by rw [hlen, hlen, hl]) (by rw [hgood, hg])
  · rw [hv]; exact .same _

theorem step_spec (close : Rat → Bool) (s : Store) (op : Op) : Step close s (step close s op) := by
  cases op with
  | setInt i val =>
    cases s with
    | arr1 v | arr2 v => exact (setIntArr_spec close v i val).step _ (fun _ => List.length_map _) (checkNorm_arr close)
    | mat v => exact (setIntMat_spec close v i val).step _ (fun _ => rfl) (fun _ => rfl)
  | setSlice st sp val =>
    cases s with
    | arr1 v | arr2 v =>
      exact (setSliceArr_spec close _ v _ _ val).step _ (fun _ => List.length_map _) (checkNorm_arr close)
    | mat v => exact (setSliceMat_spec close v _ _ val).step _ (fun _ => rfl) (fun _ => rfl)
  | bind m =>
    cases s with
    | arr1 v | arr2 v => exact .same _
    | mat v =>
      simp only [step]
      split
      · exact .same _
      · split
        · exact .built _ (inv_of_construct ‹_›)
        · exact .same _
  | flip =>
    have e : step close s .flip = match flipWf close s with
        | .ok s' => (s', .ok)
        | .error e => (s, .err e) := by cases s <;> rfl
    rw [e]
    split
    · exact .built _ (flipWf_ok close s _ ‹_›)
    · exact .same _
  | reload =>
    have e : step close s .reload = match save s with
        | .error e => (s, .err e)
        | .ok (col, re, im) => match load close col re (some im) with
          | .ok s' => (s', .ok)
          | .error e => (s, .err e) := by cases s <;> rfl
    rw [e]
    split
    · exact .same _
    · split
      · exact .built _ (load_ok close _ _ _ _ ‹_›)
      · exact .same _

theorem or_or_or (h a b : Nat) : (h ||| a) ||| (h ||| b) = h ||| (a ||| b) := by ac_rfl

theorem two_pow_lt_succ (j : Nat) : 2 ^ j < 2 ^ (j + 1) := Nat.pow_lt_pow_right (by decide) (Nat.lt_succ_self j)

theorem two_pow_pred_lt (j : Nat) : 2 ^ j - 1 < 2 ^ j := Nat.sub_lt (Nat.two_pow_pos j) Nat.one_pos

theorem two_pow_pred_lt_add (j m : Nat) : 2 ^ m - 1 < 2 ^ (j + m + 1) :=
  Nat.lt_of_lt_of_le (two_pow_pred_lt m) (Nat.pow_le_pow_right Nat.two_pos (Nat.le_succ_of_le (Nat.le_add_left m j)))

theorem or_pred (B j : Nat) :
    (2 ^ (j + 1) * B + 2 ^ j) ||| (2 ^ (j + 1) * B + 2 ^ j - 1) = 2 ^ (j + 1) * B + (2 ^ (j + 1) - 1) := by
  have hpos := Nat.two_pow_pos j
  have e : 2 ^ j ||| (2 ^ j - 1) = 2 ^ (j + 1) - 1 := by
    have := Nat.two_pow_add_eq_or_of_lt (two_pow_pred_lt j) 1
    rw [Nat.mul_one] at this
    rw [← this, pow_succ, Nat.mul_two, Nat.add_sub_assoc hpos]
  rw [Nat.add_sub_assoc hpos, Nat.two_pow_add_eq_or_of_lt (two_pow_lt_succ j),
    Nat.two_pow_add_eq_or_of_lt (Nat.lt_trans (two_pow_pred_lt j) (two_pow_lt_succ j)),
    Nat.two_pow_add_eq_or_of_lt (two_pow_pred_lt (j + 1)), ← e, or_or_or]

theorem and_pred (B j : Nat) :
    (2 ^ (j + 1) * B + 2 ^ j) &&& (2 ^ (j + 1) * B + 2 ^ j - 1) = 2 ^ (j + 1) * B := by
  rw [Nat.add_sub_assoc (Nat.two_pow_pos j), Nat.two_pow_add_eq_or_of_lt (two_pow_lt_succ j),
    Nat.two_pow_add_eq_or_of_lt (Nat.lt_trans (two_pow_pred_lt j) (two_pow_lt_succ j)), ← Nat.or_and_distrib_left,
    Nat.and_two_pow_sub_one_eq_mod, Nat.mod_self, Nat.or_zero]

theorem lowBit_spec (B j : Nat) : lowBit (2 ^ (j + 1) * B + 2 ^ j) = 2 ^ j := by
  rw [lowBit, and_pred, Nat.add_sub_cancel_left]

theorem or_of_dvd {i x b : Nat} (hx : 2 ^ i ∣ x) (hb : b < 2 ^ i) : x ||| b = x + b := by
  obtain ⟨a, rfl⟩ := hx
  exact (Nat.two_pow_add_eq_or_of_lt hb a).symm

theorem gosper_core (A j m' : Nat) :
    nextSameWeight (2 ^ (j + m' + 2) * A + (2 ^ (m' + 1) - 1) * 2 ^ j)
      = 2 ^ (j + m' + 2) * A + 2 ^ (j + m' + 1) + (2 ^ m' - 1) := by
  obtain ⟨c, hc⟩ : ∃ c, 2 ^ m' = c + 1 := Nat.exists_eq_add_of_le' (Nat.two_pow_pos m')
  -- the argument: its lowest one at `j`, then whatever is above it
  have hv : 2 ^ (j + m' + 2) * A + (2 ^ (m' + 1) - 1) * 2 ^ j = 2 ^ (j + 1) * (2 * (c + 1) * A + c) + 2 ^ j := by
    rw [two_pow_succ_pred hc, pow_add, pow_add, hc]; ring
  -- `t = (v | (v - 1)) + 1`: the carry runs through the block
  have ht : 2 ^ (j + 1) * (2 * (c + 1) * A + c) + (2 ^ (j + 1) - 1) + 1 = 2 ^ (j + m' + 1 + 1) * A + 2 ^ (j + m' + 1) := by
    rw [Nat.add_assoc, Nat.sub_add_cancel (Nat.two_pow_pos _), pow_succ 2 (j + m' + 1), pow_add 2 (j + m'), pow_add 2 j m', hc]
    ring
  have hq : (2 ^ (j + m' + 1) / 2 ^ j) >>> 1 = 2 ^ m' := by
    rw [Nat.shiftRight_eq_div_pow, Nat.div_div_eq_div_mul, ← pow_succ, Nat.add_right_comm, pow_add,
      Nat.mul_div_cancel_left _ (Nat.two_pow_pos _)]
  rw [nextSameWeight, hv, or_pred, ht, lowBit_spec, lowBit_spec, hq]
  exact or_of_dvd (Nat.dvd_add (Dvd.dvd.mul_right (pow_dvd_pow 2 (Nat.le_succ _)) A) (Nat.dvd_refl _))
    (two_pow_pred_lt_add j m')

theorem exists_two_pow_mul_odd (n : Nat) (hn : 0 < n) : ∃ e a, n = 2 ^ e * (2 * a + 1) := by
  induction n using bit_induction with
  | h0 => cases hn
  | h x b hb ih =>
    obtain rfl | rfl : b = 0 ∨ b = 1 := by omega
    · obtain ⟨e, a, rfl⟩ := ih (by omega)
      exact ⟨e + 1, a, by rw [pow_succ]; ring⟩
    · exact ⟨0, x, by rw [pow_zero, Nat.one_mul]⟩

/-- `j` trailing zeros, then a block of `m'+1` ones, then a zero, then anything: `v = 2^j·(2u+1)`, and `u + 1 = 2^m'·(2A+1)` -/
theorem block_decomp (v : Nat) (hv : 0 < v) :
    ∃ A j m', v = 2 ^ (j + m' + 2) * A + (2 ^ (m' + 1) - 1) * 2 ^ j := by
  obtain ⟨j, u, rfl⟩ := exists_two_pow_mul_odd v hv
  obtain ⟨m', A, hu⟩ := exists_two_pow_mul_odd (u + 1) (Nat.succ_pos u)
  obtain ⟨c, hc⟩ : ∃ c, 2 ^ m' = c + 1 := Nat.exists_eq_add_of_le' (Nat.two_pow_pos m')
  obtain rfl : u = (c + 1) * (2 * A) + c := Nat.succ.inj (hu.trans (by rw [hc, Nat.mul_add, Nat.mul_one]; rfl))
  refine ⟨A, j, m', ?_⟩
  rw [two_pow_succ_pred hc, pow_add, pow_add, hc]; ring

theorem block_add (j m : Nat) : (2 ^ (m + 1) - 1) * 2 ^ j + 2 ^ j = 2 ^ (j + m + 1) := by
  rw [← Nat.succ_mul, Nat.succ_eq_add_one, Nat.sub_add_cancel (Nat.two_pow_pos _), ← pow_add, Nat.add_comm]; rfl

theorem weight_gap (j m r : Nat) (hr : popcount r = m + 1) (hlo : (2 ^ (m + 1) - 1) * 2 ^ j < r) :
    2 ^ (j + m + 1) + (2 ^ m - 1) ≤ r := by
  rcases Nat.lt_or_ge r (2 ^ (j + m + 1)) with h | h
  · -- below the leading power: at most `2^(j+m+1) − 2^j`
    have := popcount_upper r j (by rw [hr, Nat.add_comm (m + 1)]; exact h)
    rw [hr, Nat.add_comm (m + 1)] at this
    exact absurd this (Nat.not_le_of_lt (block_add j m ▸ Nat.add_lt_add_right hlo _))
  · obtain ⟨s, rfl⟩ := Nat.exists_eq_add_of_le h
    refine Nat.add_le_add_left ?_ _
    rcases Nat.lt_or_ge s (2 ^ (j + m + 1)) with h2 | h2
    · -- the leading one, and `m` more ones below it
      rw [← Nat.mul_one (2 ^ (j + m + 1)), popcount_split _ _ _ h2, popcount_one, Nat.add_comm] at hr
      have := popcount_lower s
      rw [Nat.succ_injective hr] at this
      exact Nat.sub_le_of_le_add this
    · exact Nat.le_trans (Nat.le_of_lt (two_pow_pred_lt_add j m)) h2

theorem between_same_weight {L A a b w : Nat} (ha : a < 2 ^ L) (hb : b ≤ 2 ^ L) (h1 : 2 ^ L * A + a < w)
    (h2 : w < 2 ^ L * A + b) (hp : popcount w = popcount (2 ^ L * A + a)) : ∃ r, a < r ∧ r < b ∧ popcount r = popcount a := by
  obtain ⟨r, rfl⟩ := Nat.exists_eq_add_of_le (Nat.le_of_lt (Nat.lt_of_le_of_lt (Nat.le_add_right _ a) h1))
  have h1 := Nat.lt_of_add_lt_add_left h1
  have h2 := Nat.lt_of_add_lt_add_left h2
  rw [popcount_split _ _ _ (Nat.lt_of_lt_of_le h2 hb), popcount_split _ _ _ ha] at hp
  exact ⟨r, h1, h2, Nat.add_left_cancel hp⟩

theorem nextSameWeight_least (v : Nat) (hv : 0 < v) :
    v < nextSameWeight v ∧ popcount (nextSameWeight v) = popcount v ∧
    ∀ w, v < w → popcount w = popcount v → nextSameWeight v ≤ w := by
  obtain ⟨A, j, m', rfl⟩ := block_decomp v hv
  rw [gosper_core, Nat.add_assoc (2 ^ (j + m' + 2) * A)]
  have ha : (2 ^ (m' + 1) - 1) * 2 ^ j < 2 ^ (j + m' + 1) := block_add j m' ▸ Nat.lt_add_of_pos_right (Nat.two_pow_pos j)
  have hq := two_pow_pred_lt_add j m'
  have hb : 2 ^ (j + m' + 1) + (2 ^ m' - 1) < 2 ^ (j + m' + 2) :=
    Nat.lt_of_lt_of_eq (Nat.add_lt_add_left hq _) (Nat.mul_two _).symm
  have hpa : popcount ((2 ^ (m' + 1) - 1) * 2 ^ j) = m' + 1 := by rw [popcount_mul_two_pow, popcount_two_pow_sub_one]
  have hpb : popcount (2 ^ (j + m' + 1) + (2 ^ m' - 1)) = m' + 1 := by
    rw [← Nat.mul_one (2 ^ (j + m' + 1)), popcount_split _ _ _ hq, popcount_one, popcount_two_pow_sub_one, Nat.add_comm]
  refine ⟨Nat.add_lt_add_left (Nat.lt_of_lt_of_le ha (Nat.le_add_right _ _)) _, ?_,
    fun w hvw hpw => Nat.le_of_not_lt fun hlt => ?_⟩
  · rw [popcount_split _ _ _ hb, popcount_split _ _ _ (Nat.lt_trans ha (two_pow_lt_succ _)), hpa, hpb]
  · -- `w` in between would have the same part above `2^(j+m'+2)` and a lower part of weight `m'+1` in the gap
    obtain ⟨r, h1, h2, hp⟩ := between_same_weight (Nat.lt_trans ha (two_pow_lt_succ _)) (Nat.le_of_lt hb) hvw hlt hpw
    exact Nat.not_le_of_lt h2 (weight_gap j m' r (hp.trans hpa) h1)

theorem msb_le_iff (x n : Nat) (hx : 0 < x) : msb x ≤ n ↔ x < 2 ^ n := by
  unfold msb
  have hx0 : x ≠ 0 := by omega
  simp only [hx0, if_false]
  rw [← Nat.log2_lt hx0]; omega

theorem filter_range'_first (P : Nat → Bool) (a d r : Nat) (hP : P (a + d) = true)
    (hlt : ∀ w, a ≤ w → w < a + d → P w = false) :
    (List.range' a (d + r + 1)).filter P = (a + d) :: (List.range' (a + d + 1) r).filter P := by
  rw [Nat.add_assoc, ← List.range'_append_1, List.filter_append, List.filter_eq_nil_iff.mpr, List.nil_append,
    List.range'_succ, List.filter_cons_of_pos hP]
  intro w hw
  obtain ⟨h1, h2⟩ := List.mem_range'_1.mp hw
  rw [hlt w h1 h2]; exact Bool.false_ne_true

/-- `r` counts the integers left between `cur` and `2^n`; each round finds the least integer of weight `k` above the last
    (`nextSameWeight_least`), so the loop appends those among the `r` in increasing order -/
theorem dickeLoop_spec (n k : Nat) (fuel cur r : Nat) (acc : List Nat)
    (hpc : popcount cur = k) (hpos : 0 < cur) (hr : cur + 1 + r = 2 ^ n) (hfuel : r < fuel) :
    dickeLoop n fuel cur acc = some (acc ++ (List.range' (cur + 1) r).filter (fun w => decide (popcount w = k))) := by
  induction fuel generalizing cur r acc with
  | zero => cases hfuel
  | succ fuel ih =>
    obtain ⟨hgt, hpn, hleast⟩ := nextSameWeight_least cur hpos
    rw [hpc] at hpn
    obtain ⟨d, hd⟩ := Nat.exists_eq_add_of_le (show cur + 1 ≤ _ from hgt)
    have hgap : ∀ w, cur + 1 ≤ w → w < cur + 1 + d → decide (popcount w = k) = false := fun w h1 h2 =>
      decide_eq_false fun h => Nat.not_le_of_lt h2 (hd ▸ hleast w h1 (h.trans hpc.symm))
    simp only [dickeLoop, msb_le_iff _ _ (Nat.zero_lt_of_lt hgt)]
    rw [hd] at hpn ⊢
    split
    · rename_i hn
      rw [← hr] at hn
      -- `r = d + r' + 1`: `d` misses, the successor, and `r'` integers left above it
      obtain ⟨r', rfl⟩ := Nat.exists_eq_add_of_lt (Nat.lt_of_add_lt_add_left hn)
      rw [ih _ r' _ hpn (Nat.add_pos_left (Nat.succ_pos cur) d)
          (by rw [← hr, Nat.add_right_comm, Nat.add_assoc (cur + 1)]; rfl)
          (Nat.lt_of_le_of_lt (Nat.le_add_left r' d) (Nat.lt_of_succ_lt_succ hfuel)),
        filter_range'_first _ _ _ _ (decide_eq_true hpn) hgap, List.append_assoc]
      rfl
    · rename_i hn
      rw [List.filter_eq_nil_iff.mpr, List.append_nil]
      intro w hw
      obtain ⟨h1, h2⟩ := List.mem_range'_1.mp hw
      rw [hgap w h1 (Nat.lt_of_lt_of_le (hr ▸ h2) (Nat.le_of_not_lt hn))]; exact Bool.false_ne_true

theorem weights_eq_cons (k r : Nat) :
    (List.range (2 ^ k + r)).filter (fun w => decide (popcount w = k)) =
      (2 ^ k - 1) :: (List.range' (2 ^ k) r).filter (fun w => decide (popcount w = k)) := by
  have := filter_range'_first (fun w => decide (popcount w = k)) 0 (2 ^ k - 1) r
    (by rw [Nat.zero_add]; exact decide_eq_true (popcount_two_pow_sub_one k))
    fun w _ hw => decide_eq_false fun h => by
      have := popcount_lower w
      rw [h] at this
      exact Nat.not_le_of_lt (Nat.zero_add (2 ^ k - 1) ▸ hw) (Nat.sub_le_of_le_add this)
  rwa [Nat.zero_add, Nat.add_right_comm, Nat.sub_add_cancel (Nat.two_pow_pos k), ← List.range_eq_range'] at this

theorem weights_ne_nil (n k : Nat) (hkn : k ≤ n) : (List.range (2 ^ n)).filter (fun w => decide (popcount w = k)) ≠ [] := by
  obtain ⟨r, hr⟩ := Nat.exists_eq_add_of_le (Nat.pow_le_pow_right Nat.two_pos hkn)
  rw [hr, weights_eq_cons]; exact List.cons_ne_nil _ _

theorem dickeIndices_spec (n k : Nat) (hk : 1 ≤ k) (hkn : k ≤ n) :
    dickeIndices n k = some ((List.range (2 ^ n)).filter (fun w => decide (popcount w = k))) := by
  obtain ⟨r, hr⟩ := Nat.exists_eq_add_of_le (Nat.pow_le_pow_right Nat.two_pos hkn)
  have hc : 2 ^ k - 1 + 1 = 2 ^ k := Nat.sub_add_cancel (Nat.two_pow_pos k)
  rw [dickeIndices, dickeLoop_spec n k _ _ r _ (popcount_two_pow_sub_one k)
      (Nat.sub_pos_of_lt (Nat.one_lt_two_pow (Nat.ne_of_gt hk))) (by rw [hc, hr])
      (hr ▸ Nat.lt_add_of_pos_left (Nat.two_pow_pos k)),
    hc, hr, weights_eq_cons]
  rfl

theorem filter_popcount_zero (n : Nat) :
    (List.range (2 ^ n)).filter (fun w => decide (popcount w = 0)) = [0] := by
  obtain ⟨r, hr⟩ := Nat.exists_eq_add_of_le (show 2 ^ 0 ≤ 2 ^ n from Nat.one_le_two_pow)
  rw [hr, weights_eq_cons, List.filter_eq_nil_iff.mpr]
  · rfl
  · intro w hw
    rw [decide_eq_true_eq, popcount_eq_zero_iff]
    exact Nat.ne_of_gt (List.mem_range'_1.mp hw).1

theorem dickeState_eq (n k : Int) :
    dickeState n k =
      if n ≤ 0 ∨ k < 0 ∨ n < k then .error .value
      else if k = 0 then .ok ([0], dickeProbs n.toNat [0])
      else match dickeIndices n.toNat k.toNat with
        | none => .error .internal
        | some idx => .ok (idx, dickeProbs n.toNat idx) := by
  rw [ite_or, ite_or]; rfl

theorem sum_map_ite (l : List Nat) (P : Nat → Prop) [DecidablePred P] (c : Rat) :
    (l.map (fun i => if P i then c else 0)).sum = c * ((l.filter (fun i => decide (P i))).length : Rat) := by
  induction l with
  | nil => simp
  | cons a l ih =>
    simp only [List.map_cons, List.sum_cons, ih, List.filter_cons]
    by_cases h : P a
    · simp only [h, if_true, decide_true, List.length_cons]; push_cast; ring
    · simp [h]

theorem dickeProbs_spec (n : Nat) (P : Nat → Prop) [DecidablePred P]
    (hne : (List.range (2 ^ n)).filter (fun w => decide (P w)) ≠ []) :
    let idx := (List.range (2 ^ n)).filter (fun w => decide (P w))
    (dickeProbs n idx).length = 2 ^ n ∧
    (∀ i, i < 2 ^ n → (dickeProbs n idx)[i]? = some (if P i then 1 / (idx.length : Rat) else 0)) ∧
    (dickeProbs n idx).sum = 1 := by
  intro idx
  -- below `2^n`, membership in the support is `P`
  have e : dickeProbs n idx = (List.range (2 ^ n)).map (fun i => if P i then 1 / (idx.length : Rat) else 0) :=
    List.map_congr_left fun i hi => by simp only [idx, List.mem_filter, hi, true_and, decide_eq_true_eq]
  rw [e]
  refine ⟨by rw [List.length_map, List.length_range],
    fun i hi => by rw [List.getElem?_map, List.getElem?_range hi]; rfl, ?_⟩
  rw [sum_map_ite]
  exact one_div_mul_cancel (Nat.cast_ne_zero.mpr (List.length_pos_iff.mpr hne).ne')

theorem normSq_nonneg (z : QI) : 0 ≤ z.normSq := by
  unfold QI.normSq
  have h1 := mul_self_nonneg z.re
  have h2 := mul_self_nonneg z.im
  linarith

theorem zip_re_im (v : List QI) : ((v.map (·.re)).zip (v.map (·.im))).map (fun p => (⟨p.1, p.2⟩ : QI)) = v := by
  induction v with
  | nil => rfl
  | cons a v ih => simp only [List.map_cons, List.zip_cons_cons, ih]

theorem dictToArray_save (v : List QI) :
    dictToArray (v.map (·.re)) (some (v.map (·.im))) = .ok v := by
  cases v with
  | nil => rfl
  | cons a v =>
    have := zip_re_im (a :: v)
    simp only [dictToArray, List.map_cons, List.length_cons, List.length_map, if_true] at this ⊢
    rw [this]

end OQ.C12
