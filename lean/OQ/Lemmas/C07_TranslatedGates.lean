/- C07 — translation tie of the gate CLASSES: embedding of the model's gates into the REGENERATED classes
   (`OQ.Generated.TranslatedGates`, harness/translate_cls.py) and helper lemmas.  The tie theorems are in
   OQ/Props/C07_TranslatedGates.lean (read its header first). -/
import OQ.Generated.TranslatedGates
import OQ.Lemmas.C07
namespace OQ.C07
open OQ.Generated
namespace TG
variable {P R : Type}

/-- the generated gate type at the model's parameters: factories are the model's `List P → Except Err (Mat R)`, exponents `Rat` -/
abbrev TGate (P R : Type) := TranslatedGates.Gate P (List P → Except Err (Mat R)) Rat

/-- the model's gate tree as an object of the generated classes -/
def emb : Gate P R → TGate P R
  | .base b => .MatrixFactoryGate b.name b.factory b.params (b.numQubits : Int) b.hermitian
  | .controlled g km1 => .ControlledGate (emb g) ((km1 : Int) + 1)
  | .dagger g => .Dagger (emb g)
  | .power g e => .Power (emb g) e
  | .exponential g => .Exponential (emb g)

/-- INSTANTIATION of the externals for the numeric model: no parameter has free symbols (and nothing is substituted) -/
def noSymbols (P : Type) : TranslatedGates.Ext P Empty Unit := ⟨fun _ => [], fun p _ => p⟩

/-- exception classes of the generated code as the model's error values -/
def errOf : TranslatedGates.Err → Err
  | .ValueError => .value
  | .NotImplementedError => .ext "NotImplementedError"

def toModel {α : Type} : Except TranslatedGates.Err α → Except Err α
  | .ok a => .ok a
  | .error e => .error (errOf e)

/-- what the constructor guards leave: every control count ≥ 1 (and a base gate acts on a natural number of qubits) -/
def TValid : TGate P R → Prop
  | .MatrixFactoryGate _ _ _ nq _ => 0 ≤ nq
  | .ControlledGate t k => 1 ≤ k ∧ TValid t
  | .Dagger t => TValid t
  | .Exponential t => TValid t
  | .Power t _ => TValid t

@[simp] theorem toModel_ok {α} (a : α) : toModel (.ok a : Except TranslatedGates.Err α) = .ok a := rfl
@[simp] theorem bind_error {ε α β} (e : ε) (f : α → Except ε β) : Except.bind (.error e : Except ε α) f = .error e := rfl
@[simp] theorem map_ok {ε α β} (a : α) (f : α → β) : Except.map f (.ok a : Except ε α) = .ok (f a) := rfl
@[simp] theorem map_error {ε α β} (e : ε) (f : α → β) : Except.map f (.error e : Except ε α) = .error e := rfl
theorem toModel_bind {α β} (r : Except TranslatedGates.Err α) (f : α → Except TranslatedGates.Err β) :
    toModel (Except.bind r f) = Except.bind (toModel r) (fun a => toModel (f a)) := by
  cases r <;> rfl
theorem toModel_eq_ok {α} {r : Except TranslatedGates.Err α} {a : α} (h : toModel r = .ok a) : r = .ok a := by
  cases r with
  | ok b => simpa [toModel] using h
  | error e => simp [toModel] at h

theorem free_symbols_none (t : TGate P R) : TranslatedGates.Gate.free_symbols (noSymbols P) t = [] := by
  cases t <;> rfl

theorem mk_Power_ok (t : TGate P R) (e : Rat) : TranslatedGates.mk_Power (noSymbols P) t e = .ok (.Power t e) := by
  simp [TranslatedGates.mk_Power, free_symbols_none]

theorem mk_Exponential_ok (t : TGate P R) : TranslatedGates.mk_Exponential (noSymbols P) t = .ok (.Exponential t) := by
  simp [TranslatedGates.mk_Exponential, free_symbols_none]

theorem mk_ControlledGate_pos (t : TGate P R) (k : Nat) :
    TranslatedGates.mk_ControlledGate t ((k : Int) + 1) = .ok (.ControlledGate t ((k : Int) + 1)) := by
  have : ¬ ((k : Int) + 1 < 1) := by omega
  simp [TranslatedGates.mk_ControlledGate, this]

end TG
end OQ.C07
