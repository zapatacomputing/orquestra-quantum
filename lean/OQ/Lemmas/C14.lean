/- Specification vocabulary for C14 and the facts about the model that the property theorems rest on.
   A chain of runners is handled through two equations: `step_leaf` (the `step` of a leaf is `Leaf.step`) and
   `step_tracker` (the `step` of a tracker as a function of the `step` of the runner it wraps); every fact
   about chains is one induction over the chain that uses them. -/
import OQ.Model.C14
import Mathlib.Tactic.Linarith
import Mathlib.Data.List.Forall2
import Mathlib.Data.List.Count
import Mathlib.Data.List.Induction
import Mathlib.Algebra.BigOperators.Group.List.Basic
namespace OQ.C14

/-- the invalid requests named by the property -/
def Call.badArgs : Call → Prop
  | .run _ n => n ≤ 0
  | .batch _ (.one n) => n ≤ 0
  | .batch cs (.many ns) => ns.length ≠ cs.length ∨ ∃ n ∈ ns, n ≤ 0
  | .dist _ (some n) => n ≤ 0
  | .dist _ none => False

def Call.circuits : Call → List Circ
  | .run c _ => [c]
  | .batch cs _ => cs
  | .dist c _ => [c]

/-- number of segments / of natively supported segments of a circuit for a simulator -/
def segJobs (a : Bool) (c : Circ) : Nat := (segKeys (nativeFlags a c)).length
def segCircuits (a : Bool) (c : Circ) : Nat := (segKeys (nativeFlags a c)).count true

/-- circuits / jobs one successful single run adds to the counters of a base-class runner -/
def workC : Kind → Circ → Nat
  | .base, _ => 1
  | .sim a, c => segCircuits a c
def workJ : Kind → Circ → Nat
  | .base, _ => 1
  | .sim a, c => segJobs a c

/-- what the external produced at invocation `k` for `(c, n)` -/
def Produced (ext : Ext) : Kind → Nat → Circ → Int → List Shot → Prop
  | .base, k, c, n, m => ext.exec k c n = .ok m
  | .sim _, k, c, n, m => c.symbolic = false ∧ m = sampleShots ext k c n

/-- `ms` are the results of running the requests `ps` one after the other, the first one at external
    invocation `k`: the i-th result is what the i-th invocation, made for the i-th circuit with the
    i-th sample count, produced. -/
inductive InOrder (ext : Ext) (kind : Kind) : Nat → List (Circ × Int) → List (List Shot) → Prop
  | nil (k : Nat) : InOrder ext kind k [] []
  | cons {k : Nat} {c : Circ} {n : Int} {m : List Shot} {ps : List (Circ × Int)} {ms : List (List Shot)} :
      0 < n → Produced ext kind k c n m → InOrder ext kind (k + 1) ps ms →
      InOrder ext kind k ((c, n) :: ps) (m :: ms)

theorem InOrder.length {ext : Ext} {kind : Kind} {k : Nat} {ps : List (Circ × Int)} {ms : List (List Shot)}
    (h : InOrder ext kind k ps ms) : ms.length = ps.length := by
  induction h with
  | nil k => rfl
  | cons _ _ _ ih => simp [ih]

/-- the per-circuit sample counts pass the validation of `run_batch_and_measure` -/
def ValidBatch (cs : List Circ) (ns : NSpec) : Prop :=
  (samplesPerCircuit cs ns).length = cs.length ∧ (∀ n ∈ samplesPerCircuit cs ns, 0 < n) ∧
  scalarNonPos ns = false

def Res.of {α : Type} (f : α → Res) : Outcome α → Res
  | .ok a => f a
  | .err e => .error e

def Res.isError : Res → Bool
  | .error _ => true
  | _ => false

theorem Res.of_eq_ok {α : Type} {f : α → Res} {o : Outcome α} {r : Res} (h : Res.of f o = r) (hr : ∀ e, r ≠ .error e) :
    ∃ a, o = .ok a ∧ f a = r := by
  cases o with
  | ok a => exact ⟨a, rfl, h⟩
  | err e => exact absurd h.symm (hr e)

theorem step_run (ext : Ext) (r : Runner) (c : Circ) (n : Int) :
    step ext r (.run c n) = ((r.run ext c n).1, Res.of .meas (r.run ext c n).2) := by
  simp only [step]; rcases r.run ext c n with ⟨r', o⟩; cases o <;> rfl

theorem step_batch (ext : Ext) (r : Runner) (cs : List Circ) (ns : NSpec) :
    step ext r (.batch cs ns) = ((r.batch ext cs ns).1, Res.of .batch (r.batch ext cs ns).2) := by
  simp only [step]; rcases r.batch ext cs ns with ⟨r', o⟩; cases o <;> rfl

theorem step_dist (ext : Ext) (r : Runner) (c : Circ) (n : Option Int) :
    step ext r (.dist c n) = ((r.dist ext c n).1, Res.of .distr (r.dist ext c n).2) := by
  simp only [step]; rcases r.dist ext c n with ⟨r', o⟩; cases o <;> rfl

def Leaf.step (ext : Ext) (l : Leaf) : Call → Leaf × Res
  | .run c n => ((l.run ext c n).1, Res.of .meas (l.run ext c n).2)
  | .batch cs ns => ((l.batch ext cs ns).1, Res.of .batch (l.batch ext cs ns).2)
  | .dist c n => ((l.dist ext c n).1, Res.of .distr (l.dist ext c n).2)

theorem step_leaf (ext : Ext) (l : Leaf) (call : Call) :
    step ext (.leaf l) call = (.leaf (Leaf.step ext l call).1, (Leaf.step ext l call).2) := by
  cases call
  · rw [step_run]; rfl
  · rw [step_batch]; rfl
  · rw [step_dist]; rfl

theorem countSegments_eq (k : Counters) (l : List Bool) :
    countSegments k l = ⟨k.nCircuits + l.count true, k.nJobs + l.length⟩ := by
  induction l generalizing k with
  | nil => rfl
  | cons b l ih =>
    cases b <;> simp only [countSegments, ih, List.count_cons_of_ne Bool.false_ne_true, List.count_cons_self,
      List.length_cons, Nat.add_assoc, Nat.add_comm 1]

theorem getWavefunction_eq (a : Bool) (k : Counters) (c : Circ) :
    getWavefunction a k c = ⟨k.nCircuits + segCircuits a c, k.nJobs + segJobs a c⟩ :=
  countSegments_eq k _

/-- the counters `k` of a runner of the given kind after it ran the circuits `cs` -/
def Counters.plus (k : Counters) (kind : Kind) (cs : List Circ) : Counters :=
  ⟨k.nCircuits + (cs.map (workC kind)).sum, k.nJobs + (cs.map (workJ kind)).sum⟩

theorem Counters.plus_cons (k : Counters) (kind : Kind) (c : Circ) (cs : List Circ) :
    (k.plus kind [c]).plus kind cs = k.plus kind (c :: cs) := by
  simp only [Counters.plus, List.map_cons, List.map_nil, List.sum_cons, List.sum_nil, Nat.add_zero, Nat.add_assoc]

theorem Counters.plus_base (k : Counters) (cs : List Circ) :
    k.plus .base cs = ⟨k.nCircuits + cs.length, k.nJobs + cs.length⟩ := by
  have h : (cs.map fun _ => 1).sum = cs.length := by rw [List.map_const', List.sum_replicate_nat, Nat.mul_one]
  exact congrArg₂ Counters.mk (congrArg (k.nCircuits + ·) h) (congrArg (k.nJobs + ·) h)

theorem Leaf.run_reject (ext : Ext) (l : Leaf) (c : Circ) (n : Int) (h : n ≤ 0) :
    l.run ext c n = (l, .err .value) := by
  simp only [Leaf.run, h, if_true]

theorem Leaf.run_spec (ext : Ext) (l : Leaf) (c : Circ) (n : Int) :
    (l.run ext c n).1.kind = l.kind ∧
    (∀ m, (l.run ext c n).2 = .ok m → 0 < n ∧ Produced ext l.kind l.calls c n m ∧
      (l.run ext c n).1.calls = l.calls + 1 ∧ (l.run ext c n).1.k = l.k.plus l.kind [c]) ∧
    (∀ e, (l.run ext c n).2 = .err e → (l.run ext c n).1.k = l.k) := by
  obtain ⟨kind, k, calls⟩ := l
  -- the six occurrences of the run in the statement become one equation
  generalize hq : Leaf.run ext ⟨kind, k, calls⟩ c n = q
  unfold Leaf.run at hq
  split at hq
  · subst hq; exact ⟨rfl, nofun, fun _ _ => rfl⟩
  · next hn =>
    cases kind with
    | base =>
      dsimp only at hq
      split at hq <;> subst hq
      · exact ⟨rfl, nofun, fun _ _ => rfl⟩
      · next m hx => exact ⟨rfl, fun m' h => by cases h; exact ⟨Int.not_le.1 hn, hx, rfl, rfl⟩, nofun⟩
    | sim a =>
      dsimp only at hq
      split at hq <;> subst hq
      · exact ⟨rfl, nofun, fun _ _ => rfl⟩
      · next hs =>
        exact ⟨rfl, fun m h => by cases h; exact ⟨Int.not_le.1 hn, ⟨by simpa using hs, rfl⟩, rfl, getWavefunction_eq a k c⟩,
          nofun⟩

theorem runEach_leaf (ext : Ext) (ps : List (Circ × Int)) (l : Leaf) :
    ∃ done, done <+: ps.map (·.1) ∧ (runEach (Leaf.run ext) l ps).1.kind = l.kind ∧
      (runEach (Leaf.run ext) l ps).1.k = l.k.plus l.kind done ∧
      ∀ ms, (runEach (Leaf.run ext) l ps).2 = .ok ms → done = ps.map (·.1) ∧ InOrder ext l.kind l.calls ps ms := by
  induction ps generalizing l with
  | nil => exact ⟨[], List.prefix_rfl, rfl, rfl, fun ms h => by cases h; exact ⟨rfl, .nil _⟩⟩
  | cons p ps ih =>
    obtain ⟨hk, hok, herr⟩ := Leaf.run_spec ext l p.1 p.2
    simp only [runEach]
    generalize l.run ext p.1 p.2 = q at hk hok herr ⊢
    obtain ⟨l1, o1⟩ := q
    cases o1 with
    | err e => exact ⟨[], List.nil_prefix, hk, herr e rfl, nofun⟩
    | ok m =>
      obtain ⟨hn, hp, hc, hk1⟩ := hok m rfl
      obtain ⟨done, hpre, hk2, hkk, hms⟩ := ih l1
      simp only at hk hc hk1
      rw [hk, hc, hk1, Counters.plus_cons] at *
      refine ⟨p.1 :: done, (List.prefix_cons_inj p.1).mpr hpre, ?_⟩
      dsimp only
      generalize runEach (Leaf.run ext) l1 ps = q2 at hk2 hkk hms ⊢
      obtain ⟨l2, o2⟩ := q2
      cases o2 with
      | err e => exact ⟨hk2, hkk, nofun⟩
      | ok ms =>
        obtain ⟨rfl, io⟩ := hms ms rfl
        exact ⟨hk2, hkk, fun ms' h => by cases h; exact ⟨rfl, .cons hn hp io⟩⟩

theorem validBatch_iff_passes (cs : List Circ) (ns : NSpec) :
    ValidBatch cs ns ↔ (samplesPerCircuit cs ns).length = cs.length ∧
      (scalarNonPos ns || (samplesPerCircuit cs ns).any (fun n => n ≤ 0)) = false := by
  simp only [ValidBatch, Bool.or_eq_false_iff, List.any_eq_false, decide_eq_true_eq, Int.not_le]
  exact ⟨fun h => ⟨h.1, h.2.2, h.2.1⟩, fun h => ⟨h.1, h.2.2, h.2.1⟩⟩

theorem Leaf.batch_valid (ext : Ext) (l : Leaf) (cs : List Circ) (ns : NSpec) (h : ValidBatch cs ns) :
    l.batch ext cs ns = runEach (Leaf.run ext) l (cs.zip (samplesPerCircuit cs ns)) := by
  obtain ⟨h1, h2⟩ := (validBatch_iff_passes cs ns).1 h
  unfold Leaf.batch
  dsimp only
  rw [if_neg (not_not.2 h1), h2, if_neg Bool.false_ne_true]

theorem Leaf.batch_invalid (ext : Ext) (l : Leaf) (cs : List Circ) (ns : NSpec) (h : ¬ ValidBatch cs ns) :
    l.batch ext cs ns = (l, .err .value) := by
  unfold Leaf.batch
  dsimp only
  by_cases h1 : (samplesPerCircuit cs ns).length = cs.length
  · rw [if_neg (not_not.2 h1),
      if_pos (Bool.eq_true_of_not_eq_false fun h2 => h ((validBatch_iff_passes cs ns).2 ⟨h1, h2⟩))]
  · rw [if_pos h1]

theorem validBatch_iff (cs : List Circ) (ns : NSpec) : ValidBatch cs ns ↔ ¬ (Call.batch cs ns).badArgs := by
  cases ns with
  | one n =>
    have hn : (¬ n ≤ 0) ↔ 0 < n := Int.not_le
    simp only [ValidBatch, samplesPerCircuit, scalarNonPos, Call.badArgs, List.length_replicate, true_and,
      decide_eq_false_iff_not, hn]
    exact ⟨fun h => h.2, fun h => ⟨fun m hm => List.eq_of_mem_replicate hm ▸ h, h⟩⟩
  | many ns =>
    simp only [ValidBatch, samplesPerCircuit, scalarNonPos, Call.badArgs, and_true, not_or, not_not, not_exists, not_and,
      Int.not_le]

theorem Leaf.step_dist_some (ext : Ext) (l : Leaf) (c : Circ) (n : Int) :
    Leaf.step ext l (.dist c (some n)) =
      ((l.run ext c n).1, Res.of (fun m => .distr (.empirical (empirical m))) (l.run ext c n).2) := by
  simp only [Leaf.step, Leaf.dist]; rcases l.run ext c n with ⟨l', o⟩; cases o <;> rfl

theorem Leaf.step_reject (ext : Ext) (l : Leaf) (call : Call) (h : call.badArgs) :
    Leaf.step ext l call = (l, .error .value) := by
  cases call with
  | run c n => simp only [Leaf.step, Leaf.run_reject ext l c n h, Res.of]
  | batch cs ns => simp only [Leaf.step, Leaf.batch_invalid ext l cs ns (fun hv => (validBatch_iff cs ns).1 hv h), Res.of]
  | dist c n =>
    cases n with
    | none => exact h.elim
    | some n => rw [Leaf.step_dist_some, Leaf.run_reject ext l c n h]; rfl

theorem Leaf.run_counts (ext : Ext) (l : Leaf) (c : Circ) (n : Int) (f : List Shot → Res) :
    ∃ done, done <+: [c] ∧ (l.run ext c n).1.kind = l.kind ∧ (l.run ext c n).1.k = l.k.plus l.kind done ∧
      ((∀ e, Res.of f (l.run ext c n).2 ≠ .error e) → done = [c]) := by
  obtain ⟨hk, hok, herr⟩ := Leaf.run_spec ext l c n
  cases ho : (l.run ext c n).2 with
  | ok m => exact ⟨[c], List.prefix_rfl, hk, (hok m ho).2.2.2, fun _ => rfl⟩
  | err e => exact ⟨[], List.nil_prefix, hk, herr e ho, fun he => absurd rfl (he e)⟩

theorem Leaf.step_spec (ext : Ext) (l : Leaf) (call : Call) :
    ∃ done, done <+: call.circuits ∧ (Leaf.step ext l call).1.kind = l.kind ∧
      (Leaf.step ext l call).1.k = l.k.plus l.kind done ∧
      ((∀ e, (Leaf.step ext l call).2 ≠ .error e) → done = call.circuits) := by
  cases call with
  | run c n => exact Leaf.run_counts ext l c n .meas
  | batch cs ns =>
    simp only [Leaf.step, Call.circuits]
    by_cases hv : ValidBatch cs ns
    · obtain ⟨done, hp, hk, hkk, hd⟩ := runEach_leaf ext (cs.zip (samplesPerCircuit cs ns)) l
      rw [List.map_fst_zip (Nat.le_of_eq hv.1.symm)] at hp hd
      rw [Leaf.batch_valid ext l cs ns hv]
      refine ⟨done, hp, hk, hkk, fun h => ?_⟩
      obtain ⟨ms, ho, _⟩ := Res.of_eq_ok rfl h
      exact (hd ms ho).1
    · rw [Leaf.batch_invalid ext l cs ns hv]
      exact ⟨[], List.nil_prefix, rfl, rfl, fun h => absurd rfl (h .value)⟩
  | dist c n =>
    cases n with
    | some n => rw [Leaf.step_dist_some]; exact Leaf.run_counts ext l c n _
    | none =>
      obtain ⟨kind, k, calls⟩ := l
      cases kind with
      | base => exact ⟨[], List.nil_prefix, rfl, rfl, fun h => absurd rfl (h .value)⟩
      | sim a =>
        -- the wavefunction is computed, and its segments counted, whether or not the circuit has free symbols
        have : (Leaf.step ext ⟨.sim a, k, calls⟩ (.dist c none)).1 = ⟨.sim a, getWavefunction a k c, calls⟩ := by
          simp only [Leaf.step, Leaf.dist]; split <;> rfl
        rw [this]
        exact ⟨[c], List.prefix_rfl, rfl, getWavefunction_eq a k c, fun _ => rfl⟩

theorem leaf_step_ok (ext : Ext) (l : Leaf) (call : Call) (r' : Runner) (res : Res)
    (h : step ext (.leaf l) call = (r', res)) (hok : ∀ e, res ≠ .error e) :
    r' = .leaf (Leaf.step ext l call).1 ∧ (Leaf.step ext l call).1.k = l.k.plus l.kind call.circuits := by
  obtain ⟨rfl, rfl⟩ := Prod.mk.inj ((step_leaf ext l call).symm.trans h)
  obtain ⟨done, _, _, hkk, hd⟩ := Leaf.step_spec ext l call
  exact ⟨rfl, hd hok ▸ hkk⟩

theorem Leaf.step_meas {ext : Ext} {l : Leaf} {c : Circ} {n : Int} {m : List Shot}
    (h : (Leaf.step ext l (.run c n)).2 = .meas m) : 0 < n ∧ Produced ext l.kind l.calls c n m := by
  obtain ⟨_, ho, ⟨⟩⟩ := Res.of_eq_ok h nofun
  obtain ⟨hn, hp, _⟩ := (Leaf.run_spec ext l c n).2.1 m ho
  exact ⟨hn, hp⟩

theorem Leaf.step_batch {ext : Ext} {l : Leaf} {cs : List Circ} {ns : NSpec} {ms : List (List Shot)}
    (h : (Leaf.step ext l (.batch cs ns)).2 = .batch ms) :
    ValidBatch cs ns ∧ InOrder ext l.kind l.calls (cs.zip (samplesPerCircuit cs ns)) ms := by
  obtain ⟨_, ho, ⟨⟩⟩ := Res.of_eq_ok h nofun
  by_cases hv : ValidBatch cs ns
  · rw [Leaf.batch_valid ext l cs ns hv] at ho
    obtain ⟨_, _, _, _, hd⟩ := runEach_leaf ext (cs.zip (samplesPerCircuit cs ns)) l
    exact ⟨hv, (hd ms ho).2⟩
  · rw [Leaf.batch_invalid ext l cs ns hv] at ho
    cases ho

theorem Leaf.step_distr {ext : Ext} {l : Leaf} {c : Circ} {n : Option Int} {d : DistVal}
    (h : (Leaf.step ext l (.dist c n)).2 = .distr d) :
    (∃ n' m, n = some n' ∧ 0 < n' ∧ Produced ext l.kind l.calls c n' m ∧ d = .empirical (empirical m)) ∨
    (∃ a, n = none ∧ l.kind = .sim a ∧ c.symbolic = false ∧ d = .exact c) := by
  cases n with
  | some n =>
    rw [Leaf.step_dist_some] at h
    obtain ⟨m, ho, hm⟩ := Res.of_eq_ok h nofun
    obtain ⟨hn, hp, _⟩ := (Leaf.run_spec ext l c n).2.1 m ho
    exact Or.inl ⟨n, m, rfl, hn, hp, (Res.distr.inj hm).symm⟩
  | none =>
    obtain ⟨_, ho, ⟨⟩⟩ := Res.of_eq_ok h nofun
    obtain ⟨kind, k, calls⟩ := l
    cases kind with
    | base => cases ho
    | sim a =>
      simp only [Leaf.dist] at ho
      split at ho
      · cases ho
      · next hs => exact Or.inr ⟨a, rfl, rfl, by simpa using hs, (Outcome.ok.inj ho).symm⟩

/-- what a tracker adds to its own counters -/
def trackerWork : Call → Res → Nat × Nat
  | _, .error _ => (0, 0)
  | .run _ _, _ => (1, 1)
  | .batch cs _, _ => (cs.length, 1)
  | .dist _ _, _ => (0, 0)

/-- the records a tracker writes for a call that the wrapped runner answered with `res` -/
def recordsOf (bits : Bool) : Call → Res → List Record
  | .run c _, .meas m => [mkMeasRecord bits c m]
  | .batch cs _, .batch ms => (cs.zip ms).map (fun p => mkMeasRecord bits p.1 p.2)
  | .dist c n, .distr d => [.dist c d c.ops.length n]
  | _, _ => []

theorem Runner.run_reject (ext : Ext) (r : Runner) (c : Circ) (n : Int) (h : n ≤ 0) :
    r.run ext c n = (r, .err .value) := by
  cases r with
  | leaf l => simp only [Runner.run, Leaf.run_reject ext l c n h]
  | tracker inner bits k raw file => simp only [Runner.run, h, if_true]

/-- A single call with `n ≤ 0` is rejected by the tracker itself, without being forwarded; the equation covers
    it because the wrapped runner would reject it too and stay as it is (`Runner.run_reject`). -/
theorem step_tracker (ext : Ext) (inner : Runner) (bits : Bool) (k : Counters) (raw file : List Record) (call : Call) :
    step ext (.tracker inner bits k raw file) call =
      (.tracker (step ext inner call).1 bits
        ⟨k.nCircuits + (trackerWork call (step ext inner call).2).1, k.nJobs + (trackerWork call (step ext inner call).2).2⟩
        (if (step ext inner call).2.isError then raw else [])
        (if (step ext inner call).2.isError then file else raw ++ recordsOf bits call (step ext inner call).2),
       (step ext inner call).2) := by
  cases call with
  | run c n =>
    simp only [step_run, Runner.run]
    by_cases hn : n ≤ 0
    · rw [if_pos hn, Runner.run_reject ext inner c n hn]; rfl
    · rw [if_neg hn]; rcases inner.run ext c n with ⟨i', o⟩; cases o <;> rfl
  | batch cs ns => simp only [step_batch, Runner.batch]; rcases inner.batch ext cs ns with ⟨i', o⟩; cases o <;> rfl
  | dist c n => simp only [step_dist, Runner.dist]; rcases inner.dist ext c n with ⟨i', o⟩; cases o <;> rfl

def Runner.inner? : Runner → Option Runner
  | .leaf _ => none
  | .tracker inner _ _ _ _ => some inner

/-- the outermost runner's own counters / file / pending raw data -/
def Runner.own : Runner → Counters
  | .leaf l => l.k
  | .tracker _ _ k _ _ => k
def Runner.file : Runner → List Record
  | .leaf _ => []
  | .tracker _ _ _ _ file => file
def Runner.raw : Runner → List Record
  | .leaf _ => []
  | .tracker _ _ _ raw _ => raw

/-- `raw_data` is empty in every tracker of the chain (nothing left over from an earlier call) -/
def Runner.Clean : Runner → Prop
  | .leaf _ => True
  | .tracker inner _ _ raw _ => raw = [] ∧ inner.Clean

theorem step_of_leaf_refuses (ext : Ext) (r : Runner) (call : Call) (e : Err)
    (h : Leaf.step ext r.leafOf call = (r.leafOf, .error e)) : step ext r call = (r, .error e) := by
  induction r with
  | leaf l => rw [step_leaf]; exact congrArg (fun p : Leaf × Res => (Runner.leaf p.1, p.2)) h
  | tracker inner bits k raw file ih => rw [step_tracker, ih h]; rfl

theorem step_leafOf (ext : Ext) (r : Runner) (call : Call) :
    (step ext r call).2 = (Leaf.step ext r.leafOf call).2 := by
  induction r with
  | leaf l => rw [step_leaf]; rfl
  | tracker inner bits k raw file ih => rw [step_tracker]; exact ih

theorem step_clean (ext : Ext) (r : Runner) (call : Call) (h : r.Clean) : (step ext r call).1.Clean := by
  induction r with
  | leaf l => rw [step_leaf]; trivial
  | tracker inner bits k raw file ih =>
    rw [step_tracker]
    refine ⟨?_, ih h.2⟩
    split
    · exact h.1
    · rfl

theorem runAll_clean (ext : Ext) (r : Runner) (calls : List Call) (h : r.Clean) : (runAll ext r calls).1.Clean := by
  induction calls generalizing r with
  | nil => exact h
  | cons call rest ih => exact ih _ (step_clean ext r call h)

theorem Runner.fresh_clean (r : Runner) (h : r.fresh = true) : r.Clean := by
  induction r with
  | leaf l => trivial
  | tracker inner bits k raw file ih =>
    simp only [Runner.fresh, Bool.and_eq_true, List.isEmpty_iff] at h
    exact ⟨h.1.1.2, ih h.2⟩

theorem runAll_append (ext : Ext) (r : Runner) (a b : List Call) :
    runAll ext r (a ++ b) =
      ((runAll ext (runAll ext r a).1 b).1, (runAll ext r a).2 ++ (runAll ext (runAll ext r a).1 b).2) := by
  induction a generalizing r with
  | nil => rfl
  | cons call rest ih => simp only [List.cons_append, runAll, ih]

def Leaf.Grows (l l' : Leaf) : Prop :=
  l'.kind = l.kind ∧ l.k.nCircuits ≤ l'.k.nCircuits ∧ l.k.nJobs ≤ l'.k.nJobs

theorem Leaf.Grows.refl (l : Leaf) : l.Grows l := ⟨rfl, Nat.le_refl _, Nat.le_refl _⟩
theorem Leaf.Grows.trans {a b c : Leaf} (h1 : a.Grows b) (h2 : b.Grows c) : a.Grows c :=
  ⟨h2.1.trans h1.1, Nat.le_trans h1.2.1 h2.2.1, Nat.le_trans h1.2.2 h2.2.2⟩

theorem Leaf.step_grows (ext : Ext) (l : Leaf) (call : Call) : l.Grows (Leaf.step ext l call).1 := by
  obtain ⟨done, _, hk, hkk, _⟩ := Leaf.step_spec ext l call
  exact ⟨hk, hkk ▸ Nat.le_add_right _ _, hkk ▸ Nat.le_add_right _ _⟩

/-- the same chain of runners, no counter of any of them smaller -/
def Runner.Grows : Runner → Runner → Prop
  | .leaf a, .leaf b => a.Grows b
  | .tracker i b k _ _, .tracker i' b' k' _ _ =>
    b' = b ∧ k.nCircuits ≤ k'.nCircuits ∧ k.nJobs ≤ k'.nJobs ∧ i.Grows i'
  | _, _ => False

theorem Runner.Grows.refl (r : Runner) : r.Grows r := by
  induction r with
  | leaf l => exact Leaf.Grows.refl l
  | tracker inner bits k raw file ih => exact ⟨rfl, Nat.le_refl _, Nat.le_refl _, ih⟩

theorem Runner.Grows.trans {a b c : Runner} (h1 : a.Grows b) (h2 : b.Grows c) : a.Grows c := by
  induction a generalizing b c with
  | leaf l =>
    cases b <;> cases c <;> simp only [Runner.Grows] at h1 h2 ⊢
    exact Leaf.Grows.trans h1 h2
  | tracker inner bits k raw file ih =>
    cases b <;> cases c <;> simp only [Runner.Grows] at h1 h2 ⊢
    exact ⟨h2.1.trans h1.1, Nat.le_trans h1.2.1 h2.2.1, Nat.le_trans h1.2.2.1 h2.2.2.1, ih h1.2.2.2 h2.2.2.2⟩

theorem step_grows (ext : Ext) (r : Runner) (call : Call) : r.Grows (step ext r call).1 := by
  induction r with
  | leaf l => rw [step_leaf]; exact Leaf.step_grows ext l call
  | tracker inner bits k raw file ih =>
    rw [step_tracker]; exact ⟨rfl, Nat.le_add_right _ _, Nat.le_add_right _ _, ih⟩

theorem runAll_grows (ext : Ext) (r : Runner) (calls : List Call) : r.Grows (runAll ext r calls).1 := by
  induction calls generalizing r with
  | nil => exact Runner.Grows.refl r
  | cons call rest ih => exact Runner.Grows.trans (step_grows ext r call) (ih _)

theorem binDigits_length_le (f i m : Nat) (hi : i < 2 ^ (m + 1)) : (binDigits f i).length ≤ m + 1 := by
  induction f generalizing i m with
  | zero => exact Nat.succ_le_succ (Nat.zero_le m)
  | succ f ih =>
    unfold binDigits
    split
    · exact Nat.succ_le_succ (Nat.zero_le m)
    · next h2 =>
      cases m with
      | zero => exact absurd hi h2
      | succ m =>
        rw [List.length_append]
        exact Nat.succ_le_succ (ih _ m (Nat.div_lt_of_lt_mul (by rwa [Nat.pow_succ, Nat.mul_comm] at hi)))

theorem formatBin_length (i n : Nat) (hn : 1 ≤ n) (hi : i < 2 ^ n) : (formatBin i n).length = n := by
  obtain ⟨m, rfl⟩ := Nat.exists_eq_add_of_le' hn
  have := binDigits_length_le i i m hi
  simp only [formatBin, List.length_append, List.length_replicate]
  omega

theorem formatBin_length_ge (i n : Nat) : n ≤ (formatBin i n).length := by
  simp only [formatBin, List.length_append, List.length_replicate]
  omega

theorem outcomeTuple_length (i n : Nat) : (outcomeTuple i n).length = n := by
  have := formatBin_length_ge i n
  simp only [outcomeTuple, List.length_reverse, List.length_take]
  omega

theorem outcomeTuple_eq_formatBin (i n : Nat) (hn : 1 ≤ n) (hi : i < 2 ^ n) : outcomeTuple i n = formatBin i n := by
  have := formatBin_length i n hn hi
  simp only [outcomeTuple]
  rw [List.take_of_length_le (by simp [this]), List.reverse_reverse]

/-- at least `n` shots, each as long as the register of `c` -/
def ShotsOK (c : Circ) (n : Int) (m : List Shot) : Prop :=
  n ≤ (m.length : Int) ∧ ∀ s ∈ m, s.length = c.width

/-- assumed law of the abstract `_run_and_measure`: for a positive request it returns at least that
    many shots, each a tuple over the circuit's register -/
def ExecLaw (ext : Ext) : Prop :=
  ∀ k c n m, 0 < n → ext.exec k c n = .ok m → ShotsOK c n m

/-- assumed law of `rng.choice(a, size=n, p)`: exactly `n` items, each an index of `a`
    (`a` = the `2 ** n_qubits` basis states) -/
def DrawLaw (ext : Ext) : Prop :=
  ∀ k c n, 0 < n → ((ext.draw k c n).length : Int) = n ∧ ∀ i ∈ ext.draw k c n, i < 2 ^ c.width

theorem Produced.shape {ext : Ext} {kind : Kind} {k : Nat} {c : Circ} {n : Int} {m : List Shot}
    (h : Produced ext kind k c n m) (hn : 0 < n) (he : ExecLaw ext) (hd : DrawLaw ext) :
    ShotsOK c n m := by
  cases kind with
  | base => exact he k c n m hn h
  | sim a =>
    obtain ⟨_, rfl⟩ := h
    obtain ⟨h1, _⟩ := hd k c n hn
    refine ⟨by simp [sampleShots, h1], fun s hs => ?_⟩
    obtain ⟨i, _, rfl⟩ := List.mem_map.1 hs
    exact outcomeTuple_length i c.width

theorem InOrder.shape {ext : Ext} {kind : Kind} {k : Nat} {ps : List (Circ × Int)} {ms : List (List Shot)}
    (h : InOrder ext kind k ps ms) (he : ExecLaw ext) (hd : DrawLaw ext) :
    List.Forall₂ (fun p m => ShotsOK p.1 p.2 m) ps ms := by
  induction h with
  | nil k => exact List.Forall₂.nil
  | cons hn hp _ ih => exact List.Forall₂.cons (hp.shape hn he hd) ih

theorem countsOf_concat (m : List Shot) (s : Shot) : countsOf (m ++ [s]) = bump s (countsOf m) := by
  simp only [countsOf, List.foldl_append, List.foldl_cons, List.foldl_nil]

theorem getCount_bump (s t : Shot) (acc : List (Shot × Nat)) :
    getCount (bump s acc) t = getCount acc t + (if s = t then 1 else 0) := by
  induction acc with
  | nil => simp only [bump, getCount, Nat.zero_add]
  | cons p rest ih =>
    simp only [bump]
    split
    · next hp => subst hp; simp only [getCount]; split <;> rfl
    · next hp =>
      simp only [getCount, ih]
      split
      · next ht => rw [if_neg (fun hst => hp (ht.trans hst.symm)), Nat.add_zero]
      · rfl

theorem getCount_countsOf (m : List Shot) (t : Shot) : getCount (countsOf m) t = m.count t := by
  induction m using List.reverseRecOn with
  | nil => rfl
  | append_singleton m s ih =>
    rw [countsOf_concat, getCount_bump, ih, List.count_append, List.count_cons, List.count_nil, Nat.zero_add]
    simp only [beq_iff_eq]

def total (cnts : List (Shot × Nat)) : Nat := (cnts.map (fun p => p.2)).sum

theorem total_bump (s : Shot) (acc : List (Shot × Nat)) : total (bump s acc) = total acc + 1 := by
  induction acc with
  | nil => rfl
  | cons p rest ih =>
    simp only [bump]
    split
    · simp only [total, List.map_cons, List.sum_cons]; omega
    · simp only [total, List.map_cons, List.sum_cons] at ih ⊢; omega

theorem total_countsOf (m : List Shot) : total (countsOf m) = m.length := by
  induction m using List.reverseRecOn with
  | nil => rfl
  | append_singleton m s ih => rw [countsOf_concat, total_bump, ih, List.length_append]; rfl

theorem keys_bump (s : Shot) (acc : List (Shot × Nat)) :
    (bump s acc).map (·.1) = if s ∈ acc.map (·.1) then acc.map (·.1) else acc.map (·.1) ++ [s] := by
  induction acc with
  | nil => rfl
  | cons p rest ih =>
    simp only [bump]
    split
    · next hp => simp only [List.map_cons, hp, List.mem_cons, true_or, if_true]
    · next hp =>
      simp only [List.map_cons, ih, List.mem_cons, show ¬ s = p.1 from fun h => hp h.symm, false_or]
      split <;> rfl

theorem keys_countsOf (m : List Shot) : ((countsOf m).map (fun p => p.1)).Nodup := by
  induction m using List.reverseRecOn with
  | nil => exact List.nodup_nil
  | append_singleton m s ih =>
    rw [countsOf_concat, keys_bump]
    split
    · exact ih
    · next hs =>
      exact List.nodup_append.2 ⟨ih, List.pairwise_singleton _ s, fun a ha b hb h => hs (List.mem_singleton.1 hb ▸ h ▸ ha)⟩

/-- a measurement record agrees with the circuit it was written for and the measurements returned
    for it: same circuit, a histogram counting each returned bitstring exactly as often as returned
    (a dictionary, summing to the shot number), the number of returned shots, the number of
    operations, and – if requested – the bitstrings themselves -/
def Record.Matches (bits : Bool) (c : Circ) (m : List Shot) : Record → Prop
  | .meas c' cnts g s b =>
    c' = c ∧ (∀ t, getCount cnts t = m.count t) ∧ (cnts.map (fun p => p.1)).Nodup ∧ total cnts = m.length ∧
    s = m.length ∧ g = c.ops.length ∧ b = (if bits then some m else none)
  | .dist _ _ _ _ => False

theorem mkMeasRecord_matches (bits : Bool) (c : Circ) (m : List Shot) : (mkMeasRecord bits c m).Matches bits c m :=
  ⟨rfl, getCount_countsOf m, keys_countsOf m, total_countsOf m, rfl, rfl, rfl⟩

theorem forall₂_map_mk (bits : Bool) (ps : List (Circ × List Shot)) :
    List.Forall₂ (fun p rec => Record.Matches bits p.1 p.2 rec) ps (ps.map (fun p => mkMeasRecord bits p.1 p.2)) := by
  induction ps with
  | nil => exact List.Forall₂.nil
  | cons p ps ih => exact List.Forall₂.cons (mkMeasRecord_matches bits p.1 p.2) ih

/-! ## a concrete instance of the externals and a few circuits (for the non-vacuity examples) -/

def exT : Ext where
  exec := fun k c n =>
    if c.symbolic then .err .value else .ok (List.replicate (n.toNat + k) (List.replicate c.width 0))
  draw := fun k c n => List.replicate n.toNat (k % 2 ^ c.width)

theorem exT_execLaw : ExecLaw exT := by
  intro k c n m hn h
  dsimp only [exT] at h
  split at h
  · cases h
  · cases h
    refine ⟨?_, fun s hs => List.eq_of_mem_replicate hs ▸ List.length_replicate⟩
    rw [List.length_replicate]
    omega

theorem exT_drawLaw : DrawLaw exT := by
  intro k c n hn
  refine ⟨?_, fun i hi => List.eq_of_mem_replicate hi ▸ Nat.mod_lt _ (Nat.pow_pos Nat.two_pos)⟩
  rw [exT, List.length_replicate]
  exact Int.toNat_of_nonneg (Int.le_of_lt hn)

def cH : Circ := ⟨0, 3, [true, true], false⟩
def cMP : Circ := ⟨1, 2, [true, false, true, false, false], false⟩
def cEmpty : Circ := ⟨2, 0, [], false⟩
def cSym : Circ := ⟨3, 1, [true], true⟩
def base0 : Runner := .leaf ⟨.base, ⟨0, 0⟩, 0⟩
def symb0 : Runner := .leaf ⟨.sim true, ⟨0, 0⟩, 0⟩
def sim0 : Runner := .leaf ⟨.sim false, ⟨0, 0⟩, 0⟩

end OQ.C14
