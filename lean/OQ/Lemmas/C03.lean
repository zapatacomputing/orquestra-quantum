/-
  C03 — the executable `denote` (OQ/Model/Pauli.lean) is `coefficient • ⨂_q σ_q` (`tden`, `sden`, `vden`),
  the generated multiplication table is the table of the 2×2 Pauli matrices, and every mechanism of
  OQ/Model/C03.lean (`mulByOp`, `mulTermOrd`, `simplify`, `productTerms`, `effExp`, …) is interpreted in that semantics.
-/
import OQ.Lemmas.C03_Tensor
import OQ.Lemmas.Fold

set_option linter.unusedSectionVars false
set_option linter.unusedSimpArgs false

namespace OQ.C03
open OQ.Pauli Matrix

variable {R : Type} [CommRing R] (k : Scal R) (n : Nat)

/-- the 2×2 matrix of an optional Pauli letter (`none` = identity), read off the executable `pauliMat` -/
def σ (k : Scal R) (o : Option P) : Matrix (Fin 2) (Fin 2) R := Mat.toM 2 2 (pauliMat k o)

theorem pauliMat_r (o : Option P) : (pauliMat k o).r = 2 := by
  rcases o with _ | (_ | _ | _) <;> rfl
theorem pauliMat_c (o : Option P) : (pauliMat k o).c = 2 := by
  rcases o with _ | (_ | _ | _) <;> rfl

theorem toM_ofLists_two (a b c d : R) : Mat.toM 2 2 (Mat.ofLists [[a, b], [c, d]]) = !![a, b; c, d] := by
  ext i j
  have := Mat.get_ofFn 2 2 (fun i j => (([[a, b], [c, d]] : List (List R)).getD i []).getD j 0) i j i.2 j.2
  fin_cases i <;> fin_cases j <;> exact this

theorem σ_none : σ k none = 1 := (toM_ofLists_two 1 0 0 1).trans Matrix.one_fin_two.symm
theorem σ_X : σ k (some .X) = !![0, 1; 1, 0] := toM_ofLists_two _ _ _ _
theorem σ_Y : σ k (some .Y) = !![0, -k.i; k.i, 0] := toM_ofLists_two _ _ _ _
theorem σ_Z : σ k (some .Z) = !![1, 0; 0, -1] := toM_ofLists_two _ _ _ _

theorem σ_sq (hi : k.i * k.i = -1) (o : Option P) : σ k o * σ k o = 1 := by
  rcases o with _ | (_ | _ | _)
  · rw [σ_none, one_mul]
  · rw [σ_X, Matrix.mul_fin_two, Matrix.one_fin_two]; simp
  · rw [σ_Y, Matrix.mul_fin_two, Matrix.one_fin_two]; simp [hi]
  · rw [σ_Z, Matrix.mul_fin_two, Matrix.one_fin_two]; simp

theorem natTo_eq : (natTo n : R) = (n : R) := by
  induction n with
  | zero => simp [natTo]
  | succ n ih => simp [natTo, ih]

theorem intTo_eq (z : Int) : (intTo z : R) = (z : R) := by
  cases z with
  | ofNat n => simp [intTo, natTo_eq]
  | negSucc n => simp [intTo, natTo_eq, Int.negSucc_eq]

/-- the three values of `COEFF_MAP` and of the cases without table lookup: i, −i, 1 -/
theorem phase_values : phase k (0, 1) = k.i ∧ phase k (0, -1) = -k.i ∧ phase k (1, 0) = 1 := by
  simp [phase, intTo_eq]

theorem σ_mul_table (hi : k.i * k.i = -1) (a b : P) (hab : a ≠ b) :
    σ k (some a) * σ k (some b) = phase k (Gen.coeffTable a b) • σ k (some (Gen.opTable a b)) := by
  obtain ⟨hp, hm, _⟩ := phase_values k
  cases a <;> cases b <;> first
    | exact absurd rfl hab
    | (simp only [Gen.coeffTable, Gen.opTable, σ_X, σ_Y, σ_Z, hp, hm, Matrix.mul_fin_two, Matrix.smul_of, Matrix.smul_cons,
         Matrix.smul_empty]
       simp [hi])

/-- the stored letter `a` (`none`: the qubit is unused) times the letter `op`: the letter stored afterwards and the phase that goes
    into the coefficient – the three cases of `_multiply_by_operator` -/
def letterMul (a : Option P) (op : P) : Option P × (Int × Int) :=
  match a with
  | none => (some op, (1, 0))
  | some a => if a = op then (none, (1, 0)) else (some (Gen.opTable a op), Gen.coeffTable a op)

theorem σ_letterMul (hi : k.i * k.i = -1) (a : Option P) (op : P) :
    σ k a * σ k (some op) = phase k (letterMul a op).2 • σ k (letterMul a op).1 := by
  obtain ⟨_, _, h1⟩ := phase_values k
  rcases a with _ | a
  · simp only [letterMul, σ_none, h1, one_mul, one_smul]
  · by_cases h : a = op
    · simp only [letterMul, h, if_true, σ_sq k hi, σ_none, h1, one_smul]
    · simp only [letterMul, h, if_false]
      exact σ_mul_table k hi a op h

theorem stringMatrix_succ (at_ : Nat → Option P) :
    stringMatrix k (n + 1) at_ = Mat.kron (stringMatrix k n at_) (pauliMat k (at_ n)) := by
  unfold stringMatrix
  rw [List.range_succ, List.foldl_append]
  rfl

theorem stringMatrix_dims (at_ : Nat → Option P) :
    (stringMatrix k n at_).r = 2 ^ n ∧ (stringMatrix k n at_).c = 2 ^ n := by
  induction n with
  | zero => exact ⟨rfl, rfl⟩
  | succ n ih =>
    rw [stringMatrix_succ]
    simp only [Mat.kron, Mat.ofFn_r, Mat.ofFn_c, ih.1, ih.2, pauliMat_r, pauliMat_c, pow_succ, and_self]

theorem stringMatrix_get (at_ : Nat → Option P) (i j : Nat) (hi : i < 2 ^ n) (hj : j < 2 ^ n) :
    (stringMatrix k n at_).get i j = tensE (fun q => σ k (at_ q)) n i j := by
  induction n generalizing i j with
  | zero =>
    obtain rfl : i = 0 := by simpa using hi
    obtain rfl : j = 0 := by simpa using hj
    simp only [stringMatrix, List.range_zero, List.foldl_nil, tensE, Mat.identity]
    rw [Mat.get_ofFn _ _ _ _ _ (by omega) (by omega)]; simp
  | succ n ih =>
    have hd := stringMatrix_dims k n at_
    rw [stringMatrix_succ, Mat.kron_get _ _ _ _ (by rw [hd.1, pauliMat_r, ← pow_succ]; exact hi)
      (by rw [hd.2, pauliMat_c, ← pow_succ]; exact hj)]
    simp only [pauliMat_r, pauliMat_c, tensE]
    rw [ih (i / 2) (j / 2) (div_two_lt_pow hi) (div_two_lt_pow hj)]
    rfl

/-- Mathlib-level denotation of a term: coefficient times the tensor product of its letters -/
def tden (k : Scal R) (n : Nat) (t : Term R) : Matrix (Fin (2 ^ n)) (Fin (2 ^ n)) R :=
  t.coeff • tens (fun q => σ k (lookup t.ops q)) n

def sden (k : Scal R) (n : Nat) (s : PSum R) : Matrix (Fin (2 ^ n)) (Fin (2 ^ n)) R :=
  (s.map (tden k n)).sum

theorem denote_dims (k : Scal R) (n : Nat) (t : Term R) : (t.denote k n).r = 2 ^ n ∧ (t.denote k n).c = 2 ^ n := by
  simp only [Term.denote, Mat.smul, Mat.ofFn_r, Mat.ofFn_c]
  exact stringMatrix_dims k n _

theorem toM_denote_term (t : Term R) :
    Mat.toM (2 ^ n) (2 ^ n) (t.denote k n) = tden k n t := by
  have hd := stringMatrix_dims k n t.opAt
  funext i j
  simp only [Mat.toM, Term.denote, Mat.smul, tden, Matrix.smul_apply, tens_apply, smul_eq_mul]
  rw [Mat.get_ofFn _ _ _ _ _ (by rw [hd.1]; exact i.2) (by rw [hd.2]; exact j.2),
    stringMatrix_get k n _ i j i.2 j.2]
  rfl

theorem sden_nil : sden k n ([] : PSum R) = 0 := rfl
theorem sden_cons (t : Term R) (s : PSum R) : sden k n (t :: s) = tden k n t + sden k n s := by
  simp [sden]
theorem sden_append (s1 s2 : PSum R) : sden k n (s1 ++ s2) = sden k n s1 + sden k n s2 := by
  simp [sden, List.sum_append]
theorem sden_singleton (t : Term R) : sden k n [t] = tden k n t := by
  simp [sden]

theorem toM_foldl_add (s : PSum R) (acc : Mat R) (hr : acc.r = 2 ^ n) (hc : acc.c = 2 ^ n) :
    Mat.toM (2 ^ n) (2 ^ n) (s.foldl (fun acc t => Mat.add acc (t.denote k n)) acc)
      = Mat.toM (2 ^ n) (2 ^ n) acc + sden k n s := by
  induction s generalizing acc with
  | nil => simp [sden]
  | cons t s ih =>
    rw [List.foldl_cons, ih _ (by simp [Mat.add, hr]) (by simp [Mat.add, hc]), sden_cons, ← add_assoc, ← toM_denote_term]
    congr 1
    funext i j
    simp only [Mat.toM, Mat.add, Matrix.add_apply]
    rw [Mat.get_ofFn _ _ _ _ _ (by rw [hr]; exact i.2) (by rw [hc]; exact j.2)]

theorem toM_denote_sum (s : PSum R) :
    Mat.toM (2 ^ n) (2 ^ n) (PSum.denote k n s) = sden k n s := by
  unfold PSum.denote
  rw [toM_foldl_add k n s _ rfl rfl, Mat.toM_ofFn]
  exact zero_add _

theorem lookup_nil (q : Nat) : lookup [] q = none := rfl

theorem lookup_cons (p : Nat × P) (ops : List (Nat × P)) (q : Nat) :
    lookup (p :: ops) q = if p.1 = q then some p.2 else lookup ops q := by
  unfold lookup
  rw [List.find?_cons]
  split
  · next h => rw [if_pos (beq_iff_eq.mp h)]; rfl
  · next h => rw [if_neg (by simpa using h)]

theorem lookup_mem {ops : List (Nat × P)} {q : Nat} {a : P} (h : lookup ops q = some a) : (q, a) ∈ ops := by
  induction ops with
  | nil => cases h
  | cons p ops ih =>
    rw [lookup_cons] at h
    split at h
    · next hp => obtain rfl := Option.some.inj h; subst hp; exact List.mem_cons_self
    · exact List.mem_cons_of_mem _ (ih h)

theorem lookup_none_iff (ops : List (Nat × P)) (q : Nat) : lookup ops q = none ↔ q ∉ ops.map (·.1) := by
  induction ops with
  | nil => simp [lookup_nil]
  | cons p ops ih =>
    rw [lookup_cons, List.map_cons, List.mem_cons, not_or, ← ih]
    by_cases hp : p.1 = q
    · simp [hp]
    · rw [if_neg hp]; exact ⟨fun h => ⟨fun e => hp e.symm, h⟩, fun h => h.2⟩

theorem lookup_append (a b : List (Nat × P)) (q : Nat) : lookup (a ++ b) q = (lookup a q).or (lookup b q) := by
  unfold lookup
  rw [List.find?_append, Option.map_or]

theorem lookup_append_new (ops : List (Nat × P)) (idx : Nat) (op : P) (h : lookup ops idx = none) (q : Nat) :
    lookup (ops ++ [(idx, op)]) q = if q = idx then some op else lookup ops q := by
  rw [lookup_append, lookup_cons, lookup_nil]
  by_cases hq : q = idx
  · rw [hq, h, if_pos rfl]; rfl
  · rw [if_neg (Ne.symm hq), if_neg hq]; exact Option.or_none

theorem lookup_erase (ops : List (Nat × P)) (idx q : Nat) :
    lookup (opsErase ops idx) q = if q = idx then none else lookup ops q := by
  unfold lookup opsErase
  rw [List.find?_filter]
  by_cases hq : q = idx
  · rw [if_pos hq, List.find?_eq_none.mpr fun p _ => by simp [hq]]; rfl
  · rw [if_neg hq]
    congr 2
    funext p
    cases h : p.1 == q
    · exact decide_eq_false fun h' => Bool.noConfusion h'.2
    · exact decide_eq_true ⟨bne_iff_ne.mpr fun e => hq ((beq_iff_eq.mp h).symm.trans e), rfl⟩

theorem lookup_set (ops : List (Nat × P)) (idx : Nat) (op : P) (q : Nat) :
    lookup (opsSet ops idx op) q = if q = idx then (lookup ops idx).map (fun _ => op) else lookup ops q := by
  induction ops with
  | nil => simp [opsSet, lookup_nil]
  | cons p ops ih =>
    unfold opsSet at ih ⊢
    rw [List.map_cons, lookup_cons, ih, lookup_cons, lookup_cons]
    by_cases hp : p.1 = idx
    · have : (p.1 == idx) = true := by simpa using hp
      simp only [this, if_true, hp]
      by_cases hq : q = idx
      · subst hq; simp
      · simp [hq, Ne.symm hq]
    · have : (p.1 == idx) = false := by simpa using hp
      simp only [this, Bool.false_eq_true, if_false, hp]
      by_cases hq : q = idx
      · subst hq; simp [hp]
      · simp [hq]

theorem mulByOp_coeff (t : Term R) (op : P) (idx : Nat) :
    (mulByOp k t op idx).coeff = t.coeff * phase k (letterMul (lookup t.ops idx) op).2 := by
  obtain ⟨_, _, h1⟩ := phase_values k
  unfold mulByOp letterMul
  cases lookup t.ops idx with
  | none => simp [h1]
  | some a => by_cases h : a = op <;> simp [h, h1]

theorem lookup_mulByOp (t : Term R) (op : P) (idx q : Nat) :
    lookup (mulByOp k t op idx).ops q = if q = idx then (letterMul (lookup t.ops idx) op).1 else lookup t.ops q := by
  unfold mulByOp letterMul
  cases hl : lookup t.ops idx with
  | none => exact lookup_append_new _ _ _ hl q
  | some a =>
    by_cases h : a = op
    · simp only [h, if_true]; exact lookup_erase _ _ _
    · simp only [h, if_false, lookup_set, hl, Option.map_some]

def single (k : Scal R) (idx : Nat) (op : P) : Nat → Matrix (Fin 2) (Fin 2) R :=
  fun q => if q = idx then σ k (some op) else 1

theorem mulByOp_den (hi : k.i * k.i = -1) (n : Nat) (t : Term R) (op : P) (idx : Nat) (hidx : idx < n) :
    tden k n (mulByOp k t op idx) = tden k n t * tens (single k idx op) n := by
  unfold tden
  rw [Matrix.smul_mul, tens_mul, mulByOp_coeff, mul_smul]
  congr 1
  symm
  apply tens_smul_at n idx _ hidx
  · intro q _ hq
    simp only [lookup_mulByOp, single, hq, if_false, mul_one]
  · simp only [lookup_mulByOp, single, if_true]
    exact σ_letterMul k hi _ op

/-- every qubit index of the term is below `n` (`n ≥ term.n_qubits`) -/
def TermFits (n : Nat) (t : Term R) : Prop := ∀ p ∈ t.ops, p.1 < n
def SumFits (n : Nat) (s : PSum R) : Prop := ∀ t ∈ s, TermFits n t

theorem termFits_iff_lookup (t : Term R) : TermFits n t ↔ ∀ q, lookup t.ops q ≠ none → q < n := by
  simp only [TermFits, ne_eq, lookup_none_iff, not_not, List.mem_map]
  exact ⟨fun h q ⟨p, hp, e⟩ => e ▸ h p hp, fun h p hp => h p.1 ⟨p, hp, rfl⟩⟩

theorem mulByOp_fits (t : Term R) (op : P) (idx : Nat) (ht : TermFits n t) (hidx : idx < n) :
    TermFits n (mulByOp k t op idx) := by
  rw [termFits_iff_lookup] at ht ⊢
  intro q hq
  rw [lookup_mulByOp] at hq
  by_cases h : q = idx
  · exact h ▸ hidx
  · exact ht q (by rwa [if_neg h] at hq)

/-- the loop body of `PauliTerm.__mul__` -/
def mulStep (k : Scal R) (u : Term R) (r : Term R) (q : Nat) : Term R :=
  match lookup u.ops q with
  | some op => mulByOp k r op q
  | none => r

theorem mulTermOrd_eq (order : List Nat) (t u : Term R) :
    mulTermOrd k order t u =
      ⟨(order.foldl (mulStep k u) ⟨t.ops, 1⟩).ops, (order.foldl (mulStep k u) ⟨t.ops, 1⟩).coeff * (t.coeff * u.coeff)⟩ := rfl

theorem foldl_mulStep_induction (u : Term R) (Q : Term R → Prop)
    (hQ : ∀ r op q, lookup u.ops q = some op → Q r → Q (mulByOp k r op q)) (ks : List Nat) (r : Term R) (hr : Q r) :
    Q (ks.foldl (mulStep k u) r) := by
  induction ks generalizing r with
  | nil => exact hr
  | cons q ks ih =>
    apply ih
    unfold mulStep
    split
    · next op hl => exact hQ r op q hl hr
    · exact hr

/-- the letters of `u` on the qubits listed in `ks`, identity elsewhere -/
def part (k : Scal R) (u : Term R) (ks : List Nat) : Nat → Matrix (Fin 2) (Fin 2) R :=
  fun q => if q ∈ ks then σ k (lookup u.ops q) else 1

theorem mulStep_den (hi : k.i * k.i = -1) (n : Nat) (u r : Term R) (q : Nat) (hu : TermFits n u) :
    tden k n (mulStep k u r q) = tden k n r * tens (fun q' => if q' = q then σ k (lookup u.ops q) else 1) n := by
  unfold mulStep
  cases hl : lookup u.ops q with
  | none => simp only [σ_none, ite_self, tens_one, mul_one]
  | some op => exact mulByOp_den k hi n r op q (hu _ (lookup_mem hl))

theorem part_cons (u : Term R) {q : Nat} {ks : List Nat} (hq : q ∉ ks) :
    part k u (q :: ks) = fun q' => (if q' = q then σ k (lookup u.ops q) else 1) * part k u ks q' := by
  funext q'
  simp only [part, List.mem_cons]
  by_cases h : q' = q
  · subst h; simp [hq]
  · simp [h]

theorem foldl_mulStep_den (hi : k.i * k.i = -1) (n : Nat) (u : Term R) (hu : TermFits n u)
    (ks : List Nat) (hnd : ks.Nodup) (r : Term R) :
    tden k n (ks.foldl (mulStep k u) r) = tden k n r * tens (part k u ks) n := by
  induction ks generalizing r with
  | nil =>
    have : part k u [] = fun _ => (1 : Matrix (Fin 2) (Fin 2) R) := by funext q; simp [part]
    rw [List.foldl_nil, this, tens_one, mul_one]
  | cons q ks ih =>
    obtain ⟨hq, hnd'⟩ := List.nodup_cons.mp hnd
    rw [List.foldl_cons, ih hnd', mulStep_den k hi n u r q hu, mul_assoc, tens_mul, part_cons k u hq]

theorem foldl_mulStep_fits (u : Term R) (hu : TermFits n u) (ks : List Nat) (r : Term R)
    (hr : TermFits n r) : TermFits n (ks.foldl (mulStep k u) r) :=
  foldl_mulStep_induction k u (TermFits n) (fun r op q hl h => mulByOp_fits k n r op q h (hu _ (lookup_mem hl))) ks r hr

theorem tden_scale (ops : List (Nat × P)) (c x : R) :
    tden k n ⟨ops, c * x⟩ = x • tden k n ⟨ops, c⟩ := by
  simp only [tden, smul_smul, mul_comm]

theorem mulTermOrd_den (hi : k.i * k.i = -1) (n : Nat) (t u : Term R) (order : List Nat)
    (hu : TermFits n u) (hnd : order.Nodup) (hcov : ∀ q a, lookup u.ops q = some a → q ∈ order) :
    tden k n (mulTermOrd k order t u) = tden k n t * tden k n u := by
  have hp : tens (part k u order) n = tens (fun q => σ k (lookup u.ops q)) n := by
    apply tens_congr
    intro q _
    simp only [part]
    split
    · rfl
    · next hq =>
      cases hl : lookup u.ops q with
      | none => exact (σ_none k).symm
      | some a => exact absurd (hcov q a hl) hq
  rw [mulTermOrd_eq, tden_scale]
  change _ • tden k n (order.foldl (mulStep k u) ⟨t.ops, 1⟩) = _
  rw [foldl_mulStep_den k hi n u hu order hnd, hp]
  simp only [tden, one_smul, Matrix.smul_mul, Matrix.mul_smul, smul_smul]
  rw [mul_comm]

theorem mulTermOrd_fits (t u : Term R) (order : List Nat) (ht : TermFits n t) (hu : TermFits n u) :
    TermFits n (mulTermOrd k order t u) := by
  rw [mulTermOrd_eq]
  exact foldl_mulStep_fits k n u hu order ⟨t.ops, 1⟩ ht

/-! ### folds that append what is not there yet: `keys`, `set(…)` of the prelude, `mkSet` (`c acc x`: "`x` is already in `acc`") -/

section insNew
variable {α : Type} (c : List α → α → Bool)

theorem insNew_subset (l acc : List α) {x : α}
    (h : x ∈ l.foldl (fun acc x => if c acc x then acc else acc ++ [x]) acc) : x ∈ acc ∨ x ∈ l := by
  induction l generalizing acc with
  | nil => exact .inl h
  | cons a l ih =>
    simp only [List.foldl_cons] at h
    rcases ih _ h with h | h
    · split at h
      · exact .inl h
      · rcases List.mem_append.mp h with h | h
        · exact .inl h
        · exact .inr (List.mem_cons.mpr (.inl (List.mem_singleton.mp h)))
    · exact .inr (List.mem_cons_of_mem _ h)

theorem insNew_superset (hc : ∀ acc x, c acc x = true → x ∈ acc) (l acc : List α) {x : α} (h : x ∈ acc ∨ x ∈ l) :
    x ∈ l.foldl (fun acc x => if c acc x then acc else acc ++ [x]) acc := by
  induction l generalizing acc with
  | nil => simpa using h
  | cons a l ih =>
    simp only [List.foldl_cons]
    apply ih
    rcases h with h | h
    · left; split
      · exact h
      · exact List.mem_append_left _ h
    · rcases List.mem_cons.mp h with rfl | h
      · left; split
        · next hx => exact hc _ _ hx
        · simp
      · exact .inr h

theorem insNew_nodup (hc : ∀ acc x, x ∈ acc → c acc x = true) (l acc : List α) (hacc : acc.Nodup) :
    (l.foldl (fun acc x => if c acc x then acc else acc ++ [x]) acc).Nodup := by
  induction l generalizing acc with
  | nil => exact hacc
  | cons a l ih =>
    simp only [List.foldl_cons]
    apply ih
    split
    · exact hacc
    · next h => exact hacc.append (List.nodup_singleton a) (by simpa using fun hm => h (hc _ _ hm))

theorem insNew_map {β : Type} (f : α → β) (c' : List β → β → Bool) (P : α → Prop)
    (hcc : ∀ acc x, (∀ a ∈ acc, P a) → P x → c' (acc.map f) (f x) = c acc x) (l acc : List α) (hl : ∀ a ∈ l, P a)
    (hacc : ∀ a ∈ acc, P a) :
    (l.map f).foldl (fun acc x => if c' acc x then acc else acc ++ [x]) (acc.map f)
      = (l.foldl (fun acc x => if c acc x then acc else acc ++ [x]) acc).map f := by
  induction l generalizing acc with
  | nil => rfl
  | cons a l ih =>
    obtain ⟨ha, hl'⟩ := List.forall_mem_cons.mp hl
    rw [List.map_cons, List.foldl_cons, List.foldl_cons, hcc acc a hacc ha]
    split
    · exact ih acc hl' hacc
    · rw [← List.map_singleton (f := f), ← List.map_append]
      exact ih _ hl' (List.forall_mem_append.mpr ⟨hacc, List.forall_mem_singleton.mpr ha⟩)

end insNew

theorem keys_spec (ops : List (Nat × P)) : (keys ops).Nodup ∧ ∀ q, q ∈ keys ops ↔ ∃ p ∈ ops, p.1 = q := by
  have e : keys ops = (ops.map (·.1)).foldl (fun acc x => if acc.contains x then acc else acc ++ [x]) [] := by
    unfold keys; rw [List.foldl_map]
  rw [e]
  refine ⟨insNew_nodup _ (fun _ _ h => by simpa using h) _ _ List.nodup_nil, fun q => ?_⟩
  have hm : (∃ p ∈ ops, p.1 = q) ↔ q ∈ ops.map (·.1) := List.mem_map.symm
  rw [hm]
  exact ⟨fun h => (insNew_subset _ _ _ h).resolve_left List.not_mem_nil,
    fun h => insNew_superset _ (fun _ _ h => by simpa using h) _ _ (.inr h)⟩

theorem mulTerm_den (hi : k.i * k.i = -1) (n : Nat) (t u : Term R) (hu : TermFits n u) :
    tden k n (mulTerm k t u) = tden k n t * tden k n u := by
  have hk := keys_spec u.ops
  exact mulTermOrd_den k hi n t u _ hu hk.1 (fun q a h => (hk.2 q).mpr ⟨(q, a), lookup_mem h, rfl⟩)

theorem mulTerm_fits (t u : Term R) (ht : TermFits n t) (hu : TermFits n u) :
    TermFits n (mulTerm k t u) := mulTermOrd_fits k n t u _ ht hu

theorem opsEq_lookup {a b : List (Nat × P)} (h : opsEq a b = true) (q : Nat) : lookup a q = lookup b q := by
  unfold opsEq at h
  rw [Bool.and_eq_true, List.all_eq_true, List.all_eq_true] at h
  cases ha : lookup a q with
  | some x => exact (eq_of_beq (h.1 _ (lookup_mem ha))).symm
  | none =>
    cases hb : lookup b q with
    | none => rfl
    | some y => exact absurd (ha.symm.trans (eq_of_beq (h.2 _ (lookup_mem hb)))) nofun

theorem tden_congr {a b : List (Nat × P)} (h : ∀ q, lookup a q = lookup b q) (c : R) :
    tden k n ⟨a, c⟩ = tden k n ⟨b, c⟩ := by
  unfold tden
  rw [show lookup a = lookup b from funext h]

/-- denotation of one OrderedDict value -/
def gden (k : Scal R) (n : Nat) (g : Group R) : Matrix (Fin (2 ^ n)) (Fin (2 ^ n)) R :=
  tden k n g.first + sden k n g.rest
def gsden (k : Scal R) (n : Nat) (gs : List (Group R)) : Matrix (Fin (2 ^ n)) (Fin (2 ^ n)) R :=
  (gs.map (gden k n)).sum
/-- all members of a group carry the same operator string as its first term -/
def GroupOk (g : Group R) : Prop := ∀ t ∈ g.rest, ∀ q, lookup t.ops q = lookup g.first.ops q

theorem mem_insertGroup {gs : List (Group R)} {t : Term R} {g : Group R} (h : g ∈ insertGroup gs t) :
    g = ⟨t, []⟩ ∨ g ∈ gs ∨ ∃ g' ∈ gs, opsEq g'.first.ops t.ops = true ∧ g = ⟨g'.first, g'.rest ++ [t]⟩ := by
  induction gs with
  | nil => exact .inl (List.mem_singleton.mp h)
  | cons g0 gs ih =>
    unfold insertGroup at h
    split at h
    · next he =>
      rcases List.mem_cons.mp h with rfl | h
      · exact .inr (.inr ⟨g0, List.mem_cons_self, he, rfl⟩)
      · exact .inr (.inl (List.mem_cons_of_mem _ h))
    · rcases List.mem_cons.mp h with rfl | h
      · exact .inr (.inl List.mem_cons_self)
      · rcases ih h with h | h | ⟨g', hg', he, rfl⟩
        · exact .inl h
        · exact .inr (.inl (List.mem_cons_of_mem _ h))
        · exact .inr (.inr ⟨g', List.mem_cons_of_mem _ hg', he, rfl⟩)

theorem likeTerms_induction (I : List (Group R) → Prop) (s : PSum R) (h0 : I [])
    (hstep : ∀ gs, ∀ t ∈ s, I gs → I (insertGroup gs t)) : I (likeTerms s) := by
  unfold likeTerms
  generalize ([] : List (Group R)) = gs at h0
  induction s generalizing gs with
  | nil => exact h0
  | cons t s ih =>
    exact ih (fun gs t' ht' => hstep gs t' (List.mem_cons_of_mem _ ht')) _ (hstep gs t List.mem_cons_self h0)

theorem insertGroup_first {Q : Term R → Prop} (gs : List (Group R)) (t : Term R) (hgs : ∀ g ∈ gs, Q g.first) (ht : Q t) :
    ∀ g ∈ insertGroup gs t, Q g.first := by
  intro g hg
  rcases mem_insertGroup hg with rfl | hg | ⟨g', hg', _, rfl⟩
  · exact ht
  · exact hgs g hg
  · exact hgs g' hg'

theorem likeTerms_first {Q : Term R → Prop} (s : PSum R) (hs : ∀ t ∈ s, Q t) : ∀ g ∈ likeTerms s, Q g.first :=
  likeTerms_induction (fun gs => ∀ g ∈ gs, Q g.first) s (fun _ h => nomatch h) fun gs t ht hgs => insertGroup_first gs t hgs (hs t ht)

theorem likeTerms_ok (s : PSum R) : ∀ g ∈ likeTerms s, GroupOk g := by
  refine likeTerms_induction (fun gs => ∀ g ∈ gs, GroupOk g) s (fun _ h => nomatch h) (fun gs t _ hgs g hg => ?_)
  rcases mem_insertGroup hg with rfl | hg | ⟨g', hg', he, rfl⟩
  · exact fun _ h => nomatch h
  · exact hgs g hg
  · intro t' ht' q
    rcases List.mem_append.mp ht' with ht' | ht'
    · exact hgs g' hg' t' ht' q
    · rw [List.mem_singleton.mp ht']; exact (opsEq_lookup he q).symm

theorem insertGroup_den (gs : List (Group R)) (t : Term R) :
    gsden k n (insertGroup gs t) = gsden k n gs + tden k n t := by
  induction gs with
  | nil => simp [insertGroup, gsden, gden, sden]
  | cons g gs ih =>
    unfold insertGroup
    split
    · simp only [gsden, List.map_cons, List.sum_cons, gden, sden_append, sden_singleton]
      abel
    · simp only [gsden, List.map_cons, List.sum_cons] at ih ⊢
      rw [ih]; abel

theorem likeTerms_den (s : PSum R) : gsden k n (likeTerms s) = sden k n s := by
  have h : ∀ gs, gsden k n (s.foldl insertGroup gs) = gsden k n gs + sden k n s := by
    induction s with
    | nil => intro gs; simp [sden_nil]
    | cons t s ih => intro gs; rw [List.foldl_cons, ih, insertGroup_den, sden_cons, add_assoc]
  exact (h []).trans (zero_add _)

theorem coeffSum_eq (g : Group R) : g.coeffSum = g.first.coeff + (g.rest.map (·.coeff)).sum := by
  unfold Group.coeffSum
  rw [List.foldl_cons, foldl_add_eq_sum, zero_add]

theorem gden_ok (g : Group R) (hg : GroupOk g) :
    gden k n g = g.coeffSum • tens (fun q => σ k (lookup g.first.ops q)) n := by
  rw [coeffSum_eq, add_smul]
  unfold gden
  congr 1
  unfold GroupOk at hg
  generalize g.rest = l at hg
  induction l with
  | nil => simp [sden_nil]
  | cons t l ih =>
    rw [sden_cons, ih (fun t' ht' => hg t' (List.mem_cons_of_mem _ ht')), List.map_cons, List.sum_cons, add_smul,
      tden_congr k n (hg t List.mem_cons_self)]
    rfl

/-- what `simplify` discards from a group: the merged term whose coefficient is negligible -/
def droppedGroup (negl : R → Bool) (g : Group R) : List (Term R) :=
  if g.rest.isEmpty && !negl g.first.coeff then []
  else if !negl g.coeffSum then [] else [⟨g.first.ops, g.coeffSum⟩]

/-- everything `simplify` discards from a sum -/
def dropped (negl : R → Bool) (s : PSum R) : PSum R := (likeTerms s).flatMap (droppedGroup negl)

theorem simplifyGroup_den (negl : R → Bool) (g : Group R) (hg : GroupOk g) :
    sden k n (simplifyGroup negl g) + sden k n (droppedGroup negl g) = gden k n g := by
  unfold simplifyGroup droppedGroup
  by_cases h1 : (g.rest.isEmpty && !negl g.first.coeff) = true
  · have : g.rest = [] := List.isEmpty_iff.mp (Bool.and_eq_true_iff.mp h1).1
    simp only [h1, if_true, sden_singleton, sden_nil, add_zero]
    simp [gden, this, sden_nil]
  · simp only [h1, Bool.false_eq_true, if_false]
    rw [gden_ok k n g hg]
    by_cases h2 : (!negl g.coeffSum) = true <;> simp [h2, sden_singleton, sden_nil, tden]

theorem simplifyGroup_mem (negl : R → Bool) (g : Group R) (t : Term R) (ht : t ∈ simplifyGroup negl g) :
    t.ops = g.first.ops ∧ negl t.coeff = false := by
  unfold simplifyGroup at ht
  split at ht
  · next h =>
    obtain rfl := List.mem_singleton.mp ht
    exact ⟨rfl, by simpa using (Bool.and_eq_true_iff.mp h).2⟩
  · dsimp only at ht
    split at ht
    · next h =>
      obtain rfl := List.mem_singleton.mp ht
      exact ⟨rfl, by simpa using h⟩
    · cases ht

theorem sden_flatMap {α : Type} (k : Scal R) (n : Nat) (l : List α) (f : α → PSum R) :
    sden k n (l.flatMap f) = (l.map (fun a => sden k n (f a))).sum := by
  induction l with
  | nil => simp [sden_nil]
  | cons a l ih => rw [List.flatMap_cons, sden_append, ih, List.map_cons, List.sum_cons]

theorem simplify_den (negl : R → Bool) (s : PSum R) :
    sden k n (simplify negl s) + sden k n (dropped negl s) = sden k n s := by
  rw [← likeTerms_den k n s]
  unfold simplify dropped gsden
  rw [sden_flatMap, sden_flatMap, ← List.sum_map_add]
  exact congrArg List.sum (List.map_congr_left fun g hg => simplifyGroup_den k n negl g (likeTerms_ok s g hg))

theorem dropped_negl (negl : R → Bool) (s : PSum R) : ∀ d ∈ dropped negl s, negl d.coeff = true := by
  intro d hd
  obtain ⟨g, _, hd⟩ := List.mem_flatMap.mp hd
  unfold droppedGroup at hd
  split at hd
  · cases hd
  · split at hd
    · cases hd
    · next h2 =>
      obtain rfl := List.mem_singleton.mp hd
      simpa using h2

theorem tden_zero_coeff (t : Term R) (h : t.coeff = 0) : tden k n t = 0 := by
  simp [tden, h]

theorem simplify_den_exact (negl : R → Bool) (hex : ∀ c, negl c = true → c = 0) (s : PSum R) :
    sden k n (simplify negl s) = sden k n s := by
  rw [← simplify_den k n negl s, left_eq_add]
  apply List.sum_eq_zero
  intro m hm
  obtain ⟨d, hd, rfl⟩ := List.mem_map.mp hm
  exact tden_zero_coeff k n d (hex _ (dropped_negl negl s d hd))

theorem simplify_ops_mem {negl : R → Bool} {s : PSum R} {t : Term R} (ht : t ∈ simplify negl s) : ∃ u ∈ s, t.ops = u.ops := by
  obtain ⟨g, hg, ht⟩ := List.mem_flatMap.mp ht
  exact ⟨g.first, likeTerms_first (Q := (· ∈ s)) s (fun _ h => h) g hg, (simplifyGroup_mem negl g t ht).1⟩

theorem simplify_fits (negl : R → Bool) (s : PSum R) (hs : SumFits n s) : SumFits n (simplify negl s) := by
  intro t ht
  obtain ⟨u, hu, e⟩ := simplify_ops_mem ht
  exact fun p hp => hs u hu p (e ▸ hp)

theorem tden_constTerm (x : R) : tden k n (constTerm x) = x • 1 := by
  unfold tden constTerm
  rw [← tens_one]
  exact congrArg _ (tens_congr n fun q _ => σ_none k)

theorem tden_identityTerm : tden k n (identityTerm (R := R)) = 1 := by
  unfold identityTerm; rw [tden_constTerm, one_smul]

theorem constTerm_fits (x : R) : TermFits n (constTerm x) := fun _ hp => nomatch hp

theorem identityTerm_fits : TermFits n (identityTerm (R := R)) := constTerm_fits n 1

theorem tden_scaleTerm (t : Term R) (x : R) : tden k n (scaleTerm t x) = x • tden k n t := by
  unfold scaleTerm; exact tden_scale k n t.ops t.coeff x

theorem scaleTerm_fits (t : Term R) (x : R) (ht : TermFits n t) : TermFits n (scaleTerm t x) := ht

theorem singleton_fits (t : Term R) (ht : TermFits n t) : SumFits n [t] := by
  intro t' ht'; rwa [List.mem_singleton.mp ht']

theorem sden_map_mulTerm (hi : k.i * k.i = -1) (n : Nat) (l : Term R) (s : PSum R) (hs : SumFits n s) :
    sden k n (s.map (fun r => mulTerm k l r)) = tden k n l * sden k n s := by
  unfold sden
  rw [List.map_map, ← List.sum_map_mul_left]
  exact congrArg List.sum (List.map_congr_left fun r hr => mulTerm_den k hi n l r (hs r hr))

theorem productTerms_den (hi : k.i * k.i = -1) (n : Nat) (s1 s2 : PSum R) (hs : SumFits n s2) :
    sden k n (productTerms k s1 s2) = sden k n s1 * sden k n s2 := by
  unfold productTerms
  rw [sden_flatMap]
  simp only [sden_map_mulTerm k hi n _ s2 hs]
  exact List.sum_map_mul_right ..

theorem productTerms_fits (s1 s2 : PSum R) (h1 : SumFits n s1) (h2 : SumFits n s2) :
    SumFits n (productTerms k s1 s2) := by
  intro t ht
  simp only [productTerms, List.mem_flatMap, List.mem_map] at ht
  obtain ⟨l, hl, r, hr, rfl⟩ := ht
  exact mulTerm_fits k n l r (h1 l hl) (h2 r hr)

theorem mulS_den (hi : k.i * k.i = -1) (n : Nat) (negl : R → Bool) (hex : ∀ c, negl c = true → c = 0) (s1 s2 : PSum R)
    (hs : SumFits n s2) : sden k n (mulS k negl s1 s2) = sden k n s1 * sden k n s2 := by
  unfold mulS
  rw [simplify_den_exact k n negl hex, productTerms_den k hi n s1 s2 hs]

theorem addS_den (negl : R → Bool) (hex : ∀ c, negl c = true → c = 0) (s1 s2 : PSum R) :
    sden k n (addS negl s1 s2) = sden k n s1 + sden k n s2 := by
  unfold addS
  rw [simplify_den_exact k n negl hex, sden_append]

theorem rmulS_den (negl : R → Bool) (hex : ∀ c, negl c = true → c = 0) (s : PSum R) (x : R) :
    sden k n (rmulS negl s x) = x • sden k n s := by
  unfold rmulS
  rw [simplify_den_exact k n negl hex]
  unfold sden
  rw [List.map_map, List.smul_sum, List.map_map]
  exact congrArg List.sum (List.map_congr_left fun t _ => tden_scaleTerm k n t x)

theorem mulS_fits (negl : R → Bool) (s1 s2 : PSum R) (h1 : SumFits n s1) (h2 : SumFits n s2) :
    SumFits n (mulS k negl s1 s2) := simplify_fits n negl _ (productTerms_fits k n s1 s2 h1 h2)

theorem effExp_induction {α : Type} (mul : α → α → α) (one x : α) (C : Nat → α → Prop) (h0 : C 0 one)
    (hodd : ∀ p r, p % 2 = 1 → C (p - 1) r → C p (mul x r))
    (heven : ∀ p r, p ≠ 0 → p % 2 ≠ 1 → C (p / 2) r → C p (mul r r)) (p : Nat) : C p (effExp mul one x p) := by
  induction p using Nat.strong_induction_on with
  | _ p ih =>
    rw [effExp]
    by_cases h0' : p = 0
    · subst h0'; rw [dif_pos rfl]; exact h0
    · rw [dif_neg h0']
      by_cases h1 : p % 2 = 1
      · rw [if_pos h1]; exact hodd p _ h1 (ih _ (by omega))
      · rw [if_neg h1]; exact heven p _ h0' h1 (ih _ (by omega))

theorem effExp_spec {α : Type} {M : Type} [Monoid M] (mul : α → α → α) (one : α) (x : α) (den : α → M) (fits : α → Prop)
    (hone : den one = 1 ∧ fits one) (hx : fits x)
    (hmul : ∀ a b, fits a → fits b → den (mul a b) = den a * den b ∧ fits (mul a b)) (p : Nat) :
    den (effExp mul one x p) = den x ^ p ∧ fits (effExp mul one x p) := by
  refine effExp_induction mul one x (fun p r => den r = den x ^ p ∧ fits r) (by simpa using hone) ?_ ?_ p
  · intro p r hp ⟨hr, fr⟩
    have hm := hmul x r hx fr
    refine ⟨?_, hm.2⟩
    rw [hm.1, hr, ← pow_succ']
    congr 1; omega
  · intro p r _ hp ⟨hr, fr⟩
    have hm := hmul r r fr fr
    refine ⟨?_, hm.2⟩
    rw [hm.1, hr, ← pow_add]
    congr 1; omega

theorem effExp_den (hi : k.i * k.i = -1) (n : Nat) (negl : R → Bool) (hex : ∀ c, negl c = true → c = 0) (p : Nat) :
    (∀ t : Term R, TermFits n t → tden k n (effExp (mulTerm k) identityTerm t p) = tden k n t ^ p
      ∧ TermFits n (effExp (mulTerm k) identityTerm t p)) ∧
    (∀ s : PSum R, SumFits n s → sden k n (effExp (mulS k negl) [identityTerm] s p) = sden k n s ^ p
      ∧ SumFits n (effExp (mulS k negl) [identityTerm] s p)) :=
  ⟨fun t ht => effExp_spec (mulTerm k) identityTerm t (tden k n) (TermFits n) ⟨tden_identityTerm k n, identityTerm_fits n⟩ ht
      (fun a b ha hb => ⟨mulTerm_den k hi n a b hb, mulTerm_fits k n a b ha hb⟩) p,
    fun s hs => effExp_spec (mulS k negl) [identityTerm] s (sden k n) (SumFits n)
      ⟨by rw [sden_singleton, tden_identityTerm], singleton_fits n _ (identityTerm_fits n)⟩ hs
      (fun a b ha hb => ⟨mulS_den k hi n negl hex a b hb, mulS_fits k n negl a b ha hb⟩) p⟩

/-- Mathlib-level denotation of a value: a number is that multiple of the identity -/
def vden (k : Scal R) (n : Nat) : Val R → Matrix (Fin (2 ^ n)) (Fin (2 ^ n)) R
  | .num x => x • 1
  | .term t => tden k n t
  | .sum s => sden k n s

def ValFits (n : Nat) : Val R → Prop
  | .num _ => True
  | .term t => TermFits n t
  | .sum s => SumFits n s

theorem toM_denote_val (v : Val R) :
    Mat.toM (2 ^ n) (2 ^ n) (v.denote k n) = vden k n v := by
  cases v with
  | num x =>
    simp only [Val.denote, vden]
    rw [← Mat.toM_identity (R := R) (2 ^ n)]
    funext i j
    simp only [Mat.toM, Mat.smul, Matrix.smul_apply, smul_eq_mul]
    exact Mat.get_ofFn _ _ _ _ _ (by simp [Mat.identity]) (by simp [Mat.identity])
  | term t => exact toM_denote_term k n t
  | sum s => exact toM_denote_sum k n s

end OQ.C03
