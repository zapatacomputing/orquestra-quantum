/- C01 at the level of circuits: which operations the library accepts (`OpValid`), the specification of an operation and of a
   circuit (`opSem`, `operSem`, `circSem`), and the steps of `lifted_matrix`, `apply`, `to_unitary`, `split_circuit`,
   `get_wavefunction` and `+` that the property theorems are assembled from. -/
import OQ.Lemmas.C01_Spec
import OQ.Model.C01
import Mathlib.Algebra.BigOperators.Group.List.Basic
import Mathlib.Logic.Equiv.Fin.Basic

namespace OQ.C01
open OQ.Lift OQ OQ.Spec Matrix
variable {R : Type} [CommRing R]

/-- a gate operation the library accepts on an `n`-qubit register: at least one index, distinct indices
    inside the register, a `2^k × 2^k` matrix for `k` indices -/
structure OpValid (n : Nat) (o : Op R) : Prop where
  ne : o.qs ≠ []
  nodup : o.qs.Nodup
  lt : ∀ q ∈ o.qs, q < n
  mr : o.m.r = 2 ^ o.qs.length
  mc : o.m.c = 2 ^ o.qs.length

omit [CommRing R] in
theorem OpValid.pos {n : Nat} {o : Op R} (h : OpValid n o) : 0 < n := by
  obtain ⟨q, hq⟩ := List.exists_mem_of_ne_nil _ h.ne
  exact Nat.zero_lt_of_lt (h.lt q hq)

omit [CommRing R] in
theorem OpValid.mono {n N : Nat} {o : Op R} (h : OpValid n o) (hn : n ≤ N) : OpValid N o :=
  ⟨h.ne, h.nodup, fun q hq => lt_of_lt_of_le (h.lt q hq) hn, h.mr, h.mc⟩

/-- SPEC of one gate operation: its own matrix on exactly its qubits, identity elsewhere -/
noncomputable def opSem (n : Nat) (o : Op R) : Matrix (BV (Fin n)) (BV (Fin n)) R :=
  open Classical in
  if h : OpValid n o then Spec.lift (sigmaOf o.qs n h.nodup h.lt) (toBV o.qs.length o.m) else 0

theorem opSem_apply (n : Nat) (o : Op R) (h : OpValid n o) (x y : BV (Fin n)) :
    opSem n o x y = if (∀ q : Fin n, q.val ∉ o.qs → x q = y q)
      then toBV o.qs.length o.m (fun j => x ⟨o.qs[j.val]'j.2, h.lt _ (List.getElem_mem _)⟩)
                                 (fun j => y ⟨o.qs[j.val]'j.2, h.lt _ (List.getElem_mem _)⟩)
      else 0 := by
  unfold opSem
  rw [dif_pos h, Spec.lift_apply]
  exact if_congr ⟨fun hh q hq => hh ⟨q, hq⟩, fun hh mm => hh mm.val mm.2⟩ rfl rfl

def OperValid (n : Nat) : Oper R → Prop
  | .gate o => OpValid n o
  | .mphase fs => fs.length = 2 ^ n

/-- SPEC of one operation: a gate as above; a phase-only operation is the diagonal of its factors -/
noncomputable def operSem (n : Nat) : Oper R → Matrix (BV (Fin n)) (BV (Fin n)) R
  | .gate o => opSem n o
  | .mphase fs => Matrix.diagonal (fun x => fs.getD ((bvEquiv n).symm x).val 0)

/-- SPEC of a circuit: the product of its operations in program order (first operation rightmost) -/
noncomputable def circSem (n : Nat) (ops : List (Oper R)) : Matrix (BV (Fin n)) (BV (Fin n)) R :=
  (ops.reverse.map (operSem n)).prod

theorem circSem_nil (n : Nat) : circSem (R := R) n [] = 1 := by simp [circSem]

theorem circSem_cons (n : Nat) (o : Oper R) (ops : List (Oper R)) :
    circSem n (o :: ops) = circSem n ops * operSem n o := by
  unfold circSem
  rw [List.reverse_cons, List.map_append, List.prod_append, List.map_singleton, List.prod_singleton]

theorem circSem_append (n : Nat) (a b : List (Oper R)) :
    circSem n (a ++ b) = circSem n b * circSem n a := by
  unfold circSem
  rw [List.reverse_append, List.map_append, List.prod_append]

noncomputable def toBVv (n : Nat) (v : Mat R) : Matrix (BV (Fin n)) (Fin 1) R :=
  (Mat.toM (2 ^ n) 1 v).submatrix (bvEquiv n).symm id

def Rep {ι κ : Type} {r c : Nat} (e : Fin r ≃ ι) (f : Fin c ≃ κ) (A : Mat R) (M : Matrix ι κ R) : Prop :=
  A.r = r ∧ A.c = c ∧ (Mat.toM r c A).submatrix e.symm f.symm = M

theorem Rep.mul {ι κ μ : Type} [Fintype κ] {r k c : Nat} {e : Fin r ≃ ι} {f : Fin k ≃ κ} {g : Fin c ≃ μ}
    {A B : Mat R} {M : Matrix ι κ R} {N : Matrix κ μ R} (hA : Rep e f A M) (hB : Rep f g B N) :
    Rep e g (A.mul B) (M * N) := by
  obtain ⟨hAr, hAc, rfl⟩ := hA
  obtain ⟨hBr, hBc, rfl⟩ := hB
  exact ⟨hAr, hBc, by rw [Mat.toM_mul A B r k c hAr hAc hBr hBc, Matrix.submatrix_mul_equiv]⟩

/-- `RepM n A M` is, by unfolding, `A.r = 2 ^ n ∧ A.c = 2 ^ n ∧ toBV n A = M`; for a state vector the column renaming is
    `Equiv.refl (Fin 1)` and the last component reads `toBVv n v = M` -/
abbrev RepM (n : Nat) : Mat R → Matrix (BV (Fin n)) (BV (Fin n)) R → Prop := Rep (bvEquiv n) (bvEquiv n)

theorem gateLift_spec (n : Nat) (o : Op R) (h : OpValid n o) : ∃ L, gateLift o n = some L ∧ RepM n L (opSem n o) := by
  obtain ⟨L, hL, hs⟩ := liftMatrix_eq_lift o.m o.qs n h.ne h.nodup h.lt h.mr h.mc
  refine ⟨L, (if_pos ⟨h.mr, h.mc⟩).trans hL, ?_⟩
  rw [opSem, dif_pos h]; exact hs

theorem gateLift_isSome_iff (n : Nat) (o : Op R) : (gateLift o n).isSome ↔ OpValid n o := by
  unfold gateLift
  rw [liftMatrix_eq_ite, ← ite_and, Option.isSome_ite]
  exact ⟨fun ⟨⟨hr, hc⟩, hne, hd, hlt⟩ => ⟨hne, hd, hlt, hr, hc⟩, fun h => ⟨⟨h.mr, h.mc⟩, h.ne, h.nodup, h.lt⟩⟩

theorem log2Exact_pow (n : Nat) : log2Exact (2 ^ n) = some n := by
  unfold log2Exact; simp [Nat.log2_two_pow]

theorem applyOper_spec (n : Nat) (op : Oper R) (h : OperValid n op) (v : Mat R) (hvr : v.r = 2 ^ n) (hvc : v.c = 1) :
    ∃ w, applyOper op v = some w ∧ w.r = 2 ^ n ∧ w.c = 1 ∧ toBVv n w = operSem n op * toBVv n v := by
  cases op with
  | gate o =>
    obtain ⟨L, hL, hs⟩ := gateLift_spec n o h
    exact ⟨L.mul v, by simp only [applyOper, hvr, log2Exact_pow, hL], hs.mul (g := Equiv.refl _) ⟨hvr, hvc, rfl⟩⟩
  | mphase fs =>
    refine ⟨_, if_neg (not_not.mpr (hvr.trans (Eq.symm h))), hvr, rfl, ?_⟩
    ext x j
    rw [Subsingleton.elim j 0]
    simp only [operSem, Matrix.diagonal_mul, toBVv, Matrix.submatrix_apply, id, Mat.toM]
    rw [hvr, Mat.get_ofFn _ _ _ _ _ (Fin.isLt _) (Fin.isLt _)]
    exact mul_comm _ _

theorem applyAll_nil (v : Mat R) : applyAll ([] : List (Oper R)) v = some v := rfl

theorem applyAll_cons (o : Oper R) (ops : List (Oper R)) (v : Mat R) :
    applyAll (o :: ops) v = (applyOper o v).bind (applyAll ops) := by
  simp [applyAll, List.foldlM_cons]; rfl

theorem applyAll_append (a b : List (Oper R)) (v : Mat R) :
    applyAll (a ++ b) v = (applyAll a v).bind (applyAll b) := by
  simp [applyAll, List.foldlM_append]; rfl

theorem foldl_lifted (n : Nat) (l : List (Op R)) (h : ∀ o ∈ l, OpValid n o) (A : Mat R)
    (M : Matrix (BV (Fin n)) (BV (Fin n)) R) (hA : RepM n A M) :
    ∃ Ls, (l.map Oper.gate).mapM (Oper.lifted n) = some Ls ∧
      RepM n (Ls.foldl Mat.mul A) (M * (l.map (opSem n)).prod) := by
  induction l generalizing A M with
  | nil => exact ⟨[], rfl, by rwa [List.map_nil, List.prod_nil, mul_one]⟩
  | cons o l ih =>
    obtain ⟨ho, hl⟩ := List.forall_mem_cons.mp h
    obtain ⟨L, hL, hs⟩ := gateLift_spec n o ho
    obtain ⟨Ls, h1, h2⟩ := ih hl _ _ (hA.mul hs)
    refine ⟨L :: Ls, ?_, by rwa [List.map_cons, List.prod_cons, ← mul_assoc]⟩
    simp only [List.map_cons, List.mapM_cons, Oper.lifted, hL, h1]; rfl

theorem toUnitary_empty (n : Nat) : toUnitary (R := R) ⟨n, []⟩ = none := rfl

theorem mapM_none_of_mem {α β : Type} (f : α → Option β) (a : α) (h : f a = none) (x y : List α) :
    (x ++ a :: y).mapM f = none := by
  induction x with
  | nil => rw [List.nil_append, List.mapM_cons, h]; rfl
  | cons z x ih => rw [List.cons_append, List.mapM_cons, ih]; cases f z <;> rfl

/-! The shared executable `Lift.toUnitary` / `Lift.applyOp` / `Lift.applyAll` lift a matrix without looking at its shape;
`lifted_matrix` of this model looks first. On matrices of the dimension of their index tuple the two are the same function. -/

theorem gateLift_of_shape {o : Op R} (h : o.m.r = 2 ^ o.qs.length ∧ o.m.c = 2 ^ o.qs.length) (n : Nat) :
    gateLift o n = liftMatrix o.m o.qs n := if_pos h

theorem lift_toUnitary_eq (n : Nat) (l : List (Op R)) (h : ∀ o ∈ l, o.m.r = 2 ^ o.qs.length ∧ o.m.c = 2 ^ o.qs.length) :
    Lift.toUnitary n l = toUnitary ⟨n, l.map Oper.gate⟩ := by
  unfold Lift.toUnitary toUnitary
  rw [← List.map_reverse, List.mapM_map,
    mapM_congr (g := Oper.lifted n ∘ Oper.gate) fun o ho => (gateLift_of_shape (h o (List.mem_reverse.mp ho)) n).symm]
  rfl

theorem lift_applyOp_eq {o : Op R} (h : o.m.r = 2 ^ o.qs.length ∧ o.m.c = 2 ^ o.qs.length) (v : Mat R) :
    Lift.applyOp o v = applyOper (.gate o) v := by
  unfold Lift.applyOp applyOper
  cases log2Exact v.r with
  | none => rfl
  | some n =>
    simp only [gateLift_of_shape h]
    cases liftMatrix o.m o.qs n <;> rfl

theorem lift_applyAll_eq (gs : List (Op R)) (h : ∀ o ∈ gs, o.m.r = 2 ^ o.qs.length ∧ o.m.c = 2 ^ o.qs.length) (v : Mat R) :
    Lift.applyAll gs v = applyAll (gs.map Oper.gate) v := by
  induction gs generalizing v with
  | nil => rfl
  | cons o gs ih =>
    obtain ⟨ho, hgs⟩ := List.forall_mem_cons.mp h
    rw [List.map_cons, applyAll_cons, ← lift_applyOp_eq ho]
    simp only [Lift.applyAll, List.foldlM_cons]
    cases Lift.applyOp o v with
    | none => rfl
    | some w => exact ih hgs w

theorem groupBy_spec {α : Type} (p : α → Bool) (l : List α) :
    (groupBy p l).flatMap (fun bg => bg.2) = l ∧ (∀ bg ∈ groupBy p l, bg.2 ≠ [] ∧ ∀ x ∈ bg.2, p x = bg.1) ∧
      List.IsChain (fun a b => a.1 ≠ b.1) (groupBy p l) := by
  fun_induction groupBy p l with
  | case1 => exact ⟨rfl, fun _ h => absurd h List.not_mem_nil, List.isChain_nil⟩
  | case2 x xs hg ih =>
    exact ⟨by rw [← ih.1, hg]; rfl, List.forall_mem_singleton.mpr ⟨List.cons_ne_nil _ _, List.forall_mem_singleton.mpr rfl⟩,
      List.isChain_singleton _⟩
  | case3 x xs g rest hg ih =>
    -- `x` joins the first run
    rw [hg] at ih
    obtain ⟨hg1, hrest⟩ := List.forall_mem_cons.mp ih.2.1
    exact ⟨by rw [← ih.1]; rfl,
      List.forall_mem_cons.mpr ⟨⟨List.cons_ne_nil _ _, List.forall_mem_cons.mpr ⟨rfl, hg1.2⟩⟩, hrest⟩,
      ih.2.2.imp_head (x := (p x, g)) (y := (p x, x :: g)) id⟩
  | case4 x xs b g rest hg hp ih =>
    -- `x` starts a run of its own
    rw [hg] at ih
    exact ⟨by rw [← ih.1]; rfl, List.forall_mem_cons.mpr ⟨⟨List.cons_ne_nil _ _, List.forall_mem_singleton.mpr rfl⟩, ih.2.1⟩, ih.2.2.cons_cons hp⟩

theorem fold_segments (native : Circ R → Mat R → Option (Mat R))
    (hnative : ∀ sub st, native sub st = applyAll sub.ops st) (n : Nat)
    (segs : List (Bool × List (Oper R))) (v : Mat R) :
    (segs.map (fun bg => (bg.1, (⟨n, bg.2⟩ : Circ R)))).foldlM
      (fun st seg => if seg.1 then native seg.2 st else applyAll seg.2.ops st) v
      = applyAll (segs.flatMap (fun bg => bg.2)) v := by
  simp only [hnative, ite_self]
  induction segs generalizing v with
  | nil => rfl
  | cons s segs ih =>
    simp only [List.map_cons, List.foldlM_cons, List.flatMap_cons, applyAll_append]
    cases applyAll s.2 v with
    | none => rfl
    | some w => exact ih w

theorem getWavefunction_eq (isNative : Oper R → Bool) (native : Circ R → Mat R → Option (Mat R))
    (valid : Mat R → Bool) (hnative : ∀ sub st, native sub st = applyAll sub.ops st)
    (c : Circ R) (init : Option (Mat R)) :
    getWavefunction isNative native valid c init =
      (applyAll c.ops (init.getD (zeroState c.n))).bind (fun st => if valid st then some st else none) := by
  unfold getWavefunction splitCircuit
  simp only
  rw [fold_segments native hnative, (groupBy_spec isNative c.ops).1]
  cases init with
  | none => simp only [Option.getD_none]; cases applyAll c.ops (zeroState c.n) <;> rfl
  | some v => simp only [Option.getD_some]; cases applyAll c.ops v <;> rfl

omit [CommRing R] in
theorem mkCircuit_pos (ops : List (Oper R)) (n : Nat) (h : 0 < n) : mkCircuit ops (some n) = some ⟨n, ops⟩ := by
  cases n with
  | zero => exact absurd h (Nat.lt_irrefl 0)
  | succ k => rfl

omit [CommRing R] in
theorem addOp_mphase (c : Circ R) (fs : List R) : addOp c (.mphase fs) = none := rfl

/-- the identification of an `N`-qubit register with an `n`-qubit one followed by `N − n` more qubits -/
def widenEquiv (n N : Nat) (h : n ≤ N) : Fin n ⊕ Fin (N - n) ≃ Fin N :=
  finSumFinEquiv.trans (finCongr (by omega))

@[simp] theorem widenEquiv_inl (n N : Nat) (h : n ≤ N) (i : Fin n) : (widenEquiv n N h (Sum.inl i)).val = i.val := by
  simp [widenEquiv]

@[simp] theorem widenEquiv_inr (n N : Nat) (h : n ≤ N) (j : Fin (N - n)) :
    (widenEquiv n N h (Sum.inr j)).val = n + j.val := by
  simp [widenEquiv]

theorem opSem_widen (n N : Nat) (hn : n ≤ N) (o : Op R) (h : OpValid n o) :
    opSem N o = Spec.lift (widenEquiv n N hn) (opSem n o) := by
  have hinl : ∀ q : Fin n, widenEquiv n N hn (Sum.inl q) = ⟨q.val, lt_of_lt_of_le q.2 hn⟩ := fun q =>
    Fin.ext (widenEquiv_inl n N hn q)
  ext x y
  rw [Spec.lift_apply, opSem_apply N o (h.mono hn), opSem_apply n o h, ← ite_and]
  simp only [hinl]
  refine if_congr ?_ rfl rfl
  -- a qubit of the wide register is one of the narrow register or an added one, and the added ones are not in `o.qs`
  rw [← (widenEquiv n N hn).forall_congr_right (q := fun q => q.val ∉ o.qs → x q = y q), Sum.forall, and_comm]
  refine and_congr (forall_congr' fun j => imp_iff_right fun hm => ?_) (forall_congr' fun q => by rw [hinl])
  have := h.lt _ hm
  rw [widenEquiv_inr] at this
  omega

end OQ.C01
