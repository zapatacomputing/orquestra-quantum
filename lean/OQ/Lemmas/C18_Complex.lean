/-
  C18 — the ring constants and real angles at `R = ℂ`: the hypotheses of the generic theorems hold, and the
  phase `ehp φ · ehp λ` is the complex number e^{i(φ+λ)/2}.
-/
import OQ.Lemmas.C18
import Mathlib.Analysis.SpecialFunctions.Trigonometric.Basic
import Mathlib.Analysis.SpecialFunctions.Sqrt
set_option linter.unusedSectionVars false
namespace OQ.C18
open Complex Matrix OQ.Spec

/-- the ring constants in ℂ: i, 1/√2, e^{iπ/4}, 1/2, complex conjugation -/
noncomputable def scalC : Scal ℂ :=
  ⟨I, ((Real.sqrt 2 : ℝ) : ℂ)⁻¹, cexp (((Real.pi / 4 : ℝ) : ℂ) * I), 1 / 2, star⟩

/-- the half-angle point of a real angle -/
noncomputable def angOfReal (t : ℝ) : Ang ℂ := ⟨((Real.cos (t / 2) : ℝ) : ℂ), ((Real.sin (t / 2) : ℝ) : ℂ)⟩

theorem scalC_ii : scalC.i * scalC.i = -1 := I_mul_I
theorem scalC_star : star scalC.i = -scalC.i := conj_I

theorem realAng_of_real (x y : ℝ) (h : x * x + y * y = 1) : RealAng (⟨x, y⟩ : Ang ℂ) :=
  ⟨by rw [← ofReal_mul, ← ofReal_mul, ← ofReal_add, h, ofReal_one], conj_ofReal x, conj_ofReal y⟩

theorem realAng_ofReal (t : ℝ) : RealAng (angOfReal t) :=
  realAng_of_real _ _ (by rw [← sq, ← sq, Real.cos_sq_add_sin_sq])

theorem ehp_ofReal (t : ℝ) : (angOfReal t).ehp scalC = cexp (((t / 2 : ℝ) : ℂ) * I) := by
  simp only [Ang.ehp, angOfReal, scalC]
  rw [exp_mul_I, ofReal_cos, ofReal_sin]; ring

theorem phase_ofReal (ph la : ℝ) :
    (angOfReal ph).ehp scalC * (angOfReal la).ehp scalC = cexp ((((ph + la) / 2 : ℝ) : ℂ) * I) := by
  rw [ehp_ofReal, ehp_ofReal, ← Complex.exp_add]
  congr 1
  push_cast; ring

section Example

/-- gate index ↦ bit assignment of `m` qubits -/
def stdE (m : Nat) : Fin (2 ^ m) ≃ BV (Fin m) :=
  finFunctionFinEquiv.symm.trans (Equiv.arrowCongr (Equiv.refl (Fin m)) finTwoEquiv)

/-- a 3-qubit register `Fin 2 ⊕ Fin 1`; 1-qubit tuples sit on the first qubit, 2-qubit tuples on the first two -/
noncomputable def exPlacement : Placement ℂ (Fin 2 ⊕ Fin 1) :=
  Placement.ofLift (fun qs =>
    if h1 : qs.length = 1 then
      some (h1 ▸ (⟨Fin 1, Fin 1 ⊕ Fin 1,
        (Equiv.sumAssoc _ _ _).symm.trans (Equiv.sumCongr finSumFinEquiv (Equiv.refl _)), stdE 1⟩ :
          LiftData (Fin 2 ⊕ Fin 1) 1))
    else if h2 : qs.length = 2 then
      some (h2 ▸ (⟨Fin 2, Fin 1, Equiv.refl _, stdE 2⟩ : LiftData (Fin 2 ⊕ Fin 1) 2))
    else none)

noncomputable def a35 : Ang ℂ := ⟨3 / 5, 4 / 5⟩
noncomputable def a35n : Ang ℂ := ⟨3 / 5, -(4 / 5)⟩
noncomputable def a513 : Ang ℂ := ⟨5 / 13, 12 / 13⟩

theorem real_a35 : RealAng a35 := by
  have := realAng_of_real (3 / 5) (4 / 5) (by norm_num)
  simpa only [a35, ofReal_div, ofReal_ofNat] using this
theorem real_a35n : RealAng a35n := by
  have := realAng_of_real (3 / 5) (-(4 / 5)) (by norm_num)
  simpa only [a35n, ofReal_neg, ofReal_div, ofReal_ofNat] using this
theorem real_a513 : RealAng a513 := by
  have := realAng_of_real (5 / 13) (12 / 13) (by norm_num)
  simpa only [a513, ofReal_div, ofReal_ofNat] using this

theorem phase_a35 : a35.ehp scalC * a35n.ehp scalC = 1 := by
  simp only [Ang.ehp, a35, a35n, scalC]
  ring_nf
  rw [Complex.I_sq]; norm_num

/-- X(0); U3(θ,φ,λ)(0) with φ+λ ≠ 0; CU3(θ,φ,−φ)(0,1) -/
noncomputable def exOps : List (Operation (Ang ℂ) ℂ) :=
  [.gate (.mf "X" [] none) [0], .gate (.mf "U3" [a513, a35, a513] none) [0],
   .gate (.controlled (.mf "U3" [a513, a35, a35n] none) 1) [0, 1]]

end Example

end OQ.C18
