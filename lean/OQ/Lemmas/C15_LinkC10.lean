/- C15 (estimation by averaging) linked with C10 (sample statistics): C15's shots and terms read as C10's. -/
import OQ.Lemmas.C15
import OQ.Props.C10
namespace OQ.C15.Link
open OQ.C15

/-- a measured bit (0/1) of C15's shots as the Boolean of C10's shots -/
def toShot (b : Bits) : C10.Shot := b.map (fun x => decide (x ≠ 0))
def toShots (s : Shots) : List C10.Shot := s.map toShot
def toPauli10 : Pauli → C10.Pauli
  | .X => .X | .Y => .Y | .Z => .Z
/-- the Ising operator with the real parts of the coefficients, as C10's terms over ℚ -/
def reTerm (t : Term) : C10.Term Rat := ⟨t.coeff.re, t.ops.map (fun p => (p.1, toPauli10 p.2))⟩
def imTerm (t : Term) : C10.Term Rat := ⟨t.coeff.im, t.ops.map (fun p => (p.1, toPauli10 p.2))⟩
def reTerms (o : Op) : List (C10.Term Rat) := o.map reTerm
def imTerms (o : Op) : List (C10.Term Rat) := o.map imTerm

theorem reTerm_qubits (t : Term) : (reTerm t).qubits = t.qubits := by
  simp [reTerm, C10.Term.qubits, Term.qubits, List.map_map, Function.comp_def]
theorem imTerm_qubits (t : Term) : (imTerm t).qubits = t.qubits := by
  simp [imTerm, C10.Term.qubits, Term.qubits, List.map_map, Function.comp_def]

theorem toPauli10_isZ (p : Pauli) : (toPauli10 p == C10.Pauli.Z) = (p == Pauli.Z) := by
  cases p <;> rfl

theorem reTerm_isIsing (t : Term) : (reTerm t).isIsing = t.isIsing := by
  simp [reTerm, C10.Term.isIsing, Term.isIsing, List.all_map, Function.comp_def, toPauli10_isZ]
theorem imTerm_isIsing (t : Term) : (imTerm t).isIsing = t.isIsing := by
  simp [imTerm, C10.Term.isIsing, Term.isIsing, List.all_map, Function.comp_def, toPauli10_isZ]

theorem forall_reTerms_qubits (o : Op) (P : List Nat → Prop) :
    (∀ t ∈ reTerms o, P t.qubits) ↔ ∀ t ∈ o, P t.qubits := by
  simp only [reTerms, List.forall_mem_map, reTerm_qubits]

theorem reTerms_isIsing (o : Op) : (reTerms o).all C10.Term.isIsing = o.isIsing := by
  rw [reTerms, List.all_map]
  exact congrArg (List.all o) (funext reTerm_isIsing)

theorem toShot_length (b : Bits) : (toShot b).length = b.length := by simp [toShot]

theorem toShots_length (shots : Shots) (w : Nat) (hl : ∀ s ∈ shots, s.length = w) :
    ∀ s ∈ toShots shots, s.length = w := by
  simp only [toShots, List.forall_mem_map, toShot_length]
  exact hl

theorem bitAt_toShot (b : Bits) (q : Nat) : C10.bitAt (toShot b) q = decide (b.getD q 0 ≠ 0) := by
  unfold C10.bitAt toShot
  rw [List.getD_eq_getElem?_getD, List.getD_eq_getElem?_getD, List.getElem?_map]
  cases b[q]? <;> simp

theorem zval_toShot (qs : List Nat) (b : Bits) (hb : ∀ x ∈ b, x ≤ 1) :
    C10.zval qs (toShot b) = zEigenvalue qs b := by
  unfold C10.zval zEigenvalue
  congr 1
  apply List.map_congr_left
  intro q _
  rw [bitAt_toShot]
  rcases Nat.le_one_iff_eq_zero_or_eq_one.mp (getD_le_one b hb q) with h | h <;> rw [h] <;> simp

theorem sampleMean_eq_meanZ (qs : List Nat) (shots : Shots) (hb : ∀ s ∈ shots, ∀ x ∈ s, x ≤ 1) :
    sampleMean qs shots = C10.meanZ (R := Rat) qs (toShots shots) := by
  unfold sampleMean C10.meanZ C10.mean toShots
  rw [List.length_map, List.map_map]
  congr 1
  rw [Int.cast_list_sum, List.map_map]
  congr 1
  apply List.map_congr_left
  intro s hs
  simp only [Function.comp]
  rw [zval_toShot qs s (hb s hs), paritySign_eq qs s (fun q _ => getD_le_one s (hb s hs) q)]
end OQ.C15.Link
