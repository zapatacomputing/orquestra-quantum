/- The comprehension combinators `filterE` / `mapE` of the T13 prelude `OQ/Exec/PyT13.lean`, for a body that never raises. -/
import OQ.Exec.PyT13
namespace OQ.PyT

theorem filterE_ok {α : Type} (p : α → Except Exc Bool) (q : α → Bool) (l : List α) (h : ∀ x ∈ l, p x = .ok (q x)) :
    filterE p l = .ok (l.filter q) := by
  induction l with
  | nil => rfl
  | cons x xs ih =>
    simp only [filterE, h x (by simp), ih (fun y hy => h y (by simp [hy])), List.filter_cons]

theorem mapE_ok {α β : Type} (f : α → Except Exc β) (g : α → β) (l : List α) (h : ∀ x ∈ l, f x = .ok (g x)) :
    mapE f l = .ok (l.map g) := by
  induction l with
  | nil => rfl
  | cons x xs ih => simp only [mapE, h x (by simp), ih (fun y hy => h y (by simp [hy])), List.map_cons]

end OQ.PyT
