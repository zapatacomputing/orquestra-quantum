/- The Pauli expansion of a matrix (`get_pauliop_from_matrix`): completeness `Σ_P tr(A·P) P = 2^n A`, and the
   index arithmetic of the code (`dec2bin`, `decode`, `f`, `nz`) read as base-4 digits, partner rows and entries. -/
import OQ.Lemmas.C09_Simplified
import Mathlib.Algebra.BigOperators.Ring.Finset
import Mathlib.Algebra.BigOperators.Intervals
import Mathlib.Tactic.LinearCombination
set_option linter.unusedSectionVars false
namespace OQ.C09
open OQ OQ.Pauli Finset

variable {R : Type} [CommRing R]

theorem sum_range_mul (c m : Nat) (f : Nat → R) :
    ∑ j ∈ range (c * m), f j = ∑ j ∈ range m, ∑ l ∈ range c, f (c * j + l) := by
  induction m with
  | zero => rfl
  | succ m ih => rw [Nat.mul_succ, Finset.sum_range_add, ih, Finset.sum_range_succ]

/-- letters of the `i`-th label (base-4 digits of `i`, most significant first) -/
def atI (n i : Nat) (q : Nat) : Option P := letterOf (i / 4 ^ (n - 1 - q) % 4)

/-- `2^n · trace_product` for the string `at_` (as a sum over columns) -/
def TP (k : Scal R) (n : Nat) (A : Nat → Nat → R) (at_ : Nat → Option P) : R :=
  ∑ j ∈ range (2 ^ n), A j (partner at_ n j) * strEntry k at_ n (partner at_ n j) j

theorem partner_congr (a b : Nat → Option P) (n : Nat) (h : ∀ q, q < n → a q = b q) (j : Nat) :
    partner a n j = partner b n j := by
  induction n generalizing j with
  | zero => rfl
  | succ n ih => simp only [partner]; rw [ih (fun q hq => h q (by omega)), h n (by omega)]

theorem atI_succ_lt (n i l q : Nat) (hl : l < 4) (hq : q < n) : atI (n + 1) (4 * i + l) q = atI n i q := by
  unfold atI
  have : n + 1 - 1 - q = (n - 1 - q) + 1 := by omega
  rw [this, pow_succ, Nat.mul_comm (4 ^ _) 4, ← Nat.div_div_eq_div_mul]
  congr 3; omega

theorem atI_succ_last (n i l : Nat) (hl : l < 4) : atI (n + 1) (4 * i + l) n = letterOf l := by
  unfold atI
  simp only [Nat.add_sub_cancel, Nat.sub_self, pow_zero, Nat.div_one]
  congr 1; omega

theorem TP_succ (k : Scal R) (n : Nat) (A : Nat → Nat → R) (at_ at' : Nat → Option P) (o : Option P)
    (hlt : ∀ q, q < n → at' q = at_ q) (hn : at' n = o) :
    TP k (n + 1) A at' = ∑ j ∈ range (2 ^ n), ∑ β ∈ range 2,
      A (2 * j + β) (2 * partner at_ n j + flipbit o β) *
        (strEntry k at_ n (partner at_ n j) j * pe k o (flipbit o β) β) := by
  unfold TP
  rw [pow_succ, Nat.mul_comm, sum_range_mul]
  refine Finset.sum_congr rfl fun j _ => Finset.sum_congr rfl fun β hβ => ?_
  have hβ2 : β < 2 := Finset.mem_range.1 hβ
  rw [strEntry, partner_succ_div, partner_succ_mod, partner, hn, two_mul_add_div _ _ hβ2, two_mul_add_mod _ _ hβ2,
    partner_congr at' at_ n hlt, strEntry_congr k at' at_ n hlt]

/-- the four traces `tr(g·σ)` of a one-qubit matrix `g`, each weighted by `w σ` -/
theorem one_qubit_traces (k : Scal R) (g : Nat → Nat → R) (w : Option P → R) :
    ∑ l ∈ range 4, ∑ β ∈ range 2,
      g β (flipbit (letterOf l) β) * pe k (letterOf l) (flipbit (letterOf l) β) β * w (letterOf l)
      = (g 0 0 + g 1 1) * w none + (g 0 1 + g 1 0) * w (some .X) + (g 0 1 * k.i - g 1 0 * k.i) * w (some .Y)
        + (g 0 0 - g 1 1) * w (some .Z) := by
  simp only [Finset.sum_range_succ, Finset.sum_range_zero, zero_add]
  -- letter by letter (I, X, Y, Z) and column by column: the row `flipbit` of the non-zero entry, and that entry
  show g 0 0 * 1 * w none + g 1 1 * 1 * w none
    + (g 0 1 * 1 * w (some .X) + g 1 0 * 1 * w (some .X))
    + (g 0 1 * k.i * w (some .Y) + g 1 0 * -k.i * w (some .Y))
    + (g 0 0 * 1 * w (some .Z) + g 1 1 * -1 * w (some .Z)) = _
  ring

theorem one_qubit_completeness (k : Scal R) (hi : k.i * k.i = -1) (g : Nat → Nat → R) (α α' : Nat)
    (hα : α < 2) (hα' : α' < 2) :
    ∑ l ∈ range 4, ∑ β ∈ range 2,
      g β (flipbit (letterOf l) β) * pe k (letterOf l) (flipbit (letterOf l) β) β * pe k (letterOf l) α α'
      = 2 * g α α' := by
  rw [one_qubit_traces k g (fun o => pe k o α α')]
  interval_cases α <;> interval_cases α' <;>
    simp only [pe, reduceIte, zero_ne_one, one_ne_zero, mul_zero, mul_one, add_zero, zero_add]
  · ring
  · linear_combination (g 1 0 - g 0 1) * hi
  · linear_combination (g 0 1 - g 1 0) * hi
  · ring

/-- the Pauli expansion coefficients, summed against the strings -/
def TT (k : Scal R) (n : Nat) (A : Nat → Nat → R) (a b : Nat) : R :=
  ∑ i ∈ range (4 ^ n), TP k n A (atI n i) * strEntry k (atI n i) n a b

theorem TT_eq (k : Scal R) (hi : k.i * k.i = -1) (n : Nat) (A : Nat → Nat → R) (a b : Nat)
    (ha : a < 2 ^ n) (hb : b < 2 ^ n) : TT k n A a b = 2 ^ n * A a b := by
  induction n generalizing A a b with
  | zero =>
    obtain rfl : a = 0 := by simpa using ha
    obtain rfl : b = 0 := by simpa using hb
    simp [TT, TP, strEntry, partner]
  | succ n ih =>
    -- the matrix seen by the first `n` qubits once the last qubit is resolved
    let B : Nat → Nat → R := fun x y => ∑ l ∈ range 4, ∑ β ∈ range 2,
      A (2 * x + β) (2 * y + flipbit (letterOf l) β) * pe k (letterOf l) (flipbit (letterOf l) β) β
        * pe k (letterOf l) (a % 2) (b % 2)
    have hstep : TT k (n + 1) A a b = TT k n B (a / 2) (b / 2) := by
      unfold TT
      rw [pow_succ, Nat.mul_comm, sum_range_mul]
      refine Finset.sum_congr rfl fun i _ => ?_
      rw [Finset.sum_congr rfl fun l hl => by
        have hl4 : l < 4 := Finset.mem_range.1 hl
        have hlt := fun q => atI_succ_lt n i l q hl4
        rw [TP_succ k n A (atI n i) _ (letterOf l) hlt (atI_succ_last n i l hl4), strEntry, atI_succ_last n i l hl4,
          strEntry_congr k _ (atI n i) n hlt]]
      unfold TP
      simp only [Finset.sum_mul, B]
      rw [Finset.sum_comm]
      exact Finset.sum_congr rfl fun j _ => Finset.sum_congr rfl fun l _ => Finset.sum_congr rfl fun β _ => by ring
    rw [hstep, ih B _ _ (div_two_lt_pow ha) (div_two_lt_pow hb)]
    simp only [B]
    rw [one_qubit_completeness k hi (fun β γ => A (2 * (a / 2) + β) (2 * (b / 2) + γ)) _ _ (mod_two_lt _)
      (mod_two_lt _), Nat.div_add_mod, Nat.div_add_mod, pow_succ]
    ring

theorem dec2bin_eq (x len : Nat) (hlen : 1 ≤ len) (hx : x < 2 ^ len) :
    dec2bin x len = (List.range len).map (fun p => x / 2 ^ (len - 1 - p) % 2) := by
  have hb : bitLength x ≤ len := by
    unfold bitLength
    split
    · exact hlen
    · rename_i h; exact (Nat.log2_lt h).2 hx
  unfold dec2bin
  simp only [Nat.max_eq_left hb]

theorem dec2bin_length (x len : Nat) (hlen : 1 ≤ len) (hx : x < 2 ^ len) : (dec2bin x len).length = len := by
  rw [dec2bin_eq x len hlen hx, List.length_map, List.length_range]

theorem dec2bin_getD (x len p : Nat) (hlen : 1 ≤ len) (hx : x < 2 ^ len) (hp : p < len) :
    (dec2bin x len).getD p 0 = x / 2 ^ (len - 1 - p) % 2 := by
  rw [dec2bin_eq x len hlen hx, getD_map_range _ 0 hp]

theorem bin2dec_append (l : List Nat) (b : Nat) : bin2dec (l ++ [b]) = 2 * bin2dec l + b := by
  simp [bin2dec, List.foldl_append]

theorem bin2dec_digits (n x : Nat) (hx : x < 2 ^ n) :
    bin2dec ((List.range n).map fun q => x / 2 ^ (n - 1 - q) % 2) = x := by
  induction n generalizing x with
  | zero => exact (Nat.lt_one_iff.1 hx).symm
  | succ n ih =>
    have h : (List.range n).map (fun q => x / 2 ^ (n + 1 - 1 - q) % 2) = (List.range n).map fun q => x / 2 / 2 ^ (n - 1 - q) % 2 :=
      List.map_congr_left fun q hq => by
        rw [div_two_div_pow, show n - 1 - q + 1 = n + 1 - 1 - q by have := List.mem_range.1 hq; omega]
    rw [List.range_succ, List.map_append, List.map_singleton, bin2dec_append, h, ih _ (div_two_lt_pow hx), Nat.add_sub_cancel,
      Nat.sub_self, pow_zero, Nat.div_one]
    exact Nat.div_add_mod x 2

theorem four_pow (m : Nat) : 4 ^ m = 2 ^ (2 * m) := by
  rw [pow_mul]; rfl

theorem two_bits (y : Nat) : bin2dec [y / 2 % 2, y % 2] = y % 4 := by
  show 2 * (2 * 0 + y / 2 % 2) + y % 2 = y % 4
  omega

theorem decode_getD (n i q : Nat) (hi : i < 4 ^ n) (hq : q < n) :
    (decode n (dec2bin i (2 * n))).getD q 0 = i / 4 ^ (n - 1 - q) % 4 := by
  have hi2 : i < 2 ^ (2 * n) := by rwa [← four_pow]
  unfold decode
  rw [getD_map_range _ 0 hq, dec2bin_getD i (2 * n) (2 * q) (by omega) hi2 (by omega),
    dec2bin_getD i (2 * n) (2 * q + 1) (by omega) hi2 (by omega),
    show 2 * n - 1 - 2 * q = 2 * (n - 1 - q) + 1 by omega, show 2 * n - 1 - (2 * q + 1) = 2 * (n - 1 - q) by omega,
    pow_succ, ← Nat.div_div_eq_div_mul, ← four_pow]
  exact two_bits _

theorem mem_labelTerm_ops (L : List Nat) (c : R) (q : Nat) (p : P) :
    (q, p) ∈ (labelTerm L c).ops ↔ ∃ e, L[q]? = some e ∧ letterOf e = some p := by
  unfold labelTerm
  simp only [List.mem_filterMap, Option.map_eq_some_iff, Prod.exists, List.mem_zipIdx_iff_getElem?, Prod.mk.injEq]
  constructor
  · rintro ⟨e, _, h1, _, h2, rfl, rfl⟩; exact ⟨e, h1, h2⟩
  · rintro ⟨e, h1, h2⟩; exact ⟨e, q, h1, p, h2, rfl, rfl⟩

theorem labelTerm_wf (L : List Nat) (c : R) : TermWF (labelTerm L c) := by
  have h : L.zipIdx.Pairwise (fun a b => a.2 < b.2) := by
    rw [← List.pairwise_map (f := Prod.snd) (R := (· < ·)), List.zipIdx_map_snd]; exact List.pairwise_lt_range'
  unfold TermWF labelTerm
  rw [List.Nodup, List.pairwise_map]
  refine h.filterMap _ fun a a' haa' b hb b' hb' => ?_
  obtain ⟨_, _, rfl⟩ := Option.map_eq_some_iff.1 hb
  obtain ⟨_, _, rfl⟩ := Option.map_eq_some_iff.1 hb'
  exact Nat.ne_of_lt haa'

theorem labelTerm_opAt (L : List Nat) (c : R) (q : Nat) : (labelTerm L c).opAt q = letterOf (L.getD q 0) := by
  refine Option.ext fun p => ?_
  rw [opAt_eq_some_iff _ (labelTerm_wf L c), mem_labelTerm_ops, List.getD_eq_getElem?_getD]
  cases L[q]? with
  | none => simp [letterOf]
  | some e => simp

theorem flip_eq_flipbit (l b : Nat) (hb : b < 2) :
    (if l = 1 ∨ l = 2 then (if b = 0 then 1 else 0) else b) = flipbit (letterOf l) b := by
  rcases l with _ | _ | _ | _ | l <;> interval_cases b <;> rfl

theorem nz_factor (k : Scal R) (l b : Nat) (hb : b < 2) (v : R) :
    (if l = 2 then (if b = 0 then v * k.i else if b = 1 then v * -k.i else v)
      else if l = 3 then (if b = 1 then v * -1 else v) else v)
      = v * pe k (letterOf l) (flipbit (letterOf l) b) b := by
  rcases l with _ | _ | _ | _ | l <;> interval_cases b <;>
    simp only [letterOf, flipbit, pe, reduceIte, Nat.reduceEqDiff, Nat.reduceSub, mul_one, zero_ne_one, one_ne_zero]

theorem partner_bit (at_ : Nat → Option P) (n j q : Nat) (hq : q < n) :
    partner at_ n j / 2 ^ (n - 1 - q) % 2 = flipbit (at_ q) (j / 2 ^ (n - 1 - q) % 2) := by
  induction n generalizing j with
  | zero => omega
  | succ n ih =>
    rcases Nat.lt_succ_iff_lt_or_eq.1 hq with h | rfl
    · rw [show n + 1 - 1 - q = (n - 1 - q) + 1 by omega, ← div_two_div_pow, ← div_two_div_pow, partner_succ_div, ih _ h]
    · rw [Nat.add_sub_cancel, Nat.sub_self, pow_zero, Nat.div_one, Nat.div_one, partner_succ_mod]

theorem fIdx_eq (n : Nat) (L : List Nat) (j : Nat) (hn : 1 ≤ n) (hj : j < 2 ^ n) :
    fIdx n L j = partner (fun q => letterOf (L.getD q 0)) n j := by
  rw [← bin2dec_digits n _ (partner_lt _ n j hj)]
  unfold fIdx
  refine congrArg bin2dec (List.map_congr_left fun idx hidx => ?_)
  have h := List.mem_range.1 hidx
  rw [partner_bit _ n j idx h]
  simp only [dec2bin_getD j n idx hn hj h]
  exact flip_eq_flipbit _ _ (mod_two_lt _)

theorem foldl_range_congr {β : Type} (n : Nat) (f g : β → Nat → β) (b : β)
    (h : ∀ v idx, idx < n → f v idx = g v idx) : (List.range n).foldl f b = (List.range n).foldl g b :=
  List.foldl_ext f g b fun v idx hidx => h v idx (List.mem_range.1 hidx)

theorem nz_eq (k : Scal R) (n : Nat) (L : List Nat) (j : Nat) (hn : 1 ≤ n) (hj : j < 2 ^ n) :
    nz k n L j = strEntry k (fun q => letterOf (L.getD q 0)) n (partner (fun q => letterOf (L.getD q 0)) n j) j := by
  rw [strEntry_prod, List.prod_eq_foldl, List.foldl_map]
  unfold nz
  refine foldl_range_congr n _ _ 1 fun v idx hidx => ?_
  rw [partner_bit _ n j idx hidx]
  simp only [dec2bin_getD j n idx hn hj hidx]
  exact nz_factor k _ _ (mod_two_lt _) v

theorem halfPow_eq (k : Scal R) (n : Nat) : halfPow k n = k.half ^ n := by
  induction n with
  | zero => exact (pow_zero _).symm
  | succ n ih => rw [halfPow, ih, pow_succ]

theorem traceProduct_eq (k : Scal R) (n : Nat) (A : Mat R) (L : List Nat) (hn : 1 ≤ n) :
    traceProduct k n A L = TP k n A.get (fun q => letterOf (L.getD q 0)) * k.half ^ n := by
  unfold traceProduct TP
  rw [sumTo_eq, halfPow_eq]
  refine congrArg (· * _) (Finset.sum_congr rfl fun j hj => ?_)
  have hj' := Finset.mem_range.1 hj
  rw [fIdx_eq n L j hn hj', nz_eq k n L j hn hj']

theorem TP_congr (k : Scal R) (n : Nat) (A : Nat → Nat → R) (a b : Nat → Option P) (h : ∀ q, q < n → a q = b q) :
    TP k n A a = TP k n A b :=
  Finset.sum_congr rfl fun j _ => by rw [partner_congr a b n h, strEntry_congr k a b n h]

variable [DecidableEq R]

theorem fromMatrix_spec (k : Scal R) (hi : k.i * k.i = -1) (hh : 2 * k.half = 1) (tol : Tol R)
    (hnegl : ∀ x, tol.negl x = true → x = 0) (A : Mat R) (n : Nat) (hn : 1 ≤ n)
    (hr : A.r = 2 ^ n) (hc : A.c = 2 ^ n) :
    ∃ s, getPauliopFromMatrix k tol A = .ok s ∧ SumWF s ∧ PSum.nQubits s ≤ n ∧
      ∀ a b, a < 2 ^ n → b < 2 ^ n → dEntry k n s a b = A.get a b := by
  have hlog : Nat.log2 A.r = n := by rw [hr, Nat.log2_two_pow]
  have hany : (List.range (4 ^ n)).any (fun i => (dec2bin i (2 * n)).length != 2 * n) = false :=
    List.any_eq_false.2 fun i hi' => by
      rw [dec2bin_length i (2 * n) (by omega) (by rw [← four_pow]; exact List.mem_range.1 hi'), bne_self_eq_false]
      exact Bool.false_ne_true
  unfold getPauliopFromMatrix
  rw [if_neg (by rw [hr]; positivity), if_neg (by rw [hr, hc]; exact not_not.2 rfl), if_neg (by rw [hlog, hr]; exact not_not.2 rfl)]
  simp only [hlog, hany, Bool.false_eq_true, if_false]
  -- term `i` is `2^{-n} tr(A P_i) · P_i`, with `P_i` the string of the base-4 digits of `i`
  obtain ⟨h1, h2⟩ := sumOf_spec k n tol hnegl (fun o => ∀ x ∈ o, x.1 < n)
    (fun i => labelTerm (decode n (dec2bin i (2 * n))) (traceProduct k n A (decode n (dec2bin i (2 * n)))))
    (List.range (4 ^ n)) fun i _ => ⟨labelTerm_wf _ _, fun y hy => by
      obtain ⟨e, he, _⟩ := (mem_labelTerm_ops _ _ y.1 y.2).1 hy
      have := (List.getElem?_eq_some_iff.1 he).1
      rwa [decode, List.length_map, List.length_range] at this⟩
  refine ⟨_, rfl, fun t ht => (h1 t ht).1, (sum_nQubits_le _ n).2 fun t ht => (h1 t ht).2, fun a b ha hb => ?_⟩
  rw [h2, dEntry, List.map_map]
  -- a list sum over `List.range` is the `Finset` sum over `range` by definition
  refine (Finset.sum_congr (s₁ := range (4 ^ n)) rfl (g := fun i => k.half ^ n * (TP k n A.get (atI n i) * strEntry k (atI n i) n a b))
    fun i hi' => ?_).trans ?_
  · have hi4 := fun q hq => congrArg letterOf (decode_getD n i q (Finset.mem_range.1 hi') hq)
    show traceProduct k n A _ * strEntry k (labelTerm _ _).opAt n a b = _
    rw [traceProduct_eq k n A _ hn, TP_congr k n A.get _ (atI n i) hi4,
      strEntry_congr k _ (atI n i) n fun q hq => (labelTerm_opAt _ _ q).trans (hi4 q hq)]
    ring
  · rw [← Finset.mul_sum]
    exact (congrArg (k.half ^ n * ·) (TT_eq k hi n A.get a b ha hb)).trans (by
      rw [← mul_assoc, ← mul_pow, mul_comm k.half 2, hh, one_pow, one_mul])

end OQ.C09
