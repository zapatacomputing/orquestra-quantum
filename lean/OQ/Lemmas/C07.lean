/-
  C07 — helper lemmas.  Structure of the modifier methods: the shape invariant `Canon`, chains of calls (`applyChain`),
  `replace_params` as the structural `mapParams`.  Matrices: the executable operations seen through `Mat.toM`
  (`ctlMatrix` is `blockDiag`, `adjointWith star` the conjugate transpose, `npow` the power), the assumed laws of the
  sympy externals (`ExtLaws`, `ExpLaw`), and how a relation between a gate's matrix and a modified gate's passes
  through the wrapper classes (`MatRel`, `powerM_lift`, integer powers as `IntPow`); last the projector form of
  `ctlMatrix`.
-/
import OQ.Model.C07
import OQ.Lemmas.MatExt
import OQ.Lemmas.Fold
import Mathlib.Data.Matrix.Block
import Mathlib.LinearAlgebra.Matrix.Reindex
import Mathlib.LinearAlgebra.Matrix.ConjTranspose
import Mathlib.Logic.Equiv.Fin.Basic
namespace OQ.C07

theorem ok_bind {ε α β : Type} (a : α) (f : α → Except ε β) : (Except.ok a : Except ε α).bind f = f a :=
  Except.ok_bind a f

theorem map_eq_ok {ε α β : Type} (x : Except ε α) (f : α → β) (b : β) :
    x.map f = .ok b ↔ ∃ a, x = .ok a ∧ f a = b := by
  cases x with
  | error e => exact ⟨nofun, fun ⟨_, h, _⟩ => nomatch h⟩
  | ok a => exact ⟨fun h => ⟨a, rfl, Except.ok.inj h⟩, fun ⟨_, h, h'⟩ => by cases h; exact congrArg _ h'⟩

namespace Gate
variable {P R : Type}

@[simp] theorem numQubits_powerM (g : Gate P R) (e : Rat) : (g.powerM e).numQubits = g.numQubits := by
  induction g with
  | controlled g k ih => simp only [powerM, numQubits, ih]
  | _ => rfl

@[simp] theorem params_powerM (g : Gate P R) (e : Rat) : (g.powerM e).params = g.params := by
  induction g with
  | controlled g k ih => simp only [powerM, params, ih]
  | _ => rfl

@[simp] theorem numQubits_expM (g : Gate P R) : g.expM.numQubits = g.numQubits := rfl
@[simp] theorem params_expM (g : Gate P R) : g.expM.params = g.params := rfl

@[simp] theorem numQubits_daggerM (g : Gate P R) : g.daggerM.numQubits = g.numQubits := by
  induction g with
  | base b => unfold daggerM; split <;> rfl
  | dagger g => rfl
  | controlled g k ih => simp only [daggerM, numQubits, ih]
  | power g e ih => simp only [daggerM, numQubits_powerM, numQubits, ih]
  | exponential g ih => exact ih

@[simp] theorem params_daggerM (g : Gate P R) : g.daggerM.params = g.params := by
  induction g with
  | base b => unfold daggerM; split <;> rfl
  | dagger g => rfl
  | controlled g k ih => exact ih
  | power g e ih => simp only [daggerM, params_powerM, params, ih]
  | exponential g ih => exact ih

theorem mkControlled_of_pos (g : Gate P R) {n : Int} (hn : 1 ≤ n) :
    mkControlled g n = .ok (controlled g (n - 1).toNat) := if_neg (by omega)

theorem mkControlled_of_lt (g : Gate P R) {n : Int} (hn : n < 1) : mkControlled g n = .error .value := if_pos hn

theorem mkControlled_ok {g g' : Gate P R} {n : Int} (h : mkControlled g n = .ok g') :
    (g'.numQubits : Int) = g.numQubits + n ∧ g'.params = g.params := by
  by_cases hn : n < 1
  · rw [mkControlled_of_lt g hn] at h; cases h
  · rw [mkControlled_of_pos g (by omega)] at h; cases h
    exact ⟨by simp only [numQubits]; omega, rfl⟩

theorem ctlI_pos (g : Gate P R) (n : Int) (hn : 1 ≤ n) : g.ctlI n = .ok (g.ctlP (n - 1).toNat) := by
  induction g with
  | controlled g k => rw [ctlI, mkControlled_of_pos g (by omega), ctlP]; congr 2; omega
  | dagger g ih | power g _ ih => rw [ctlI, ih]; rfl
  | _ => exact mkControlled_of_pos _ hn

/-- on a `ControlledGate` the counts are added before the check, so an accepted `n` may itself be below one -/
theorem ctlI_ok (g g' : Gate P R) (n : Int) (h : g.ctlI n = .ok g') :
    (g'.numQubits : Int) = g.numQubits + n ∧ g'.params = g.params := by
  induction g generalizing g' with
  | controlled y k =>
    obtain ⟨a, b⟩ := mkControlled_ok (g := y) h
    exact ⟨by simp only [numQubits]; omega, b⟩
  | dagger y ih | power y _ ih =>
    obtain ⟨z, hz, rfl⟩ := (map_eq_ok _ _ _).1 h
    simp only [numQubits_daggerM, params_daggerM, numQubits_powerM, params_powerM]
    exact ih z hz
  | _ => exact mkControlled_ok h

theorem ctlI_succ (g : Gate P R) (m : Nat) : g.ctlI ((m : Int) + 1) = .ok (g.ctlP m) := by
  rw [ctlI_pos g _ (Int.le_add_of_nonneg_left (Int.natCast_nonneg m)), Int.add_sub_cancel, Int.toNat_natCast]

@[simp] theorem numQubits_ctlP (g : Gate P R) (m : Nat) : (g.ctlP m).numQubits = g.numQubits + (m + 1) := by
  have := (ctlI_ok g _ _ (ctlI_succ g m)).1
  omega

@[simp] theorem params_ctlP (g : Gate P R) (m : Nat) : (g.ctlP m).params = g.params :=
  (ctlI_ok g _ _ (ctlI_succ g m)).2

theorem ctlI_nonpos_base (b : Base P R) (n : Int) (hn : n < 1) : (base b).ctlI n = .error .value :=
  mkControlled_of_lt _ hn

/-- is the object a `ControlledGate`? -/
def isCtl : Gate P R → Bool
  | controlled _ _ => true
  | _ => false

/-- Shape invariant of every object the modifier METHODS can build:
    `Dagger` only ever wraps a `MatrixFactoryGate` that is not flagged hermitian (`MatrixFactoryGate.dagger` is its only
    construction site), `Power` never directly wraps a `ControlledGate` (`ControlledGate.power` pushes the power inside),
    `ControlledGate` never directly wraps a `ControlledGate` (`ControlledGate.controlled` adds the counts). -/
def Canon : Gate P R → Prop
  | base _ => True
  | controlled g _ => Canon g ∧ g.isCtl = false
  | dagger g => ∃ b, g = base b ∧ b.hermitian = false
  | power g _ => Canon g ∧ g.isCtl = false
  | exponential g => Canon g

theorem isCtl_cases (g : Gate P R) : g.isCtl = false ∨ ∃ w k, g = controlled w k := by
  cases g with
  | controlled w k => exact .inr ⟨w, k, rfl⟩
  | _ => exact .inl rfl

theorem powerM_of_not_ctl (g : Gate P R) (e : Rat) (h : g.isCtl = false) : g.powerM e = power g e := by
  cases g <;> simp_all [powerM, isCtl]

theorem isCtl_powerM (g : Gate P R) (e : Rat) : (g.powerM e).isCtl = g.isCtl := by
  cases g <;> rfl

theorem canon_powerM (g : Gate P R) (e : Rat) (h : Canon g) : Canon (g.powerM e) := by
  cases g with
  | controlled y k => rw [powerM, powerM_of_not_ctl y e h.2]; exact ⟨h, rfl⟩
  | _ => exact ⟨h, rfl⟩

theorem canon_daggerM (g : Gate P R) (h : Canon g) : Canon g.daggerM ∧ g.daggerM.isCtl = g.isCtl := by
  induction g with
  | base b =>
    unfold daggerM
    split
    · exact ⟨trivial, rfl⟩
    · rename_i hb; exact ⟨⟨b, rfl, Bool.eq_false_iff.2 hb⟩, rfl⟩
  | controlled y k ih =>
    obtain ⟨h1, h2⟩ := ih h.1
    exact ⟨⟨h1, h2.trans h.2⟩, rfl⟩
  | dagger y =>
    obtain ⟨b, rfl, _⟩ := h
    exact ⟨trivial, rfl⟩
  | power y e ih =>
    obtain ⟨h1, h2⟩ := ih h.1
    exact ⟨canon_powerM _ e h1, (isCtl_powerM _ e).trans (h2.trans h.2)⟩
  | exponential y ih => exact ⟨(ih h).1, rfl⟩

theorem ctlP_of_not_ctl (g : Gate P R) (m : Nat) (h : Canon g) (hc : g.isCtl = false) :
    g.ctlP m = controlled g m := by
  induction g with
  | controlled y k => cases hc
  | dagger y =>
    obtain ⟨b, rfl, hb⟩ := h
    simp [ctlP, daggerM, hb]
  | power y e ih => rw [ctlP, ih h.1 h.2, powerM, powerM_of_not_ctl y e h.2]
  | _ => rfl

theorem canon_ctlP (g : Gate P R) (m : Nat) (h : Canon g) : Canon (g.ctlP m) := by
  rcases isCtl_cases g with hg | ⟨y, k, rfl⟩
  · rw [ctlP_of_not_ctl g m h hg]; exact ⟨h, hg⟩
  · exact h

/-- structural re-parameterisation: the same wrappers around the base gate with new `params` -/
def mapParams : Gate P R → List P → Gate P R
  | base b, ps => base { b with params := ps }
  | controlled g k, ps => controlled (mapParams g ps) k
  | dagger g, ps => dagger (mapParams g ps)
  | power g e, ps => power (mapParams g ps) e
  | exponential g, ps => exponential (mapParams g ps)

theorem isCtl_mapParams (g : Gate P R) (ps : List P) : (g.mapParams ps).isCtl = g.isCtl := by
  cases g <;> rfl

theorem canon_mapParams (g : Gate P R) (ps : List P) (h : Canon g) : Canon (g.mapParams ps) := by
  induction g with
  | base b => trivial
  | controlled y _ ih | power y _ ih => exact ⟨ih h.1, (isCtl_mapParams y ps).trans h.2⟩
  | dagger y =>
    obtain ⟨b, rfl, hb⟩ := h
    exact ⟨{ b with params := ps }, rfl, hb⟩
  | exponential y ih => exact ih h

theorem mapParams_powerM (g : Gate P R) (e : Rat) (ps : List P) :
    (g.powerM e).mapParams ps = (g.mapParams ps).powerM e := by
  induction g with
  | controlled y k ih => simp only [powerM, mapParams, ih]
  | _ => rfl

theorem mapParams_daggerM (g : Gate P R) (ps : List P) :
    g.daggerM.mapParams ps = (g.mapParams ps).daggerM := by
  induction g with
  | base b => simp only [daggerM, mapParams]; split <;> rfl
  | dagger y => rfl
  | controlled y k ih => simp only [daggerM, mapParams, ih]
  | power y e ih => simp only [daggerM, mapParams, mapParams_powerM, ih]
  | exponential y ih => simp only [daggerM, mapParams, expM, ih]

theorem mapParams_ctlP (g : Gate P R) (m : Nat) (ps : List P) :
    (g.ctlP m).mapParams ps = (g.mapParams ps).ctlP m := by
  induction g with
  | dagger y ih => simp only [ctlP, mapParams, mapParams_daggerM, ih]
  | power y e ih => simp only [ctlP, mapParams, mapParams_powerM, ih]
  | _ => rfl

theorem replaceParams_eq_mapParams (g : Gate P R) (ps : List P) (h : Canon g) :
    g.replaceParams ps = g.mapParams ps := by
  induction g with
  | base b => rfl
  | controlled y k ih =>
    rw [replaceParams, mapParams, ih h.1]
    exact ctlP_of_not_ctl _ k (canon_mapParams y ps h.1) ((isCtl_mapParams y ps).trans h.2)
  | dagger y =>
    obtain ⟨b, rfl, hb⟩ := h
    simp [replaceParams, mapParams, daggerM, hb]
  | power y e ih =>
    rw [replaceParams, mapParams, ih h.1]
    exact powerM_of_not_ctl _ e ((isCtl_mapParams y ps).trans h.2)
  | exponential y ih => rw [replaceParams, mapParams, ih h]; rfl

/-- one call of a modifier method with a valid argument -/
inductive Mod where
  | dagger
  | controlled (m : Nat)   -- `.controlled(m + 1)`
  | power (e : Rat)
  | exp

def Mod.apply : Mod → Gate P R → Gate P R
  | .dagger, g => g.daggerM
  | .controlled m, g => g.ctlP m
  | .power e, g => g.powerM e
  | .exp, g => g.expM

/-- any nesting of the modifiers, applied left to right -/
def applyChain (g : Gate P R) (ms : List Mod) : Gate P R := ms.foldl (fun g m => m.apply g) g

theorem applyChain_induction {Q : Gate P R → Prop} {ok : Mod → Prop}
    (step : ∀ m g, ok m → Q g → Q (m.apply g)) (ms : List Mod) (hms : ∀ m ∈ ms, ok m) (g : Gate P R) (h : Q g) :
    Q (applyChain g ms) := by
  induction ms generalizing g with
  | nil => exact h
  | cons m ms ih =>
    exact ih (fun m' hm' => hms m' (List.mem_cons_of_mem _ hm')) _ (step m g (hms m List.mem_cons_self) h)

theorem canon_apply (m : Mod) (g : Gate P R) (h : Canon g) : Canon (m.apply g) := by
  cases m with
  | dagger => exact (canon_daggerM g h).1
  | controlled k => exact canon_ctlP g k h
  | power e => exact canon_powerM g e h
  | exp => exact h

theorem canon_applyChain (g : Gate P R) (ms : List Mod) (h : Canon g) : Canon (applyChain g ms) :=
  applyChain_induction (ok := fun _ => True) (fun m g _ => canon_apply m g) ms (fun _ _ => trivial) g h

theorem mapParams_apply (m : Mod) (g : Gate P R) (ps : List P) :
    (m.apply g).mapParams ps = m.apply (g.mapParams ps) := by
  cases m with
  | dagger => exact mapParams_daggerM g ps
  | controlled k => exact mapParams_ctlP g k ps
  | power e => exact mapParams_powerM g e ps
  | exp => rfl

theorem mapParams_applyChain (g : Gate P R) (ms : List Mod) (ps : List P) :
    (applyChain g ms).mapParams ps = applyChain (g.mapParams ps) ms := by
  induction ms generalizing g with
  | nil => rfl
  | cons m ms ih => exact (ih (m.apply g)).trans (congrArg (applyChain · ms) (mapParams_apply m g ps))

end Gate

open Matrix
variable {R : Type}

/-- specification of `diag(eye(d0), A)` -/
def blockDiag [Zero R] [One R] (d0 : Nat) {d : Nat} (A : Matrix (Fin d) (Fin d) R) :
    Matrix (Fin (d0 + d)) (Fin (d0 + d)) R :=
  Matrix.reindex finSumFinEquiv finSumFinEquiv (Matrix.fromBlocks 1 0 0 A)

theorem blockDiag_mul [CommRing R] (d0 : Nat) {d : Nat} (A B : Matrix (Fin d) (Fin d) R) :
    blockDiag d0 (A * B) = blockDiag d0 A * blockDiag d0 B := by
  unfold blockDiag
  rw [Matrix.reindex_apply, Matrix.reindex_apply, Matrix.reindex_apply, Matrix.submatrix_mul_equiv,
    Matrix.fromBlocks_multiply]
  simp only [mul_one, Matrix.mul_zero, add_zero, Matrix.zero_mul, zero_add]

theorem blockDiag_one [CommRing R] (d0 d : Nat) :
    blockDiag d0 (1 : Matrix (Fin d) (Fin d) R) = 1 := by
  unfold blockDiag
  rw [Matrix.fromBlocks_one, Matrix.reindex_apply, Matrix.submatrix_one_equiv]

theorem blockDiag_pow [CommRing R] (d0 : Nat) {d : Nat} (A : Matrix (Fin d) (Fin d) R) (n : Nat) :
    blockDiag d0 (A ^ n) = blockDiag d0 A ^ n := by
  induction n with
  | zero => rw [pow_zero, pow_zero, blockDiag_one]
  | succ n ih => rw [pow_succ, pow_succ, blockDiag_mul, ih]

theorem blockDiag_conjTranspose [CommRing R] [StarRing R] (d0 : Nat) {d : Nat} (A : Matrix (Fin d) (Fin d) R) :
    blockDiag d0 Aᴴ = (blockDiag d0 A)ᴴ := by
  unfold blockDiag
  rw [Matrix.reindex_apply, Matrix.reindex_apply, Matrix.conjTranspose_submatrix, Matrix.fromBlocks_conjTranspose]
  simp only [Matrix.conjTranspose_one, Matrix.conjTranspose_zero]

section Exec
variable [Zero R] [One R]

theorem ctlMatrix_r (d0 : Nat) (M : Mat R) : (ctlMatrix d0 M).r = d0 + M.r := rfl
theorem ctlMatrix_c (d0 : Nat) (M : Mat R) : (ctlMatrix d0 M).c = d0 + M.c := rfl

theorem ctlMatrix_get (d0 : Nat) (M : Mat R) (i j : Nat) (hi : i < d0 + M.r) (hj : j < d0 + M.c) :
    (ctlMatrix d0 M).get i j =
      if i < d0 ∧ j < d0 then (if i = j then 1 else 0)
      else if d0 ≤ i ∧ d0 ≤ j then M.get (i - d0) (j - d0) else 0 :=
  Mat.get_ofFn _ _ _ _ _ hi hj

theorem ctlMatrix_ctlMatrix (a b : Nat) (W : Mat R) : ctlMatrix a (ctlMatrix b W) = ctlMatrix (a + b) W := by
  show Mat.ofFn (a + (b + W.r)) (a + (b + W.c)) _ = Mat.ofFn (a + b + W.r) (a + b + W.c) _
  rw [← Nat.add_assoc, ← Nat.add_assoc]
  apply Mat.ofFn_congr
  intro i j hi hj
  by_cases h : a ≤ i ∧ a ≤ j
  · rw [if_neg (fun h' => Nat.not_le_of_lt h'.1 h.1), if_pos h,
      ctlMatrix_get b W _ _ (Nat.sub_lt_left_of_lt_add h.1 (Nat.add_assoc .. ▸ hi))
        (Nat.sub_lt_left_of_lt_add h.2 (Nat.add_assoc .. ▸ hj)), Nat.sub_sub, Nat.sub_sub]
    simp only [Nat.sub_lt_iff_lt_add' h.1, Nat.sub_lt_iff_lt_add' h.2, Nat.le_sub_iff_add_le' h.1,
      Nat.le_sub_iff_add_le' h.2, tsub_left_inj h.1 h.2]
  · rw [if_neg h, if_neg (fun h' : a + b ≤ i ∧ a + b ≤ j =>
      h ⟨(Nat.le_add_right a b).trans h'.1, (Nat.le_add_right a b).trans h'.2⟩)]
    by_cases h' : i < a ∧ j < a
    · rw [if_pos h', if_pos (⟨Nat.lt_add_right b h'.1, Nat.lt_add_right b h'.2⟩ : i < a + b ∧ j < a + b)]
    · rw [if_neg h', if_neg (show i ≠ j by omega), ite_self]

theorem toM_ctlMatrix [Add R] [Mul R] (d0 d : Nat) (M : Mat R) (hr : M.r = d) (hc : M.c = d) :
    Mat.toM (d0 + d) (d0 + d) (ctlMatrix d0 M) = blockDiag d0 (Mat.toM d d M) := by
  subst hr
  funext i j
  obtain ⟨si, rfl⟩ := finSumFinEquiv.surjective i
  obtain ⟨sj, rfl⟩ := finSumFinEquiv.surjective j
  rw [blockDiag, reindex_apply, submatrix_apply, Equiv.symm_apply_apply, Equiv.symm_apply_apply, Mat.toM,
    ctlMatrix_get _ _ _ _ (Fin.is_lt _) (by rw [hc]; exact Fin.is_lt _)]
  -- an index of the second summand is `d0 + b`; each of the four blocks decides both tests of `ctlMatrix`
  have hge (b : Fin M.r) : d0 ≤ (finSumFinEquiv (Sum.inr b : Fin d0 ⊕ Fin M.r)).val := Nat.le_add_right d0 b
  rcases si with a | a
  · rcases sj with b | b
    · rw [if_pos ⟨a.2, b.2⟩]
      exact if_congr (@Fin.val_inj _ a b) rfl rfl
    · rw [if_neg (fun h => Nat.not_lt_of_le (hge b) h.2), if_neg (fun h => Nat.not_le_of_lt a.2 h.1)]
      rfl
  · rcases sj with b | b
    · rw [if_neg (fun h => Nat.not_lt_of_le (hge a) h.1), if_neg (fun h => Nat.not_le_of_lt b.2 h.2)]
      rfl
    · rw [if_neg (fun h => Nat.not_lt_of_le (hge a) h.1), if_pos ⟨hge a, hge b⟩]
      exact congrArg₂ M.get (Nat.add_sub_cancel_left ..) (Nat.add_sub_cancel_left ..)

theorem npow_r [Add R] [Mul R] (M : Mat R) (n : Nat) : (npow M n).r = M.r := by
  cases n <;> rfl

theorem npow_c [Add R] [Mul R] (M : Mat R) (n : Nat) : (npow M n).c = M.r := by
  induction n with
  | zero => rfl
  | succ n ih => exact ih

end Exec

theorem toM_adjointWith [Zero R] [Star R] (M : Mat R) :
    Mat.toM M.c M.r (adjointWith star M) = (Mat.toM M.r M.c M)ᴴ := by
  funext i j
  simp only [Mat.toM, adjointWith, Matrix.conjTranspose_apply]
  rw [Mat.get_ofFn _ _ _ _ _ i.2 j.2]

theorem toM_npow [Semiring R] (d : Nat) (M : Mat R) (hr : M.r = d) (hc : M.c = d) (n : Nat) :
    Mat.toM d d (npow M n) = (Mat.toM d d M) ^ n := by
  induction n with
  | zero => subst hr; rw [pow_zero]; exact Mat.toM_identity _
  | succ n ih =>
    rw [pow_succ', ← ih]
    exact Mat.toM_mul M (npow M n) d d d hr hc ((npow_r M n).trans hr) ((npow_c M n).trans hr)

-- `(2 : Nat)`: left to unification, each literal of such a statement is typed separately, which is slow
theorem two_pow_split (n k : Nat) : (2 : Nat) ^ (n + (k + 1)) - 2 ^ n + 2 ^ n = 2 ^ (n + (k + 1)) :=
  Nat.sub_add_cancel (Nat.pow_le_pow_right Nat.two_pos (Nat.le_add_right ..))

theorem pow_block (n m : Nat) : (2 : Nat) ^ (n + (m + 1)) - 2 ^ n = 2 ^ n * (2 ^ (m + 1) - 1) := by
  rw [Nat.mul_sub_one, pow_add]

/-- sizes of the identity blocks when `m + 1` controls are put on top of `k + 1` existing ones -/
theorem pow_block_merge (n k m : Nat) : (2 : Nat) ^ (n + (k + m + 1 + 1)) - 2 ^ n =
    2 ^ (n + (k + 1)) * (2 ^ (m + 1) - 1) + (2 ^ (n + (k + 1)) - 2 ^ n) := by
  rw [← pow_block, show n + (k + m + 1 + 1) = n + (k + 1) + (m + 1) by omega]
  exact (Nat.sub_add_sub_cancel (Nat.pow_le_pow_right Nat.two_pos (Nat.le_add_right ..))
    (Nat.pow_le_pow_right Nat.two_pos (Nat.le_add_right ..))).symm

variable {P : Type}

section Wrappers
variable [Zero R] [One R] [Add R] [Mul R] {cj : R → R} {x : Ext R} {g : Gate P R} {M : Mat R}

theorem gateMatrix_controlled_ok {k : Nat} : gateMatrix cj x (.controlled g k) = .ok M ↔
    ∃ Y, gateMatrix cj x g = .ok Y ∧ ctlMatrix (2 ^ (g.numQubits + (k + 1)) - 2 ^ g.numQubits) Y = M := by
  simp only [gateMatrix, Except.bind_eq_ok, Except.ok.injEq]

theorem gateMatrix_dagger_ok : gateMatrix cj x (.dagger g) = .ok M ↔
    ∃ Y, gateMatrix cj x g = .ok Y ∧ adjointWith cj Y = M := by
  simp only [gateMatrix, Except.bind_eq_ok, Except.ok.injEq]

theorem gateMatrix_power_ok {e : Rat} : gateMatrix cj x (.power g e) = .ok M ↔
    ∃ Y, gateMatrix cj x g = .ok Y ∧ mpow x Y e = .ok M := Except.bind_eq_ok

theorem gateMatrix_exponential_ok : gateMatrix cj x (.exponential g) = .ok M ↔
    ∃ Y, gateMatrix cj x g = .ok Y ∧ x.mexp Y = .ok M := Except.bind_eq_ok

/-- `Rel` relates the matrices of `g` and `g'`: whenever both exist and that of `g` is `D × D`, that of `g'` is `D × D`
    too and `Rel D` holds of the two.  The matrix theorems about `.power` and `.dagger` have this form. -/
def MatRel (cj : R → R) (x : Ext R) (Rel : ∀ d, Matrix (Fin d) (Fin d) R → Matrix (Fin d) (Fin d) R → Prop)
    (g g' : Gate P R) : Prop :=
  ∀ (M M' : Mat R) (D : Nat), gateMatrix cj x g = .ok M → gateMatrix cj x g' = .ok M' → M.r = D → M.c = D →
    M'.r = D ∧ M'.c = D ∧ Rel D (Mat.toM D D M) (Mat.toM D D M')

theorem MatRel.controlled {Rel : ∀ d, Matrix (Fin d) (Fin d) R → Matrix (Fin d) (Fin d) R → Prop}
    (hblock : ∀ d0 d A B, Rel d A B → Rel (d0 + d) (blockDiag d0 A) (blockDiag d0 B))
    {y y' : Gate P R} {k : Nat} (hq : y'.numQubits = y.numQubits) (h : MatRel cj x Rel y y') :
    MatRel cj x Rel (.controlled y k) (.controlled y' k) := by
  intro M M' D hM hM' hr hc
  obtain ⟨Y, hY, rfl⟩ := gateMatrix_controlled_ok.1 hM
  rw [gateMatrix_controlled_ok, hq] at hM'
  obtain ⟨N, hN, rfl⟩ := hM'
  obtain rfl : _ + Y.r = D := hr
  have hYc : Y.c = Y.r := Nat.add_left_cancel hc
  obtain ⟨a, b, c⟩ := h Y N Y.r hY hN rfl hYc
  refine ⟨congrArg _ a, congrArg _ b, ?_⟩
  rw [toM_ctlMatrix _ _ Y rfl hYc, toM_ctlMatrix _ _ N a b]
  exact hblock _ _ _ _ c

theorem ctlP_matrix (cj : R → R) (x : Ext R) (g : Gate P R) (hcn : g.Canon) (m : Nat) (M : Mat R)
    (hM : gateMatrix cj x g = .ok M) :
    gateMatrix cj x (g.ctlP m) = .ok (ctlMatrix (2 ^ g.numQubits * (2 ^ (m + 1) - 1)) M) := by
  rcases Gate.isCtl_cases g with hg | ⟨w, k, rfl⟩
  · rw [Gate.ctlP_of_not_ctl g m hcn hg, ← pow_block]
    exact gateMatrix_controlled_ok.2 ⟨M, hM, rfl⟩
  · obtain ⟨W, hW, rfl⟩ := gateMatrix_controlled_ok.1 hM
    rw [Gate.ctlP, ctlMatrix_ctlMatrix, Gate.numQubits, ← pow_block_merge]
    exact gateMatrix_controlled_ok.2 ⟨W, hW, rfl⟩

theorem powerM_ok_inv (e : Rat) (g : Gate P R) (M' : Mat R) (h : gateMatrix cj x (g.powerM e) = .ok M') :
    ∃ M, gateMatrix cj x g = .ok M := by
  induction g generalizing M' with
  | controlled y k ih =>
    obtain ⟨N, hN, _⟩ := gateMatrix_controlled_ok.1 h
    obtain ⟨Y, hY⟩ := ih N hN
    exact ⟨_, gateMatrix_controlled_ok.2 ⟨Y, hY, rfl⟩⟩
  | _ =>
    obtain ⟨M, hM, _⟩ := gateMatrix_power_ok.1 h
    exact ⟨M, hM⟩

end Wrappers

/-- the assumed laws of the externals (sympy), stated on the Mathlib views of the matrices -/
structure ExtLaws [CommRing R] (x : Ext R) : Prop where
  inv_dim : ∀ A B, x.minv A = .ok B → B.r = A.r ∧ B.c = A.c
  inv_mul : ∀ d A B, A.r = d → A.c = d → x.minv A = .ok B →
    Mat.toM d d B * Mat.toM d d A = 1 ∧ Mat.toM d d A * Mat.toM d d B = 1
  frac_dim : ∀ A e B, x.mfrac A e = .ok B → B.r = A.r ∧ B.c = A.c
  root : ∀ d A (e : Rat) B, e.num = 1 → 2 ≤ e.den → A.r = d → A.c = d → x.mfrac A e = .ok B →
    Mat.toM d d B ^ e.den = Mat.toM d d A
  exp_dim : ∀ A B, x.mexp A = .ok B → B.r = A.r ∧ B.c = A.c

/-- every base gate's factory returns a `2^num_qubits` square matrix (docstring requirement of MatrixFactoryGate;
    enforced by `_n_qubits` for custom gates) -/
def WellDim [Zero R] : Gate P R → Prop
  | .base b => ∀ M, b.factory b.params = .ok M → M.r = 2 ^ b.numQubits ∧ M.c = 2 ^ b.numQubits
  | .controlled g _ => WellDim g
  | .dagger g => WellDim g
  | .power g _ => WellDim g
  | .exponential g => WellDim g

section
variable [CommRing R] {x : Ext R}

theorem mpow_dims (hx : ExtLaws x) (M M' : Mat R) (e : Rat) (d : Nat) (hr : M.r = d) (hc : M.c = d)
    (h : mpow x M e = .ok M') : M'.r = d ∧ M'.c = d := by
  unfold mpow ipow at h
  split at h
  · split at h
    · cases h; exact ⟨(npow_r M _).trans hr, (npow_c M _).trans hr⟩
    · obtain ⟨Mi, h1, h2⟩ := Except.bind_eq_ok.1 h
      cases h2
      have a := (hx.inv_dim _ _ h1).1.trans hr
      exact ⟨(npow_r Mi _).trans a, (npow_c Mi _).trans a⟩
  · obtain ⟨a, b⟩ := hx.frac_dim _ _ _ h
    exact ⟨a.trans hr, b.trans hc⟩

/-- `B` is the `n`-th power of `A` for an integer `n`: the repeated product, of any two-sided inverse when `n < 0` -/
def IntPow {d : Nat} (n : Int) (A B : Matrix (Fin d) (Fin d) R) : Prop :=
  if 0 ≤ n then B = A ^ n.toNat else ∃ W, W * A = 1 ∧ A * W = 1 ∧ B = W ^ (-n).toNat

namespace IntPow
variable {d : Nat} {n : Int} {A B : Matrix (Fin d) (Fin d) R}

theorem of_nonneg (hn : 0 ≤ n) : IntPow n A B ↔ B = A ^ n.toNat := by rw [IntPow, if_pos hn]

theorem of_neg (hn : n < 0) : IntPow n A B ↔ ∃ W, W * A = 1 ∧ A * W = 1 ∧ B = W ^ (-n).toNat := by
  rw [IntPow, if_neg (not_le.2 hn)]

theorem blockDiag (d0 : Nat) (h : IntPow n A B) : IntPow n (blockDiag d0 A) (C07.blockDiag d0 B) := by
  by_cases hn : 0 ≤ n
  · rw [of_nonneg hn] at h ⊢
    rw [h, blockDiag_pow]
  · rw [of_neg (not_le.1 hn)] at h ⊢
    obtain ⟨W, h1, h2, h3⟩ := h
    exact ⟨C07.blockDiag d0 W, by rw [← blockDiag_mul, h1, blockDiag_one], by rw [← blockDiag_mul, h2, blockDiag_one],
      by rw [h3, blockDiag_pow]⟩

theorem conjTranspose_unique [StarRing R] {B' : Matrix (Fin d) (Fin d) R} (h : IntPow n A B) (h' : IntPow n Aᴴ B') :
    B' = Bᴴ := by
  by_cases hn : 0 ≤ n
  · rw [(of_nonneg hn).1 h, (of_nonneg hn).1 h', conjTranspose_pow]
  · obtain ⟨W, w1, _, rfl⟩ := (of_neg (not_le.1 hn)).1 h
    obtain ⟨W', w1', _, rfl⟩ := (of_neg (not_le.1 hn)).1 h'
    rw [conjTranspose_pow,
      left_inv_eq_right_inv w1' (show Aᴴ * Wᴴ = 1 by rw [← conjTranspose_mul, w1, conjTranspose_one])]

end IntPow

theorem mpow_int (hx : ExtLaws x) {e : Rat} (he : e.den = 1) {d : Nat} {M M' : Mat R} (hr : M.r = d) (hc : M.c = d)
    (h : mpow x M e = .ok M') : IntPow e.num (Mat.toM d d M) (Mat.toM d d M') := by
  rw [mpow, if_pos he, ipow] at h
  by_cases hn : 0 ≤ e.num
  · rw [if_pos hn] at h; cases h
    exact (IntPow.of_nonneg hn).2 (toM_npow d M hr hc _)
  · obtain ⟨Mi, h1, h2⟩ := Except.bind_eq_ok.1 ((if_neg hn).symm.trans h)
    cases h2
    obtain ⟨a, b⟩ := hx.inv_mul d M Mi hr hc h1
    obtain ⟨c, c'⟩ := hx.inv_dim _ _ h1
    exact (IntPow.of_neg (not_le.1 hn)).2 ⟨Mat.toM d d Mi, a, b, toM_npow d Mi (c.trans hr) (c'.trans hc) _⟩

end
section
variable [CommRing R] [StarRing R] {x : Ext R}

theorem gateMatrix_dim (hx : ExtLaws x) (g : Gate P R) (hw : WellDim g) (M : Mat R)
    (h : gateMatrix star x g = .ok M) : M.r = 2 ^ g.numQubits ∧ M.c = 2 ^ g.numQubits := by
  induction g generalizing M with
  | base b => exact hw M h
  | controlled y k ih =>
    obtain ⟨Y, hY, rfl⟩ := gateMatrix_controlled_ok.1 h
    obtain ⟨a, b⟩ := ih hw Y hY
    exact ⟨by rw [ctlMatrix_r, a]; exact two_pow_split _ _, by rw [ctlMatrix_c, b]; exact two_pow_split _ _⟩
  | dagger y ih =>
    obtain ⟨Y, hY, rfl⟩ := gateMatrix_dagger_ok.1 h
    exact (ih hw Y hY).symm
  | power y e ih =>
    obtain ⟨Y, hY, h2⟩ := gateMatrix_power_ok.1 h
    obtain ⟨a, b⟩ := ih hw Y hY
    exact mpow_dims hx Y M e _ a b h2
  | exponential y ih =>
    obtain ⟨Y, hY, h2⟩ := gateMatrix_exponential_ok.1 h
    obtain ⟨a, b⟩ := ih hw Y hY
    obtain ⟨c, d⟩ := hx.exp_dim _ _ h2
    exact ⟨c.trans a, d.trans b⟩

/-- Lifting a relation between a matrix and its `** e` through the controls that `ControlledGate.power` keeps outside:
    any relation that is compatible with `diag(1, ·)` and holds for sympy's `**` holds for `.power(e)` of every gate. -/
theorem powerM_lift (hx : ExtLaws x) (e : Rat)
    (Rel : ∀ d, Matrix (Fin d) (Fin d) R → Matrix (Fin d) (Fin d) R → Prop)
    (hblock : ∀ d0 d A B, Rel d A B → Rel (d0 + d) (blockDiag d0 A) (blockDiag d0 B))
    (hnode : ∀ d (M M' : Mat R), M.r = d → M.c = d → mpow x M e = .ok M' → Rel d (Mat.toM d d M) (Mat.toM d d M'))
    (g : Gate P R) : MatRel star x Rel g (g.powerM e) := by
  induction g with
  | controlled y k ih => exact ih.controlled hblock (Gate.numQubits_powerM y e)
  | _ =>
    intro M M' D hM hM' hr hc
    obtain ⟨Y, hY, h2⟩ := gateMatrix_power_ok.1 hM'
    cases hM.symm.trans hY
    obtain ⟨a, b⟩ := mpow_dims hx M M' e D hr hc h2
    exact ⟨a, b, hnode D M M' hr hc h2⟩

theorem powerM_int (hx : ExtLaws x) (g : Gate P R) (e : Rat) (he : e.den = 1) :
    MatRel star x (fun _ => IntPow e.num) g (g.powerM e) :=
  powerM_lift hx e _ (fun d0 _ _ _ => IntPow.blockDiag d0) (fun _ _ _ hr hc => mpow_int hx he hr hc) g

/-- no `Power` with a non-integer exponent anywhere in the gate -/
def NoFrac : Gate P R → Prop
  | .base _ => True
  | .controlled g _ => NoFrac g
  | .dagger g => NoFrac g
  | .power g e => e.den = 1 ∧ NoFrac g
  | .exponential g => NoFrac g

/-- the `is_hermitian` flags are truthful: a flagged base gate has a self-adjoint matrix -/
def HermOK : Gate P R → Prop
  | .base b => b.hermitian = true → ∀ (M : Mat R) (d : Nat), b.factory b.params = .ok M → M.r = d → M.c = d →
      (Mat.toM d d M)ᴴ = Mat.toM d d M
  | .controlled g _ => HermOK g
  | .dagger g => HermOK g
  | .power g _ => HermOK g
  | .exponential g => HermOK g

/-- law of `Matrix.exp`: it is the function `E` (at ℂ: the matrix exponential) -/
def ExpLaw (x : Ext R) (E : ∀ d, Matrix (Fin d) (Fin d) R → Matrix (Fin d) (Fin d) R) : Prop :=
  ∀ d (A B : Mat R), A.r = d → A.c = d → x.mexp A = .ok B → Mat.toM d d B = E d (Mat.toM d d A)

theorem toM_adjointWith' (d : Nat) (M : Mat R) (hr : M.r = d) (hc : M.c = d) :
    Mat.toM d d (adjointWith star M) = (Mat.toM d d M)ᴴ := by
  subst hr
  have h := toM_adjointWith M
  rwa [hc] at h

/-- `|1…1⟩⟨1…1|` on `k` control qubits -/
def projAll (k : Nat) : Mat R := Mat.ofFn (2 ^ k) (2 ^ k) (fun a b => if a = 2 ^ k - 1 ∧ b = 2 ^ k - 1 then 1 else 0)
/-- `1 − |1…1⟩⟨1…1|` on `k` control qubits -/
def projRest (k : Nat) : Mat R := Mat.ofFn (2 ^ k) (2 ^ k) (fun a b => if a = b ∧ a ≠ 2 ^ k - 1 then 1 else 0)

omit [StarRing R] in
theorem projRest_eq (k : Nat) : Mat.toM (2 ^ k) (2 ^ k) (projRest (R := R) k) = 1 - Mat.toM (2 ^ k) (2 ^ k) (projAll k) := by
  funext a b
  simp only [Mat.toM, projRest, projAll, Matrix.sub_apply, Matrix.one_apply]
  rw [Mat.get_ofFn _ _ _ _ _ a.2 b.2, Mat.get_ofFn _ _ _ _ _ a.2 b.2]
  by_cases h : a = b
  · subst h
    by_cases h2 : a.val = 2 ^ k - 1 <;> simp [h2]
  · have : ¬ (a.val = b.val) := fun hh => h (Fin.ext hh)
    have h3 : ¬ (a.val = 2 ^ k - 1 ∧ b.val = 2 ^ k - 1) := fun hh => this (hh.1.trans hh.2.symm)
    simp [h, this, h3]

theorem last_block (d K i : Nat) (hd : 0 < d) (hi : i < K * d) :
    i / d < K ∧ (i < d * (K - 1) ↔ i / d ≠ K - 1) ∧ (i / d = K - 1 → i - d * (K - 1) = i % d) := by
  have hq : i / d < K := (Nat.div_lt_iff_lt_mul hd).2 hi
  have h1 : i < d * (K - 1) ↔ i / d < K - 1 := by rw [Nat.div_lt_iff_lt_mul hd, Nat.mul_comm]
  have h2 := Nat.div_add_mod i d
  refine ⟨hq, by omega, fun h => ?_⟩
  rw [h] at h2; omega

omit [StarRing R] in
theorem controlled_proj_entries (k d : Nat) (M : Mat R) (hr : M.r = d) (hc : M.c = d) (i j : Nat)
    (hi : i < 2 ^ k * d) (hj : j < 2 ^ k * d) :
    (ctlMatrix (d * (2 ^ k - 1)) M).get i j =
      (((projAll k).kron M).add ((projRest k).kron (Mat.identity d))).get i j := by
  subst hr
  have hj' : j < 2 ^ k * M.c := hc.symm ▸ hj
  have hd : 0 < M.r := Nat.pos_of_lt_mul_left hi
  have hsplit : M.r * (2 ^ k - 1) + M.r = 2 ^ k * M.r := by
    rw [Nat.mul_sub_one, Nat.mul_comm M.r, Nat.sub_add_cancel (Nat.le_mul_of_pos_left _ Nat.one_le_two_pow)]
  obtain ⟨hqi, bi, si⟩ := last_block M.r (2 ^ k) i hd hi
  obtain ⟨hqj, bj, sj⟩ := last_block M.r (2 ^ k) j hd hj
  have hij : i = j ↔ i % M.r = j % M.r ∧ i / M.r = j / M.r :=
    ⟨fun h => h ▸ ⟨rfl, rfl⟩, fun h => by rw [← Nat.div_add_mod i M.r, ← Nat.div_add_mod j M.r, h.1, h.2]⟩
  have hR : (((projAll k).kron M).add ((projRest k).kron (Mat.identity M.r))).get i j =
      ((projAll k).kron M).get i j + ((projRest (R := R) k).kron (Mat.identity M.r)).get i j :=
    Mat.get_ofFn _ _ _ i j hi hj'
  rw [hR, Mat.kron_get _ M i j hi hj', Mat.kron_get _ (Mat.identity M.r) i j hi hj,
    ctlMatrix_get _ M i j (hsplit ▸ hi) (by rw [hc, hsplit]; exact hj), hc,
    projAll, projRest, Mat.identity, Mat.ofFn_r, Mat.ofFn_c, Mat.get_ofFn _ _ _ _ _ hqi hqj, Mat.get_ofFn _ _ _ _ _ hqi hqj,
    Mat.get_ofFn _ _ _ _ _ (Nat.mod_lt _ hd) (Nat.mod_lt _ hd)]
  -- both sides in block coordinates: every test is now one on the block numbers `i / M.r`, `j / M.r`
  simp only [← not_lt, bi, bj, hij, ne_eq, not_not]
  by_cases c : i / M.r = 2 ^ k - 1 ∧ j / M.r = 2 ^ k - 1
  · simp [c.1, c.2, si c.1, sj c.2]
  · rw [if_neg c, if_neg c, zero_mul, zero_add]
    by_cases e : i / M.r = j / M.r
    · rw [e, and_self] at c
      simp [e, c]
    · simp [e]

end
end OQ.C07
