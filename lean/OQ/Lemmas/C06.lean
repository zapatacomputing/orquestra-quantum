/- Lemmas for C06: substitution and evaluation of parameter expressions, the sorted symbol sets, what the smart
   constructors of `Gate` keep of a gate (`Transparent`), matrices of re-wrapped gates and of factory gates with substituted
   parameters, list comprehensions with exceptions, first-appearance order, operations and circuits, and the interpretation
   `freeSem` of the examples. -/
import OQ.Model.C06
import Mathlib.Data.String.Basic
import Mathlib.Data.List.Basic
import Mathlib.Data.List.Pairwise
import Mathlib.Data.List.Forall2
import Mathlib.Data.List.Nodup
import Mathlib.Data.List.Sort
namespace OQ.C06

@[simp] theorem Res.bind_ok {α β} (a : α) (f : α → Res β) : (Res.ok a).bind f = f a := rfl
@[simp] theorem Res.bind_err {α β} (e : Err) (f : α → Res β) : (Res.err e : Res α).bind f = .err e := rfl
@[simp] theorem Res.map_ok {α β} (a : α) (f : α → β) : (Res.ok a).map f = .ok (f a) := rfl
@[simp] theorem Res.map_err {α β} (e : Err) (f : α → β) : (Res.err e : Res α).map f = .err e := rfl

theorem Res.bind_eq_ok {α β} {r : Res α} {f : α → Res β} {b : β} (h : r.bind f = .ok b) :
    ∃ a, r = .ok a ∧ f a = .ok b := by
  cases r with
  | ok a => exact ⟨a, rfl, h⟩
  | err e => cases h

theorem Res.map_eq_ok {α β} {r : Res α} {f : α → β} {b : β} (h : r.map f = .ok b) :
    ∃ a, r = .ok a ∧ f a = b := by
  cases r with
  | ok a => exact ⟨a, rfl, Res.ok.inj h⟩
  | err e => cases h

theorem Res.of_exists_ok {α} {r : Res α} {P : α → Prop} (h : ∃ a, r = .ok a ∧ P a) {a : α} (ha : r = .ok a) : P a := by
  obtain ⟨b, hb, hp⟩ := h
  cases ha.symm.trans hb
  exact hp

theorem lookup_append (m1 m2 : SymMap) (s : String) :
    lookup (m1 ++ m2) s = match lookup m1 s with | some v => some v | none => lookup m2 s := by
  induction m1 with
  | nil => rfl
  | cons kv r ih =>
    obtain ⟨k, v⟩ := kv
    by_cases h : k = s <;> simp [lookup, h, ih]

theorem lookup_isSome_iff (m : SymMap) (s : String) : (lookup m s).isSome ↔ s ∈ keys m := by
  induction m with
  | nil => simp [lookup, keys]
  | cons kv r ih =>
    obtain ⟨k, v⟩ := kv
    have hk : keys ((k, v) :: r) = k :: keys r := rfl
    by_cases h : k = s
    · subst h; simp [lookup, hk]
    · rw [lookup, if_neg h, ih, hk, List.mem_cons, or_iff_right (Ne.symm h)]

theorem lookup_eq_none_iff (m : SymMap) (s : String) : lookup m s = none ↔ s ∉ keys m := by
  rw [← lookup_isSome_iff]; cases lookup m s <;> simp

theorem mem_of_lookup_eq_some {m : SymMap} {s : String} {v : Param} (h : lookup m s = some v) : (s, v) ∈ m := by
  induction m with
  | nil => cases h
  | cons kv r ih =>
    obtain ⟨k, v'⟩ := kv
    by_cases hk : k = s
    · rw [lookup, if_pos hk] at h
      cases h; subst hk; exact List.mem_cons_self
    · rw [lookup, if_neg hk] at h
      exact List.mem_cons_of_mem _ (ih h)

theorem lookup_of_mem_nodup (d : SymMap) (k : String) (v : Param) (hmem : (k, v) ∈ d)
    (hnd : (keys d).Nodup) : lookup d k = some v := by
  induction d with
  | nil => cases hmem
  | cons kv r ih =>
    obtain ⟨k', v'⟩ := kv
    obtain ⟨hk', hr⟩ := List.nodup_cons.mp hnd
    rcases List.mem_cons.mp hmem with heq | hin
    · cases heq; exact if_pos rfl
    · have hk : k' ≠ k := fun hk => hk' (hk ▸ List.mem_map.mpr ⟨(k, v), hin, rfl⟩)
      rw [lookup, if_neg hk]
      exact ih hin hr

theorem lookup_mapValues (f : Param → Param) (m : SymMap) (s : String) :
    lookup (m.map (fun kv => (kv.1, f kv.2))) s = (lookup m s).map f := by
  induction m with
  | nil => rfl
  | cons kv r ih =>
    obtain ⟨k, v⟩ := kv
    by_cases h : k = s <;> simp [lookup, h, ih]

theorem toExpr_symbols (v : Param) : v.toExpr.symbols = v.symbols := by
  cases v <;> rfl

theorem toExpr_eval {V} (A : Alg V) (ρ : String → V) (v : Param) : eval A ρ v.toExpr = v.eval A ρ := by
  cases v <;> rfl

theorem eval_subst {V} (A : Alg V) (ρ : String → V) (m : SymMap) (e : PExpr) :
    eval A ρ (subst m e) = eval A (comp A ρ m) e := by
  induction e with
  | num q => rfl
  | sym s =>
    simp only [subst, eval, comp]
    cases lookup m s with
    | none => rfl
    | some v => exact toExpr_eval A ρ v
  | fn f a iha => simp only [subst, eval, iha]
  | _ a b iha ihb => simp only [subst, eval, iha, ihb]

theorem subSymbols_toExpr (m : SymMap) (e : PExpr) : (subSymbols m (.expr e)).toExpr = subst m e := by
  cases e with
  | sym s =>
    simp only [subSymbols, subst]
    cases lookup m s <;> rfl
  | _ => rfl

theorem eval_subSymbols {V} (A : Alg V) (ρ : String → V) (m : SymMap) (p : Param) :
    (subSymbols m p).eval A ρ = p.eval A (comp A ρ m) := by
  cases p with
  | number q => rfl
  | expr e =>
    rw [← toExpr_eval, subSymbols_toExpr, eval_subst]; rfl

theorem eval_congr {V} (A : Alg V) (ρ ρ' : String → V) (e : PExpr)
    (h : ∀ s ∈ e.symbols, ρ s = ρ' s) : eval A ρ e = eval A ρ' e := by
  induction e with
  | num q => rfl
  | sym s => exact h s (List.mem_singleton.mpr rfl)
  | fn f a iha => simp only [eval, iha h]
  | _ a b iha ihb =>
    obtain ⟨ha, hb⟩ := List.forall_mem_append.mp h
    simp only [eval, iha ha, ihb hb]

theorem Param.eval_congr {V} (A : Alg V) (ρ ρ' : String → V) (p : Param)
    (h : ∀ s ∈ p.symbols, ρ s = ρ' s) : p.eval A ρ = p.eval A ρ' := by
  cases p with
  | number q => rfl
  | expr e => exact OQ.C06.eval_congr A ρ ρ' e h

theorem subst_congr (m m' : SymMap) (e : PExpr) (h : ∀ s ∈ e.symbols, lookup m s = lookup m' s) :
    subst m e = subst m' e := by
  induction e with
  | num q => rfl
  | sym s => simp only [subst, h s (List.mem_singleton.mpr rfl)]
  | fn f a iha => simp only [subst, iha h]
  | _ a b iha ihb =>
    obtain ⟨ha, hb⟩ := List.forall_mem_append.mp h
    simp only [subst, iha ha, ihb hb]

theorem subSymbols_congr (m m' : SymMap) (p : Param) (h : ∀ s ∈ p.symbols, lookup m s = lookup m' s) :
    subSymbols m p = subSymbols m' p := by
  cases p with
  | number q => rfl
  | expr e =>
    cases e with
    | sym s => simp only [subSymbols, h s (List.mem_singleton.mpr rfl)]
    | _ => simp only [subSymbols]; rw [subst_congr m m' _ h]

theorem subst_nil (e : PExpr) : subst [] e = e := by
  induction e with
  | num q => rfl
  | sym s => rfl
  | fn f a iha => simp only [subst, iha]
  | _ a b iha ihb => simp only [subst, iha, ihb]

theorem subst_eq_self (m : SymMap) (e : PExpr) (h : ∀ s ∈ e.symbols, lookup m s = none) : subst m e = e := by
  rw [subst_congr m [] e h, subst_nil]

theorem subSymbols_eq_self (m : SymMap) (p : Param) (h : ∀ s ∈ p.symbols, lookup m s = none) :
    subSymbols m p = p := by
  cases p with
  | number q => rfl
  | expr e =>
    cases e with
    | sym s => simp only [subSymbols, h s (List.mem_singleton.mpr rfl)]
    | _ => simp only [subSymbols]; rw [subst_eq_self m _ h]

theorem symbols_subst (m : SymMap) (e : PExpr) :
    (subst m e).symbols = e.symbols.flatMap fun k => (lookup m k).elim [k] Param.symbols := by
  induction e with
  | num q => rfl
  | sym s =>
    simp only [subst, PExpr.symbols, List.flatMap_cons, List.flatMap_nil, List.append_nil]
    cases lookup m s with
    | none => rfl
    | some v => exact toExpr_symbols v
  | fn f a iha => exact iha
  | _ a b iha ihb => simp only [subst, PExpr.symbols, List.flatMap_append, iha, ihb]

theorem mem_symbols_subSymbols (m : SymMap) (p : Param) (s : String) :
    s ∈ (subSymbols m p).symbols ↔
      (s ∈ p.symbols ∧ lookup m s = none) ∨ ∃ k ∈ p.symbols, ∃ v, lookup m k = some v ∧ s ∈ v.symbols := by
  have hp : (subSymbols m p).symbols = p.symbols.flatMap fun k => (lookup m k).elim [k] Param.symbols := by
    cases p with
    | number q => rfl
    | expr e => rw [← toExpr_symbols, subSymbols_toExpr]; exact symbols_subst m e
  rw [hp, List.mem_flatMap]
  constructor
  · rintro ⟨k, hk, hs⟩
    cases hl : lookup m k with
    | none =>
      rw [hl] at hs
      obtain rfl := List.mem_singleton.mp hs
      exact Or.inl ⟨hk, hl⟩
    | some v => rw [hl] at hs; exact Or.inr ⟨k, hk, v, hl, hs⟩
  · rintro (⟨hs, hl⟩ | ⟨k, hk, v, hl, hs⟩)
    · exact ⟨s, hs, by rw [hl]; exact List.mem_singleton.mpr rfl⟩
    · exact ⟨k, hk, by rw [hl]; exact hs⟩

/-- the values of `m1` do not mention the keys of `m2` -/
def NoMention (m1 m2 : SymMap) : Prop :=
  ∀ k v, lookup m1 k = some v → ∀ s ∈ v.symbols, lookup m2 s = none

theorem subst_subst (m1 m2 : SymMap) (h : NoMention m1 m2) (e : PExpr) :
    subst m2 (subst m1 e) = subst (m1 ++ m2) e := by
  induction e with
  | num q => rfl
  | sym s =>
    simp only [subst, lookup_append]
    cases hl : lookup m1 s with
    | none => rfl
    | some v => exact subst_eq_self m2 _ fun t ht => h s v hl t (toExpr_symbols v ▸ ht)
  | fn f a iha => simp only [subst, iha]
  | _ a b iha ihb => simp only [subst, iha, ihb]

theorem subSymbols_subSymbols (m1 m2 : SymMap) (h : NoMention m1 m2) (p : Param) :
    subSymbols m2 (subSymbols m1 p) = subSymbols (m1 ++ m2) p := by
  cases p with
  | number q => rfl
  | expr e =>
    cases e with
    | sym s =>
      simp only [subSymbols, lookup_append]
      cases hl : lookup m1 s with
      | none => rfl
      | some v => exact subSymbols_eq_self m2 v (h s v hl)
    | num q => rfl
    | _ => simp only [subSymbols, subst, subst_subst m1 m2 h]

theorem comp_comp {V} (A : Alg V) (ρ : String → V) (m1 m2 : SymMap) (h : NoMention m1 m2) :
    comp A (comp A ρ m2) m1 = comp A ρ (m1 ++ m2) := by
  funext s
  simp only [comp, lookup_append]
  cases hl : lookup m1 s with
  | none => rfl
  | some v => exact Param.eval_congr A _ _ v fun t ht => by simp only [comp, h s v hl t ht]

theorem mem_insertSym (s x : String) (l : List String) : x ∈ insertSym s l ↔ x = s ∨ x ∈ l := by
  induction l with
  | nil => simp [insertSym]
  | cons t ts ih =>
    unfold insertSym
    split_ifs with h1 h2
    · rw [List.mem_cons]
    · rw [h2, List.mem_cons, or_self_left]
    · rw [List.mem_cons, List.mem_cons, ih, or_left_comm]

theorem mem_sortSyms (x : String) (l : List String) : x ∈ sortSyms l ↔ x ∈ l := by
  induction l with
  | nil => rfl
  | cons t ts ih =>
    rw [show sortSyms (t :: ts) = insertSym t (sortSyms ts) from rfl, mem_insertSym, ih, List.mem_cons]

theorem sorted_insertSym (s : String) (l : List String) (h : l.Pairwise (· < ·)) :
    (insertSym s l).Pairwise (· < ·) := by
  induction l with
  | nil => exact List.pairwise_singleton _ _
  | cons t ts ih =>
    obtain ⟨ht, hts⟩ := List.pairwise_cons.mp h
    unfold insertSym
    split_ifs with h1 h2
    · exact List.pairwise_cons.mpr ⟨List.forall_mem_cons.mpr ⟨h1, fun a ha => lt_trans h1 (ht a ha)⟩, h⟩
    · exact h
    · refine List.pairwise_cons.mpr ⟨fun a ha => ?_, ih hts⟩
      rcases (mem_insertSym s a ts).mp ha with rfl | ha
      · exact lt_of_le_of_ne (not_lt.mp h1) (Ne.symm h2)
      · exact ht a ha

theorem sorted_sortSyms (l : List String) : (sortSyms l).Pairwise (· < ·) := by
  induction l with
  | nil => exact List.Pairwise.nil
  | cons t ts ih => exact sorted_insertSym t _ ih

theorem mem_getFreeSymbols (s : String) (ps : List Param) :
    s ∈ getFreeSymbols ps ↔ ∃ p ∈ ps, s ∈ p.symbols := by
  rw [getFreeSymbols, mem_sortSyms, List.mem_flatMap]

theorem getFreeSymbols_eq_nil (ps : List Param) :
    getFreeSymbols ps = [] ↔ ∀ p ∈ ps, p.symbols = [] := by
  simp only [List.eq_nil_iff_forall_not_mem, mem_getFreeSymbols, not_exists, not_and]
  exact ⟨fun h p hp s => h s p hp, fun h s p hp => h p hp s⟩

theorem map_subSymbols_congr {m m' : SymMap} {ps : List Param}
    (h : ∀ s ∈ getFreeSymbols ps, lookup m s = lookup m' s) : ps.map (subSymbols m) = ps.map (subSymbols m') :=
  List.map_congr_left fun p hp => subSymbols_congr m m' p fun s hs => h s ((mem_getFreeSymbols s ps).mpr ⟨p, hp, hs⟩)

theorem getFreeSymbols_congr (ps ps' : List Param)
    (h : ∀ s, (∃ p ∈ ps, s ∈ p.symbols) ↔ (∃ p ∈ ps', s ∈ p.symbols)) :
    getFreeSymbols ps = getFreeSymbols ps' := by
  refine (sorted_sortSyms _).eq_of_mem_iff (sorted_sortSyms _) fun x => ?_
  exact (mem_getFreeSymbols x ps).trans ((h x).trans (mem_getFreeSymbols x ps').symm)

theorem guard_eq_ok {l : List String} {a b : Gate} :
    (if l.isEmpty then Res.ok a else .err .value) = .ok b ↔ l = [] ∧ a = b := by
  cases l with
  | nil => exact ⟨fun h => ⟨rfl, Res.ok.inj h⟩, fun h => congrArg Res.ok h.2⟩
  | cons x xs => exact ⟨nofun, fun h => nomatch h.1⟩

theorem mkPow_eq_ok {g g' : Gate} {e : Rat} : mkPow g e = .ok g' ↔ g.freeSymbols = [] ∧ .pow g e = g' := guard_eq_ok

theorem mkExp_eq_ok {g g' : Gate} : mkExp g = .ok g' ↔ g.freeSymbols = [] ∧ .exp g = g' := guard_eq_ok

/-- A predicate on gates that looks through the wrappers: it holds of a chain when it holds of what is wrapped and, at a
    `ControlledGate`, `C` holds of the number of controls.  Such a predicate is decided by the factory gate at the bottom
    of the chain and by the control counts, and these are what `.power`, `.dagger`, `.controlled` and `.replace_params`
    keep: they re-order the wrappers and add control counts up. -/
structure Transparent (X : Gate → Prop) (C : Nat → Prop) : Prop where
  ctrl : ∀ {g n}, X (.ctrl g n) ↔ C n ∧ X g
  dag : ∀ {g}, X (.dag g) ↔ X g
  exp : ∀ {g}, X (.exp g) ↔ X g
  pow : ∀ {g e}, X (.pow g e) ↔ X g
  add : ∀ {k n}, C k → C n → C (k + n)

namespace Transparent
variable {X X' : Gate → Prop} {C : Nat → Prop} {g g' : Gate}

theorem and (T : Transparent X C) (T' : Transparent X' C) : Transparent (fun g => X g ∧ X' g) C where
  ctrl := by intro g n; rw [T.ctrl, T'.ctrl]; exact and_and_left.symm
  dag := by intro g; rw [T.dag, T'.dag]
  exp := by intro g; rw [T.exp, T'.exp]
  pow := by intro g e; rw [T.pow, T'.pow]
  add := T.add

theorem of_forward (ctrl : ∀ {g n}, X (.ctrl g n) ↔ X g) (dag : ∀ {g}, X (.dag g) ↔ X g) (exp : ∀ {g}, X (.exp g) ↔ X g)
    (pow : ∀ {g e}, X (.pow g e) ↔ X g) : Transparent X fun _ => True :=
  ⟨ctrl.trans (and_iff_right trivial).symm, dag, exp, pow, fun _ _ => trivial⟩

theorem mkPow (T : Transparent X C) {e : Rat} (hx : X g) (h : mkPow g e = .ok g') : X g' :=
  (mkPow_eq_ok.mp h).2 ▸ T.pow.mpr hx

theorem mkExp (T : Transparent X C) (hx : X g) (h : mkExp g = .ok g') : X g' :=
  (mkExp_eq_ok.mp h).2 ▸ T.exp.mpr hx

theorem power (T : Transparent X C) {e : Rat} (hx : X g) (h : g.power e = .ok g') : X g' := by
  induction g generalizing g' with
  | ctrl w k ih =>
    obtain ⟨w', hw, rfl⟩ := Res.map_eq_ok h
    exact T.ctrl.mpr ⟨(T.ctrl.mp hx).1, ih (T.ctrl.mp hx).2 hw⟩
  | mf | dag | exp | pow => exact T.mkPow hx h

theorem dagger (T : Transparent X C) (hx : X g) (h : g.dagger = .ok g') : X g' := by
  induction g generalizing g' with
  | mf nm fac ps nq herm =>
    cases herm <;> cases h
    · exact T.dag.mpr hx
    · exact hx
  | ctrl w k ih =>
    obtain ⟨w', hw, rfl⟩ := Res.map_eq_ok h
    exact T.ctrl.mpr ⟨(T.ctrl.mp hx).1, ih (T.ctrl.mp hx).2 hw⟩
  | dag w => cases h; exact T.dag.mp hx
  | exp w ih =>
    obtain ⟨w', hw, h2⟩ := Res.bind_eq_ok h
    exact T.mkExp (ih (T.exp.mp hx) hw) h2
  | pow w e ih =>
    obtain ⟨w', hw, h2⟩ := Res.bind_eq_ok h
    exact T.power (ih (T.pow.mp hx) hw) h2

theorem controlled (T : Transparent X C) {n : Nat} (hn : C n) (hx : X g) (h : g.controlled n = .ok g') : X g' := by
  induction g generalizing g' with
  | mf nm fac ps nq herm => cases h; exact T.ctrl.mpr ⟨hn, hx⟩
  | ctrl w k => cases h; exact T.ctrl.mpr ⟨T.add (T.ctrl.mp hx).1 hn, (T.ctrl.mp hx).2⟩
  | dag w ih =>
    obtain ⟨w', hw, h2⟩ := Res.bind_eq_ok h
    exact T.dagger (ih (T.dag.mp hx) hw) h2
  | exp w => cases h; exact T.ctrl.mpr ⟨hn, hx⟩
  | pow w e ih =>
    obtain ⟨w', hw, h2⟩ := Res.bind_eq_ok h
    exact T.power (ih (T.pow.mp hx) hw) h2

theorem replaceParams (T : Transparent X C) (T' : Transparent X' C) {ps : List Param}
    (leaf : ∀ nm fac nq herm, X (.mf nm fac g.params nq herm) → X' (.mf nm fac ps nq herm))
    (hx : X g) (h : g.replaceParams ps = .ok g') : X' g' := by
  induction g generalizing g' with
  | mf nm fac ps0 nq herm => cases h; exact leaf _ _ _ _ hx
  | ctrl w k ih =>
    obtain ⟨w', hw, h2⟩ := Res.bind_eq_ok h
    exact T'.controlled (T.ctrl.mp hx).1 (ih leaf (T.ctrl.mp hx).2 hw) h2
  | dag w ih =>
    obtain ⟨w', hw, h2⟩ := Res.bind_eq_ok h
    exact T'.dagger (ih leaf (T.dag.mp hx) hw) h2
  | exp w ih =>
    obtain ⟨w', hw, h2⟩ := Res.bind_eq_ok h
    exact T'.mkExp (ih leaf (T.exp.mp hx) hw) h2
  | pow w e ih =>
    obtain ⟨w', hw, h2⟩ := Res.bind_eq_ok h
    exact T'.power (ih leaf (T.pow.mp hx) hw) h2

end Transparent

theorem transparent_params (ps : List Param) : Transparent (fun g => g.params = ps) (fun _ => True) :=
  .of_forward Iff.rfl Iff.rfl Iff.rfl Iff.rfl

theorem transparent_true : Transparent (fun _ => True) (fun _ => True) :=
  .of_forward Iff.rfl Iff.rfl Iff.rfl Iff.rfl

theorem params_replaceParams {g g' : Gate} {ps : List Param} (h : g.replaceParams ps = .ok g') : g'.params = ps :=
  transparent_true.replaceParams (transparent_params ps) (fun _ _ _ _ _ => rfl) trivial h

theorem dagger_cd {g : Gate} (h : g.isCD = true) : ∃ g', g.dagger = .ok g' ∧ g'.isCD = true := by
  induction g with
  | mf nm fac ps nq herm => cases herm <;> exact ⟨_, rfl, rfl⟩
  | ctrl w k ih =>
    obtain ⟨w', hw, hcd⟩ := ih h
    exact ⟨.ctrl w' k, by rw [Gate.dagger, hw]; rfl, hcd⟩
  | dag w => exact ⟨w, rfl, h⟩
  | exp | pow => cases h

theorem controlled_cd {g : Gate} (n : Nat) (h : g.isCD = true) :
    ∃ g', g.controlled n = .ok g' ∧ g'.isCD = true := by
  induction g with
  | mf nm fac ps nq herm => exact ⟨_, rfl, rfl⟩
  | ctrl w k => exact ⟨_, rfl, h⟩
  | dag w ih =>
    obtain ⟨w', hw, hcd⟩ := ih h
    obtain ⟨w'', hw', hcd'⟩ := dagger_cd hcd
    exact ⟨w'', by rw [Gate.controlled, hw]; exact hw', hcd'⟩
  | exp | pow => cases h

theorem replaceParams_cd {g : Gate} (ps : List Param) (h : g.isCD = true) :
    ∃ g', g.replaceParams ps = .ok g' ∧ g'.isCD = true := by
  induction g with
  | mf nm fac ps0 nq herm => exact ⟨_, rfl, rfl⟩
  | ctrl w k ih =>
    obtain ⟨w', hw, hcd⟩ := ih h
    obtain ⟨w'', hw', hcd'⟩ := controlled_cd k hcd
    exact ⟨w'', by rw [Gate.replaceParams, hw]; exact hw', hcd'⟩
  | dag w ih =>
    obtain ⟨w', hw, hcd⟩ := ih h
    obtain ⟨w'', hw', hcd'⟩ := dagger_cd hcd
    exact ⟨w'', by rw [Gate.replaceParams, hw]; exact hw', hcd'⟩
  | exp | pow => cases h

theorem bind_eq (m : SymMap) (g : Gate) :
    g.bind m = if g.isCD then g.replaceParams (g.params.map (subSymbols m)) else .err .notimpl := by
  induction g with
  | mf nm fac ps nq herm => rfl
  | ctrl w k ih => rw [Gate.bind, ih, Gate.isCD, Gate.replaceParams, Gate.params]; split <;> rfl
  | dag w ih => rw [Gate.bind, ih, Gate.isCD, Gate.replaceParams, Gate.params]; split <;> rfl
  | exp | pow => rfl

theorem bind_ok_isCD {m : SymMap} {g g' : Gate} (h : g.bind m = .ok g') : g.isCD = true := by
  rw [bind_eq] at h
  by_contra hcd
  rw [if_neg hcd] at h; cases h

theorem bind_eq_replaceParams {m : SymMap} {g g' : Gate} (h : g.bind m = .ok g') :
    g.replaceParams (g.params.map (subSymbols m)) = .ok g' := by
  rw [← h, bind_eq, if_pos (bind_ok_isCD h)]

theorem bind_cd (m : SymMap) {g : Gate} (h : g.isCD = true) :
    ∃ g', g.bind m = .ok g' ∧ g'.isCD = true := by
  rw [bind_eq, if_pos h]; exact replaceParams_cd _ h

theorem isCD_bind {m : SymMap} {g g' : Gate} (h : g.bind m = .ok g') : g'.isCD = true :=
  Res.of_exists_ok (bind_cd m (bind_ok_isCD h)) h

theorem params_bind {m : SymMap} {g g' : Gate} (h : g.bind m = .ok g') :
    g'.params = g.params.map (subSymbols m) :=
  params_replaceParams (bind_eq_replaceParams h)

theorem Transparent.bind {X X' : Gate → Prop} {C : Nat → Prop} (T : Transparent X C) (T' : Transparent X' C)
    {m : SymMap} {g g' : Gate}
    (leaf : ∀ nm fac nq herm, X (.mf nm fac g.params nq herm) → X' (.mf nm fac (g.params.map (subSymbols m)) nq herm))
    (hx : X g) (h : g.bind m = .ok g') : X' g' :=
  T.replaceParams T' leaf hx (bind_eq_replaceParams h)

/-- the laws of the real wrappers used by the re-association rules of `.controlled` / `.dagger`
    (block-diagonal controls add up, the adjoint is an involution and commutes with the control block) -/
structure Laws {V M : Type} (S : Sem V M) : Prop where
  ctrl_ctrl : ∀ a b X, S.ctrl b (S.ctrl a X) = S.ctrl (a + b) X
  dag_dag : ∀ X, S.dag (S.dag X) = X
  dag_ctrl : ∀ n X, S.dag (S.ctrl n X) = S.ctrl n (S.dag X)

/-- the `is_hermitian` flag of every factory gate in the chain tells the truth (for all parameter values) -/
def HermOK {V M : Type} (S : Sem V M) : Gate → Prop
  | .mf _ fac _ _ herm => herm = true → ∀ ps ρ, S.dag (mfMatrix S ρ fac ps) = mfMatrix S ρ fac ps
  | .ctrl g _ => HermOK S g
  | .dag g => HermOK S g
  | .exp g => HermOK S g
  | .pow g _ => HermOK S g

/-- a custom gate is applied to at least as many params as its definition orders, and the stored
    matrix mentions only the ordered symbols -/
def CustomOK : Gate → Prop
  | .mf _ (.custom mat ord) ps _ _ => ord.length ≤ ps.length ∧ ∀ row ∈ mat, ∀ e ∈ row, ∀ s ∈ e.symbols, s ∈ ord
  | .mf _ (.builtin _) _ _ _ => True
  | .ctrl g _ => CustomOK g
  | .dag g => CustomOK g
  | .exp g => CustomOK g
  | .pow g _ => CustomOK g

theorem transparent_hermOK {V M : Type} (S : Sem V M) : Transparent (HermOK S) (fun _ => True) :=
  .of_forward Iff.rfl Iff.rfl Iff.rfl Iff.rfl

theorem transparent_customOK : Transparent CustomOK (fun _ => True) :=
  .of_forward Iff.rfl Iff.rfl Iff.rfl Iff.rfl

theorem hermOK_bind {V M : Type} (S : Sem V M) {m : SymMap} {g g' : Gate} (hh : HermOK S g) (h : g.bind m = .ok g') :
    HermOK S g' :=
  (transparent_hermOK S).bind (transparent_hermOK S) (fun _ _ _ _ => id) hh h

theorem customOK_bind {m : SymMap} {g g' : Gate} (hc : CustomOK g) (h : g.bind m = .ok g') : CustomOK g' := by
  refine transparent_customOK.bind transparent_customOK (fun nm fac nq herm hc => ?_) hc h
  cases fac with
  | builtin b => trivial
  | custom mat ord => exact ⟨by rw [List.length_map]; exact hc.1, hc.2⟩

theorem dagger_matrix {V M : Type} (S : Sem V M) (L : Laws S) (ρ : String → V) {g g' : Gate}
    (hcd : g.isCD = true) (hh : HermOK S g) (h : g.dagger = .ok g') :
    gateMatrix S ρ g' = S.dag (gateMatrix S ρ g) ∧ HermOK S g' := by
  refine ⟨?_, (transparent_hermOK S).dagger hh h⟩
  induction g generalizing g' with
  | mf nm fac ps nq herm =>
    cases herm <;> cases h
    · rfl
    · exact (hh rfl ps ρ).symm
  | ctrl w k ih =>
    obtain ⟨w', hw, rfl⟩ := Res.map_eq_ok h
    rw [gateMatrix, ih hcd hh hw, gateMatrix, L.dag_ctrl]
  | dag w => cases h; exact (L.dag_dag _).symm
  | exp | pow => cases hcd

theorem controlled_matrix {V M : Type} (S : Sem V M) (L : Laws S) (ρ : String → V) {g g' : Gate} {n : Nat}
    (hcd : g.isCD = true) (hh : HermOK S g) (h : g.controlled n = .ok g') :
    gateMatrix S ρ g' = S.ctrl n (gateMatrix S ρ g) := by
  induction g generalizing g' with
  | mf nm fac ps nq herm => cases h; rfl
  | ctrl w k => cases h; exact (L.ctrl_ctrl k n _).symm
  | dag w ih =>
    obtain ⟨w', hw, h2⟩ := Res.bind_eq_ok h
    rw [(dagger_matrix S L ρ (Res.of_exists_ok (controlled_cd (g := w) n hcd) hw)
      ((transparent_hermOK S).controlled (g := w) trivial hh hw) h2).1, ih hcd hh hw, L.dag_ctrl]
    rfl
  | exp | pow => cases hcd

theorem mfMatrix_custom_congr {V M : Type} (S : Sem V M) {ρ ρ' : String → V} {mat : List (List PExpr)}
    {ord : List String} {ps ps' : List Param} (hclosed : ∀ row ∈ mat, ∀ e ∈ row, ∀ s ∈ e.symbols, s ∈ ord)
    (h : ∀ s ∈ ord, comp S.alg ρ (customDict ord ps) s = comp S.alg ρ' (customDict ord ps') s) :
    mfMatrix S ρ (.custom mat ord) ps = mfMatrix S ρ' (.custom mat ord) ps' := by
  simp only [mfMatrix, customEntries, List.map_map]
  congr 1
  refine List.map_congr_left fun row hrow => ?_
  simp only [Function.comp, List.map_map]
  refine List.map_congr_left fun e he => ?_
  simp only [Function.comp, eval_subst]
  exact eval_congr _ _ _ e fun s hs => h s (hclosed row hrow e he s hs)

theorem keys_customDict (ord : List String) (ps : List Param) (h : ord.length ≤ ps.length) :
    keys (customDict ord ps) = ord.reverse := by
  unfold keys customDict
  rw [List.map_reverse]
  exact congrArg List.reverse (List.map_fst_zip h)

theorem zip_fst_sublist (ord : List String) (ps : List Param) :
    ((List.zip ord ps).map (fun kv => kv.1)).Sublist ord := by
  induction ord generalizing ps with
  | nil => exact List.Sublist.slnil
  | cons a as ih =>
    cases ps with
    | nil => exact List.nil_sublist _
    | cons p ps => exact (ih ps).cons_cons a

theorem keys_customDict_nodup (ord : List String) (ps : List Param) (hn : ord.Nodup) :
    (keys (customDict ord ps)).Nodup := by
  unfold keys customDict
  rw [List.map_reverse, List.nodup_reverse]
  exact hn.sublist (zip_fst_sublist ord ps)

theorem lookup_customDict {ord : List String} {ps : List Param} {s : String} (hs : s ∈ ord)
    (hlen : ord.length ≤ ps.length) : ∃ v ∈ ps, lookup (customDict ord ps) s = some v := by
  have hk : s ∈ keys (customDict ord ps) := by rw [keys_customDict ord ps hlen]; exact List.mem_reverse.mpr hs
  obtain ⟨v, hv⟩ := Option.isSome_iff_exists.mp ((lookup_isSome_iff _ s).mpr hk)
  exact ⟨v, (List.of_mem_zip (List.mem_reverse.mp (mem_of_lookup_eq_some hv))).2, hv⟩

theorem customDict_map (f : Param → Param) (ord : List String) (ps : List Param) :
    customDict ord (ps.map f) = (customDict ord ps).map (fun kv => (kv.1, f kv.2)) := by
  unfold customDict
  rw [List.zip_map_right, List.map_reverse]
  congr 1

theorem mfMatrix_bind {V M : Type} (S : Sem V M) (ρ : String → V) (m : SymMap) (nm : String)
    (fac : Factory) (ps : List Param) (nq : Nat) (herm : Bool) (hc : CustomOK (.mf nm fac ps nq herm)) :
    mfMatrix S ρ fac (ps.map (subSymbols m)) = mfMatrix S (comp S.alg ρ m) fac ps := by
  cases fac with
  | builtin b =>
    simp only [mfMatrix, List.map_map]
    congr 1
    exact List.map_congr_left fun p _ => eval_subSymbols S.alg ρ m p
  | custom mat ord =>
    refine mfMatrix_custom_congr S hc.2 fun s hs => ?_
    obtain ⟨v, _, hv⟩ := lookup_customDict hs hc.1
    simp only [comp, customDict_map, lookup_mapValues, hv, Option.map_some]
    exact eval_subSymbols S.alg ρ m v

theorem mfMatrix_congr {V M : Type} (S : Sem V M) (ρ ρ' : String → V) (nm : String) (fac : Factory)
    (ps : List Param) (nq : Nat) (herm : Bool) (hc : CustomOK (.mf nm fac ps nq herm))
    (hp : ∀ p ∈ ps, p.eval S.alg ρ = p.eval S.alg ρ') : mfMatrix S ρ fac ps = mfMatrix S ρ' fac ps := by
  cases fac with
  | builtin b => exact congrArg (S.builtin b) (List.map_congr_left hp)
  | custom mat ord =>
    refine mfMatrix_custom_congr S hc.2 fun s hs => ?_
    obtain ⟨v, hv, hl⟩ := lookup_customDict hs hc.1
    simp only [comp, hl]
    exact hp v hv

theorem mapRes_cons {α β} (f : α → Res β) (a : α) (as : List α) :
    mapRes f (a :: as) = (f a).bind fun b => (mapRes f as).map (b :: ·) := by
  rw [mapRes]
  cases f a with
  | err e => rfl
  | ok b => cases mapRes f as <;> rfl

theorem mapRes_ok {α β} {f : α → Res β} {l : List α} {l' : List β} (h : mapRes f l = .ok l') :
    List.Forall₂ (fun a b => f a = .ok b) l l' := by
  induction l generalizing l' with
  | nil => cases h; exact List.Forall₂.nil
  | cons a as ih =>
    rw [mapRes_cons] at h
    obtain ⟨b, hb, h⟩ := Res.bind_eq_ok h
    obtain ⟨bs, hbs, rfl⟩ := Res.map_eq_ok h
    exact List.Forall₂.cons hb (ih hbs)

theorem mapRes_of_forall₂ {α β} {f : α → Res β} {l : List α} {l' : List β}
    (h : List.Forall₂ (fun a b => f a = .ok b) l l') : mapRes f l = .ok l' := by
  induction h with
  | nil => rfl
  | cons hab _ ih => rw [mapRes_cons, hab, ih]; rfl

theorem mapRes_err_mem {α β} {f : α → Res β} {l : List α} {e : Err} (h : mapRes f l = .err e) :
    ∃ a ∈ l, f a = .err e := by
  induction l with
  | nil => cases h
  | cons a as ih =>
    rw [mapRes_cons] at h
    cases hfa : f a with
    | err e' => rw [hfa] at h; cases h; exact ⟨a, List.mem_cons_self, hfa⟩
    | ok b =>
      rw [hfa] at h
      cases hr : mapRes f as with
      | err e' =>
        rw [hr] at h; cases h
        exact (ih hr).imp fun x hx => ⟨List.mem_cons_of_mem _ hx.1, hx.2⟩
      | ok bs => rw [hr] at h; cases h

theorem mapRes_all_ok {α β} (f : α → Res β) (l : List α) (h : ∀ a ∈ l, ∃ b, f a = .ok b) :
    ∃ l', mapRes f l = .ok l' := by
  cases hr : mapRes f l with
  | ok l' => exact ⟨l', rfl⟩
  | err e =>
    obtain ⟨a, ha, hfa⟩ := mapRes_err_mem hr
    obtain ⟨b, hb⟩ := h a ha
    cases hfa.symm.trans hb

theorem mapRes_congr₂ {α α' β} {f : α → Res β} {g : α' → Res β} {l : List α} {l' : List α'}
    (h : List.Forall₂ (fun a b => f a = g b) l l') : mapRes f l = mapRes g l' := by
  induction h with
  | nil => rfl
  | cons hab _ ih => rw [mapRes_cons, mapRes_cons, hab, ih]

theorem map_eq_map_of_forall₂ {α β γ} {f : α → γ} {g : β → γ} {l : List α} {l' : List β}
    (h : List.Forall₂ (fun a b => f a = g b) l l') : l.map f = l'.map g := by
  rwa [← List.forall₂_eq_eq_eq, List.forall₂_map_left_iff, List.forall₂_map_right_iff]

/-- specification: keep the first occurrence of every symbol -/
def firstAppearance : List String → List String
  | [] => []
  | x :: xs => x :: (firstAppearance xs).filter (fun y => y ≠ x)

theorem addUnseen_eq (acc l : List String) :
    addUnseen acc l = acc ++ (firstAppearance l).filter (fun y => y ∉ acc) := by
  induction l generalizing acc with
  | nil => simp [addUnseen, firstAppearance]
  | cons x xs ih =>
    rw [show addUnseen acc (x :: xs) = addUnseen (if x ∈ acc then acc else acc ++ [x]) xs from rfl, ih, firstAppearance,
      List.filter_cons, List.filter_filter]
    by_cases hx : x ∈ acc
    · -- `x` is not appended, and what is not in `acc` differs from `x` anyway
      rw [if_pos hx, if_neg fun h => absurd hx (of_decide_eq_true h)]
      exact congrArg _ (List.filter_congr fun y _ => Bool.eq_self_and.mpr fun hy =>
        decide_eq_true fun (e : y = x) => absurd (e ▸ hx) (of_decide_eq_true hy))
    · rw [if_neg hx, if_pos (decide_eq_true hx), List.append_assoc, List.singleton_append]
      exact congrArg _ (congrArg _ (List.filter_congr fun y _ => by simp [Bool.and_comm]))

theorem foldl_addUnseen (acc : List String) (ls : List (List String)) :
    ls.foldl addUnseen acc = addUnseen acc ls.flatten := by
  induction ls generalizing acc with
  | nil => rfl
  | cons l ls ih =>
    simp only [List.foldl_cons, ih, List.flatten_cons]
    unfold addUnseen
    rw [List.foldl_append]

theorem mem_firstAppearance (x : String) (l : List String) : x ∈ firstAppearance l ↔ x ∈ l := by
  induction l with
  | nil => rfl
  | cons a as ih =>
    simp only [firstAppearance, List.mem_cons, List.mem_filter, ih, decide_eq_true_eq]
    by_cases h : x = a <;> simp [h]

theorem firstAppearance_eq_nil {l : List String} : firstAppearance l = [] ↔ l = [] := by
  cases l <;> simp [firstAppearance]

theorem nodup_firstAppearance (l : List String) : (firstAppearance l).Nodup := by
  induction l with
  | nil => exact List.nodup_nil
  | cons a as ih =>
    simp only [firstAppearance, List.nodup_cons, List.mem_filter, decide_eq_true_eq]
    exact ⟨fun h => h.2 rfl, ih.filter _⟩

theorem sublist_firstAppearance (l : List String) : (firstAppearance l).Sublist l := by
  induction l with
  | nil => exact List.Sublist.slnil
  | cons a as ih => exact List.Sublist.cons_cons a ((List.filter_sublist).trans ih)

theorem firstAppearance_order (l : List String) :
    (firstAppearance l).Pairwise (fun a b => l.idxOf a < l.idxOf b) := by
  induction l with
  | nil => exact List.Pairwise.nil
  | cons x xs ih =>
    simp only [firstAppearance, List.pairwise_cons]
    constructor
    · intro b hb
      simp only [List.mem_filter, decide_eq_true_eq] at hb
      rw [List.idxOf_cons_self, List.idxOf_cons_ne _ (Ne.symm hb.2)]
      omega
    · apply (ih.filter _).imp_of_mem
      intro a b ha hb hab
      simp only [List.mem_filter, decide_eq_true_eq] at ha hb
      rw [List.idxOf_cons_ne _ (Ne.symm ha.2), List.idxOf_cons_ne _ (Ne.symm hb.2)]
      omega

theorem circuit_freeSymbols_eq (c : Circuit) :
    c.freeSymbols = firstAppearance (c.ops.flatMap Op.freeSymbols) := by
  have h : c.freeSymbols = (c.ops.map Op.freeSymbols).foldl addUnseen [] := (List.foldl_map ..).symm
  rw [h, foldl_addUnseen, addUnseen_eq, List.flatMap_def]
  simp

def Op.HermOK {V M : Type} (S : Sem V M) : Op → Prop
  | .gate g _ => OQ.C06.HermOK S g
  | _ => True

def Op.CustomOK : Op → Prop
  | .gate g _ => OQ.C06.CustomOK g
  | _ => True

/-- every circuit the constructor can produce -/
def Circuit.WF (c : Circuit) : Prop := c.nQubits ≠ 0 ∨ c.nQubits = sizeByOps c.ops

theorem mkCircuit_wf (ops : List Op) (n : Nat) : (mkCircuit ops n).WF := by
  unfold mkCircuit
  split
  · exact Or.inl ‹_›
  · exact Or.inr rfl

theorem op_qubits_bind {m : SymMap} {o o' : Op} (h : o.bind m = .ok o') : o'.qubits = o.qubits := by
  cases o with
  | gate g qs => obtain ⟨g', _, rfl⟩ := Res.map_eq_ok h; rfl
  | multiPhase ps => cases h; simp only [Op.qubits, List.length_map]
  | reset q => cases h; rfl

theorem op_params_bind {m : SymMap} {o o' : Op} (h : o.bind m = .ok o') :
    o'.params = o.params.map (subSymbols m) := by
  cases o with
  | gate g qs => obtain ⟨g', hg, rfl⟩ := Res.map_eq_ok h; exact params_bind hg
  | multiPhase ps | reset q => cases h; rfl

theorem circuit_bind_ops {m : SymMap} {c c' : Circuit} (hwf : c.WF) (h : c.bind m = .ok c') :
    List.Forall₂ (fun a b => Op.bind m a = .ok b) c.ops c'.ops ∧ c'.nQubits = c.nQubits := by
  obtain ⟨ops', hops, rfl⟩ := Res.map_eq_ok h
  have hf := mapRes_ok hops
  unfold mkCircuit
  by_cases hn : c.nQubits ≠ 0
  · rw [if_pos hn]; exact ⟨hf, rfl⟩
  · rw [if_neg hn]
    refine ⟨hf, ?_⟩
    -- the width is recomputed from the qubits of the operations, which `bind` keeps
    have hq : ops'.map Op.qubits = c.ops.map Op.qubits :=
      (map_eq_map_of_forall₂ (hf.imp fun _ _ hab => (op_qubits_bind hab).symm)).symm
    rw [hwf.resolve_left hn]
    unfold sizeByOps
    rw [List.flatMap_def, List.flatMap_def, hq]

theorem op_bind_total (m : SymMap) {o : Op} (h : ∀ g qs, o = .gate g qs → g.isCD = true) : ∃ o', o.bind m = .ok o' := by
  cases o with
  | gate g qs =>
    obtain ⟨g', hg, _⟩ := bind_cd m (h g qs rfl)
    exact ⟨.gate g' qs, by rw [Op.bind, hg]; rfl⟩
  | multiPhase ps | reset q => exact ⟨_, rfl⟩

theorem op_bind_bind {m1 m2 : SymMap} (hnm : NoMention m1 m2) {o o1 o2 : Op}
    (h1 : o.bind m1 = .ok o1) (h2 : o1.bind m2 = .ok o2) :
    ∃ o12, o.bind (m1 ++ m2) = .ok o12 ∧ o12.params = o2.params := by
  have hp : o2.params = o.params.map (subSymbols (m1 ++ m2)) := by
    rw [op_params_bind h2, op_params_bind h1, List.map_map]
    exact List.map_congr_left fun p _ => subSymbols_subSymbols m1 m2 hnm p
  obtain ⟨o12, h12⟩ := op_bind_total (o := o) (m1 ++ m2) fun g qs ho => by
    subst ho
    obtain ⟨g1, hg1, _⟩ := Res.map_eq_ok h1
    exact bind_ok_isCD hg1
  exact ⟨o12, h12, by rw [op_params_bind h12, hp]⟩

theorem forall₂_bind_bind {m1 m2 : SymMap} (hnm : NoMention m1 m2) {l l1 l2 : List Op}
    (h1 : List.Forall₂ (fun a b => Op.bind m1 a = .ok b) l l1)
    (h2 : List.Forall₂ (fun a b => Op.bind m2 a = .ok b) l1 l2) :
    ∃ l12, mapRes (Op.bind (m1 ++ m2)) l = .ok l12 ∧ l12.map Op.params = l2.map Op.params := by
  induction h1 generalizing l2 with
  | nil => cases h2; exact ⟨[], rfl, rfl⟩
  | cons hab _ ih =>
    cases h2 with
    | cons hbc hrest =>
      obtain ⟨o12, ho12, hp⟩ := op_bind_bind hnm hab hbc
      obtain ⟨l12, hl12, hps⟩ := ih hrest
      exact ⟨o12 :: l12, by rw [mapRes_cons, ho12, hl12]; rfl, by rw [List.map_cons, List.map_cons, hp, hps]⟩

/-- free matrices: a base matrix (name + evaluated entries) under a number of controls and an
    adjoint mark; other constructions are kept as terms -/
inductive FM
  | g (ctrls : Nat) (dagged : Bool) (name : String) (entries : List (List (Option Rat)))
  | exp (x : FM)
  | pow (x : FM) (e : Rat)
  | lift (x : FM) (qs : List Nat) (n : Nat)
  | mul (x y : FM)
deriving DecidableEq, Repr

def hermNames : List String := ["X", "Y", "Z", "H", "I", "CNOT", "CZ", "SWAP"]

def freeSem : Sem (Option Rat) FM where
  alg := ratAlg
  builtin nm vs := .g 0 false nm [vs]
  ofEntries es := .g 0 false "custom" es
  ctrl n X := match X with
    | .g c d nm es => .g (c + n) d nm es
    | X => X
  dag X := match X with
    | .g c d nm es => if nm ∈ hermNames then .g c d nm es else .g c (!d) nm es
    | X => X
  exp := .exp
  pow := .pow
  lift := .lift
  mul := .mul

theorem freeSem_laws : Laws freeSem where
  ctrl_ctrl a b X := by
    cases X with
    | g c d nm es => exact congrArg (FM.g · d nm es) (Nat.add_assoc c a b)
    | _ => rfl
  dag_dag X := by
    cases X with
    | g c d nm es =>
      show freeSem.dag (if nm ∈ hermNames then .g c d nm es else .g c (!d) nm es) = .g c d nm es
      by_cases h : nm ∈ hermNames
      · rw [if_pos h]; exact if_pos h
      · rw [if_neg h]; exact (if_neg h).trans (by rw [Bool.not_not])
    | _ => rfl
  dag_ctrl n X := by
    cases X with
    | g c d nm es =>
      show (if nm ∈ hermNames then FM.g (c + n) d nm es else .g (c + n) (!d) nm es)
        = freeSem.ctrl n (if nm ∈ hermNames then .g c d nm es else .g c (!d) nm es)
      by_cases h : nm ∈ hermNames
      · rw [if_pos h, if_pos h]; rfl
      · rw [if_neg h, if_neg h]; rfl
    | _ => rfl

end OQ.C06
