/- For the translation ties of `OQ/Props/C19_TranslatedKeys.lean`: the Python prelude (`OQ/Exec/Py.lean`, T6 block) against the
   model's notions of digit groups, key items and key comparison; `str.split`, `int(str)` and dict lookup on the shapes the key
   factory `natural_key_fixed_names_order` meets. -/
import OQ.Exec.Py
import OQ.Lemmas.C19
namespace OQ.C19
open OQ.Py

/-- a key item of the model as the Python value it stands for -/
def KeyItem.toPy : KeyItem → IntOrStr
  | .s cs => .str cs
  | .n k => .int (k : Int)

theorem isDig_iff (c : Char) : isDig c = true ↔ 48 ≤ c.toNat ∧ c.toNat ≤ 57 := by
  simp [isDig]

theorem isAsciiDigit_eq (c : Char) : isAsciiDigit c = isDig c := by
  simp [isAsciiDigit, isDig]

theorem reSplitDigitsGo_eq (b : Bool) (acc s : List Char) : reSplitDigitsGo b acc s = splitGo b acc s := by
  induction s generalizing b acc with
  | nil => cases b <;> rfl
  | cons c cs ih => cases b <;> simp only [reSplitDigitsGo, splitGo, isAsciiDigit_eq, ih]

theorem intOfDigits_eq (g : List Char) (h : ∀ c ∈ g, isDig c = true) : intOfDigits g = ((valDigits g : Nat) : Int) := by
  suffices H : ∀ a : Nat, g.foldl (fun acc c => 10 * acc + charDigit c) (a : Int) =
      (g.foldl (fun a c => 10 * a + (c.toNat - '0'.toNat)) a : Nat) from H 0
  induction g with
  | nil => exact fun _ => rfl
  | cons c cs ih =>
    intro a
    have hc := ((isDig_iff c).mp (h c (List.mem_cons_self ..))).1
    rw [List.foldl_cons, List.foldl_cons, ← ih fun x hx => h x (List.mem_cons_of_mem _ hx)]
    congr 1
    rw [charDigit, show '0'.toNat = 48 from rfl]
    omega

theorem toPy_injective (a b : KeyItem) (h : a.toPy = b.toPy) : a = b := by
  cases a <;> cases b <;> simp [KeyItem.toPy] at h <;> simp [h]

theorem cmpStr_eq (a b : List Char) : cmpStr a b = cmpChars a b := by
  induction a generalizing b with
  | nil => cases b <;> rfl
  | cons x xs ih => cases b with
    | nil => rfl
    | cons y ys => simp only [cmpStr, cmpChars, ih]

theorem cmpIntOrStr_toPy (a b : KeyItem) : cmpIntOrStr a.toPy b.toPy = cmpItem a b := by
  cases a <;> cases b <;> simp [KeyItem.toPy, cmpIntOrStr, cmpItem, cmpStr_eq]
  rename_i m n
  simp only [compare, compareOfLessAndEq, Int.ofNat_lt, Int.natCast_inj]

theorem cmpKeys_toPy (k₁ k₂ : List KeyItem) :
    cmpKeys (k₁.map KeyItem.toPy) (k₂.map KeyItem.toPy) = cmpKey k₁ k₂ := by
  induction k₁ generalizing k₂ with
  | nil => cases k₂ <;> rfl
  | cons a as ih =>
    cases k₂ with
    | nil => rfl
    | cons b bs =>
      simp only [List.map_cons, cmpKeys, cmpKey]
      by_cases hab : a = b
      · subst hab; simp [ih]
      · have : a.toPy ≠ b.toPy := fun h => hab (toPy_injective a b h)
        simp [this, hab, cmpIntOrStr_toPy]

theorem splitCharGo_run (sep : Char) (a r acc : List Char) (ha : sep ∉ a) :
    splitCharGo sep acc (a ++ r) = splitCharGo sep (a.reverse ++ acc) r := by
  induction a generalizing acc with
  | nil => rfl
  | cons c cs ih =>
    have hc : (c == sep) = false := beq_false_of_ne fun h => ha (h ▸ List.mem_cons_self ..)
    rw [List.cons_append, splitCharGo, hc, if_neg Bool.false_ne_true, ih _ fun h => ha (List.mem_cons_of_mem _ h),
      List.reverse_cons, List.append_assoc, List.singleton_append]

theorem splitChar_stem_digits (stem d : List Char) (hs : '_' ∉ stem) (hd : ∀ c ∈ d, isDig c = true) :
    splitChar (stem ++ '_' :: d) '_' = [stem, d] := by
  have hdu : '_' ∉ d := fun h => absurd (hd _ h) (by decide)
  have := splitCharGo_run '_' d [] [] hdu
  rw [List.append_nil] at this
  rw [splitChar, splitCharGo_run _ _ _ _ hs, splitCharGo, if_pos (beq_self_eq_true _), this]
  simp [splitCharGo]

theorem splitCharGo_length (sep : Char) (s acc : List Char) :
    (splitCharGo sep acc s).length = s.count sep + 1 := by
  induction s generalizing acc with
  | nil => simp [splitCharGo]
  | cons c cs ih =>
    rw [splitCharGo, List.count_cons]
    split <;> simp [ih]

theorem natParseGo_digits (d : List Char) (hd : ∀ c ∈ d, isDig c = true) (pd : Bool) (acc : Nat)
    (h : pd = true ∨ d ≠ []) :
    natParseGo pd acc d = some (d.foldl (fun a c => 10 * a + (c.toNat - '0'.toNat)) acc) := by
  induction d generalizing pd acc with
  | nil =>
    rcases h with rfl | h
    · rfl
    · exact absurd rfl h
  | cons c cs ih =>
    have hc : isAsciiDigit c = true := by rw [isAsciiDigit_eq]; exact hd c (by simp)
    simp only [natParseGo, hc, if_true, List.foldl_cons]
    exact ih (fun c h => hd c (by simp [h])) true _ (Or.inl rfl)

theorem digit_not_space (c : Char) (h : isDig c = true) : isAsciiSpace c = false := by
  have h48 := ((isDig_iff c).mp h).1
  rw [isAsciiSpace, Bool.or_eq_false_iff]
  exact ⟨beq_false_of_ne (by rintro rfl; exact absurd h48 (by decide)), by simp; omega⟩

theorem intParse_digits (d : List Char) (hne : d ≠ []) (hd : ∀ c ∈ d, isDig c = true) :
    intParse d = .ok ((valDigits d : Nat) : Int) := by
  have hsp : ∀ l : List Char, (∀ c ∈ l, isDig c = true) → l.dropWhile isAsciiSpace = l := by
    intro l hl
    cases l with
    | nil => rfl
    | cons c cs => simp [digit_not_space c (hl c (List.mem_cons_self ..))]
  have hn := natParseGo_digits d hd false 0 (.inr hne)
  unfold intParse
  simp only [hsp d hd, hsp d.reverse fun c hc => hd c (List.mem_reverse.mp hc), List.reverse_reverse]
  -- a digit string starts with no sign: in both outcomes of the parse only the unsigned reading of `d` remains
  split <;> rename_i heq <;> split at heq
  · exact absurd (hd _ (List.mem_cons_self ..)) (by decide)
  · exact absurd (hd _ (List.mem_cons_self ..)) (by decide)
  · rw [hn] at heq; cases heq; rfl
  · exact absurd (hd _ (List.mem_cons_self ..)) (by decide)
  · exact absurd (hd _ (List.mem_cons_self ..)) (by decide)
  · rw [hn] at heq; cases heq

section dict
variable {κ ν : Type} [BEq κ] [LawfulBEq κ] {d : Dict κ ν} {k : κ}

theorem dictGet_eq_ok {v : ν} (hm : (k, v) ∈ d) (hu : ∀ v', (k, v') ∈ d → v' = v) : dictGet d k = .ok v := by
  unfold dictGet
  cases hf : d.reverse.find? (fun p => p.1 == k) with
  | none => exact absurd (beq_self_eq_true k) (List.find?_eq_none.mp hf (k, v) (List.mem_reverse.mpr hm))
  | some q =>
    have hk := List.find?_some hf
    have hq := List.mem_reverse.mp (List.mem_of_find?_eq_some hf)
    rw [← eq_of_beq hk] at hu
    exact congrArg _ (hu q.2 hq)

theorem dictGet_eq_error (h : ∀ v, (k, v) ∉ d) : dictGet d k = .error .KeyError := by
  unfold dictGet
  rw [List.find?_eq_none.mpr fun ⟨k', v⟩ hq hk => h v (eq_of_beq hk ▸ List.mem_reverse.mp hq)]
end dict

/-- the dict `{name: i for i, name in enumerate(names_order)}` as the translated code builds it -/
def weights (names : List (List Char)) : Dict (List Char) Int :=
  ((names.zipIdx.map (fun (_p : (List Char) × Nat) => (((_p.2 : Nat) : Int), _p.1))).map
    (fun (p0 : Int × (List Char)) => let i : Int := p0.1; let name : List Char := p0.2; (name, i)))

theorem mem_weights (names : List (List Char)) (k : List Char) (v : Int) :
    (k, v) ∈ weights names ↔ ∃ i : Nat, names[i]? = some k ∧ v = (i : Int) := by
  simp only [weights, List.map_map, List.mem_map, Function.comp, Prod.mk.injEq, Prod.exists, List.mem_zipIdx_iff_getElem?]
  constructor
  · rintro ⟨a, b, h, rfl, rfl⟩; exact ⟨b, by simpa using h, rfl⟩
  · rintro ⟨i, h, rfl⟩; exact ⟨k, i, by simpa using h, rfl, rfl⟩

theorem dictGet_weights (names : List (List Char)) (hnd : names.Nodup) (stem : List Char) (i : Nat)
    (hi : names[i]? = some stem) : dictGet (weights names) stem = .ok (i : Int) :=
  dictGet_eq_ok ((mem_weights ..).mpr ⟨i, hi, rfl⟩) fun v' h' => by
    obtain ⟨j, hj, rfl⟩ := (mem_weights ..).mp h'
    rw [(List.getElem?_inj (List.getElem?_eq_some_iff.mp hj).1 hnd).mp (hj.trans hi.symm)]

theorem dictGet_weights_missing (names : List (List Char)) (stem : List Char) (h : stem ∉ names) :
    dictGet (weights names) stem = .error .KeyError :=
  dictGet_eq_error fun _ h' => let ⟨_, hj, _⟩ := (mem_weights ..).mp h'; h (List.mem_of_getElem? hj)

end OQ.C19
