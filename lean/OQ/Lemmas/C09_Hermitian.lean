/- Orthogonality of Pauli strings under the trace, hence their linear independence; the Hermiticity test. -/
import OQ.Lemmas.C09_Expand
import Mathlib.LinearAlgebra.Matrix.ConjTranspose
set_option linter.unusedSectionVars false
namespace OQ.C09
open OQ OQ.Pauli Finset

variable {R : Type} [CommRing R]

/-- `tr(P_a · P_b)` -/
def Tr (k : Scal R) (n : Nat) (a b : Nat → Option P) : R :=
  ∑ i ∈ range (2 ^ n), ∑ j ∈ range (2 ^ n), strEntry k a n i j * strEntry k b n j i

theorem one_qubit_trace (k : Scal R) (hi : k.i * k.i = -1) (o o' : Option P) :
    ∑ α ∈ range 2, ∑ β ∈ range 2, pe k o α β * pe k o' β α = if o = o' then 2 else 0 := by
  have h : ∀ f : Nat → Nat → R, ∑ α ∈ range 2, ∑ β ∈ range 2, f α β = f 0 0 + f 0 1 + (f 1 0 + f 1 1) := fun f => by
    simp only [Finset.sum_range_succ, Finset.sum_range_zero, zero_add]
  rw [h]
  rcases o with _ | _ | _ | _ <;> rcases o' with _ | _ | _ | _ <;>
    simp only [pe, reduceIte, reduceCtorEq, Option.some.injEq, zero_add, mul_zero, mul_one, add_zero, zero_mul,
      zero_ne_one, one_ne_zero, neg_mul, mul_neg, one_mul, hi, neg_neg, neg_add_cancel, add_neg_cancel, one_add_one_eq_two]

theorem Tr_succ (k : Scal R) (n : Nat) (a b : Nat → Option P) :
    Tr k (n + 1) a b = Tr k n a b * ∑ α ∈ range 2, ∑ β ∈ range 2, pe k (a n) α β * pe k (b n) β α := by
  unfold Tr
  rw [pow_succ, Nat.mul_comm, sum_range_mul, Finset.sum_mul]
  simp only [sum_range_mul 2, strEntry]
  refine Finset.sum_congr rfl fun i _ => ?_
  rw [Finset.sum_comm, Finset.sum_mul]
  refine Finset.sum_congr rfl fun j _ => ?_
  rw [Finset.mul_sum]
  refine Finset.sum_congr rfl fun α hα => ?_
  rw [Finset.mul_sum]
  refine Finset.sum_congr rfl fun β hβ => ?_
  have hα2 := Finset.mem_range.1 hα
  have hβ2 := Finset.mem_range.1 hβ
  rw [two_mul_add_div _ _ hα2, two_mul_add_div _ _ hβ2, two_mul_add_mod _ _ hα2, two_mul_add_mod _ _ hβ2]
  ring

theorem Tr_eq (k : Scal R) (hi : k.i * k.i = -1) (n : Nat) (a b : Nat → Option P) :
    Tr k n a b = ∏ q ∈ range n, if a q = b q then 2 else 0 := by
  induction n with
  | zero => simp [Tr, strEntry]
  | succ n ih => rw [Tr_succ, one_qubit_trace k hi, ih, Finset.prod_range_succ]

/-- the library's float comparisons, instantiated exactly -/
structure TolExact (tol : Tol R) : Prop where
  negl : ∀ x, tol.negl x = true ↔ x = 0
  close : ∀ a b, tol.close a b = true ↔ a = b
  hashEq : ∀ a b, tol.hashEq a b = true ↔ a = b

theorem toSet_id (tol : Tol R) (s : List (Term R)) (h : s.Pairwise (fun a b => sameOps a.ops b.ops = false)) :
    toSet tol s = s := by
  suffices key : ∀ acc : List (Term R), (acc ++ s).Pairwise (fun a b => sameOps a.ops b.ops = false) →
      s.foldl (fun S x => if setMem tol x S then S else S ++ [x]) acc = acc ++ s from key [] h
  clear h
  induction s with
  | nil => exact fun acc _ => (List.append_nil acc).symm
  | cons x s ih =>
    intro acc hacc
    have hm : setMem tol x acc = false := List.any_eq_false.2 fun y hy => by
      rw [termHashEq, (List.pairwise_append.1 hacc).2.2 y hy x List.mem_cons_self, Bool.and_false, Bool.false_and]
      exact Bool.false_ne_true
    rw [List.foldl_cons, hm, if_neg Bool.false_ne_true, ih (acc ++ [x]) (by rwa [List.append_assoc]), List.append_assoc]
    rfl

theorem distinct_ops (s : PSum R) (hwf : SumWF s) (hp : s.Pairwise (fun a b => sameOps a.ops b.ops = false))
    (u x : Term R) (hu : u ∈ s) (hx : x ∈ s) (h : sameOps u.ops x.ops = true) : u = x := by
  by_contra hne
  have hp' : s.Pairwise (fun a b => sameOps a.ops b.ops = false ∧ sameOps b.ops a.ops = false) :=
    hp.imp_of_mem fun {a b} _ hb hab => ⟨hab, Bool.eq_false_iff.2 fun hc => by
      rw [sameOps_symm b.ops a.ops (hwf b hb) hc] at hab; cases hab⟩
  have : Std.Symm (fun a b : Term R => sameOps a.ops b.ops = false ∧ sameOps b.ops a.ops = false) :=
    ⟨fun a b h => ⟨h.2, h.1⟩⟩
  rw [(hp'.forall hu hx hne).1] at h; cases h

section star
variable [StarRing R]

theorem map_hc_simplified (k : Scal R) (hcj : k.cj = star) (tol : Tol R) (hex : TolExact tol) (s : PSum R)
    (h : Simplified tol s) : Simplified tol (s.map (hermitianConjugatedTerm k)) := by
  refine ⟨List.pairwise_map.2 h.1, fun t ht => ?_⟩
  obtain ⟨u, hu, rfl⟩ := List.mem_map.1 ht
  refine Bool.eq_false_iff.2 fun hc => ?_
  rw [hermitianConjugatedTerm, hcj, hex.negl, star_eq_zero, ← hex.negl, h.2 u hu] at hc
  cases hc

theorem hc_simplified (k : Scal R) (hcj : k.cj = star) (tol : Tol R) (hex : TolExact tol) (s : PSum R)
    (h : Simplified tol s) : hermitianConjugated k tol s = s.map (hermitianConjugatedTerm k) :=
  foldl_addTerm_id tol (hermitianConjugatedTerm k) s [] (map_hc_simplified k hcj tol hex s h)

theorem isHermitian_iff_real (k : Scal R) (hcj : k.cj = star) (tol : Tol R) (hex : TolExact tol) (s : PSum R)
    (hwf : SumWF s) (h : Simplified tol s) :
    isHermitian k tol s = true ↔ ∀ x ∈ s, star x.coeff = x.coeff := by
  unfold isHermitian sumEq
  rw [hc_simplified k hcj tol hex s h, toSet_id tol s h.1, toSet_id tol (s.map (hermitianConjugatedTerm k)) (List.pairwise_map.2 h.1)]
  simp only [List.length_map, bne_self_eq_false, Bool.false_eq_true, if_false, beq_self_eq_true, Bool.true_and,
    List.all_eq_true]
  refine forall₂_congr fun x hx => ?_
  -- only the conjugate of `x` itself can be the member of the other set with the hash of `x`
  rw [setMem, List.any_map, List.any_eq_true]
  simp only [Function.comp, Bool.and_eq_true, Bool.or_eq_true, termHashEq, termEq, hermitianConjugatedTerm, hcj, hex.hashEq,
    hex.close]
  constructor
  · rintro ⟨u, hu, ⟨hc, hso⟩, _⟩
    rwa [distinct_ops s hwf h.1 u x hu hx hso] at hc
  · exact fun hreal => ⟨x, hx, ⟨hreal, sameOps_refl _⟩, hreal, Or.inr (sameOps_refl _)⟩

end star

theorem trace_pairing (k : Scal R) (n : Nat) (D : PSum R) (b : Nat → Option P) :
    ∑ i ∈ range (2 ^ n), ∑ j ∈ range (2 ^ n), dEntry k n D i j * strEntry k b n j i
      = (D.map (fun t => t.coeff * Tr k n t.opAt b)).sum := by
  induction D with
  | nil => simp [dEntry]
  | cons t D ih =>
    rw [List.map_cons, List.sum_cons, ← ih, Tr, Finset.mul_sum, ← Finset.sum_add_distrib]
    refine Finset.sum_congr rfl fun i _ => ?_
    rw [Finset.mul_sum, ← Finset.sum_add_distrib]
    exact Finset.sum_congr rfl fun j _ => by rw [dEntry_cons]; ring

theorem agree_sameOps (t u : Term R) (ht : TermWF t) (hu : TermWF u) (n : Nat)
    (hnt : ∀ x ∈ t.ops, x.1 < n) (hnu : ∀ x ∈ u.ops, x.1 < n)
    (h : ∀ q, q < n → t.opAt q = u.opAt q) : sameOps t.ops u.ops = true :=
  sameOps_of_perm ((List.perm_ext_iff_of_nodup (List.Nodup.of_map _ ht) (List.Nodup.of_map _ hu)).2 fun x =>
    ⟨fun hx => (opAt_eq_some_iff u hu).1 (h x.1 (hnt x hx) ▸ (opAt_eq_some_iff t ht).2 hx),
      fun hx => (opAt_eq_some_iff t ht).1 (h x.1 (hnu x hx) ▸ (opAt_eq_some_iff u hu).2 hx)⟩)

theorem simplified_nodup (s : PSum R) (hp : s.Pairwise (fun a b => sameOps a.ops b.ops = false)) : s.Nodup := by
  refine hp.imp ?_
  intro a b hab heq
  rw [heq, sameOps_refl] at hab; cases hab

theorem trace_extracts_coeff (k : Scal R) (hi : k.i * k.i = -1) (n : Nat) (s : PSum R) (hwf : SumWF s)
    (hp : s.Pairwise (fun a b => sameOps a.ops b.ops = false)) (hops : ∀ t ∈ s, ∀ x ∈ t.ops, x.1 < n) (u : Term R) (hu : u ∈ s) :
    ∑ i ∈ range (2 ^ n), ∑ j ∈ range (2 ^ n), dEntry k n s i j * strEntry k u.opAt n j i = u.coeff * 2 ^ n := by
  rw [trace_pairing, sum_single_nodup s (simplified_nodup s hp) u hu, Tr_eq k hi, Finset.prod_congr rfl fun q _ => if_pos rfl,
    Finset.prod_const, Finset.card_range]
  intro t ht hne
  obtain ⟨q, hq, hq'⟩ : ∃ q, q < n ∧ t.opAt q ≠ u.opAt q := by
    by_contra h
    exact hne (distinct_ops s hwf hp t u ht hu (agree_sameOps t u (hwf t ht) (hwf u hu) n (hops t ht) (hops u hu)
      fun q hq => by_contra fun hq' => h ⟨q, hq, hq'⟩))
  rw [Tr_eq k hi, Finset.prod_eq_zero (Finset.mem_range.2 hq) (if_neg hq'), mul_zero]

theorem real_iff_hermitian_matrix [StarRing R] (k : Scal R) (hi : k.i * k.i = -1) (hcj : k.cj = star) (hsi : star k.i = -k.i)
    (hh : 2 * k.half = 1) (n : Nat) (s : PSum R) (hwf : SumWF s)
    (hp : s.Pairwise (fun a b => sameOps a.ops b.ops = false)) (hn : PSum.nQubits s ≤ n) :
    (∀ x ∈ s, star x.coeff = x.coeff) ↔
      ∀ i j, i < 2 ^ n → j < 2 ^ n → dEntry k n s i j = star (dEntry k n s j i) := by
  constructor
  · intro hreal i j _ _
    rw [← map_hc_dEntry k hcj hsi n s i j]
    refine congrArg (dEntry k n · i j) ((List.map_id s).symm.trans (List.map_congr_left fun t ht => ?_))
    rw [hermitianConjugatedTerm, hcj, hreal t ht]; rfl
  · intro hH u hu
    -- `tr(D · P_u)` is its own conjugate when `D` is Hermitian
    have hT := trace_extracts_coeff k hi n s hwf hp ((sum_nQubits_le s n).1 hn) u hu
    have hs : star (u.coeff * 2 ^ n) = u.coeff * 2 ^ n := by
      rw [← hT, star_sum, Finset.sum_comm]
      refine Finset.sum_congr rfl fun j hj => ?_
      rw [star_sum]
      refine Finset.sum_congr rfl fun i hi' => ?_
      rw [star_mul', ← hH i j (Finset.mem_range.1 hi') (Finset.mem_range.1 hj), ← strEntry_star k hsi]
    rw [star_mul', star_pow, star_ofNat] at hs
    calc star u.coeff = star u.coeff * 2 ^ n * k.half ^ n := by rw [mul_assoc, ← mul_pow, hh, one_pow, mul_one]
      _ = u.coeff := by rw [hs, mul_assoc, ← mul_pow, hh, one_pow, mul_one]

theorem toM_denote_hermitian_iff [StarRing R] (k : Scal R) (n : Nat) (s : PSum R) :
    Mat.toM (2 ^ n) (2 ^ n) (PSum.denote k n s) = (Mat.toM (2 ^ n) (2 ^ n) (PSum.denote k n s)).conjTranspose ↔
      ∀ i j, i < 2 ^ n → j < 2 ^ n → dEntry k n s i j = star (dEntry k n s j i) := by
  rw [toM_denote]
  exact ⟨fun h i j hi hj => congrFun (congrFun h ⟨i, hi⟩) ⟨j, hj⟩, fun h => by funext i j; exact h i j i.2 j.2⟩

theorem tolExact_exact [DecidableEq R] : TolExact (Tol.exact : Tol R) :=
  ⟨fun x => by simp [Tol.exact], fun a b => by simp [Tol.exact], fun a b => by simp [Tol.exact]⟩

end OQ.C09
