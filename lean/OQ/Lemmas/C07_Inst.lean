/-
  C07 — concrete instances (externals satisfying the laws, small gates) used by the non-vacuity examples and the
  negative witness of OQ/Props/C07.lean.
-/
import OQ.Lemmas.C07
import Mathlib.Analysis.Normed.Algebra.MatrixExponential
import Mathlib.Analysis.Complex.Basic
namespace OQ.C07
open Matrix

namespace Inst

/-- an `Ext` on which every external raises: satisfies all laws (they only constrain successful calls) -/
def extNone (R : Type) : Ext R :=
  { minv := fun _ => .error .noninv, mfrac := fun _ _ => .error (.ext "none"), mexp := fun _ => .error (.ext "none") }

theorem extNone_laws (R : Type) [CommRing R] : ExtLaws (extNone R) :=
  { inv_dim := by intro A B h; cases h
    inv_mul := by intro d A B _ _ h; cases h
    frac_dim := by intro A e B h; cases h
    root := by intro d A e B _ _ _ _ h; cases h
    exp_dim := by intro A B h; cases h }

theorem extNone_exp (R : Type) [CommRing R] (E) : ExpLaw (extNone R) E := by
  intro d A B _ _ h; cases h

def isId (A : Mat ℤ) : Bool :=
  A.c == A.r && (List.range A.r).all (fun i => (List.range A.r).all (fun j => A.get i j == if i = j then 1 else 0))

theorem isId_toM (A : Mat ℤ) (h : isId A = true) (d : Nat) (hr : A.r = d) : Mat.toM d d A = 1 := by
  subst hr
  funext i j
  simp only [isId, Bool.and_eq_true, List.all_eq_true, List.mem_range, beq_iff_eq] at h
  have := h.2 i.val i.2 j.val j.2
  simp only [Mat.toM, this, Matrix.one_apply, Fin.ext_iff]

/-- an `Ext` that inverts / takes roots of identity matrices only (sound: `1·1 = 1`, `1^q = 1`) -/
def extId : Ext ℤ :=
  { minv := fun A => if isId A then .ok A else .error .noninv
    mfrac := fun A _ => if isId A then .ok A else .error (.ext "not the identity")
    mexp := fun _ => .error (.ext "none") }

theorem extId_laws : ExtLaws extId :=
  { inv_dim := by
      intro A B h; simp only [extId] at h; split at h
      · cases h; exact ⟨rfl, rfl⟩
      · cases h
    inv_mul := by
      intro d A B hr _ h; simp only [extId] at h; split at h
      · rename_i hi; cases h; rw [isId_toM A hi d hr]; simp
      · cases h
    frac_dim := by
      intro A e B h; simp only [extId] at h; split at h
      · cases h; exact ⟨rfl, rfl⟩
      · cases h
    root := by
      intro d A e B _ _ hr _ h; simp only [extId] at h; split at h
      · rename_i hi; cases h; rw [isId_toM A hi d hr]; simp
      · cases h
    exp_dim := by intro A B h; cases h }

/-- a 1-qubit non-unitary, non-hermitian base gate over ℤ -/
def v : Gate Unit ℤ := .base ⟨"V", fun _ => .ok (Mat.ofLists [[1, 2], [3, 4]]), [], 1, false⟩
/-- the identity as a base gate flagged hermitian -/
def one : Gate Unit ℤ := .base ⟨"I", fun _ => .ok (Mat.identity 2), [], 1, true⟩

theorem v_wellDim : WellDim v := by intro M h; cases h; exact ⟨rfl, rfl⟩
theorem one_wellDim : WellDim one := by intro M h; cases h; exact ⟨rfl, rfl⟩

open Classical in
/-- an `Ext` over ℂ that exponentiates the 2×2 zero matrix only (`exp 0 = 1`) -/
noncomputable def extExp0 : Ext ℂ :=
  { minv := fun _ => .error .noninv, mfrac := fun _ _ => .error (.ext "none")
    mexp := fun A => if A.r = 2 ∧ A.c = 2 ∧ Mat.toM 2 2 A = 0 then .ok (Mat.identity 2) else .error (.ext "not zero") }

theorem extExp0_exp : ExpLaw extExp0 (fun _ A => NormedSpace.exp A) := by
  intro d A B hr hc h
  simp only [extExp0] at h
  split at h
  · rename_i hz
    cases h
    obtain ⟨h1, _, h3⟩ := hz
    obtain rfl : d = 2 := hr.symm.trans h1
    rw [Mat.toM_identity, h3]; exact NormedSpace.exp_zero.symm
  · cases h

def zero2 : Gate Unit ℂ := .base ⟨"Z0", fun _ => .ok (Mat.ofFn 2 2 (fun _ _ => 0)), [], 1, false⟩

theorem zero2_exp_ok : gateMatrix star extExp0 zero2.expM = .ok (Mat.identity 2) := by
  have : Mat.toM 2 2 (Mat.ofFn 2 2 (fun _ _ => (0 : ℂ))) = 0 := by
    funext i j; simp only [Mat.toM]; rw [Mat.get_ofFn _ _ _ _ _ i.2 j.2]; rfl
  simp [zero2, Gate.expM, gateMatrix, Except.bind, extExp0, this]

/-! the F16 witness: `X.power(1/2).dagger` -/
def xGate : Gate (Param Cyc8) Cyc8 := .base (Base.builtin Scal.cyc8 "X" [])
def half : Rat := 1 / 2
/-- the square root of X that sympy returns: ½[[1+i, 1−i],[1−i, 1+i]] -/
def sqrtX : Mat Cyc8 := Mat.ofLists [[⟨1/2,0,1/2,0⟩, ⟨1/2,0,-1/2,0⟩], [⟨1/2,0,-1/2,0⟩, ⟨1/2,0,1/2,0⟩]]
/-- externals answering every fractional power with `sqrtX` (only asked for `X ** (1/2)` below) -/
def extF16 : Ext Cyc8 :=
  { minv := fun _ => .error .noninv, mfrac := fun _ _ => .ok sqrtX, mexp := fun _ => .error (.ext "unused") }
theorem half_den : half.den = 2 := by decide +kernel
theorem half_num : half.num = 1 := by decide +kernel

end Inst
end OQ.C07
