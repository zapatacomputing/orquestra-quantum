/- The numpy prelude functions (`OQ.Py.np…`, OQ/Exec/Py.lean block T15) against the model's hand-written list functions (`rowsOf`,
   `checkParityOfVector`, `broadcastMul`, `covMatrix`); embeddings of the model's results into the translated definitions' types; the
   double loop of `get_expectation_values` as a table `tab n f` given by a function of the two indices, with `Hf` / `Gf` the filled
   region after each round. -/
import OQ.Lemmas.C10_TranslatedCounts
import OQ.Lemmas.C13_Iter
namespace OQ.C10
open OQ.Generated OQ.Py

/-- the model's `_convert_bitstrings_to_vector` result as the translated definition returns it: the width is the length of the first key -/
def convResult (keys : List Shot) (r : Except Err (List Shot)) : Except Exc4 (Arr2 Int) :=
  match r with
  | .ok rows => .ok ⟨(keys.headD []).length, rows.map encT⟩
  | .error e => .error (toExc10 e)

/-- the model's parity vector as an int array -/
def parResult (r : Except Err (List Nat)) : Except Exc4 (Arr1 Int) :=
  match r with
  | .ok l => .ok (l.map Int.ofNat)
  | .error e => .error (toExc10 e)

/-- the model's result of `get_expectation_value_from_frequencies`; the model's `nan` (numpy divides by a zero total, no exception) is
    `.error .zeroDiv` of `OQ.Py.npTrueDivE` -/
def numResult (r : Except Err Rat) : Except Exc4 Rat :=
  match r with
  | .ok x => .ok x
  | .error e => .error (toExc10 e)

theorem flatten_map_encS (keys : List Shot) : (keys.map encS).flatten = encS keys.flatten := by
  show (keys.map (List.map _)).flatten = List.map _ keys.flatten
  rw [List.map_flatten]

theorem u1_of_encS (s : Shot) : npAstypeInt (npSubU8 (npFromBufferU1 (encS s)) 48) = encT s := by
  simp only [npAstypeInt, npSubU8, npFromBufferU1, encS, encT, List.map_map]
  apply List.map_congr_left
  intro b _
  cases b <;> decide

theorem npChunks_map {α β : Type} (f : α → β) (r w : Nat) (l : List α) :
    npChunks r w (l.map f) = (rowsOf r w l).map (List.map f) := by
  induction r generalizing l with
  | zero => rfl
  | succ r ih => simp only [npChunks, rowsOf, List.map_cons, ← List.map_take, ← List.map_drop, ih]

theorem rowsOf_length {α : Type} (r w : Nat) (l : List α) (h : l.length = r * w) : ∀ row ∈ rowsOf r w l, row.length = w := by
  induction r generalizing l with
  | zero => intro row hrow; cases hrow
  | succ r ih =>
    intro row hrow
    simp only [rowsOf, List.mem_cons] at hrow
    rcases hrow with rfl | hrow
    · rw [List.length_take, h]; exact Nat.min_eq_left (by rw [Nat.succ_mul]; omega)
    · exact ih (l.drop w) (by rw [List.length_drop, h, Nat.succ_mul]; omega) row hrow

theorem rowsOf_ne_nil {α : Type} (r w : Nat) (l : List α) (h : 0 < r) : rowsOf r w l ≠ [] := by
  cases r with
  | zero => omega
  | succ r => simp [rowsOf]

theorem convert_ok_inv (keys rows : List Shot) (h : convertBitstringsToVector keys = .ok rows) :
    rows ≠ [] ∧ ∀ r ∈ rows, r.length = (keys.headD []).length := by
  cases keys with
  | nil => cases h
  | cons k0 ks =>
    simp only [convertBitstringsToVector] at h
    split_ifs at h with hw hd
    cases h
    have hw' : 0 < k0.length := Nat.pos_of_ne_zero hw
    have hdvd := Nat.div_mul_cancel (Nat.dvd_of_mod_eq_zero (not_not.mp hd))
    refine ⟨rowsOf_ne_nil _ _ _ (Nat.div_pos ?_ hw'), rowsOf_length _ _ _ hdvd.symm⟩
    rw [List.flatten_cons, List.length_append]
    exact Nat.le_add_right _ _

theorem fmod_two (a : Nat) : Int.fmod ((a : Int) + 1) 2 = (((a + 1) % 2 : Nat) : Int) := by
  rw [Int.fmod_eq_emod_of_nonneg _ (by decide), Int.natCast_mod, Int.natCast_add]
  rfl

theorem getD_encT (r : Shot) (q : Nat) : (encT r).getD q 0 = (((bitAt r q).toNat : Nat) : Int) := by
  simp only [encT, bitAt, List.getD_eq_getElem?_getD, List.getElem?_map]
  cases r[q]? with
  | none => rfl
  | some b => cases b <;> rfl

theorem npTakeCols_encT (rows : List Shot) (w : Nat) (marked : List Nat) :
    npTakeColsE ⟨w, rows.map encT⟩ (marked.map Int.ofNat) =
      if ∀ q ∈ marked, q < w then
        .ok ⟨marked.length, rows.map (fun r => marked.map (fun q => (((bitAt r q).toNat : Nat) : Int)))⟩
      else .error .index := by
  have hall : (marked.map Int.ofNat).all (fun i => decide (-((w : Nat) : Int) ≤ i) && decide (i < ((w : Nat) : Int))) =
      decide (∀ q ∈ marked, q < w) := by
    rw [Bool.eq_iff_iff, List.all_eq_true, decide_eq_true_iff, List.forall_mem_map]
    refine forall₂_congr fun q _ => ?_
    simp only [Bool.and_eq_true, decide_eq_true_eq, Int.ofNat_eq_natCast]
    omega
  simp only [npTakeColsE, hall, decide_eq_true_eq, List.length_map, List.map_map, Function.comp_def,
    Int.ofNat_eq_natCast, Int.natCast_nonneg, if_true, Int.toNat_natCast, ← getD_encT]
  rfl

theorem zip1_broadcast (counts : List Nat) (signs : List Int) :
    npZip1E (fun x y => x * y) (npFromIterInt (counts.map Int.ofNat)) signs =
      up (broadcastMul counts signs) := by
  unfold npZip1E broadcastMul npFromIterInt
  simp only [List.length_map]
  by_cases h1 : counts.length = signs.length
  · rw [if_pos h1, if_pos h1.symm]
    simp only [List.zipWith_map_left]
    rfl
  · rw [if_neg h1, if_neg (Ne.symm h1)]
    by_cases h2 : counts.length = 1
    · by_cases h3 : signs.length = 1
      · omega
      · rw [if_pos h2, if_neg h3, if_pos h2]
        cases counts with
        | nil => cases h2
        | cons c cs => rfl
    · rw [if_neg h2]
      by_cases h3 : signs.length = 1
      · rw [if_pos h3, if_pos h3]
        simp only [List.map_map]
        rfl
      · rw [if_neg h3, if_neg h3, if_neg h2]
        rfl

theorem broadcast_ne_nil (counts : List Nat) (signs l : List Int) (hc : counts ≠ []) (hs : signs ≠ [])
    (h : broadcastMul counts signs = .ok l) : l ≠ [] := by
  unfold broadcastMul at h
  split_ifs at h <;> cases h
  · exact fun e => (List.zipWith_eq_nil_iff.mp e).elim hc hs
  · exact mt List.map_eq_nil_iff.mp hc
  · exact mt List.map_eq_nil_iff.mp hs

/-- `(products / num_measurements).sum()`: numpy's division by a zero total is the model's `nan` (the array is not empty) -/
theorem trueDiv_sum (prods : List Int) (n : Int) (hne : prods ≠ []) :
    (npTrueDivE (ν := Rat) prods n).bind (fun a => .ok (sumNum a)) =
      numResult (if n = 0 then .error .nan else .ok ((prods.map (fun x => ((x : Int) : Rat) / ((n : Int) : Rat))).sum)) := by
  obtain ⟨x, xs, rfl⟩ := List.exists_cons_of_ne_nil hne
  unfold npTrueDivE
  by_cases hz : n = 0
  · subst hz; rfl
  · rw [if_neg (by simpa using hz), if_neg hz, bind_ok, sumNum_rat]; rfl

theorem foldlE_range {σ α : Type} (B : σ → α → Except Exc4 σ) (g : Nat → α) (P : Nat → σ) (m : Nat)
    (h : ∀ j, j < m → B (P j) (g j) = .ok (P (j + 1))) :
    foldlE B (P 0) ((List.range m).map g) = .ok (P m) := by
  induction m with
  | zero => rfl
  | succ m ih =>
    rw [List.range_succ, List.map_append, foldlE_append, ih (fun j hj => h j (by omega))]
    simp only [List.map_cons, List.map_nil, foldlE, Except.bind, h m (by omega)]

theorem enumerate_eq {τ : Type} (l : List τ) (d : τ) :
    enumerate l = (List.range l.length).map (fun i => (((i : Nat) : Int), l.getD i d)) := by
  unfold enumerate
  apply List.ext_getElem
  · simp
  · intro i h1 h2
    simp only [List.length_map, List.length_zipIdx] at h1
    simp [List.getD_eq_getElem?_getD, List.getElem?_eq_getElem h1]

theorem foldlE_enumerate {σ τ : Type} (B : σ → Int × τ → Except Exc4 σ) (l : List τ) (d : τ) (P : Nat → σ)
    (h : ∀ j, j < l.length → B (P j) (((j : Nat) : Int), l.getD j d) = .ok (P (j + 1))) :
    foldlE B (P 0) (enumerate l) = .ok (P l.length) := by
  rw [enumerate_eq l d]
  exact foldlE_range B _ P _ h

/-- `num_measurements` of `get_expectation_value_from_frequencies`: `sum(int(count) for count in d.values())` over Python ints is
    generated as `bind (mapE ok vals) (fun t => let n := sum t; k n)` (the translator renders `int` of an `Int` as the identity),
    `sum(d.values())` as `let n := sum vals; k n`; the two are the same term. -/
theorem py_sum_genexp_id {β : Type} (vals : List Int) (k : Int → Except Exc4 β) :
    Except.bind (OQ.Py.mapE (fun (count : Int) => Except.ok count) vals) (fun (t : List Int) => k (OQ.Py.sum t)) = k (OQ.Py.sum vals) := by
  rw [mapE_ok_id]; rfl

def tab (n : Nat) (f : Nat → Nat → Rat) : Arr2 Rat := ⟨n, (List.range n).map (fun a => (List.range n).map (fun b => f a b))⟩

theorem npZeros2_eq (n : Nat) : npZeros2 (ν := Rat) ((n : Nat) : Int) ((n : Nat) : Int) = tab n (fun _ _ => 0) := by
  unfold npZeros2 tab
  simp only [Int.toNat_natCast, Int.cast_zero]
  congr 1
  apply List.ext_getElem <;> simp

theorem tab_get (n : Nat) (f : Nat → Nat → Rat) (i j : Nat) (hi : i < n) (hj : j < n) :
    npGet2E (tab n f) ((i : Nat) : Int) ((j : Nat) : Int) = .ok (f i j) := by
  unfold npGet2E tab
  rw [indexE_nat _ i (by simp [hi])]
  simp only [List.getElem_map, List.getElem_range, bind_ok]
  rw [indexE_nat _ j (by simp [hj])]
  simp

theorem map_range_set {α : Type} (F : Nat → α) (n i : Nat) (v : α) :
    ((List.range n).map F).set i v = (List.range n).map (fun a => if a = i then v else F a) := by
  apply List.ext_getElem
  · simp
  · intro a h1 h2
    simp only [List.getElem_set, List.getElem_map, List.getElem_range]
    exact if_congr eq_comm rfl rfl

theorem tab_set (n : Nat) (f : Nat → Nat → Rat) (i j : Nat) (v : Rat) (hi : i < n) :
    npSet2 (tab n f) ((i : Nat) : Int) ((j : Nat) : Int) v = tab n (fun a b => if a = i ∧ b = j then v else f a b) := by
  unfold npSet2 tab
  rw [indexE_nat _ i (by simp [hi])]
  simp only [List.getElem_map, List.getElem_range, listSet_nat, map_range_set]
  congr 1
  refine List.map_congr_left fun a _ => ?_
  split
  · next h => simp only [h, true_and]
  · next h => simp only [h, false_and, if_false]

theorem tab_congr (n : Nat) (f g : Nat → Nat → Rat) (h : ∀ a, a < n → ∀ b, b < n → f a b = g a b) : tab n f = tab n g :=
  congrArg (Arr2.mk n) (List.map_congr_left fun a ha => List.map_congr_left fun b hb =>
    h a (List.mem_range.mp ha) b (List.mem_range.mp hb))

def evResult (n : Nat) (r : Except Err (ExpectationValues Rat)) :
    Except Exc4 (Arr1 Rat × List (Arr2 Rat) × List (Arr2 (Option Rat))) :=
  match r with
  | .ok ev => .ok (ev.values, [⟨n, ev.correlations⟩], [⟨n, ev.covariances⟩])
  | .error e => .error (toExc10 e)

theorem coeffs_stage (isnp : Rat → Bool) (toInt : Rat → Int) (hint : ∀ c, isnp c = true → ((toInt c : Int) : Rat) = c)
    (terms : List (Term Rat)) :
    OQ.Py.mapE (fun (term : Term Rat) =>
      (Except.ok (if isnp term.coeff then ((toInt term.coeff : Int) : Rat) else term.coeff) : Except Exc4 Rat)) terms =
      .ok (terms.map Term.coeff) := by
  rw [← OQ.Py.mapE_ok]
  refine OQ.Py.mapE_congr _ _ terms fun t _ => ?_
  split
  · next h => rw [hint _ h]
  · rfl

theorem zip_map_self {α β : Type} (f : α → β) (l : List α) : List.zip (l.map f) l = l.map (fun t => (f t, t)) := by
  induction l with
  | nil => rfl
  | cons x xs ih => simp only [List.map_cons, List.zip_cons_cons, ih]

theorem vals_step (freq : Counts) (terms : List (Term Rat)) :
    OQ.Py.mapE (fun (t : Term Rat) => Except.bind (numResult (expectationFromFrequencies (R := Rat) t.qubits freq))
        (fun x => Except.ok (t.coeff * x))) terms =
      up (mapE (termValue freq) terms) := by
  induction terms with
  | nil => rfl
  | cons t ts ih =>
    simp only [OQ.Py.mapE, mapE, termValue, ih]
    cases expectationFromFrequencies (R := Rat) t.qubits freq with
    | error e => rfl
    | ok x =>
      simp only [numResult, bind_ok]
      cases mapE (termValue freq) ts with
      | error e => rfl
      | ok v => rfl

/-- the default of the `getD` reads below; no index in range reaches it -/
def dT : Term Rat := ⟨0, []⟩

/-- the table after `m` rounds of the outer loop: the entries `[a, b]` with `a, b < m` are filled -/
def Hf (M : Nat → Nat → Rat) (m a b : Nat) : Rat := if a < m ∧ b < m then M a b else 0
/-- … and after `k` rounds of the inner loop of round `j`: also `[j, j]`, `[j, b]` and `[a, j]` for `a, b < k` -/
def Gf (M : Nat → Nat → Rat) (j k a b : Nat) : Rat :=
  if (a < j ∧ b < j) ∨ (a = j ∧ b = j) ∨ (a = j ∧ b < k) ∨ (b = j ∧ a < k) then M a b else 0

theorem ite_set (P : Prop) [Decidable P] (i j a b : Nat) (v x : Rat) (hv : a = i ∧ b = j → v = x) :
    (if a = i ∧ b = j then v else if P then x else 0) = if (a = i ∧ b = j) ∨ P then x else 0 := by
  by_cases h : a = i ∧ b = j
  · rw [if_pos h, if_pos (Or.inl h), hv h]
  · rw [if_neg h]
    exact if_congr (or_iff_right h).symm rfl rfl

theorem Gf_zero (M : Nat → Nat → Rat) (j : Nat) :
    (fun a b => if a = j ∧ b = j then M j j else Hf M j a b) = Gf M j 0 := by
  funext a b
  rw [Hf, Gf, ite_set _ j j a b _ (M a b) fun h => by rw [h.1, h.2]]
  exact if_congr (by simp only [Nat.not_lt_zero, and_false, or_false, false_or, or_comm]) rfl rfl

/-- the two new cells join the last two parts of the region (on propositional variables: reordering the disjuncts in place
    makes `simp` walk through every comparison) -/
theorem or_rotate (p1 p2 p3 p4 p5 p6 : Prop) : (p1 ∨ p2 ∨ p3 ∨ p4 ∨ p5 ∨ p6) ↔ (p3 ∨ p4 ∨ (p5 ∨ p2) ∨ (p6 ∨ p1)) := by
  simp only [or_assoc, or_left_comm, or_comm]

theorem Gf_step (M : Nat → Nat → Rat) (j k : Nat) (v : Rat) (h1 : M j k = v) (h2 : M k j = v) :
    (fun a b => if a = k ∧ b = j then v else (if a = j ∧ b = k then v else Gf M j k a b)) = Gf M j (k + 1) := by
  funext a b
  rw [Gf, Gf, ite_set _ j k a b v (M a b) fun h => by rw [h.1, h.2, h1],
    ite_set _ k j a b v (M a b) fun h => by rw [h.1, h.2, h2]]
  refine if_congr ?_ rfl rfl
  rw [Nat.lt_succ_iff_lt_or_eq, Nat.lt_succ_iff_lt_or_eq, and_or_left, and_or_left, and_comm (a := b = j) (b := a = k)]
  exact or_rotate ..

theorem Gf_end (M : Nat → Nat → Rat) (j : Nat) : Gf M j j = Hf M (j + 1) := by
  funext a b
  exact if_congr (by omega) rfl rfl

theorem withIdx_eq {α : Type} (k : Nat) (l : List α) (d : α) :
    withIdx k l = (List.range l.length).map (fun i => (k + i, l.getD i d)) := by
  induction l generalizing k with
  | nil => rfl
  | cons x xs ih =>
    rw [withIdx, ih (k + 1), List.length_cons, List.range_succ_eq_map, List.map_cons, List.map_map]
    congr 1
    apply List.map_congr_left
    intro i _
    simp only [Function.comp, List.getD_cons_succ]
    congr 1
    omega

theorem withIdx_table {α β : Type} (F : Nat × α → Nat × α → β) (l : List α) (d : α) :
    (withIdx 0 l).map (fun a => (withIdx 0 l).map (F a)) =
      (List.range l.length).map (fun a => (List.range l.length).map (fun b => F (a, l.getD a d) (b, l.getD b d))) := by
  simp only [withIdx_eq 0 l d, List.map_map, Function.comp_def, Nat.zero_add]

theorem indexE_map_getD {α β : Type} (f : α → β) (l : List α) (d : α) (j : Nat) (h : j < l.length) :
    indexE (l.map f) ((j : Nat) : Int) = .ok (f (l.getD j d)) := by
  rw [indexE_nat _ j (by simpa using h)]
  simp [List.getD_eq_getElem?_getD, List.getElem?_eq_getElem h]

theorem indexE_getD {α : Type} (l : List α) (d : α) (j : Nat) (h : j < l.length) :
    indexE l ((j : Nat) : Int) = .ok (l.getD j d) := by
  rw [indexE_nat _ j h]
  simp [List.getD_eq_getElem?_getD, List.getElem?_eq_getElem h]

theorem symmDiff_map_ofNat (a b : List Nat) :
    (a.map Int.ofNat).filter (fun q => !(b.map Int.ofNat).contains q) ++
      (b.map Int.ofNat).filter (fun q => !(a.map Int.ofNat).contains q) = (symmDiff a b).map Int.ofNat := by
  have hc : ∀ (l : List Nat) (q : Nat), (l.map Int.ofNat).contains (Int.ofNat q) = l.contains q := by
    intro l q
    induction l with
    | nil => rfl
    | cons x xs ih => simp only [List.map_cons, List.contains_cons, ih]; congr 1; simp
  simp only [symmDiff, List.map_append, List.filter_map, Function.comp_def, hc]

theorem zval_perm (a b : List Nat) (h : a.Perm b) (s : Shot) : zval a s = zval b s := by
  unfold zval
  exact (h.map _).prod_eq

theorem meanZ_perm (a b : List Nat) (h : a.Perm b) (shots : List Shot) : meanZ (R := Rat) a shots = meanZ b shots := by
  unfold meanZ
  apply mean_congr
  intro s _
  rw [zval_perm a b h s]

theorem npStretch_of_length {τ : Type} (n : Nat) (xs : List τ) (h : xs.length = n) : npStretch n xs = xs :=
  if_pos h

theorem npStretch_singleton {τ : Type} (n : Nat) (x : τ) : npStretch n [x] = List.replicate n x := by
  unfold npStretch
  split
  · next h => rw [← h]; rfl
  · rfl

theorem npBDim_one_right (n : Nat) : npBDim n 1 = some n := by
  unfold npBDim
  by_cases h : n = 1
  · rw [if_pos h]
  · rw [if_neg h, if_neg h, if_pos rfl]

theorem npBDim_one_left (n : Nat) : npBDim 1 n = some n := by
  simp [npBDim]

theorem outer_ok (v : List Rat) :
    npZip2E (fun x y => x * y) (npCol (npArray1 v)) (npRow (npArray1 v)) =
      .ok ⟨v.length, v.map (fun a => v.map (fun b => a * b))⟩ := by
  simp only [npZip2E, npCol, npRow, npArray1, List.length_map, List.length_singleton, npBDim_one_right, npBDim_one_left,
    npStretch_singleton, npStretch_of_length, ← List.map_const', List.zipWith_map_left, List.zipWith_map_right,
    List.zipWith_self]

theorem zipWith_congr_mem {α β γ : Type} (f g : α → β → γ) (l : List α) (l' : List β)
    (h : ∀ a ∈ l, ∀ b ∈ l', f a b = g a b) : List.zipWith f l l' = List.zipWith g l l' := by
  induction l generalizing l' with
  | nil => rfl
  | cons a as ih =>
    cases l' with
    | nil => rfl
    | cons b bs =>
      rw [List.zipWith_cons_cons, List.zipWith_cons_cons, h a (by simp) b (by simp),
        ih bs fun x hx y hy => h x (List.mem_cons_of_mem _ hx) y (List.mem_cons_of_mem _ hy)]

theorem zip2_same (f : Rat → Rat → Rat) (n : Nat) (R S : List (List Rat)) (hR : R.length = n) (hS : S.length = n)
    (hR' : ∀ r ∈ R, r.length = n) (hS' : ∀ r ∈ S, r.length = n) :
    npZip2E f ⟨n, R⟩ ⟨n, S⟩ = .ok ⟨n, List.zipWith (fun ra rb => List.zipWith f ra rb) R S⟩ := by
  simp only [npZip2E, hR, hS, npBDim, if_true, npStretch_of_length n R hR, npStretch_of_length n S hS]
  congr 2
  exact zipWith_congr_mem _ _ R S fun ra hra rb hrb => by
    rw [npStretch_of_length n ra (hR' ra hra), npStretch_of_length n rb (hS' rb hrb)]

theorem cov_eq (corr : List (List Rat)) (vals : List Rat) (d : Int) :
    (List.zipWith (fun ra rb => List.zipWith (fun x y => x - y) ra rb) corr (vals.map (fun a => vals.map (fun b => a * b)))).map
        (fun r => r.map (fun x => if d == 0 then none else some (x / ((d : Int) : Rat)))) = covMatrix corr vals d := by
  unfold covMatrix
  rw [List.zipWith_map_right, List.map_zipWith]
  congr 1
  funext row vi
  rw [List.zipWith_map_right, List.map_zipWith]
  congr 1
  funext c vj
  unfold divOrNan
  by_cases h : d = 0 <;> simp [h]

end OQ.C10
