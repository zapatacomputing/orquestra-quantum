/-
  The one-qubit facts the evolution circuits rest on, for the library's gate matrices read on Booleans (`toB`): H·Z·H = X,
  RX(π/2)ᴴ·Z·RX(π/2) = Y, H·H = 1, RXᴴ·RX = 1, and RZ, RX as cos·1 − i sin·σ.  `ScalLaws`, `AngLaws` are what is assumed of the
  constants and of an angle point.
-/
import OQ.Lemmas.C16_Spec
import Mathlib.Algebra.Star.Basic
import Mathlib.Tactic.LinearCombination
set_option linter.unusedSectionVars false
namespace OQ.C16
open Matrix OQ.Spec OQ.Pauli
variable {R : Type} [CommRing R] [StarRing R]

/-- the laws of the ring constants (the `Scal` record is data; these are its intended equations) -/
structure ScalLaws (k : Scal R) : Prop where
  ii : k.i * k.i = -1
  rr : 2 * k.r * k.r = 1
  cj : k.cj = star
  star_i : star k.i = -k.i
  star_r : star k.r = k.r

/-- a half-angle point of a REAL angle: on the unit circle, fixed by conjugation -/
structure AngLaws (a : Ang R) : Prop where
  circle : a.ch * a.ch + a.sh * a.sh = 1
  star_ch : star a.ch = a.ch
  star_sh : star a.sh = a.sh

theorem toB_m2 (a b c d : R) (x y : Bool) :
    toB (Gates.m2 a b c d) x y = if x then (if y then d else c) else (if y then b else a) := by
  unfold toB
  rw [get_m2 _ _ _ _ _ _ (by split_ifs <;> omega) (by split_ifs <;> omega)]
  cases x <;> cases y <;> simp

def sgn (b : Bool) : R := if b then -1 else 1
def σz : Matrix Bool Bool R := Matrix.diagonal sgn
def σx : Matrix Bool Bool R := fun a b => if a = b then 0 else 1
def σy (k : Scal R) : Matrix Bool Bool R := fun a b => if a = b then 0 else if a then k.i else -k.i

/-- the 2×2 Pauli matrix of the shared model (`OQ.Pauli.pauliMat`) read on Booleans -/
def pauliB (k : Scal R) (p : Option P) : Matrix Bool Bool R := toB (pauliMat k p)

/-! 2×2 matrices on Booleans are handled through their four entries: products and adjoints of `toB (m2 …)` are again
    `toB (m2 …)`, so every gate identity below comes down to four scalar equations. -/

theorem toB_m2_mul (a b c d a' b' c' d' : R) :
    toB (Gates.m2 a b c d) * toB (Gates.m2 a' b' c' d')
      = toB (Gates.m2 (a * a' + b * c') (a * b' + b * d') (c * a' + d * c') (c * b' + d * d')) := by
  ext x y
  rw [Matrix.mul_apply, Fintype.sum_bool]
  simp only [toB_m2]
  cases x <;> cases y <;> exact add_comm _ _

theorem toB_m2_conjTranspose (a b c d : R) :
    (toB (Gates.m2 a b c d))ᴴ = toB (Gates.m2 (star a) (star c) (star b) (star d)) := by
  ext x y
  simp only [Matrix.conjTranspose_apply, toB_m2]
  cases x <;> cases y <;> rfl

theorem toB_m2_congr {a b c d a' b' c' d' : R} (h1 : a = a') (h2 : b = b') (h3 : c = c') (h4 : d = d') :
    toB (Gates.m2 a b c d) = toB (Gates.m2 a' b' c' d') := by rw [h1, h2, h3, h4]

theorem one_eq_toB : (1 : Matrix Bool Bool R) = toB (Gates.m2 1 0 0 1) := by
  ext x y; rw [toB_m2]; cases x <;> cases y <;> simp
theorem σx_eq_toB : (σx : Matrix Bool Bool R) = toB (Gates.m2 0 1 1 0) := by
  ext x y; rw [toB_m2]; cases x <;> cases y <;> simp [σx]
theorem σy_eq_toB (k : Scal R) : σy k = toB (Gates.m2 0 (-k.i) k.i 0) := by
  ext x y; rw [toB_m2]; cases x <;> cases y <;> simp [σy]
theorem σz_eq_toB : (σz : Matrix Bool Bool R) = toB (Gates.m2 1 0 0 (-1)) := by
  ext x y; rw [toB_m2]; cases x <;> cases y <;> simp [σz, sgn]

theorem pauliB_none (k : Scal R) : pauliB k none = 1 := one_eq_toB.symm
theorem pauliB_X (k : Scal R) : pauliB k (some .X) = σx := σx_eq_toB.symm
theorem pauliB_Y (k : Scal R) : pauliB k (some .Y) = σy k := (σy_eq_toB k).symm
theorem pauliB_Z (k : Scal R) : pauliB k (some .Z) = σz := σz_eq_toB.symm

theorem h_conj_z (k : Scal R) (hk : ScalLaws k) : toB (Gates.h k) * σz * toB (Gates.h k) = σx := by
  rw [Gates.h, σz_eq_toB, σx_eq_toB, toB_m2_mul, toB_m2_mul]
  exact toB_m2_congr (by ring) (by linear_combination hk.rr) (by linear_combination hk.rr) (by ring)

theorem h_mul_h (k : Scal R) (hk : ScalLaws k) : toB (Gates.h k) * toB (Gates.h k) = 1 := by
  rw [Gates.h, one_eq_toB, toB_m2_mul]
  exact toB_m2_congr (by linear_combination hk.rr) (by ring) (by ring) (by linear_combination hk.rr)

theorem toB_adjoint2 (k : Scal R) (hk : ScalLaws k) (M : Mat R) : toB (adjoint2 k M) = (toB M)ᴴ := by
  ext x y
  unfold adjoint2 toB
  rw [Mat.get_ofFn _ _ _ _ _ (by split_ifs <;> omega) (by split_ifs <;> omega), hk.cj]
  rfl

theorem rz_eq (k : Scal R) (a : Ang R) :
    toB (Gates.rz k a) = a.ch • (1 : Matrix Bool Bool R) - (k.i * a.sh) • σz := by
  ext x y
  simp only [Gates.rz, toB_m2, Ang.ehm, Ang.ehp, σz, sgn, Matrix.sub_apply, Matrix.smul_apply, Matrix.one_apply,
    Matrix.diagonal_apply, smul_eq_mul]
  cases x <;> cases y <;> simp
  all_goals ring

theorem rx_eq (k : Scal R) (a : Ang R) :
    toB (Gates.rx k a) = a.ch • (1 : Matrix Bool Bool R) - (k.i * a.sh) • σx := by
  ext x y
  simp only [Gates.rx, toB_m2, σx, Matrix.sub_apply, Matrix.smul_apply, Matrix.one_apply, smul_eq_mul]
  cases x <;> cases y <;> simp

theorem rxdg_mul_rx (k : Scal R) (hk : ScalLaws k) (a : Ang R) (ha : AngLaws a) :
    (toB (Gates.rx k a))ᴴ * toB (Gates.rx k a) = 1 := by
  rw [Gates.rx, toB_m2_conjTranspose, toB_m2_mul, one_eq_toB]
  simp only [star_neg, star_mul', hk.star_i, ha.star_ch, ha.star_sh]
  exact toB_m2_congr (by linear_combination ha.circle - a.sh * a.sh * hk.ii) (by ring) (by ring)
    (by linear_combination ha.circle - a.sh * a.sh * hk.ii)

/-- `⟨k.r, k.r⟩` = (1/√2, 1/√2) is the half-angle point of π/2 -/
theorem rx_conj_z (k : Scal R) (hk : ScalLaws k) :
    (toB (Gates.rx k ⟨k.r, k.r⟩))ᴴ * σz * toB (Gates.rx k ⟨k.r, k.r⟩) = σy k := by
  rw [Gates.rx, toB_m2_conjTranspose, σz_eq_toB, σy_eq_toB, toB_m2_mul, toB_m2_mul]
  simp only [star_neg, star_mul', hk.star_i, hk.star_r]
  exact toB_m2_congr (by linear_combination k.r * k.r * hk.ii) (by linear_combination (-k.i) * hk.rr)
    (by linear_combination k.i * hk.rr) (by linear_combination -(k.r * k.r) * hk.ii)

end OQ.C16
