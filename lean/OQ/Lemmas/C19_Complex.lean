import OQ.Lemmas.C19
import Mathlib.Analysis.SpecialFunctions.Pow.Complex
namespace OQ.C19

/-! the intended interpretation: complex numbers with the principal-branch power -/

noncomputable def complexSem (rho : String → ℂ) (app : Bool → String → List ℂ → ℂ) (ext : String → ℂ) : Sem ℂ :=
  { iu := Complex.I, pw := fun a b => a ^ b, sq := fun a => a ^ ((1/2 : ℚ) : ℂ), app := app, ext := ext,
    rho := rho }

theorem complexSem_laws (rho : String → ℂ) (app : Bool → String → List ℂ → ℂ) (ext : String → ℂ) :
    (∀ v, (complexSem rho app ext).pw v ((-1 : ℚ) : ℂ) = v⁻¹) ∧
    (∀ v, (complexSem rho app ext).sq v = (complexSem rho app ext).pw v ((1/2 : ℚ) : ℂ)) := by
  constructor
  · intro v
    simp [complexSem, Complex.cpow_neg_one]
  · intro v; rfl

end OQ.C19
