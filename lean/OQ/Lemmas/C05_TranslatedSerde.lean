/- Translation tie of circuits/_serde.py (T8), the parts the tie theorems of OQ/Props/C05_TranslatedSerde.lean share: the model's
   dictionaries as JSON values (`encG` … `encCs`), an encoded dictionary as a list of optional keys (`entry`, `encG_obj`, `encC_eq`) and
   its readers, and how agreement of a translated with a model result (`Except.map p t = embE m`) passes through `bind`, a test and
   `mapE` (`tie_bind`, `tie_ite`, `mapE_rel`). -/
import OQ.Lemmas.C05_TranslatedSerdeDefs
import OQ.Lemmas.C05
namespace OQ.C05
namespace TS
open OQ.Generated OQ.PyT8

variable {P E : Type}

theorem sN_append (a b : Name) : sN (a ++ b) = sN a ++ sN b := String.ofList_append

theorem sN_cons (c : Char) (l : Name) : sN (c :: l) = String.ofList [c] ++ sN l := by
  rw [← String.ofList_append]; rfl

@[simp] theorem embE_ok {α : Type} (a : α) : embE (.ok a : Except OQ.C05.Err α) = .ok a := rfl
@[simp] theorem embE_error {α : Type} (e : OQ.C05.Err) : embE (.error e : Except OQ.C05.Err α) = .error (embErr e) := rfl

theorem embErr_inj {a b : OQ.C05.Err} (h : embErr a = embErr b) : a = b := by
  cases a <;> cases b <;> simp_all [embErr]

theorem embE_inj {α : Type} {a b : Except OQ.C05.Err α} (h : embE a = embE b) : a = b := by
  cases a <;> cases b <;> simp_all [embE]
  exact embErr_inj h

/-! ### the fields of the instantiation, as rewrite rules (so that `X` is never unfolded) -/

@[simp] theorem X_format_exponent (env : Env) (C : Codec P E) (e : E) : (X env C).format_exponent e = sN (C.expoText e) := rfl
@[simp] theorem X_serialize_expr (env : Env) (C : Codec P E) (p : P) : (X env C).serialize_expr p = sN (C.ser p) := rfl
@[simp] theorem X_serialize_symbol (env : Env) (C : Codec P E) (s : Name) : (X env C).serialize_symbol s = sN s := rfl
@[simp] theorem X_deserialize_expr (env : Env) (C : Codec P E) (t : String) (names : List String) : (X env C).deserialize_expr t names = embE (deserializeExpr C (names.map String.toList) t.toList) := rfl
@[simp] theorem X_matrix_to_json (env : Env) (C : Codec P E) (m : List (List P)) : (X env C).matrix_to_json m = m.map (fun row => row.map (fun p => sN (C.ser p))) := rfl
@[simp] theorem X_matrix_from_json (env : Env) (C : Codec P E) (rows : List (List String)) (names : List String) : (X env C).matrix_from_json rows names = embE (mapE (fun row => mapE (fun (t : String) => deserializeExpr C (names.map String.toList) t.toList) row) rows) := rfl
@[simp] theorem X_Symbol (env : Env) (C : Codec P E) (s : String) : (X env C).Symbol s = s.toList := rfl
@[simp] theorem X_def_gate_name (env : Env) (C : Codec P E) (d : CustomDef P) : (X env C).def_gate_name d = sN d.gateName := rfl
@[simp] theorem X_def_matrix (env : Env) (C : Codec P E) (d : CustomDef P) : (X env C).def_matrix d = d.matrix := rfl
@[simp] theorem X_def_params_ordering (env : Env) (C : Codec P E) (d : CustomDef P) : (X env C).def_params_ordering d = d.ordering := rfl
@[simp] theorem X_call_gate_def (env : Env) (C : Codec P E) (d : CustomDef P) (ps : List P) : (X env C).call_gate_def d ps = (.MatrixFactoryGate (sN d.gateName) (some d) ps (Nat.log2 d.matrix.length) false : TGate P E) := rfl
@[simp] theorem X_circuit_n_qubits (env : Env) (C : Codec P E) (c : TCirc P E) : (X env C).circuit_n_qubits c = c.nQubits := rfl
@[simp] theorem X_circuit_operations (env : Env) (C : Codec P E) (c : TCirc P E) : (X env C).circuit_operations c = c.ops := rfl
@[simp] theorem X_collect_custom_gate_definitions (env : Env) (C : Codec P E) (c : TCirc P E) : (X env C).collect_custom_gate_definitions c = embE (collectDefs C (c.ops.map projOp)) := rfl
@[simp] theorem X_CustomGateDefinition (env : Env) (C : Codec P E) (nm : String) (m : List (List P)) (ord : List Name) : (X env C).CustomGateDefinition nm m ord = if shapeOk m then .ok ⟨nm.toList, m, ord⟩ else .error .ValueError := rfl
@[simp] theorem X_get_free_symbols (env : Env) (C : Codec P E) (ps : List P) :
    (X env C).gx.get_free_symbols ps = sortDedup (ps.flatMap C.free) := rfl

@[simp] theorem X_builtin_gate_by_name (env : Env) (C : Codec P E) (n : String) :
    (X env C).builtin_gates_builtin_gate_by_name n = (match lookupGlobal env n.toList with
      | .missing => .error .KeyError
      | r => .ok (some r)) := rfl
@[simp] theorem X_call_gate_ref_gate (env : Env) (C : Codec P E) (gi : GateInfo) (ps : List P) :
    (X env C).call_gate_ref (.gate gi) ps = if gi.prototype then .ok (.MatrixFactoryGate (sN gi.gateName) none ps gi.numQubits gi.hermitian)
      else .error .NotAGate := rfl
@[simp] theorem X_call_gate_ref_other (env : Env) (C : Codec P E) (ps : List P) :
    (X env C).call_gate_ref .other ps = .error .NotAGate := rfl
@[simp] theorem X_gate_ref_as_gate_gate (env : Env) (C : Codec P E) (gi : GateInfo) :
    (X env C).gate_ref_as_gate (.gate gi) = if gi.prototype then .error .NotAGate
      else .ok (.MatrixFactoryGate (sN gi.gateName) none [] gi.numQubits gi.hermitian) := rfl
@[simp] theorem X_gate_ref_as_gate_other (env : Env) (C : Codec P E) :
    (X env C).gate_ref_as_gate .other = .error .NotAGate := rfl
@[simp] theorem X_Circuit (env : Env) (C : Codec P E) (ops : List (TOp P E)) (n : Int) :
    (X env C).Circuit ops n = embE (match mkCircuit (ops.map projOp) n with
      | .ok c => .ok ⟨c.nQubits, ops⟩
      | .error e => .error e) := rfl

/-- the module constants of `_gates.py` (regenerated) are the markers of the model's environment -/
structure EnvMatches (env : Env) : Prop where
  control : TranslatedC05.CONTROLLED_GATE_NAME = sN env.control
  dagger : TranslatedC05.DAGGER_GATE_NAME = sN env.dagger
  exponential : TranslatedC05.EXPONENTIAL_GATE_NAME = sN env.exponential
  power : TranslatedC05.POWER_GATE_SYMBOL = sN env.power

def WFOp (o : TOp P E) : Prop := WF o.gate
def WFC (c : TCirc P E) : Prop := ∀ o ∈ c.ops, WFOp o

/-! ### the model's dictionaries as JSON values (key order = the order `to_dict` writes) -/

def encStrs (l : List Name) : JV E := .arr (l.map (fun n => .str (sN n)))

def optEntry (k : String) (l : List Name) : List (String × JV E) := if l.isEmpty then [] else [(k, encStrs l)]

def nameEntry : Option Name → List (String × JV E)
  | none => []
  | some n => [("name", .str (sN n))]

def ncEntry : Option Int → List (String × JV E)
  | none => []
  | some k => [("num_control_qubits", .int k)]

def exEntry : Option E → List (String × JV E)
  | none => []
  | some e => [("exponent", .num e)]

def encG : GDict E → JV E
  | .leaf name ps fs nc ex =>
    .obj (nameEntry name ++ optEntry "params" ps ++ optEntry "free_symbols" fs ++ ncEntry nc ++ exEntry ex)
  | .wrap name ps fs inner nc ex =>
    .obj (nameEntry name ++ optEntry "params" ps ++ optEntry "free_symbols" fs ++ [("wrapped_gate", encG inner)]
      ++ ncEntry nc ++ exEntry ex)

def encOp (o : OpDict E) : JV E :=
  .obj [("type", .str "gate_operation"), ("gate", encG o.gate), ("qubit_indices", .arr (o.qubits.map .int))]

def encDef (d : DefDict) : JV E :=
  .obj [("gate_name", .str (sN d.gateName)),
        ("matrix", .arr (d.matrix.map (fun row => .arr (row.map (fun t => .str (sN t)))))),
        ("params_ordering", encStrs d.ordering)]

def encC (d : CDict E) : JV E :=
  .obj ((match d.nQubits with | none => [] | some n => [("n_qubits", .int n)])
    ++ (if d.ops.isEmpty then [] else [("operations", .arr (d.ops.map encOp))])
    ++ (if d.defs.isEmpty then [] else [("custom_gate_definitions", .arr (d.defs.map encDef))]))

def encCs (ds : List (CDict E)) : JV E := .obj [("circuits", .arr (ds.map encC))]

/-- nesting depth of a gate dictionary (the recursion depth of `_gate_from_dict` on it) -/
def gdepth : GDict E → Nat
  | .leaf .. => 0
  | .wrap _ _ _ inner _ _ => gdepth inner + 1

@[simp] theorem bind_ok {ε α β : Type} (a : α) (f : α → Except ε β) : Except.bind (.ok a) f = f a := rfl
@[simp] theorem bind_error {ε α β : Type} (e : ε) (f : α → Except ε β) : Except.bind (.error e) f = .error e := rfl
@[simp] theorem map_ok' {ε α β : Type} (a : α) (f : α → β) : Except.map f (.ok a : Except ε α) = .ok (f a) := rfl
@[simp] theorem map_error' {ε α β : Type} (e : ε) (f : α → β) : Except.map f (.error e : Except ε α) = .error e := rfl

@[simp] theorem asStr_str (s : String) : asStr (.str s : JV E) = .ok s := rfl
@[simp] theorem asInt_int (n : Int) : asInt (.int n : JV E) = .ok n := rfl
@[simp] theorem asNum_num (e : E) : asNum (.num e : JV E) = .ok e := rfl
@[simp] theorem asList_arr (l : List (JV E)) : asList (.arr l : JV E) = .ok l := rfl

theorem mapE_cons {α β ε : Type} (f : α → Except ε β) (a : α) (as : List α) :
    mapE f (a :: as) = (f a).bind fun b => (mapE f as).bind fun bs => .ok (b :: bs) := by
  rw [mapE]
  cases f a with
  | error e => rfl
  | ok b => cases mapE f as <;> rfl

theorem mapM_eq_mapE {α β ε : Type} (f : α → Except ε β) (l : List α) : l.mapM f = mapE f l := by
  induction l with
  | nil => rfl
  | cons a as ih => rw [List.mapM_cons, ih, mapE_cons]; rfl

theorem mapE_congr {α β ε : Type} (f g : α → Except ε β) (l : List α) (h : ∀ a ∈ l, f a = g a) : mapE f l = mapE g l := by
  induction l with
  | nil => rfl
  | cons a as ih => rw [mapE_cons, mapE_cons, h a List.mem_cons_self, ih fun y hy => h y (List.mem_cons_of_mem _ hy)]

@[simp] theorem mapE_pure {α β ε : Type} (g : α → β) (l : List α) :
    mapE (fun a => (.ok (g a) : Except ε β)) l = .ok (l.map g) := by
  induction l with
  | nil => rfl
  | cons a as ih => simp only [mapE, ih, List.map_cons]

@[simp] theorem mapE_id {α ε : Type} (l : List α) : mapE (Except.ok : α → Except ε α) l = .ok l :=
  (mapE_pure id l).trans (congrArg _ (List.map_id l))

theorem embE_mapE {α β : Type} (f : α → Except OQ.C05.Err β) (l : List α) :
    embE (mapE f l) = mapE (fun a => embE (f a)) l := by
  induction l with
  | nil => rfl
  | cons a as ih =>
    rw [mapE_cons, mapE_cons, ← ih]
    cases f a with
    | error e => rfl
    | ok b => cases mapE f as <;> rfl

theorem mapE_embE_map {α β β' : Type} (p : β → β') (g : α → Except OQ.C05.Err β) (l : List α) :
    mapE (fun a => embE (Except.map p (g a))) l = embE (Except.map (List.map p) (mapE g l)) := by
  induction l with
  | nil => rfl
  | cons a as ih =>
    simp only [mapE, ih]
    cases g a with
    | error e => rfl
    | ok b => cases mapE g as <;> rfl

theorem mapE_map {α β γ ε : Type} (f : β → Except ε γ) (g : α → β) (l : List α) :
    mapE f (l.map g) = mapE (fun a => f (g a)) l := by
  induction l with
  | nil => rfl
  | cons a as ih => simp [mapE, ih]

theorem asList_encStrs (l : List Name) : asList (encStrs l : JV E) = .ok (l.map (fun n => JV.str (sN n))) := rfl

@[simp] theorem asStrs_encStrs (l : List Name) : asStrs (encStrs l : JV E) = .ok (l.map sN) := by
  simp only [asStrs, asList_encStrs, bind_ok, mapE_map, asStr_str, mapE_pure]

@[simp] theorem asInts_ints (l : List Int) : asInts (.arr (l.map .int) : JV E) = .ok l := by
  simp only [asInts, asList_arr, bind_ok, mapE_map, asInt_int, mapE_id]

theorem asStrss_enc (m : List (List Name)) :
    TranslatedC05.asStrss (.arr (m.map (fun row => .arr (row.map (fun t => .str (sN t))))) : JV E) = .ok (m.map (fun row => row.map sN)) := by
  simp only [TranslatedC05.asStrss, asList_arr, bind_ok, mapE_map, ← encStrs.eq_1, asStrs_encStrs, mapE_pure]

theorem lookup_append (k : String) (a b : List (String × JV E)) :
    lookup k (a ++ b) = (lookup k a).or (lookup k b) := by
  induction a with
  | nil => rfl
  | cons p as ih =>
    obtain ⟨k', v⟩ := p
    by_cases h : k' = k <;> simp [lookup, h, ih]

/-! ### `sorted(map(str, gate.free_symbols))` does not reorder what `get_free_symbols` returns -/

theorem ltChars_eq (a b : List Char) : ltChars a b = nameLt a b := by
  induction a generalizing b with
  | nil => cases b <;> rfl
  | cons x xs ih => cases b with
    | nil => rfl
    | cons y ys => simp only [ltChars, nameLt, ih]

theorem nameLt_iff (a b : Name) : nameLt a b = true ↔ a < b := by
  induction a generalizing b with
  | nil => cases b <;> simp [nameLt]
  | cons x xs ih => cases b with
    | nil => simp [nameLt]
    | cons y ys => simp [nameLt, List.cons_lt_cons_iff, ih, Char.lt_def]

theorem insertName_sorted (x : Name) : ∀ l : List Name, l.Pairwise (· < ·) → (insertName x l).Pairwise (· < ·)
  | [], _ => List.pairwise_singleton _ _
  | y :: ys, h => by
    obtain ⟨hy, hys⟩ := List.pairwise_cons.mp h
    rw [insertName]
    split
    · exact h
    · next hxy =>
      split
      · next hlt =>
        have hlt := (nameLt_iff x y).mp hlt
        exact List.pairwise_cons.mpr ⟨fun z hz => (List.mem_cons.mp hz).elim (· ▸ hlt) fun hz => Std.lt_trans hlt (hy z hz), h⟩
      · next hlt =>
        -- the order is total: `x` is neither `y` nor below it
        have hyx : y < x := Std.lt_of_le_of_ne (List.not_lt.mp (mt (nameLt_iff x y).mpr hlt)) (Ne.symm hxy)
        exact List.pairwise_cons.mpr ⟨fun z hz => ((mem_insertName x z ys).mp hz).elim (· ▸ hyx) (hy z), insertName_sorted x ys hys⟩

theorem sortDedup_sorted : ∀ l : List Name, (sortDedup l).Pairwise (· < ·)
  | [] => List.Pairwise.nil
  | a :: as => insertName_sorted a _ (sortDedup_sorted as)

theorem sortedStr_of_sorted : ∀ l : List Name, l.Pairwise (· < ·) → sortedStr (l.map sN) = l.map sN
  | [], _ => rfl
  | [a], _ => rfl
  | a :: b :: r, h => by
    obtain ⟨ha, hr⟩ := List.pairwise_cons.mp h
    have := sortedStr_of_sorted (b :: r) hr
    simp only [List.map_cons, sortedStr, List.foldr_cons] at this ⊢
    rw [this]
    simp only [insertStr, String.toList_ofList, ltChars_eq, (nameLt_iff a b).mpr (ha b List.mem_cons_self), if_true]

theorem params_proj (g : TGate P E) : TranslatedGates.Gate.params g = (proj g).params := by
  induction g with
  | MatrixFactoryGate nm f ps nq h => cases f <;> rfl
  | _ => simpa only [TranslatedGates.Gate.params, proj, Gate.params]

theorem free_symbols_proj (env : Env) (C : Codec P E) (g : TGate P E) :
    TranslatedGates.Gate.free_symbols (X env C).gx g = Gate.free C (proj g) := by
  cases g with
  | MatrixFactoryGate nm f ps nq h => cases f <;> rfl
  | _ => simp [TranslatedGates.Gate.free_symbols, Gate.free, params_proj, TranslatedGates.Gate.params, proj, Gate.params]

def gname : GDict E → Option Name
  | .leaf n .. => n
  | .wrap n .. => n
def gparams : GDict E → List Name
  | .leaf _ ps .. => ps
  | .wrap _ ps .. => ps
def gfree : GDict E → List Name
  | .leaf _ _ fs .. => fs
  | .wrap _ _ fs .. => fs
def ginner : GDict E → Option (GDict E)
  | .leaf .. => none
  | .wrap _ _ _ i _ _ => some i
def gnc : GDict E → Option Int
  | .leaf _ _ _ nc _ => nc
  | .wrap _ _ _ _ nc _ => nc
def gex : GDict E → Option E
  | .leaf _ _ _ _ ex => ex
  | .wrap _ _ _ _ _ ex => ex

theorem encStrs_nil : (encStrs [] : JV E) = .arr [] := rfl

/-- a key that is written only when it has a value -/
def entry (k : String) : Option (JV E) → List (String × JV E)
  | none => []
  | some v => [(k, v)]

theorem lookup_entry (k k' : String) (v : Option (JV E)) : lookup k (entry k' v) = if k' = k then v else none := by
  cases v with
  | none => exact (ite_self none).symm
  | some v => rfl

/-- the value of a key that is written for a non-empty list only (`params`, `free_symbols`, `operations`, …) -/
def unlessEmpty {α : Type} (l : List α) (v : JV E) : Option (JV E) := if l.isEmpty then none else some v

theorem unlessEmpty_getD {α : Type} (l : List α) (f : α → JV E) :
    (unlessEmpty l (.arr (l.map f))).getD (.arr []) = .arr (l.map f) := by
  cases l <;> rfl

theorem entry_unlessEmpty {α : Type} (k : String) (l : List α) (v : JV E) :
    entry k (unlessEmpty l v) = if l.isEmpty then [] else [(k, v)] := by
  cases l <;> rfl

theorem strs_getD (l : List Name) : (unlessEmpty l (encStrs l : JV E)).getD (.arr []) = encStrs l :=
  unlessEmpty_getD l _

theorem truthy_strs (l : List Name) : truthyOpt (unlessEmpty l (encStrs l : JV E)) = .ok (!l.isEmpty) := by
  cases l <;> rfl

theorem optEntry_eq (k : String) (l : List Name) :
    (optEntry k l : List (String × JV E)) = entry k (unlessEmpty l (encStrs l)) :=
  (entry_unlessEmpty k l _).symm

theorem nameEntry_eq (n : Option Name) : (nameEntry n : List (String × JV E)) = entry "name" (n.map fun n => .str (sN n)) := by
  cases n <;> rfl

theorem ncEntry_eq (nc : Option Int) : (ncEntry nc : List (String × JV E)) = entry "num_control_qubits" (nc.map .int) := by
  cases nc <;> rfl

theorem exEntry_eq (ex : Option E) : exEntry ex = entry "exponent" (ex.map .num) := by
  cases ex <;> rfl

theorem getItem_obj (kv : List (String × JV E)) (k : String) :
    getItem (.obj kv) k = match lookup k kv with | some v => .ok v | none => .error .KeyError := rfl
theorem getOpt_obj (kv : List (String × JV E)) (k : String) : getOpt (.obj kv) k = .ok (lookup k kv) := rfl
theorem getD_obj (kv : List (String × JV E)) (k : String) (dflt : JV E) :
    getD (.obj kv) k dflt = .ok ((lookup k kv).getD dflt) := by
  cases h : lookup k kv <;> simp only [getD, h, Option.getD]

theorem encG_obj (d : GDict E) : ∃ kv, encG d = .obj kv ∧
    lookup "name" kv = (gname d).map (fun n => .str (sN n)) ∧
    lookup "params" kv = unlessEmpty (gparams d) (encStrs (gparams d)) ∧
    lookup "free_symbols" kv = unlessEmpty (gfree d) (encStrs (gfree d)) ∧
    lookup "wrapped_gate" kv = (ginner d).map encG ∧
    lookup "num_control_qubits" kv = (gnc d).map .int ∧ lookup "exponent" kv = (gex d).map .num := by
  cases d <;> refine ⟨_, rfl, ?_⟩ <;>
    simp only [nameEntry_eq, optEntry_eq, ncEntry_eq, exEntry_eq, gname, gparams, gfree, ginner, gnc, gex, lookup_append, lookup_entry,
      lookup, String.reduceEq, if_true, if_false, Option.or_none, Option.none_or, Option.map_none, Option.map_some, and_self]

theorem encC_eq (d : CDict E) : encC d = .obj (entry "n_qubits" (d.nQubits.map .int) ++
    entry "operations" (unlessEmpty d.ops (.arr (d.ops.map encOp))) ++
    entry "custom_gate_definitions" (unlessEmpty d.defs (.arr (d.defs.map encDef)))) := by
  rw [entry_unlessEmpty, entry_unlessEmpty]
  unfold encC
  cases d.nQubits <;> rfl

theorem read_params (env : Env) (C : Codec P E) (ps : List Name) (names : List Name) :
    mapE (fun (param : JV E) => Except.bind (asStr param) (fun v => (X env C).deserialize_expr v (names.map sN)))
      (ps.map (fun n => JV.str (sN n))) = embE (mapE (deserializeExpr C names) ps) := by
  rw [mapE_map, embE_mapE]
  refine mapE_congr _ _ _ fun a _ => ?_
  simp only [asStr_str, bind_ok, X_deserialize_expr, List.map_map, Function.comp_def, String.toList_ofList, List.map_id']

theorem nextE_find (defs : List (CustomDef P)) (n : Name) :
    nextE (fun (g : CustomDef P) => (Except.ok (decide (g.gateName = n)) : Except PyT8.Err Bool)) defs
      = .ok (defs.find? (nameEq n)) := by
  induction defs with
  | nil => rfl
  | cons a as ih =>
    by_cases h : a.gateName = n
    · simp [nextE, h, nameEq, List.find?]
    · simp only [nextE, h, decide_false, ih, List.find?, nameEq]
      have : (a.gateName == n) = false := by simpa using h
      rw [this]

theorem nextE_error (defs : List (CustomDef P)) :
    nextE (fun (_ : CustomDef P) => (Except.error .KeyError : Except PyT8.Err Bool)) defs
      = match defs with | [] => .ok none | _ :: _ => .error .KeyError := by
  cases defs <;> rfl

theorem subInChars_eq (s sub : List Char) : subInChars s sub = containsSub s sub := by
  induction s with
  | nil => rfl
  | cons c cs ih => simp [subInChars, containsSub, ih]

theorem tie_bind {α α' β β' : Type} {p : α → α'} {q : β → β'} {t : Except PyT8.Err α} {m : Except OQ.C05.Err α'}
    {K : α → Except PyT8.Err β} {K' : α' → Except OQ.C05.Err β'}
    (h : Except.map p t = embE m) (hK : ∀ a, Except.map q (K a) = embE (K' (p a))) :
    Except.map q (t.bind K) = embE (m.bind K') := by
  cases t with
  | error e =>
    cases m with
    | error e' => exact congrArg Except.error (Except.error.inj h)
    | ok a' => exact nomatch h
  | ok a =>
    cases m with
    | error e' => exact nomatch h
    | ok a' =>
      obtain rfl := Except.ok.inj h
      exact hK a

theorem tie_ite {α α' : Type} {p : α → α'} {c : Prop} [Decidable c] {t t' : Except PyT8.Err α}
    {m m' : Except OQ.C05.Err α'} (h : Except.map p t = embE m) (h' : Except.map p t' = embE m') :
    Except.map p (if c then t else t') = embE (if c then m else m') := by
  by_cases hc : c
  · rw [if_pos hc, if_pos hc]; exact h
  · rw [if_neg hc, if_neg hc]; exact h'

theorem mapE_rel {α β β' : Type} (p : β → β') (f : α → Except PyT8.Err β) (g : α → Except OQ.C05.Err β') (l : List α)
    (h : ∀ a ∈ l, Except.map p (f a) = embE (g a)) : Except.map (List.map p) (mapE f l) = embE (mapE g l) := by
  induction l with
  | nil => rfl
  | cons a as ih =>
    rw [mapE_cons, mapE_cons]
    exact tie_bind (h a List.mem_cons_self) fun b =>
      tie_bind (ih fun y hy => h y (List.mem_cons_of_mem _ hy)) fun bs => rfl

theorem mk_controlled_tie (g : TGate P E) (k : Int) :
    Except.map proj (TranslatedC05.liftG (TranslatedGates.mk_ControlledGate g k)) = embE (mkControlled (proj g) k) := by
  unfold TranslatedGates.mk_ControlledGate mkControlled
  by_cases h : k < 1 <;> simp [h, TranslatedC05.liftG, proj, embErr]

/-- `Exponential.__post_init__` and `Power.__post_init__` make the same check: the wrapped gate has no free symbols -/
theorem mk_closed_tie (env : Env) (C : Codec P E) (g w : TGate P E) (w' : Gate P E) (hw : proj w = w') :
    Except.map proj (TranslatedC05.liftG (if Int.ofNat (TranslatedGates.Gate.free_symbols (X env C).gx g).length > 0
      then .error .ValueError else .ok w)) = embE (if (Gate.free C (proj g)).isEmpty then .ok w' else .error .value) := by
  rw [free_symbols_proj, ← hw]
  cases Gate.free C (proj g) <;> simp [TranslatedC05.liftG, embErr]

theorem exceptKeyError_tie {a b : Except PyT8.Err (TGate P E)} {ma mb : Except OQ.C05.Err (Gate P E)}
    (ha : Except.map proj a = embE ma) (hb : Except.map proj b = embE mb) :
    Except.map proj (exceptKeyError a b) = embE (orKey ma mb) := by
  cases a with
  | ok g =>
    cases ma with
    | ok g' => exact ha
    | error e => exact nomatch ha
  | error e =>
    cases ma with
    | ok g' => exact nomatch ha
    | error e' =>
      obtain rfl := Except.error.inj ha
      cases e' with
      | key => exact hb
      | _ => rfl

theorem gateFromDict_cascade (env : Env) (C : Codec P E) (defs : List (CustomDef P)) (d : GDict E) :
    gateFromDict env C defs d = orKey (builtinFromDict env C (gname d) (gparams d) (gfree d))
      (orKey (specialFromDict env C (gname d) ((ginner d).map (gateFromDict env C defs)) (gnc d) (gex d))
        (customFromDict C defs (gname d) (gparams d) (gfree d))) := by
  cases d <;> exact cascade_eq ..

theorem opFromDict_eq (env : Env) (C : Codec P E) (defs : List (CustomDef P)) (o : OpDict E) :
    opFromDict env C defs o = (gateFromDict env C defs o.gate).bind fun g => .ok ⟨g, o.qubits⟩ := by
  unfold opFromDict
  cases gateFromDict env C defs o.gate <;> rfl

theorem mkCircuit_ops {ops : List (Op P E)} {n : Int} {c : Circuit P E} (h : mkCircuit ops n = .ok c) : c.ops = ops := by
  unfold mkCircuit at h
  split at h
  · cases hs : sizeByOps ops with
    | error e => rw [hs] at h; exact nomatch h
    | ok k => rw [hs] at h; exact Except.ok.inj h ▸ rfl
  · split at h
    · exact nomatch h
    · exact Except.ok.inj h ▸ rfl

theorem circuitFromDict_eq (env : Env) (C : Codec P E) (d : CDict E) :
    circuitFromDict env C d = (mapE (defFromDict C) d.defs).bind fun defs =>
      (mapE (opFromDict env C defs) d.ops).bind fun ops => (optKey d.nQubits).bind (mkCircuit ops) := by
  unfold circuitFromDict
  rw [mapM_eq_mapE]
  cases mapE (defFromDict C) d.defs with
  | error e => rfl
  | ok defs =>
    simp only [mapM_eq_mapE, bind_ok]
    cases mapE (opFromDict env C defs) d.ops with
    | error e => rfl
    | ok ops => cases d.nQubits <;> rfl

end TS
end OQ.C05
