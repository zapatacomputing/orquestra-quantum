/- C08: concrete data for the non-vacuity examples of OQ/Props/C08.lean (exact scalars ℤ[i], an external satisfying
   the assumed laws, regular gates, an example circuit). -/
import OQ.Lemmas.C08
import Mathlib.NumberTheory.Zsqrtd.GaussianInt
namespace OQ.C08
open Matrix OQ.Spec

deriving instance DecidableEq for OQ.Mat

/-- exact scalars for the examples: the Gaussian integers with their conjugation -/
def kG : Scal GaussianInt := ⟨⟨0, 1⟩, 0, 0, 0, star⟩
/-- a (partial) external satisfying the laws: only the first power is available -/
def x1 : Ext GaussianInt := ⟨fun _ => none, fun m e => if e = 1 then some m else none⟩

theorem x1_laws : Gate.ExtLaws kG x1 := Link.xPow1_laws kG

def gS : Gate GaussianInt := .base "S" (Gates.s kG) 1 false
def gX : Gate GaussianInt := .base "X" Gates.x 1 true
def gCN : Gate GaussianInt := .base "CNOT" Gates.cnot 2 true

theorem gS_regular : Gate.Regular kG gS :=
  Gate.Regular.base _ _ _ _ (canon_ofLists _) (by decide) (by decide) (by intro h; cases h)
theorem gX_regular : Gate.Regular kG gX :=
  Gate.Regular.base _ _ _ _ (canon_ofLists _) (by decide) (by decide) (by intro _; decide +kernel)
theorem gCN_regular : Gate.Regular kG gCN :=
  Gate.Regular.base _ _ _ _ (canon_ofLists _) (by decide) (by decide) (by intro _; decide +kernel)

/-- a circuit of regular gates with a self-adjoint gate, a wrapped (controlled dagger) gate, an exponential and an
    integer power, on unordered / gapped qubits: the hypotheses of the `_partial` theorems are satisfiable -/
def cEx : Circ (Gate GaussianInt) :=
  mkCirc [⟨gX, [2]⟩, ⟨.ctrl (.dag gS) 1, [3, 0]⟩, ⟨.pow gCN 1, [1, 3]⟩, ⟨.exp gS, [0]⟩] 0

theorem cEx_regular : ∀ o ∈ cEx.ops, Gate.Regular kG o.gate := by
  intro o ho
  simp only [cEx, mkCirc_ops, List.mem_cons, List.not_mem_nil, or_false] at ho
  rcases ho with rfl | rfl | rfl | rfl
  · exact gX_regular
  · exact Gate.Regular.ctrl _ _ (Gate.Regular.dag _ gS_regular)
  · exact Gate.Regular.pow _ _ gCN_regular (by decide)
  · exact Gate.Regular.exp _ gS_regular

end OQ.C08
