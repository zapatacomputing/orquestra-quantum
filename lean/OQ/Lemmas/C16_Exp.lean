/-
  Over ℂ: exp(−iθP) = cos θ·1 − i sin θ·P for every Pauli string P, because the circuit's own basis change diagonalises P to a
  ±1 diagonal and the exponential of a diagonal matrix is entrywise.  Also the constants, angle points and number operations
  at which the ring statements are instantiated (`Scal.complex`, `angReal`, `realAlg`).
-/
import OQ.Lemmas.C16
import Mathlib.Analysis.Normed.Algebra.MatrixExponential
import Mathlib.Analysis.SpecialFunctions.Trigonometric.Basic
import Mathlib.Analysis.SpecialFunctions.Exponential
set_option linter.unusedSectionVars false
namespace OQ.C16
open Matrix OQ.Spec OQ.Pauli Complex

section expo
variable {m : Type} [Fintype m] [DecidableEq m]

theorem exp_sign_diag (θ : ℝ) (d : m → ℂ) (hd : ∀ x, d x = 1 ∨ d x = -1) :
    NormedSpace.exp ((-(I * θ)) • Matrix.diagonal d)
      = (Real.cos θ : ℂ) • (1 : Matrix m m ℂ) - (I * Real.sin θ) • Matrix.diagonal d := by
  have h1 : (-(I * θ)) • Matrix.diagonal d = Matrix.diagonal (fun x => -(I * θ) * d x) :=
    (Matrix.diagonal_smul _ _).symm
  rw [h1, Matrix.exp_diagonal, ← Matrix.diagonal_one, ← Matrix.diagonal_smul, ← Matrix.diagonal_smul,
    Matrix.diagonal_sub]
  congr 1; funext x
  simp only [Pi.coe_exp, Pi.sub_apply, Pi.smul_apply, smul_eq_mul, mul_one, ← Complex.exp_eq_exp_ℂ]
  rcases hd x with h | h <;> rw [h]
  · have : -(I * (θ:ℂ)) * 1 = ((-θ : ℝ) : ℂ) * I := by push_cast; ring
    rw [this, Complex.exp_mul_I, ← Complex.ofReal_cos, ← Complex.ofReal_sin, Real.cos_neg, Real.sin_neg]
    push_cast; ring
  · have : -(I * (θ:ℂ)) * (-1) = ((θ : ℝ) : ℂ) * I := by ring
    rw [this, Complex.exp_mul_I, ← Complex.ofReal_cos, ← Complex.ofReal_sin]
    ring

theorem exp_conj_sign (θ : ℝ) (V B : Matrix m m ℂ) (hVB : V * B = 1) (d : m → ℂ) (hd : ∀ x, d x = 1 ∨ d x = -1) :
    NormedSpace.exp ((-(I * θ)) • (V * Matrix.diagonal d * B))
      = (Real.cos θ : ℂ) • (1 : Matrix m m ℂ) - (I * Real.sin θ) • (V * Matrix.diagonal d * B) := by
  have hinv : V⁻¹ = B := Matrix.inv_eq_right_inv hVB
  have hu : IsUnit V := (Matrix.isUnit_iff_isUnit_det V).mpr (Matrix.isUnit_det_of_right_inverse hVB)
  have e1 : (-(I * θ)) • (V * Matrix.diagonal d * B) = V * ((-(I * θ)) • Matrix.diagonal d) * V⁻¹ := by
    rw [hinv, Matrix.mul_smul, Matrix.smul_mul]
  rw [e1, Matrix.exp_conj _ _ hu, exp_sign_diag θ d hd, hinv]
  exact rot_conj hVB _ _ _
end expo

variable {ι : Type} [Fintype ι] [DecidableEq ι]

/-- the constants over ℂ -/
noncomputable def Scal.complex : Scal ℂ :=
  ⟨I, ((Real.sqrt 2 / 2 : ℝ) : ℂ), Complex.exp (I * (Real.pi / 4)), 1 / 2, star⟩

theorem scalLaws_complex : ScalLaws Scal.complex where
  ii := Complex.I_mul_I
  rr := by
    show (2 : ℂ) * ((Real.sqrt 2 / 2 : ℝ) : ℂ) * ((Real.sqrt 2 / 2 : ℝ) : ℂ) = 1
    rw [mul_assoc, ← Complex.ofReal_mul, div_mul_div_comm, Real.mul_self_sqrt zero_le_two]
    norm_num
  cj := rfl
  star_i := Complex.conj_I
  star_r := Complex.conj_ofReal _

/-- half-angle point of a real angle -/
noncomputable def angReal (θ : ℝ) : Ang ℂ := ⟨(Real.cos (θ / 2) : ℂ), (Real.sin (θ / 2) : ℂ)⟩

theorem angReal_laws (θ : ℝ) : AngLaws (angReal θ) := by
  refine ⟨?_, Complex.conj_ofReal _, Complex.conj_ofReal _⟩
  simp only [angReal]
  rw [← Complex.ofReal_mul, ← Complex.ofReal_mul, ← Complex.ofReal_add, ← sq, ← sq, Real.cos_sq_add_sin_sq,
    Complex.ofReal_one]

/-- the model's number operations at Q = T = ℝ -/
noncomputable def realAlg : TimeAlg ℝ ℝ := ⟨(· + ·), (· * ·), Real.pi⟩

theorem angReal_half_pi : angReal (realAlg.smul (1 / ((2 : ℕ) : ℝ)) realAlg.pi) = ⟨Scal.complex.r, Scal.complex.r⟩ := by
  have : (1 / ((2 : ℕ) : ℝ)) * Real.pi / 2 = Real.pi / 4 := by push_cast; ring
  simp only [angReal, realAlg, this, Real.cos_pi_div_four, Real.sin_pi_div_four, Scal.complex]

/-- the letter-wise diagonal form: 1 for the identity, Z for X, Y, Z -/
def dMat (R : Type) [CommRing R] : Option P → Matrix Bool Bool R
  | none => 1
  | some _ => σz

theorem dMat_diag (R : Type) [CommRing R] (o : Option P) :
    dMat R o = Matrix.diagonal (fun b => match o with | none => 1 | some _ => sgn b) := by
  cases o with
  | none => simp [dMat]
  | some p => simp [dMat, σz]

theorem pauliString_diag {R : Type} [CommRing R] [StarRing R] (k : Scal R) (hk : ScalLaws k) (pa : ι → Option P) :
    pauliString k pa = tensor (fun p => bInv k (pa p)) * tensor (fun p => dMat R (pa p)) * tensor (fun p => bMat k (pa p)) := by
  rw [tensor_mul, tensor_mul]
  unfold pauliString
  congr 1
  funext p
  cases h : pa p with
  | none => simp [dMat, bInv, bMat, pauliB_none]
  | some o => simp only [dMat]; exact (bInv_z_bMat k hk o).symm

theorem exp_pauliString (pa : ι → Option P) (θ : ℝ) :
    NormedSpace.exp ((-(I * θ)) • pauliString Scal.complex pa)
      = (Real.cos θ : ℂ) • (1 : Matrix (BV ι) (BV ι) ℂ) - (I * Real.sin θ) • pauliString Scal.complex pa := by
  have hk := scalLaws_complex
  have hVB : (tensor (fun p => bInv Scal.complex (pa p)) : Matrix (BV ι) (BV ι) ℂ)
      * tensor (fun p => bMat Scal.complex (pa p)) = 1 := by
    simp only [tensor_mul, bInv_mul_bMat _ hk, tensor_one]
  rw [pauliString_diag Scal.complex hk pa]
  simp only [dMat_diag, tensor_diagonal]
  apply exp_conj_sign θ _ _ hVB
  intro x
  -- a product of signs is a sign
  apply Finset.prod_induction _ (fun z : ℂ => z = 1 ∨ z = -1)
  · rintro a b (rfl | rfl) (rfl | rfl) <;> simp
  · exact Or.inl rfl
  · intro q _
    cases pa q with
    | none => simp
    | some o => cases x q <;> simp [sgn]


/-- the half angle of the central gate `RZ(2 * time * c)` -/
theorem central_half (c τ : ℝ) : realAlg.smul c (realAlg.smul ((2 : ℕ) : ℝ) τ) / 2 = τ * c := by
  simp only [realAlg]; push_cast; ring

theorem termFactor_exp (rg : Register ι) (t : Term (ℝ × ℝ)) (τ : ℝ) :
    termFactor Scal.complex angReal rg t (realAlg.smul t.coeff.1 (realAlg.smul ((2 : ℕ) : ℝ) τ))
      = if t.ops = [] then 1 else
          NormedSpace.exp ((-(I * ((τ * t.coeff.1 : ℝ) : ℂ))) • pauliString Scal.complex (fun p => t.opAt (rg.lab p))) := by
  unfold termFactor
  split_ifs
  · rfl
  · rw [exp_pauliString]
    simp only [angReal, central_half, Scal.complex]

end OQ.C16
