/-
  C03 — tensor products of 2×2 factors as matrices on the 2ⁿ-dimensional space, entry-wise with natural-number
  indices exactly as the executable `Mat.kron` computes them (factor 0 leftmost = most significant bit).
  `tens_mul` is the mixed-product property  (⨂ f)(⨂ g) = ⨂ (f·g).
-/
import OQ.Model.C03
import OQ.Lemmas.Bridge
import Mathlib.Data.Matrix.Basic
import Mathlib.LinearAlgebra.Matrix.Notation
import Mathlib.Tactic.FinCases
import Mathlib.Tactic.Ring
import Mathlib.Tactic.Linarith

namespace OQ.C03
open OQ.Pauli Matrix

variable {R : Type} [CommRing R]

def b2 (i : Nat) : Fin 2 := ⟨i % 2, Nat.mod_lt _ (by decide)⟩

@[simp] theorem b2_two_mul (a : Nat) : b2 (2 * a) = 0 := by ext; simp [b2]
@[simp] theorem b2_two_mul_add_one (a : Nat) : b2 (2 * a + 1) = 1 := by ext; simp [b2, Nat.add_mod]

/-- entry (i, j) of `f 0 ⊗ f 1 ⊗ … ⊗ f (n-1)` (factor 0 leftmost = most significant bit) -/
def tensE (f : Nat → Matrix (Fin 2) (Fin 2) R) : Nat → Nat → Nat → R
  | 0, _, _ => 1
  | n + 1, i, j => tensE f n (i / 2) (j / 2) * f n (b2 i) (b2 j)

def tens (f : Nat → Matrix (Fin 2) (Fin 2) R) (n : Nat) : Matrix (Fin (2 ^ n)) (Fin (2 ^ n)) R :=
  Matrix.of (fun i j => tensE f n i j)

@[simp] theorem tens_apply (f : Nat → Matrix (Fin 2) (Fin 2) R) (n : Nat) (i j : Fin (2 ^ n)) :
    tens f n i j = tensE f n i j := rfl

theorem sum_range_bits {M : Type} [AddCommMonoid M] (G : Nat → Fin 2 → M) (m : Nat) :
    ∑ k ∈ Finset.range (2 * m), G (k / 2) (b2 k) = ∑ a ∈ Finset.range m, ∑ b, G a b := by
  induction m with
  | zero => rfl
  | succ m ih =>
    rw [show 2 * (m + 1) = 2 * m + 1 + 1 by ring, Finset.sum_range_succ, Finset.sum_range_succ, ih,
      Finset.sum_range_succ, add_assoc, Fin.sum_univ_two, b2_two_mul, b2_two_mul_add_one, Nat.mul_div_cancel_left m two_pos,
      show (2 * m + 1) / 2 = m by omega]

theorem tensE_mul (f g : Nat → Matrix (Fin 2) (Fin 2) R) (n : Nat) (i j : Nat) :
    ∑ k ∈ Finset.range (2 ^ n), tensE f n i k * tensE g n k j = tensE (fun q => f q * g q) n i j := by
  induction n generalizing i j with
  | zero => simp [tensE]
  | succ n ih =>
    rw [pow_succ']
    refine (sum_range_bits (fun a b => tensE f n (i / 2) a * f n (b2 i) b * (tensE g n a (j / 2) * g n b (b2 j))) _).trans ?_
    simp only [tensE]
    rw [← ih (i / 2) (j / 2), Matrix.mul_apply, Finset.sum_mul]
    refine Finset.sum_congr rfl fun a _ => ?_
    rw [Fin.sum_univ_two, Fin.sum_univ_two]
    ring

theorem tens_mul (f g : Nat → Matrix (Fin 2) (Fin 2) R) (n : Nat) :
    tens f n * tens g n = tens (fun q => f q * g q) n := by
  funext i j
  rw [Matrix.mul_apply]
  simp only [tens_apply]
  rw [Fin.sum_univ_eq_sum_range (fun k => tensE f n i k * tensE g n k j)]
  exact tensE_mul f g n i j

theorem div_two_b2_inj {i j : Nat} : i / 2 = j / 2 ∧ b2 i = b2 j ↔ i = j :=
  ⟨fun ⟨h1, h2⟩ => by
    rw [← Nat.div_add_mod i 2, ← Nat.div_add_mod j 2, h1, show i % 2 = j % 2 from congrArg Fin.val h2],
   fun h => h ▸ ⟨rfl, rfl⟩⟩

theorem tensE_one (n : Nat) (i j : Nat) (hi : i < 2 ^ n) (hj : j < 2 ^ n) :
    tensE (fun _ => (1 : Matrix (Fin 2) (Fin 2) R)) n i j = if i = j then 1 else 0 := by
  induction n generalizing i j with
  | zero => rw [Nat.lt_one_iff.mp hi, Nat.lt_one_iff.mp hj]; rfl
  | succ n ih =>
    simp only [tensE]
    rw [ih (i / 2) (j / 2) (div_two_lt_pow hi) (div_two_lt_pow hj), Matrix.one_apply, ite_zero_mul_ite_zero, mul_one]
    exact if_congr div_two_b2_inj rfl rfl

theorem tens_one (n : Nat) : tens (fun _ => (1 : Matrix (Fin 2) (Fin 2) R)) n = 1 := by
  funext i j
  exact (tensE_one n i j i.2 j.2).trans (if_congr Fin.ext_iff.symm rfl rfl)

theorem tensE_congr {f g : Nat → Matrix (Fin 2) (Fin 2) R} (n : Nat) (h : ∀ q < n, f q = g q) (i j : Nat) :
    tensE f n i j = tensE g n i j := by
  induction n generalizing i j with
  | zero => rfl
  | succ n ih =>
    simp only [tensE]
    rw [ih (fun q hq => h q (by omega)), h n (by omega)]

theorem tens_congr {f g : Nat → Matrix (Fin 2) (Fin 2) R} (n : Nat) (h : ∀ q < n, f q = g q) :
    tens f n = tens g n := by
  funext i j; exact tensE_congr n h i j

theorem tensE_smul_at {f g : Nat → Matrix (Fin 2) (Fin 2) R} (n idx : Nat) (c : R) (hidx : idx < n)
    (hne : ∀ q < n, q ≠ idx → f q = g q) (h : f idx = c • g idx) (i j : Nat) :
    tensE f n i j = c * tensE g n i j := by
  induction n generalizing i j with
  | zero => omega
  | succ n ih =>
    simp only [tensE]
    by_cases hn : idx = n
    · subst hn
      rw [tensE_congr idx (fun q hq => hne q (by omega) (by omega)), h]
      simp only [Matrix.smul_apply, smul_eq_mul]; ring
    · rw [ih (by omega) (fun q hq hq' => hne q (by omega) hq'), hne n (by omega) (fun h' => hn h'.symm)]
      ring

theorem tens_smul_at {f g : Nat → Matrix (Fin 2) (Fin 2) R} (n idx : Nat) (c : R) (hidx : idx < n)
    (hne : ∀ q < n, q ≠ idx → f q = g q) (h : f idx = c • g idx) : tens f n = c • tens g n := by
  funext i j
  simp only [tens_apply, Matrix.smul_apply, smul_eq_mul]
  exact tensE_smul_at n idx c hidx hne h i j

end OQ.C03
