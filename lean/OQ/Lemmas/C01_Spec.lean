/- From basis indices to bit assignments: `bvEquiv n : Fin (2^n) ≃ BV (Fin n)` (qubit 0 = most significant bit), executable
   matrices read along it (`toBV`), the partition `sigmaOf` of the register into a gate's qubits and the others, and
   `_lift_matrix` = `Spec.lift` along that partition. -/
import OQ.Lemmas.C01_Lift
import OQ.Spec.Lift
import Mathlib.Data.List.Nodup
import Mathlib.Data.Fintype.BigOperators

namespace OQ.C01
open OQ.Lift OQ OQ.Spec Matrix
variable {R : Type} [CommRing R]

/-- the bit assignment of a basis index, qubit 0 = most significant bit -/
def toBits (n : Nat) (x : Fin (2 ^ n)) : BV (Fin n) := fun q => x.val.testBit (n - 1 - q.val)

theorem toBits_injective (n : Nat) : Function.Injective (toBits n) := by
  intro x y h
  apply Fin.ext
  rw [eq_iff_bits n _ _ x.2 y.2]
  intro j hj
  rw [bit_eq_iff]
  exact congrFun h ⟨j, hj⟩

noncomputable def bvEquiv (n : Nat) : Fin (2 ^ n) ≃ BV (Fin n) :=
  Equiv.ofBijective (toBits n) ((Fintype.bijective_iff_injective_and_card _).mpr
    ⟨toBits_injective n, by simp [BV]⟩)

@[simp] theorem bvEquiv_apply (n : Nat) (x : Fin (2 ^ n)) (q : Fin n) :
    bvEquiv n x q = x.val.testBit (n - 1 - q.val) := rfl

theorem bit_bv (n : Nat) (x : BV (Fin n)) (q : Fin n) :
    ((bvEquiv n).symm x).val.testBit (n - 1 - q.val) = x q :=
  congrFun ((bvEquiv n).apply_symm_apply x) q

theorem bit_symm_eq_iff (n : Nat) (x y : BV (Fin n)) (q : Fin n) :
    bit n q ((bvEquiv n).symm x).val = bit n q ((bvEquiv n).symm y).val ↔ x q = y q := by
  rw [bit_eq_iff, bit_bv, bit_bv]

noncomputable def toBV (n : Nat) (A : Mat R) : Matrix (BV (Fin n)) (BV (Fin n)) R :=
  Matrix.reindex (bvEquiv n) (bvEquiv n) (Mat.toM (2 ^ n) (2 ^ n) A)

theorem toBV_apply (n : Nat) (A : Mat R) (x y : BV (Fin n)) :
    toBV n A x y = A.get ((bvEquiv n).symm x).val ((bvEquiv n).symm y).val := rfl

/-- the partition of the register into the named qubits (in the listed order) and the others -/
def sigmaOf (qs : List Nat) (n : Nat) (hd : qs.Nodup) (hlt : ∀ q ∈ qs, q < n) :
    Fin qs.length ⊕ {q : Fin n // q.val ∉ qs} ≃ Fin n where
  toFun := fun s => match s with
    | Sum.inl j => ⟨qs[j.val], hlt _ (List.getElem_mem _)⟩
    | Sum.inr m => m.val
  invFun := fun q =>
    if h : q.val ∈ qs then Sum.inl ⟨qs.idxOf q.val, List.idxOf_lt_length_iff.mpr h⟩ else Sum.inr ⟨q, h⟩
  left_inv := by
    intro s
    cases s with
    | inl j =>
      have hm : qs[j.val] ∈ qs := List.getElem_mem _
      simp only [hm, dite_true]
      congr 1
      apply Fin.ext
      exact hd.idxOf_getElem j.val j.2
    | inr m =>
      have := m.2
      simp only [this, dite_false]
  right_inv := by
    intro q
    by_cases h : q.val ∈ qs
    · simp only [h, dite_true]
      apply Fin.ext
      exact List.getElem_idxOf _
    · simp only [h, dite_false]

@[simp] theorem sigmaOf_inl (qs : List Nat) (n : Nat) (hd : qs.Nodup) (hlt : ∀ q ∈ qs, q < n) (j : Fin qs.length) :
    (sigmaOf qs n hd hlt (Sum.inl j)).val = qs[j.val]'j.2 := rfl

@[simp] theorem sigmaOf_inr (qs : List Nat) (n : Nat) (hd : qs.Nodup) (hlt : ∀ q ∈ qs, q < n)
    (m : {q : Fin n // q.val ∉ qs}) : sigmaOf qs n hd hlt (Sum.inr m) = m.val := rfl

theorem testBit_bitsToIndex (l : List Nat) (h : ∀ b ∈ l, b < 2) (j : Nat) (hj : j < l.length) :
    (bitsToIndex l).testBit (l.length - 1 - j) = decide (l[j] = 1) := by
  induction l generalizing j with
  | nil => exact absurd hj (Nat.not_lt_zero _)
  | cons x xs ih =>
    obtain ⟨hx, hxs⟩ := List.forall_mem_cons.mp h
    -- the head bit sits above the `xs.length` bits of the tail
    rw [bitsToIndex_cons, Nat.mul_comm, Nat.testBit_two_pow_mul_add _ (bitsToIndex_lt xs hxs), List.length_cons,
      Nat.add_sub_cancel]
    cases j with
    | zero => rw [Nat.sub_zero, if_neg (Nat.lt_irrefl _), Nat.sub_self, Nat.testBit_zero, Nat.mod_eq_of_lt hx]; rfl
    | succ j =>
      have hj' : j < xs.length := Nat.lt_of_succ_lt_succ hj
      rw [if_pos (by omega), show xs.length - (j + 1) = xs.length - 1 - j by omega, ih hxs j hj']; rfl

theorem sub_testBit (n : Nat) (qs : List Nat) (x : Nat) (j : Nat) (hj : j < qs.length) :
    (sub n qs x).testBit (qs.length - 1 - j) = x.testBit (n - 1 - qs[j]) := by
  have := testBit_bitsToIndex (qs.map (fun q => bit n q x)) (bits_lt n qs x) j (by simpa using hj)
  simp only [List.length_map, List.getElem_map] at this
  rw [sub, this, bit_eq_testBit]
  cases x.testBit (n - 1 - qs[j]) <;> rfl

theorem sub_sigmaOf (qs : List Nat) (n : Nat) (hd : qs.Nodup) (hlt : ∀ q ∈ qs, q < n) (z : BV (Fin n)) :
    ((bvEquiv qs.length).symm (fun k => z (sigmaOf qs n hd hlt (Sum.inl k)))).val = sub n qs ((bvEquiv n).symm z).val := by
  refine congrArg Fin.val (show _ = (⟨sub n qs ((bvEquiv n).symm z).val, sub_lt _ _ _⟩ : Fin _) from ?_)
  rw [Equiv.symm_apply_eq]
  funext k
  rw [bvEquiv_apply, sub_testBit n qs _ k.val k.2]
  exact (bit_bv n z (sigmaOf qs n hd hlt (Sum.inl k))).symm

theorem liftMatrix_eq_lift (m : Mat R) (qs : List Nat) (n : Nat)
    (hne : qs ≠ []) (hd : qs.Nodup) (hlt : ∀ q ∈ qs, q < n)
    (hmr : m.r = 2 ^ qs.length) (hmc : m.c = 2 ^ qs.length) :
    ∃ L, liftMatrix m qs n = some L ∧ L.r = 2 ^ n ∧ L.c = 2 ^ n ∧
      toBV n L = Spec.lift (sigmaOf qs n hd hlt) (toBV qs.length m) := by
  obtain ⟨s, span, t, hn, hq, hL⟩ := liftMatrix_of_valid m qs n hne hd hlt
  obtain ⟨hr, hc, hget⟩ := liftAt_spec m qs s span t n hn hq hd hmr hmc
  refine ⟨_, hL, hr, hc, ?_⟩
  ext x y
  rw [Spec.lift_apply, toBV_apply, hget _ _ (Fin.isLt _) (Fin.isLt _), toBV_apply, sub_sigmaOf, sub_sigmaOf]
  exact if_congr
    ⟨fun h mm => (bit_symm_eq_iff n x y mm.val).mp (h mm.val.val mm.val.2 mm.2),
     fun h q hq hqq => (bit_symm_eq_iff n x y ⟨q, hq⟩).mpr (h ⟨⟨q, hq⟩, hqq⟩)⟩ rfl rfl

end OQ.C01
