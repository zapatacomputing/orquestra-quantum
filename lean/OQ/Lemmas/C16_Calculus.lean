/-
  Entrywise derivatives of matrix-valued functions of a real variable: products, powers, the rotation exp(−iφP), and the
  expectation ⟨Wψ| O |Wψ⟩.
-/
import OQ.Lemmas.C16_Exp
import Mathlib.Analysis.Calculus.Deriv.Mul
import Mathlib.Analysis.Calculus.Deriv.Add
import Mathlib.Analysis.Calculus.Deriv.Star
import Mathlib.Analysis.SpecialFunctions.Trigonometric.Deriv
set_option linter.unusedSectionVars false
namespace OQ.C16
open Matrix Complex

section analytic
variable {m : Type} [Fintype m] [DecidableEq m]

/-- entrywise derivative of a matrix-valued function of a real variable -/
def MDeriv (F : ℝ → Matrix m m ℂ) (F' : Matrix m m ℂ) (t : ℝ) : Prop :=
  ∀ x y, HasDerivAt (fun s => F s x y) (F' x y) t

theorem MDeriv.congr_deriv {F : ℝ → Matrix m m ℂ} {F' G' : Matrix m m ℂ} {t : ℝ}
    (h : MDeriv F F' t) (e : F' = G') : MDeriv F G' t := e ▸ h

theorem MDeriv.const (A : Matrix m m ℂ) (t : ℝ) : MDeriv (fun _ => A) 0 t := by
  intro x y; simpa using hasDerivAt_const t (A x y)

theorem MDeriv.mul {F G : ℝ → Matrix m m ℂ} {F' G' : Matrix m m ℂ} {t : ℝ}
    (hF : MDeriv F F' t) (hG : MDeriv G G' t) : MDeriv (fun s => F s * G s) (F' * G t + F t * G') t := by
  intro x y
  refine (HasDerivAt.fun_sum fun z _ => (hF x z).mul (hG z y)).congr_deriv ?_
  simp only [Matrix.add_apply, Matrix.mul_apply, Finset.sum_add_distrib]

theorem MDeriv.conjTranspose {F : ℝ → Matrix m m ℂ} {F' : Matrix m m ℂ} {t : ℝ}
    (hF : MDeriv F F' t) : MDeriv (fun s => (F s)ᴴ) F'ᴴ t := by
  intro x y
  simpa [Matrix.conjTranspose_apply] using (hF y x).star

theorem mderiv_seqProd (Fs : List ((ℝ → Matrix m m ℂ) × Matrix m m ℂ)) (t : ℝ)
    (h : ∀ f ∈ Fs, MDeriv f.1 f.2 t) :
    MDeriv (fun s => seqProd (Fs.map (fun f => f.1 s)))
      (((splits Fs).map (fun sp => seqProd (sp.2.2.map (fun f => f.1 t)) * sp.2.1.2 * seqProd (sp.1.map (fun f => f.1 t)))).sum) t := by
  induction Fs with
  | nil => simpa [OQ.C16.seqProd, splits] using MDeriv.const (1 : Matrix m m ℂ) t
  | cons f Fs ih =>
    refine ((ih fun g hg => h g (List.mem_cons_of_mem _ hg)).mul (h f List.mem_cons_self)).congr_deriv ?_
    rw [add_comm]
    simp only [splits, List.map_cons, List.sum_cons, List.map_map, List.map_nil, seqProd, Matrix.mul_one,
      Function.comp_def, ← List.sum_map_mul_right, Matrix.mul_assoc]

theorem mderiv_pow {S : ℝ → Matrix m m ℂ} {S' : Matrix m m ℂ} {t : ℝ} (hS : MDeriv S S' t) (n : ℕ) :
    MDeriv (fun s => S s ^ n) (((List.range n).map (fun p => S t ^ (n - 1 - p) * S' * S t ^ p)).sum) t := by
  induction n with
  | zero => simpa using MDeriv.const (1 : Matrix m m ℂ) t
  | succ n ih =>
    have := ih.mul hS
    simp only [← pow_succ] at this
    refine this.congr_deriv ?_
    -- the new factor goes to the right of every old summand (p ↦ p + 1) and is differentiated at p = 0
    rw [List.range_succ_eq_map, List.map_cons, List.sum_cons, List.map_map, add_comm, ← List.sum_map_mul_right]
    simp only [Function.comp_def, Nat.add_sub_cancel, Nat.sub_zero, pow_zero, Matrix.mul_one, Nat.sub_sub, Nat.add_comm 1, pow_succ,
      Matrix.mul_assoc, Nat.succ_eq_add_one]

end analytic

section analytic2
variable {m : Type} [Fintype m] [DecidableEq m]

/-- the rotation exp(−iφP) = cos φ − i sin φ P over ℂ, for a real φ -/
noncomputable def rotC (P : Matrix m m ℂ) (φ : ℝ) : Matrix m m ℂ :=
  rotM Scal.complex P (Real.cos φ : ℂ) (Real.sin φ : ℂ)

theorem rotC_deriv (P : Matrix m m ℂ) (r t : ℝ) :
    MDeriv (fun s => rotC P (s * r)) ((r : ℂ) • rotM Scal.complex P (-(Real.sin (t * r) : ℂ)) (Real.cos (t * r) : ℂ)) t := by
  intro x y
  have hc : HasDerivAt (fun s : ℝ => ((Real.cos (s * r) : ℝ) : ℂ)) ((-Real.sin (t * r) * r : ℝ) : ℂ) t :=
    (hasDerivAt_mul_const r).cos.ofReal_comp
  have hs : HasDerivAt (fun s : ℝ => ((Real.sin (s * r) : ℝ) : ℂ)) ((Real.cos (t * r) * r : ℝ) : ℂ) t :=
    (hasDerivAt_mul_const r).sin.ofReal_comp
  refine ((hc.mul_const ((1 : Matrix m m ℂ) x y)).fun_sub ((hs.const_mul I).mul_const (P x y))).congr_deriv ?_
  simp only [rotM, Scal.complex, Matrix.sub_apply, Matrix.smul_apply, smul_eq_mul]
  push_cast
  ring

/-- ψᴴ M ψ -/
def quad (M : Matrix m m ℂ) (ψ : m → ℂ) : ℂ := ∑ x, ∑ y, star (ψ x) * M x y * ψ y

/-- the expectation ⟨Uψ| O |Uψ⟩ -/
def expect (O U : Matrix m m ℂ) (ψ : m → ℂ) : ℂ := star (U *ᵥ ψ) ⬝ᵥ (O *ᵥ (U *ᵥ ψ))

theorem expect_eq_quad (O U : Matrix m m ℂ) (ψ : m → ℂ) : expect O U ψ = quad (Uᴴ * O * U) ψ := by
  unfold expect quad
  have h1 : star (U *ᵥ ψ) = star ψ ᵥ* Uᴴ := Matrix.star_mulVec U ψ
  rw [h1, Matrix.mulVec_mulVec, Matrix.dotProduct_mulVec, Matrix.vecMul_vecMul, ← Matrix.dotProduct_mulVec]
  simp only [dotProduct, Matrix.mulVec, Pi.star_apply, Finset.mul_sum, Matrix.mul_assoc]
  apply Finset.sum_congr rfl; intro x _
  apply Finset.sum_congr rfl; intro y _
  ring

theorem quad_add (A B : Matrix m m ℂ) (ψ : m → ℂ) : quad (A + B) ψ = quad A ψ + quad B ψ := by
  simp only [quad, Matrix.add_apply, mul_add, add_mul, Finset.sum_add_distrib]

theorem quad_smul (c : ℂ) (A : Matrix m m ℂ) (ψ : m → ℂ) : quad (c • A) ψ = c * quad A ψ := by
  simp only [quad, Matrix.smul_apply, smul_eq_mul, Finset.mul_sum]
  apply Finset.sum_congr rfl; intro x _
  apply Finset.sum_congr rfl; intro y _
  ring

theorem quad_zero (ψ : m → ℂ) : quad (0 : Matrix m m ℂ) ψ = 0 := by
  simp only [quad, Matrix.zero_apply, mul_zero, zero_mul, Finset.sum_const_zero]

theorem quad_list_sum {α : Type} (L : List α) (f : α → Matrix m m ℂ) (ψ : m → ℂ) :
    quad ((L.map f).sum) ψ = (L.map (fun a => quad (f a) ψ)).sum := by
  induction L with
  | nil => simp [quad_zero]
  | cons a L ih => simp [quad_add, ih]

theorem MDeriv.quad {F : ℝ → Matrix m m ℂ} {F' : Matrix m m ℂ} {t : ℝ} (hF : MDeriv F F' t) (ψ : m → ℂ) :
    HasDerivAt (fun s => OQ.C16.quad (F s) ψ) (OQ.C16.quad F' ψ) t := by
  unfold OQ.C16.quad
  apply HasDerivAt.fun_sum; intro x _
  apply HasDerivAt.fun_sum; intro y _
  exact ((hF x y).const_mul (star (ψ x))).mul_const (ψ y)

theorem expect_deriv {W : ℝ → Matrix m m ℂ} {DW : Matrix m m ℂ} {t : ℝ} (hW : MDeriv W DW t) (O : Matrix m m ℂ) (ψ : m → ℂ) :
    HasDerivAt (fun s => expect O (W s) ψ) (OQ.C16.quad (DWᴴ * O * W t + (W t)ᴴ * O * DW) ψ) t := by
  have h := ((hW.conjTranspose.mul (MDeriv.const O t)).mul hW).quad ψ
  simp only [Matrix.mul_zero, add_zero] at h
  simpa only [expect_eq_quad] using h

end analytic2

end OQ.C16
