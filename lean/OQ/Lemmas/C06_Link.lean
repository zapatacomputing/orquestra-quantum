/-
  C06 ⟷ C07 ⟷ C02 — what OQ/Props/C06_Link.lean rests on.
  * the carrier `SqMat R` (square executable matrices whose array has `r * c` entries, `WF`) with C07's `ctlMatrix` /
    `adjointWith star` on it and the three wrapper laws of C06 (`ctl_ctl` from C07's `ctlMatrix_ctlMatrix`; `adj_adj`,
    `adj_ctl` entry by entry),
  * every matrix a flagged built-in factory returns is its own adjoint, from C02's `flag_hermitian`,
  * the concrete interpretation `cSem` of C06's `Sem`,
  * the translation `toC07` of a C06 gate (at an assignment) into a C07 gate object, the shapes of its matrices, and
    `PosCtl` / `DimOK` as predicates that look through the wrappers.
-/
import OQ.Lemmas.C06
import OQ.Lemmas.C07
import OQ.Lemmas.MatExt
import OQ.Props.C02
import OQ.Model.Lift
namespace OQ.C06.Link
open OQ

variable {R : Type}

def WF (A : Mat R) : Prop := A.a.size = A.r * A.c

theorem wf_ofFn (r c : Nat) (f : Nat → Nat → R) : WF (Mat.ofFn r c f) := Array.size_ofFn

def Sq (A : Mat R) : Prop := WF A ∧ A.c = A.r

instance (A : Mat R) : Decidable (Sq A) := by unfold Sq WF; infer_instance

/-- the carrier of the concrete interpretation: well-formed square executable matrices -/
abbrev SqMat (R : Type) := { A : Mat R // Sq A }

/-- shape check of a matrix handed back by a factory / an external: a non-square answer is an error -/
def check (A : Mat R) : Except C07.Err (SqMat R) :=
  if h : Sq A then .ok ⟨A, h⟩ else .error (.ext "shape")

section Ops
variable [CommRing R] [StarRing R]

/-- the size of the identity block of `ControlledGate.matrix` for `n` controls over a `d × d` matrix: `2^n·d − d` -/
def ctlBlock (n d : Nat) : Nat := d * (2 ^ n - 1)

/-- `Matrix.diag(eye(2^(N+n) − 2^N), M)` through C07's `ctlMatrix` -/
def ctl (n : Nat) (A : SqMat R) : SqMat R :=
  ⟨C07.ctlMatrix (ctlBlock n A.1.r) A.1, wf_ofFn _ _ _, by
    show ctlBlock n A.1.r + A.1.c = ctlBlock n A.1.r + A.1.r
    rw [A.2.2]⟩

/-- `M.adjoint()` through C07's `adjointWith star` -/
def adj (A : SqMat R) : SqMat R :=
  ⟨C07.adjointWith star A.1, wf_ofFn _ _ _, by
    show A.1.r = A.1.c
    rw [A.2.2]⟩

theorem ctlBlock_add_self (n d : Nat) : ctlBlock n d + d = d * 2 ^ n := by
  unfold ctlBlock
  rw [← Nat.mul_succ, Nat.succ_eq_add_one, Nat.sub_add_cancel Nat.one_le_two_pow]

theorem ctlBlock_add (a b d : Nat) : ctlBlock b (ctlBlock a d + d) + ctlBlock a d = ctlBlock (a + b) d := by
  apply Nat.add_right_cancel (m := d)
  rw [Nat.add_assoc, ctlBlock_add_self a d, ctlBlock_add_self, ctlBlock_add_self, pow_add, Nat.mul_assoc]

omit [StarRing R] in
theorem ctlMatrix_get (d : Nat) (M : Mat R) {i j : Nat} (hi : i < d + M.r) (hj : j < d + M.c) :
    (C07.ctlMatrix d M).get i j = if d ≤ i ∧ d ≤ j then M.get (i - d) (j - d) else if i = j then 1 else 0 := by
  rw [C07.ctlMatrix_get d M i j hi hj]
  by_cases h1 : i < d ∧ j < d
  · rw [if_pos h1, if_neg (by omega : ¬(d ≤ i ∧ d ≤ j))]
  · by_cases h2 : d ≤ i ∧ d ≤ j
    · rw [if_neg h1, if_pos h2, if_pos h2]
    · rw [if_neg h1, if_neg h2, if_neg h2, if_neg (by omega : ¬ i = j)]

omit [StarRing R] in
theorem ctl_ctl (a b : Nat) (X : SqMat R) : ctl b (ctl a X) = ctl (a + b) X := by
  apply Subtype.ext
  show C07.ctlMatrix (ctlBlock b (ctlBlock a X.1.r + X.1.r)) (C07.ctlMatrix (ctlBlock a X.1.r) X.1) =
    C07.ctlMatrix (ctlBlock (a + b) X.1.r) X.1
  rw [← ctlBlock_add a b X.1.r]
  exact C07.ctlMatrix_ctlMatrix _ _ _

theorem adj_adj (X : SqMat R) : adj (adj X) = X := by
  apply Subtype.ext
  obtain ⟨X, hwf, hsq⟩ := X
  show C07.adjointWith star (C07.adjointWith star X) = X
  refine Mat.ext_get (wf_ofFn _ _ _) hwf rfl rfl fun i j hi hj => ?_
  have hi' : i < X.r := hi
  have hj' : j < X.c := hj
  unfold C07.adjointWith
  simp only [Mat.ofFn_r, Mat.ofFn_c]
  rw [Mat.get_ofFn _ _ _ _ _ hi' hj', Mat.get_ofFn _ _ _ _ _ hj' hi', star_star]

theorem adj_ctl (n : Nat) (X : SqMat R) : adj (ctl n X) = ctl n (adj X) := by
  apply Subtype.ext
  obtain ⟨X, hwf, hsq⟩ := X
  show C07.adjointWith star (C07.ctlMatrix (ctlBlock n X.r) X) = C07.ctlMatrix (ctlBlock n X.c) (C07.adjointWith star X)
  rw [hsq]
  generalize ctlBlock n X.r = D
  refine Mat.ext_get (wf_ofFn _ _ _) (wf_ofFn _ _ _) rfl rfl fun i j hi hj => ?_
  have hi' : i < D + X.c := hi
  have hj' : j < D + X.r := hj
  rw [show (C07.adjointWith star (C07.ctlMatrix D X)).get i j = star ((C07.ctlMatrix D X).get j i) from
    Mat.get_ofFn _ _ _ _ _ hi' hj', ctlMatrix_get D X hj' hi', ctlMatrix_get D _ hi' hj']
  by_cases h : D ≤ i ∧ D ≤ j
  · rw [if_pos h, if_pos ⟨h.2, h.1⟩]
    exact (Mat.get_ofFn X.c X.r (fun i j => star (X.get j i)) (i - D) (j - D) (by omega) (by omega)).symm
  · rw [if_neg h, if_neg fun h' => h ⟨h'.2, h'.1⟩]
    by_cases hij : i = j
    · rw [if_pos hij, if_pos hij.symm, star_one]
    · rw [if_neg hij, if_neg (Ne.symm hij), star_zero]

end Ops

section Herm
variable [CommRing R] [StarRing R] {k : Scal R}

theorem flagged_of_row (hk : C02.Laws k) (row : C02.Row) (hrow : row ∈ Generated.gateTable)
    (hf : C02.Row.isHermitian row = true) (angs : List (Ang R)) (hl : angs.length = C02.Row.numParams row)
    (hv : ∀ a ∈ angs, C02.Valid a) (m : Mat R) (h : Gates.builtinMatrix k (C02.Row.name row) angs = some m) :
    C02.IsSelfAdjointOf (2 ^ C02.Row.numQubits row) m := by
  obtain ⟨M, hM, hs⟩ := C02.flag_hermitian hk row hrow hf angs hl hv
  unfold C02.gateMatrix at hM
  rw [show C02.lookup Generated.gateTable (C02.Row.name row) = some row from C02.lookup_row row hrow] at hM
  simp only [hl, ne_eq, not_true_eq_false, if_false, h] at hM
  cases hM
  exact hs

theorem nullary_selfadjoint (hk : C02.Laws k) {nm : String} {nq : Nat} (hrow : (nm, nq, 0, true) ∈ Generated.gateTable)
    (h0 : ∀ (a : Ang R) as, Gates.builtinMatrix k nm (a :: as) = none) {angs : List (Ang R)}
    (hv : ∀ a ∈ angs, C02.Valid a) {m : Mat R} (h : Gates.builtinMatrix k nm angs = some m) :
    ∃ d, C02.IsSelfAdjointOf d m := by
  cases angs with
  | nil => exact ⟨_, flagged_of_row hk _ hrow rfl [] rfl hv m h⟩
  | cons a as => rw [h0] at h; cases h

/-- the factory answers only on the number of parameters of its table row, and there C02's `flag_hermitian` applies -/
theorem hermitianName_selfadjoint (hk : C02.Laws k) (nm : String) (hnm : nm ∈ C07.hermitianNames)
    (angs : List (Ang R)) (hv : ∀ a ∈ angs, C02.Valid a) (m : Mat R)
    (h : Gates.builtinMatrix k nm angs = some m) : ∃ d, C02.IsSelfAdjointOf d m := by
  simp only [C07.hermitianNames, List.mem_cons, List.not_mem_nil, or_false] at hnm
  rcases hnm with rfl | rfl | rfl | rfl | rfl | rfl | rfl | rfl | rfl | rfl
  · exact nullary_selfadjoint hk (nq := 1) (by decide) (fun _ _ => rfl) hv h
  · exact nullary_selfadjoint hk (nq := 1) (by decide) (fun _ _ => rfl) hv h
  · exact nullary_selfadjoint hk (nq := 1) (by decide) (fun _ _ => rfl) hv h
  · exact nullary_selfadjoint hk (nq := 1) (by decide) (fun _ _ => rfl) hv h
  · exact nullary_selfadjoint hk (nq := 1) (by decide) (fun _ _ => rfl) hv h
  · match angs, h with
    | [a], h => exact ⟨_, flagged_of_row hk ("GPi", 1, 1, true) (by decide) rfl [a] rfl hv m h⟩
  · exact nullary_selfadjoint hk (nq := 2) (by decide) (fun _ _ => rfl) hv h
  · exact nullary_selfadjoint hk (nq := 2) (by decide) (fun _ _ => rfl) hv h
  · exact nullary_selfadjoint hk (nq := 2) (by decide) (fun _ _ => rfl) hv h
  · cases (Option.some.inj h : Gates.delay = m)
    exact ⟨2, C02.delay_selfadjoint⟩

theorem adjointWith_eq_self (m : Mat R) (hm : Sq m) (d : Nat) (hs : C02.IsSelfAdjointOf d m) :
    C07.adjointWith star m = m := by
  obtain ⟨hr, hc, hs⟩ := hs
  rw [← C07.toM_adjointWith' d m hr hc] at hs
  exact Mat.ext_get (wf_ofFn _ _ _) hm.1 hm.2 hm.2.symm fun i j hi hj =>
    congrFun (congrFun hs ⟨i, Nat.lt_of_lt_of_eq hi hc⟩) ⟨j, Nat.lt_of_lt_of_eq hj hr⟩

end Herm

/-- how the value of a parameter expression is read: as an angle (half-angle point) by the built-in
    factories, as a scalar by the entries of a custom gate's matrix -/
structure Interp (V R : Type) where
  alg : Alg V
  toAng : V → Ang R
  toVal : V → R

section Sem
variable {V : Type} [CommRing R] [StarRing R]

/-- the carrier of matrices: a raised exception, or a well-formed square matrix -/
abbrev CM (R : Type) := Except C07.Err (SqMat R)

/-- C06's abstract interpretation instantiated with the matrix functions of C07 (`ctlMatrix`, `adjointWith star`,
    `mpow`, the externals `x`), the factories of `OQ.Gates` and the lifting of `OQ.Lift` -/
def cSem (I : Interp V R) (k : Scal R) (x : C07.Ext R) : Sem V (CM R) where
  alg := I.alg
  builtin nm vs := match Gates.builtinMatrix k nm (vs.map I.toAng) with
    | some m => check m
    | none => .error .type
  ofEntries rows := check (Mat.ofLists (rows.map (fun row => row.map I.toVal)))
  ctrl n X := X.map (ctl n)
  dag X := X.map adj
  exp X := X.bind (fun A => (x.mexp A.1).bind check)
  pow X e := X.bind (fun A => (C07.mpow x A.1 e).bind check)
  lift X qs n := X.bind (fun A => match Lift.liftMatrix A.1 qs n with
    | some L => check L
    | none => .error .value)
  mul X Y := X.bind (fun A => Y.bind (fun B => check (Mat.mul A.1 B.1)))

/-- the `is_hermitian` flags that are set are flags the library sets: a built-in factory gate is flagged only
    if its name is in the table of flagged gates, a custom gate never -/
def LibFlags : Gate → Prop
  | .mf _ (.builtin nm) _ _ herm => herm = true → nm ∈ C07.hermitianNames
  | .mf _ (.custom _ _) _ _ herm => herm = false
  | .ctrl g _ => LibFlags g
  | .dag g => LibFlags g
  | .exp g => LibFlags g
  | .pow g _ => LibFlags g

instance LibFlags.dec : (g : Gate) → Decidable (LibFlags g)
  | .mf _ (.builtin _) _ _ _ => by unfold LibFlags; infer_instance
  | .mf _ (.custom _ _) _ _ _ => by unfold LibFlags; infer_instance
  | .ctrl g _ => by unfold LibFlags; exact LibFlags.dec g
  | .dag g => by unfold LibFlags; exact LibFlags.dec g
  | .exp g => by unfold LibFlags; exact LibFlags.dec g
  | .pow g _ => by unfold LibFlags; exact LibFlags.dec g

end Sem

section Agree
variable {R V : Type} [CommRing R] [StarRing R]

/-- every `ControlledGate` in the chain has at least one control (the constructor guard of the real class) -/
def PosCtl : Gate → Prop
  | .mf _ _ _ _ _ => True
  | .ctrl g n => 1 ≤ n ∧ PosCtl g
  | .dag g => PosCtl g
  | .exp g => PosCtl g
  | .pow g _ => PosCtl g

/-- the C07 gate object of a C06 gate at the assignment `ρ`: the same wrapper chain over the base gate whose
    factory is the concrete factory and whose parameters are the evaluated parameters.  (For a custom gate the
    symbolic substitution has already happened in C06's `mfMatrix`, so the factory handed to C07 is constant.) -/
def toC07 (I : Interp V R) (k : Scal R) (x : C07.Ext R) (ρ : String → V) : Gate → C07.Gate V R
  | .mf nm (.builtin b) ps nq herm =>
    .base { name := nm, factory := fun vs => ((cSem I k x).builtin b vs).map Subtype.val,
            params := ps.map (Param.eval I.alg ρ), numQubits := nq, hermitian := herm }
  | .mf nm (.custom mat ord) ps nq herm =>
    .base { name := nm, factory := fun _ => (mfMatrix (cSem I k x) ρ (.custom mat ord) ps).map Subtype.val,
            params := ps.map (Param.eval I.alg ρ), numQubits := nq, hermitian := herm }
  | .ctrl g n => .controlled (toC07 I k x ρ g) (n - 1)
  | .dag g => .dagger (toC07 I k x ρ g)
  | .exp g => .exponential (toC07 I k x ρ g)
  | .pow g e => .power (toC07 I k x ρ g) e

theorem transparent_posCtl : Transparent PosCtl (1 ≤ ·) where
  ctrl := Iff.rfl
  dag := Iff.rfl
  exp := Iff.rfl
  pow := Iff.rfl
  add hk _ := Nat.le_add_right_of_le hk

end Agree

section Inv
variable {R V : Type}
/-- every factory gate of the chain returns a `2^num_qubits` square matrix at `ρ` (whenever it returns) -/
def DimOK (S : Sem V (CM R)) (ρ : String → V) : Gate → Prop
  | .mf _ fac ps nq _ => ∀ A, mfMatrix S ρ fac ps = .ok A → A.1.r = 2 ^ nq
  | .ctrl g _ => DimOK S ρ g
  | .dag g => DimOK S ρ g
  | .exp g => DimOK S ρ g
  | .pow g _ => DimOK S ρ g

theorem transparent_dimOK (S : Sem V (CM R)) (ρ : String → V) : Transparent (DimOK S ρ) (fun _ => True) :=
  .of_forward Iff.rfl Iff.rfl Iff.rfl Iff.rfl

end Inv

section WD
variable {R V : Type} [CommRing R] [StarRing R]

theorem toC07_mf (I : Interp V R) (k : Scal R) (x : C07.Ext R) (ρ : String → V) (nm : String) (fac : Factory)
    (ps : List Param) (nq : Nat) (herm : Bool) :
    ∃ b : C07.Base V R, toC07 I k x ρ (.mf nm fac ps nq herm) = .base b ∧ b.numQubits = nq ∧
      b.factory b.params = (mfMatrix (cSem I k x) ρ fac ps).map Subtype.val := by
  cases fac <;> exact ⟨_, rfl, rfl, rfl⟩

theorem gateMatrix_rows (I : Interp V R) (k : Scal R) (x : C07.Ext R) (ρ : String → V) (g : Gate)
    (hcd : g.isCD = true) (hp : PosCtl g) (hd : DimOK (cSem I k x) ρ g) (A : SqMat R)
    (hA : gateMatrix (cSem I k x) ρ g = .ok A) : A.1.r = 2 ^ (toC07 I k x ρ g).numQubits := by
  induction g generalizing A with
  | mf nm fac ps nq herm =>
    obtain ⟨b, hb, hq, _⟩ := toC07_mf I k x ρ nm fac ps nq herm
    rw [hb, C07.Gate.numQubits, hq]; exact hd A hA
  | ctrl g n ih =>
    cases hg : gateMatrix (cSem I k x) ρ g with
    | error e => rw [gateMatrix, hg] at hA; cases hA
    | ok B =>
      rw [gateMatrix, hg] at hA; cases hA
      obtain ⟨m, rfl⟩ : ∃ m, n = m + 1 := ⟨n - 1, by have := hp.1; omega⟩
      show ctlBlock (m + 1) B.1.r + B.1.r = 2 ^ ((toC07 I k x ρ g).numQubits + (m + 1))
      rw [ih hcd hp.2 hd B hg, ctlBlock_add_self]
      exact (pow_add 2 _ _).symm
  | dag g ih =>
    cases hg : gateMatrix (cSem I k x) ρ g with
    | error e => rw [gateMatrix, hg] at hA; cases hA
    | ok B => rw [gateMatrix, hg] at hA; cases hA; exact B.2.2.trans (ih hcd hp hd B hg)
  | exp | pow => cases hcd

end WD

end OQ.C06.Link
