/- C03 — for the translated `__eq__` / `__hash__`: the class invariant of operands, the externals of `__hash__` and the law assumed of
   them, and Python's set of hashable objects (hash buckets) against the model's `mkSet` / `eqSum` -/
import OQ.Props.C03_TranslatedPauli
import OQ.Generated.TranslatedC03Eq
namespace OQ.C03
open OQ.Pauli OQ.Py OQ.Generated Matrix

set_option linter.unusedSectionVars false
set_option linter.unusedSimpArgs false
set_option linter.unusedVariables false

variable {R : Type} [CommRing R] {H : Type} [DecidableEq H]

/-- the class invariant of every operand: `_ops` of every term is a dict (distinct keys) -/
def ValWF : Val R → Prop
  | .num _ => True
  | .term t => OpsWF t.ops
  | .sum s => SumWF s

theorem sumWF_one (t : Term R) (wt : OpsWF t.ops) : SumWF [t] := by
  intro t' ht'; simp only [List.mem_singleton] at ht'; subst ht'; exact wt

theorem negV_wf (x : TranslatedPauli.Ext R) (v : Val R) (wv : ValWF v) : ValWF (negV (neglOf x) v) := by
  cases v with
  | num c => trivial
  | term t => exact wv
  | sum s =>
    refine simplify_wf _ _ fun t' ht' => ?_
    obtain ⟨t'', ht'', rfl⟩ := List.mem_map.mp ht'
    exact wv t'' ht''

/-- what `PauliTerm.__hash__` takes from CPython beyond `Ext R` -/
structure HashExt (R H : Type) where
  real : R → R
  imag : R → R
  is_complex : R → Bool
  round : R → Int
  hash : Int × Int × FrozenItems Nat TranslatedPauli.Letter → H

/-- the law assumed of `hash((int, int, frozenset))` on the tuples `__hash__` builds (the frozenset of the items of a dict): two such
    tuples have the same hash exactly when their int components have the same `hash(int)` (`ih`; CPython: the identity below 2^61 - 1
    except `hash(-1) = -2`) and the frozensets are equal -/
def HashLaw (ih : Int → Int) (e : HashExt R H) : Prop :=
  ∀ (a1 a2 b1 b2 : Int) (oa ob : List (Nat × P)), OpsWF oa → OpsWF ob →
    (e.hash (a1, a2, up oa) = e.hash (b1, b2, up ob) ↔ ih a1 = ih b1 ∧ ih a2 = ih b2 ∧ opsEq oa ob = true)

/-- the coefficient part of the hashed tuple, as far as the hash value depends on it: the model's parameter `hk` -/
def hkOf (ih : Int → Int) (e : HashExt R H) (c : R) : Int × Int :=
  if e.is_complex c then (ih (e.round (e.real c * TranslatedPauli.intTo 1000000)), ih (e.round (e.imag c * TranslatedPauli.intTo 1000000)))
  else (ih (e.round (c * TranslatedPauli.intTo 1000000)), ih (e.round (TranslatedPauli.intTo 0 * TranslatedPauli.intTo 1000000)))

/-- the two rounded ints that `__hash__` puts in front of the frozenset -/
def hashInts (e : HashExt R H) (c : R) : Int × Int :=
  if e.is_complex c then (e.round (e.real c * TranslatedPauli.intTo 1000000), e.round (e.imag c * TranslatedPauli.intTo 1000000))
  else (e.round (c * TranslatedPauli.intTo 1000000), e.round (TranslatedPauli.intTo 0 * TranslatedPauli.intTo 1000000))

theorem term_hash_ofTerm (k : Scal R) (x : TranslatedPauli.Ext R) (e : HashExt R H) (a : Term R) :
    TranslatedPauli.term_hash k x e.real e.imag e.is_complex e.round e.hash (ofTerm a) = e.hash ((hashInts e a.coeff).1, (hashInts e a.coeff).2, up a.ops) := by
  unfold TranslatedPauli.term_hash hashInts
  by_cases h : e.is_complex a.coeff = true <;> simp only [ofTerm_coeff, h, if_true, if_false, Bool.false_eq_true] <;> rfl

theorem hkOf_eq (ih : Int → Int) (e : HashExt R H) (c : R) : hkOf ih e c = (ih (hashInts e c).1, ih (hashInts e c).2) := by
  by_cases h : e.is_complex c = true <;> simp only [hkOf, hashInts, h, if_true, if_false, Bool.false_eq_true]

theorem term_hash_eq_iff (k : Scal R) (x : TranslatedPauli.Ext R) (ih : Int → Int) (e : HashExt R H) (hl : HashLaw ih e) (a b : Term R)
    (wa : OpsWF a.ops) (wb : OpsWF b.ops) :
    TranslatedPauli.term_hash k x e.real e.imag e.is_complex e.round e.hash (ofTerm a) = TranslatedPauli.term_hash k x e.real e.imag e.is_complex e.round e.hash (ofTerm b) ↔ hkOf ih e a.coeff = hkOf ih e b.coeff ∧ opsEq a.ops b.ops = true := by
  rw [term_hash_ofTerm, term_hash_ofTerm, hl _ _ _ _ _ _ wa wb, hkOf_eq, hkOf_eq, Prod.mk.injEq, and_assoc]

theorem sameElem_eq (k : Scal R) (x : TranslatedPauli.Ext R) (ih : Int → Int) (e : HashExt R H) (hl : HashLaw ih e) (a b : Term R)
    (wa : OpsWF a.ops) (wb : OpsWF b.ops) :
    sameElem (TranslatedPauli.term_hash k x e.real e.imag e.is_complex e.round e.hash) (TranslatedPauli.term_eq_term k x) (ofTerm a) (ofTerm b) = sameEntry x.allclose (hkOf ih e) a b := by
  unfold sameElem sameEntry
  rw [(translated_term_eq_eq k x a b 0).1]
  congr 1
  rw [Bool.eq_iff_iff, decide_eq_true_iff, term_hash_eq_iff k x ih e hl a b wa wb, Bool.and_eq_true, decide_eq_true_iff]

theorem mkSet_subset {K : Type} [DecidableEq K] (close : R → R → Bool) (hk : R → K) (s : PSum R) : ∀ t ∈ mkSet close hk s, t ∈ s :=
  fun _ ht => (insNew_subset (fun acc t => acc.any (fun e => sameEntry close hk e t)) s [] ht).resolve_left List.not_mem_nil

theorem mem_setOfList {α : Type} [BEq α] [LawfulBEq α] (l : List α) (v : α) : v ∈ setOfList l ↔ v ∈ l :=
  ⟨fun h => (insNew_subset _ l [] h).resolve_left List.not_mem_nil,
    fun h => insNew_superset _ (fun _ _ h => by simpa using h) l [] (.inr h)⟩

theorem setEq_single (vals : List TranslatedPauli.Letter) (z : TranslatedPauli.Letter) :
    setEq (setOfList vals) (setOfList [z]) = (vals.all (fun v => v == z) && !vals.isEmpty) := by
  rw [show setOfList [z] = [z] from rfl, Bool.eq_iff_iff]
  simp only [setEq, Bool.and_eq_true, List.all_eq_true, List.contains_iff_mem, List.mem_singleton, mem_setOfList, forall_eq,
    beq_iff_eq, Bool.not_eq_true', List.isEmpty_eq_false_iff]
  exact ⟨fun ⟨h, hz⟩ => ⟨h, List.ne_nil_of_mem hz⟩,
    fun ⟨h, hne⟩ => ⟨h, by obtain ⟨a, ha⟩ := List.exists_mem_of_ne_nil _ hne; exact h a ha ▸ ha⟩⟩

/-- a hash satisfying the law (for any `ih`): the pair of int hashes and the lookup FUNCTION of the dict -/
noncomputable def witnessHash (ih : Int → Int) : HashExt R (Int × Int × (Nat → Option TranslatedPauli.Letter)) :=
  { real := id, imag := fun _ => 0, is_complex := fun _ => false, round := fun _ => 0,
    hash := fun t => (ih t.1, ih t.2.1, fun q => dictFind? t.2.2 q) }

theorem witnessHash_law (ih : Int → Int) : HashLaw ih (witnessHash (R := R) ih) := by
  intro a1 a2 b1 b2 oa ob wa wb
  simp only [witnessHash, Prod.mk.injEq]
  constructor
  · rintro ⟨h1, h2, h3⟩
    refine ⟨h1, h2, opsEq_of_lookup wa wb ?_⟩
    intro q
    have := congrFun h3 q
    rw [dictFind_up, dictFind_up] at this
    cases ha : lookup oa q <;> cases hb : lookup ob q <;> simp_all
  · rintro ⟨h1, h2, h3⟩
    refine ⟨h1, h2, ?_⟩
    funext q
    rw [dictFind_up, dictFind_up, opsEq_lookup h3 q]

theorem psum_nQubits_le (s : PSum R) (b : Nat) : PSum.nQubits s ≤ b ↔ ∀ t ∈ s, ∀ p ∈ t.ops, p.1 + 1 ≤ b := by
  simp only [PSum.nQubits, Term.nQubits, foldl_max_map_le, Nat.zero_le, true_and]

end OQ.C03
