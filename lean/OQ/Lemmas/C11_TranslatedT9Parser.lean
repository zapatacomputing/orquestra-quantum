/- the string functions of the Python prelude against the model's character-level notions (brackets, blanks, decimal digits,
   Pauli letters) -/
import OQ.Lemmas.C11_TranslatedT9
import OQ.Lemmas.C19_TranslatedT6
namespace OQ.C11
open OQ.Py OQ.Generated

theorem isPrefixOf_singleton (a : Char) (l : List Char) : [a].isPrefixOf l = decide (l.head? = some a) := by
  cases l <;> simp [List.isPrefixOf, eq_comm, beq_eq_decide]

theorem replaceChar_space (s : List Char) : replaceChar s ' ' [] = s.filter (fun c => c ≠ ' ') := by
  unfold replaceChar
  induction s with
  | nil => rfl
  | cons c cs ih =>
    rw [List.flatMap_cons, List.filter_cons, ih]
    by_cases h : c = ' '
    · subst h; simp
    · have : (c == ' ') = false := by simpa using h
      simp [this, h]

theorem isAsciiDigit_eq_digitVal (d : Char) : isAsciiDigit d = (digitVal d).isSome := by
  rw [digitVal_eq, isAsciiDigit, ← Bool.decide_and]
  by_cases h : 48 ≤ d.toNat ∧ d.toNat ≤ 57
  · rw [if_pos h, decide_eq_true h]; rfl
  · rw [if_neg h, decide_eq_false h]; rfl

theorem readNat_eq_valDigits (ds : List Char) (h : ∀ c ∈ ds, isAsciiDigit c = true) : readNat ds = OQ.C19.valDigits ds :=
  List.foldl_ext _ _ 0 fun acc c hc => by
    have hd : 48 ≤ c.toNat ∧ c.toNat ≤ 57 := by simpa [isAsciiDigit] using h c hc
    rw [digitVal_eq, if_pos hd, Nat.mul_comm]; rfl

/-- the eight letters the regular expression accepts are those the model reads as a Pauli operator, and upper-casing such a
    letter gives the character the model prints for it -/
theorem pauli_letter (c : Char) :
    "XYZIxyzi".toList.contains c = (pauliOfChar c).isSome ∧ ∀ p ∈ pauliOfChar c, upperAscii [c] = [pauliChar p] := by
  by_cases h : c ∈ "XYZIxyzi".toList
  · revert c; decide
  · rw [show "XYZIxyzi".toList = ['X', 'Y', 'Z', 'I', 'x', 'y', 'z', 'i'] by decide] at h ⊢
    have h' := h
    simp only [List.mem_cons, List.not_mem_nil, or_false, not_or] at h'
    simp [pauliOfChar, h, h']

end OQ.C11
