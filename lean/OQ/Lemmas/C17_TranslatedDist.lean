/- Definitions and lemmas for the translation ties of C17 (`OQ/Props/C17_TranslatedDist.lean`): the embedding of the model's
   error classes / raw keys into the translated code's (`toExc`, `liftE`, `subResult`, `toPyKey`, `toPyItems`), the prelude functions against the
   model's (`intOfStr` = `pyInt`, `split1` = `splitOn`, `dictSet` = `Dict.set`, `strOfInt` = `strInt`, …) and the loops of the
   translated functions against the model's recursions. -/
import OQ.Lemmas.C17
import OQ.Lemmas.PyT4
import OQ.Generated.TranslatedC17
namespace OQ.C17
open OQ.Generated OQ.Py

/-- the model's exception classes among the translated code's -/
def toExc : Err → Exc4
  | .runtime => .runtime
  | .value => .value
  | .index => .index

/-- a model result as a result of the translated code -/
def liftE {α : Type} : Except Err α → Except Exc4 α
  | .ok a => .ok a
  | .error e => .error (toExc e)

theorem liftE_ok {α : Type} {x : Except Err α} {a : α} (h : liftE x = .ok a) : x = .ok a := by
  cases x <;> cases h; rfl

/-- what the translated method returns for a model result: the receiver after the call and the new dictionary -/
def subResult (r : Dict Key × Except Err (Dict Key)) : Except Exc4 (Dict Key × Dict Key) :=
  match r.2 with
  | .ok d => .ok (r.1, d)
  | .error e => .error (toExc e)

theorem subResult_ok {r : Dict Key × Except Err (Dict Key)} {s d : Dict Key} (h : subResult r = .ok (s, d)) : s = r.1 := by
  obtain ⟨a, _ | b⟩ := r
  · cases h
  · cases h; rfl

/-- a caller's key as the translated code sees it -/
def toPyKey : RawKey → PyKey
  | .str s => .str s
  | .tup t => .tup t
  | .other => .other

def toPyItems (input : List (RawKey × Rat)) : OQ.Py.Dict PyKey Rat := input.map (fun p => (toPyKey p.1, p.2))

section
variable {κ : Type} [BEq κ] [LawfulBEq κ] [DecidableEq κ]

theorem dictSet_eq_set (d : Dict κ) (k : κ) (v : Rat) : dictSet d k v = Dict.set d k v := by
  fun_induction Dict.set d k v <;> simp_all [dictSet]

theorem dictGetD_map {ν : Type} (f : Rat → ν) (d : Dict κ) (k : κ) :
    dictGetD (d.map fun a => (a.1, f a.2)) k (f 0) = f (d.getD k) := by
  fun_induction Dict.getD d k <;> simp_all [dictGetD]

theorem dictGetD_eq_getD (d : Dict κ) (k : κ) : dictGetD d k (0 : Rat) = Dict.getD d k := by
  simpa using dictGetD_map id d k

end

theorem sumNum_dictValues (d : Dict Key) : sumNum (dictValues d) = d.total := sumNum_rat _

theorem parseNatAux_eq (a : Nat) (s : List Char) : OQ.Py.parseNatAux a s = OQ.C17.parseNatAux a s := by
  induction s generalizing a with
  | nil => rfl
  | cons c cs ih =>
    simp only [OQ.Py.parseNatAux, OQ.C17.parseNatAux]
    have : digitVal? c = digitVal c := rfl
    rw [this]
    cases digitVal c with
    | none => rfl
    | some d => exact ih _

theorem parseNat?_eq (s : List Char) : parseNat? s = parseNat s := by
  cases s with
  | nil => rfl
  | cons a b => simp [parseNat?, parseNat, parseNatAux_eq]

theorem intOfStr?_eq (s : List Char) : intOfStr? s = pyInt s := by
  cases s with
  | nil => rfl
  | cons c r => simp only [intOfStr?, pyInt, parseNat?_eq]

theorem intOfStr_eq (s : List Char) : intOfStr s = ofOpt .value (pyInt s) := by
  unfold intOfStr
  rw [intOfStr?_eq]
  cases pyInt s <;> rfl

theorem intOfStr_single (c : Char) : intOfStr [c] = ofOpt .value ((digitVal c).map Int.ofNat) := by
  rw [intOfStr_eq]
  congr 1
  simp only [pyInt]
  by_cases h1 : c = '-'
  · subst h1; decide
  · by_cases h2 : c = '+'
    · subst h2; decide
    · simp only [h1, h2, if_false, parseNat]
      cases h : digitVal c <;> simp [OQ.C17.parseNatAux, h]

theorem split1_eq (sep : Char) (s : List Char) : split1 sep s = splitOn sep s := by
  induction s with
  | nil => rfl
  | cons c cs ih =>
    simp only [split1, splitOn, ih]
    split
    · rfl
    · cases splitOn sep cs <;> rfl

theorem mapE_intOfStr_key (s : List Char) :
    mapE intOfStr (if (!(s.contains ',')) then strChars s else split1 ',' s) = liftE (preprocessKey (.str s)) := by
  simp only [preprocessKey]
  by_cases h : ',' ∈ s
  · have hc : s.contains ',' = true := by simp [h]
    simp only [h, hc, Bool.not_true, Bool.false_eq_true, if_false, if_true, split1_eq]
    rw [mapE_congr _ (fun x => ofOpt .value (pyInt x)) _ (fun x _ => intOfStr_eq x), mapE_ofOpt]
    cases (splitOn ',' s).mapM pyInt <;> rfl
  · have hc : s.contains ',' = false := by simp [h]
    simp only [h, hc, Bool.not_false, if_true, if_false, strChars, mapE_map]
    rw [mapE_congr _ (fun c => ofOpt .value ((digitVal c).map Int.ofNat)) _ (fun x _ => intOfStr_single x), mapE_ofOpt]
    cases s.mapM (fun c => (digitVal c).map Int.ofNat) <;> rfl

theorem foldlE_preprocess (f : Dict Key → PyKey × Rat → Except Exc4 (Dict Key))
    (hf : ∀ st k v, f st (toPyKey k, v) = match preprocessKey k with
      | .error e => .error (toExc e)
      | .ok k' => .ok (st.set k' v))
    (input : List (RawKey × Rat)) (acc : Dict Key) :
    foldlE f acc (toPyItems input) = liftE (preprocess input acc) := by
  induction input generalizing acc with
  | nil => rfl
  | cons p rest ih =>
    obtain ⟨k, v⟩ := p
    simp only [toPyItems, List.map_cons, foldlE, preprocess, hf]
    cases preprocessKey k with
    | error e => rfl
    | ok k' => exact ih _

theorem maxListE_eq (qs : List Int) : maxListE qs = match qs with
    | [] => .error .value
    | _ :: _ => .ok (listMaxInt qs) := by
  cases qs <;> rfl

theorem lenSet_ne_iff (qs : List Int) : (((qs.length : Nat) : Int) != lenSet qs) = hasDup qs := by
  rw [Bool.eq_iff_iff, hasDup_iff, ← distinctCount_eq_length_iff, lenSet, bne_iff_ne, ne_eq, Nat.cast_inj, eq_comm]

theorem indexE_eq_pyIndex (key : Key) (i : Int) : indexE key i = ofOpt .index (pyIndex key i) := by
  rw [indexE_eq]; rfl

theorem mapE_index (qs : List Int) (key : Key) :
    mapE (fun i => Except.bind (indexE key i) (fun t => Except.ok t)) qs = ofOpt .index (projectKey qs key) := by
  simp only [Except.bind_ok', indexE_eq_pyIndex, mapE_ofOpt, projectKey]

theorem foldlE_accumulate (self : Dict Key) (qs : List Int) (todo acc : Dict Key)
    (hget : ∀ p ∈ todo, dictGetE self p.1 = .ok p.2) :
    foldlE (fun (st : Dict Key) (key : Key) =>
        Except.bind (ofOpt .index (projectKey qs key)) (fun new_key =>
          Except.bind (dictGetE self key) (fun v => Except.ok (Dict.set st new_key (v + Dict.getD st new_key)))))
      acc (dictKeys todo) = ofOpt .index (accumulate (projectKey qs) todo acc) := by
  induction todo generalizing acc with
  | nil => rfl
  | cons p rest ih =>
    obtain ⟨k, v⟩ := p
    simp only [dictKeys, List.map_cons, foldlE, accumulate]
    cases projectKey qs k with
    | none => rfl
    | some k' =>
      simp only [ofOpt_some, bind_ok, hget (k, v) (by simp)]
      exact ih _ (fun p hp => hget p (by simp [hp]))

theorem decDigits_eq (f n : Nat) (h : n ≤ f) : (decDigitsFuel f n).map OQ.Py.digitChar = strNatFuel f n := by
  induction f generalizing n with
  | zero =>
    obtain rfl := Nat.le_zero.1 h
    rfl
  | succ f ih =>
    simp only [decDigitsFuel, strNatFuel]
    split
    · rfl
    · rw [List.map_append, ih (n / 10) (by omega)]; rfl

theorem strOfInt_eq (i : Int) : strOfInt i = strInt i := by
  unfold strOfInt strInt strNat
  split <;> rw [decDigits_eq _ _ (le_refl _)]

theorem join_eq (sep : Char) (parts : List (List Char)) : OQ.Py.join [sep] parts = joinWith sep parts := by
  induction parts with
  | nil => rfl
  | cons p rest ih =>
    cases rest with
    | nil => rfl
    | cons q rest' => simp only [OQ.Py.join, joinWith, ih]; simp

theorem join_strOfInt (k : Key) : OQ.Py.join [','] (k.map strOfInt) = keyToString k := by
  rw [join_eq, keyToString, funext strOfInt_eq]

theorem foldl_commas (d : Dict Key) (acc : Dict (List Char)) :
    (d.map (fun p => (PyKey.tup p.1, p.2))).foldl (fun (a : OQ.Py.Dict PyKey Rat) (p0 : PyKey × Rat) =>
        dictSet a (match p0.1 with | PyKey.tup key => PyKey.str (keyToString key) | _ => p0.1) p0.2)
      (acc.map (fun p => (PyKey.str p.1, p.2)))
    = (d.foldl (fun a p => a.set (keyToString p.1) p.2) acc).map (fun p => (PyKey.str p.1, p.2)) := by
  induction d generalizing acc with
  | nil => rfl
  | cons p rest ih =>
    obtain ⟨k, v⟩ := p
    simp only [List.map_cons, List.foldl_cons]
    rw [dictSet_mapKeys PyKey.str (fun a b h => by cases h; rfl) acc (keyToString k) v, dictSet_eq_set]
    exact ih _

theorem toPyItems_surjective (d : OQ.Py.Dict PyKey Rat) : ∃ input, toPyItems input = d := by
  refine ⟨d.map fun p => ((match p.1 with | .str s => RawKey.str s | .tup t => RawKey.tup t | .other => RawKey.other), p.2), ?_⟩
  rw [toPyItems, List.map_map]
  exact (List.map_congr_left fun p _ => by obtain ⟨_ | _ | _, v⟩ := p <;> rfl).trans (List.map_id d)

end OQ.C17
