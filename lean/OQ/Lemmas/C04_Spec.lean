/- C04 at the level of the specification: Z-type operators as diagonal matrices over bit assignments, expectation values,
   and how a lifted gate (in particular X) acts on them. -/
import OQ.Spec.Lift
import Mathlib.Logic.Equiv.Fin.Basic
import Mathlib.Data.Matrix.Mul
import Mathlib.LinearAlgebra.Matrix.ConjTranspose
import Mathlib.Algebra.BigOperators.Ring.Finset
import Mathlib.Algebra.BigOperators.Group.Finset.Basic
namespace OQ.C04
open Matrix OQ.Spec

variable {R : Type} [CommRing R] [StarRing R] {κ μ ι : Type}
  [Fintype κ] [DecidableEq κ] [Fintype μ] [DecidableEq μ] [Fintype ι] [DecidableEq ι]

/-- eigenvalue of ∏_{q∈S} Z_q on the bit assignment `x` -/
def zsign {ι : Type} (S : Finset ι) (x : BV ι) : R := ∏ q ∈ S, if x q then -1 else 1

/-- ⟨φ| A |φ⟩ -/
def ev (A : Matrix (BV ι) (BV ι) R) (φ : BV ι → R) : R := star φ ⬝ᵥ (A *ᵥ φ)

theorem ev_diagonal (d : BV ι → R) (φ : BV ι → R) :
    ev (Matrix.diagonal d) φ = ∑ x, (φ x * star (φ x)) * d x := by
  unfold ev
  simp only [dotProduct, Matrix.mulVec_diagonal, Pi.star_apply]
  exact Finset.sum_congr rfl fun x _ => by ring

theorem ev_mulVec (U A : Matrix (BV ι) (BV ι) R) (ψ : BV ι → R) :
    ev A (U *ᵥ ψ) = ev (Uᴴ * A * U) ψ := by
  unfold ev
  rw [Matrix.star_mulVec, Matrix.mulVec_mulVec, ← Matrix.dotProduct_mulVec, Matrix.mulVec_mulVec,
    Matrix.mul_assoc]

omit [Fintype κ] [DecidableEq κ] [Fintype μ] [DecidableEq μ] [Fintype ι] [DecidableEq ι] in
theorem ext_of_sigma (σ : κ ⊕ μ ≃ ι) {x y : BV ι} (hl : ∀ k, x (σ (Sum.inl k)) = y (σ (Sum.inl k)))
    (hr : ∀ m, x (σ (Sum.inr m)) = y (σ (Sum.inr m))) : x = y := by
  funext q
  obtain ⟨s, rfl⟩ := σ.surjective q
  cases s with
  | inl k => exact hl k
  | inr m => exact hr m

omit [StarRing R] in
theorem zdiag_comm_lift (σ : κ ⊕ μ ≃ ι) (M : Matrix (BV κ) (BV κ) R) (S : Finset ι)
    (hS : ∀ k, σ (Sum.inl k) ∉ S) :
    Matrix.diagonal (zsign (R := R) S) * lift σ M = lift σ M * Matrix.diagonal (zsign S) := by
  ext x y
  rw [Matrix.diagonal_mul, Matrix.mul_diagonal, lift_apply]
  split_ifs with h
  · have : zsign (R := R) S x = zsign S y := by
      apply Finset.prod_congr rfl
      intro q hq
      obtain ⟨s, rfl⟩ := σ.surjective q
      cases s with
      | inl k => exact absurd hq (hS k)
      | inr m => rw [h m]
    rw [this, mul_comm]
  · rw [mul_zero, zero_mul]

theorem lift_unitary (σ : κ ⊕ μ ≃ ι) (M : Matrix (BV κ) (BV κ) R) (hM : Mᴴ * M = 1) :
    (lift σ M)ᴴ * lift σ M = 1 := by
  rw [← lift_conjTranspose, ← lift_mul, hM, lift_one]

/-- the X gate as a matrix over the bit assignments of its single qubit -/
def xGate : Matrix (BV Unit) (BV Unit) R := fun a b => if a () = b () then 0 else 1

def flipAt (q : ι) (x : BV ι) : BV ι := Function.update x q (!x q)

omit [Fintype ι] in
theorem flipAt_self (q : ι) (x : BV ι) : flipAt q x q = !x q := Function.update_self ..

omit [Fintype ι] in
theorem flipAt_of_ne {p q : ι} (h : p ≠ q) (x : BV ι) : flipAt q x p = x p := Function.update_of_ne h ..

omit [Fintype ι] in
theorem flipAt_flipAt (q : ι) (x : BV ι) : flipAt q (flipAt q x) = x := by
  funext p
  by_cases h : p = q
  · subst h; rw [flipAt_self, flipAt_self, Bool.not_not]
  · rw [flipAt_of_ne h, flipAt_of_ne h]

omit [Fintype κ] [DecidableEq κ] [Fintype μ] [DecidableEq μ] [Fintype ι] in
theorem eq_flipAt_iff (σ : Unit ⊕ μ ≃ ι) (x y : BV ι) :
    y = flipAt (σ (Sum.inl ())) x ↔
      (∀ m, x (σ (Sum.inr m)) = y (σ (Sum.inr m))) ∧ x (σ (Sum.inl ())) ≠ y (σ (Sum.inl ())) := by
  have hne : ∀ m, σ (Sum.inr m) ≠ σ (Sum.inl ()) := fun m h => by simpa using σ.injective h
  constructor
  · rintro rfl
    exact ⟨fun m => (flipAt_of_ne (hne m) x).symm, by rw [flipAt_self]; cases x (σ (Sum.inl ())) <;> decide⟩
  · rintro ⟨h1, h2⟩
    refine ext_of_sigma σ (fun u => ?_) (fun m => by rw [flipAt_of_ne (hne m), h1 m])
    rw [flipAt_self]
    revert h2
    cases x (σ (Sum.inl ())) <;> cases y (σ (Sum.inl ())) <;> decide

omit [StarRing R] in
theorem lift_x_mulVec (σ : Unit ⊕ μ ≃ ι) (ψ : BV ι → R) (x : BV ι) :
    (lift σ (xGate (R := R)) *ᵥ ψ) x = ψ (flipAt (σ (Sum.inl ())) x) := by
  have : ∀ y, lift σ (xGate (R := R)) x y = if y = flipAt (σ (Sum.inl ())) x then 1 else 0 := by
    intro y
    rw [lift_apply, if_congr (eq_flipAt_iff σ x y) rfl rfl]
    unfold xGate
    by_cases h1 : ∀ m, x (σ (Sum.inr m)) = y (σ (Sum.inr m)) <;>
      by_cases h2 : x (σ (Sum.inl ())) = y (σ (Sum.inl ())) <;> simp [h1, h2]
  show ∑ y, lift σ (xGate (R := R)) x y * ψ y = _
  simp only [this, ite_mul, one_mul, zero_mul, Finset.sum_ite_eq', Finset.mem_univ, if_true]

omit [Fintype ι] [StarRing R] in
theorem zsign_flipAt (S : Finset ι) (q : ι) (x : BV ι) :
    zsign (R := R) S (flipAt q x) = (if q ∈ S then -1 else 1) * zsign S x := by
  have hoff : ∀ T : Finset ι, q ∉ T → zsign (R := R) T (flipAt q x) = zsign T x := fun T hT =>
    Finset.prod_congr rfl fun p hp => by rw [flipAt_of_ne (fun h : p = q => hT (h ▸ hp))]
  by_cases hq : q ∈ S
  · have := hoff (S.erase q) (Finset.notMem_erase q S)
    unfold zsign at this ⊢
    rw [if_pos hq, ← Finset.mul_prod_erase S _ hq, ← Finset.mul_prod_erase S (fun p => if x p then (-1 : R) else 1) hq,
      this, flipAt_self]
    cases x q <;> simp
  · rw [if_neg hq, one_mul, hoff S hq]

/-- (for non-vacuity examples) placement of a one-qubit gate on qubit 0 of a 3-qubit register -/
def sigma0 : Unit ⊕ Fin 2 ≃ Fin 3 := (Equiv.sumCongr finOneEquiv.symm (Equiv.refl (Fin 2))).trans finSumFinEquiv

end OQ.C04
