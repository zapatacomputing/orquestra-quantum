/- The fold in `split_fold` is the loop of the translated `split_estimation_tasks_to_measure` as it is generated
   (state: the four lists in the generator's order, indices as Python ints), from an arbitrary accumulator. -/
import OQ.Model.C15
namespace OQ.C15

theorem split_fold {C : Type} (tasks : List (Task C)) (k : Nat) (acc : Split C) :
    (tasks.zipIdx k).foldl (fun (st : (List Int) × (List (Task C)) × (List Int) × (List (Task C))) (p : Task C × Nat) =>
        if (p.1.op.isConstant || (p.1.shots == some (0 : Int))) then
          (st.1 ++ [((p.2 : Nat) : Int)], st.2.1 ++ [p.1], st.2.2.1, st.2.2.2)
        else (st.1, st.2.1, st.2.2.1 ++ [((p.2 : Nat) : Int)], st.2.2.2 ++ [p.1]))
      (acc.idxNot.map Int.ofNat, acc.notToMeasure, acc.idxMeasure.map Int.ofNat, acc.toMeasure)
    = ((splitLoop tasks k acc).idxNot.map Int.ofNat, (splitLoop tasks k acc).notToMeasure,
       (splitLoop tasks k acc).idxMeasure.map Int.ofNat, (splitLoop tasks k acc).toMeasure) := by
  induction tasks generalizing k acc with
  | nil => rfl
  | cons t ts ih =>
    rw [List.zipIdx_cons, List.foldl_cons]
    simp only [splitLoop, notMeasured]
    split
    · rename_i h
      simp only [h, if_true]
      have := ih (k + 1) { acc with notToMeasure := acc.notToMeasure ++ [t], idxNot := acc.idxNot ++ [k] }
      simpa only [List.map_append, List.map_cons, List.map_nil, Int.ofNat_eq_natCast] using this
    · rename_i h
      simp only [h, Bool.false_eq_true, if_false]
      have := ih (k + 1) { acc with toMeasure := acc.toMeasure ++ [t], idxMeasure := acc.idxMeasure ++ [k] }
      simpa only [List.map_append, List.map_cons, List.map_nil, Int.ofNat_eq_natCast] using this

end OQ.C15
