/- What `simplify` does with one group of like terms: the merged term goes to the result, or is dropped. -/
import OQ.Lemmas.C09_Sparse
set_option linter.unusedSectionVars false
namespace OQ.C09
open OQ OQ.Pauli

variable {R : Type} [CommRing R]

/-- the term a group of like terms would have contributed, when `simplify` drops it -/
def groupDropped (tol : Tol R) : List (Term R) → Option (Term R)
  | [] => none
  | [t] => if tol.negl t.coeff then some t else none
  | t :: rest => let c := sumCoeffs (t :: rest); if tol.negl c then some ⟨t.ops, c⟩ else none

/-- the (merged) terms `simplify` discards as negligible -/
def dropped (tol : Tol R) (s : PSum R) : PSum R := (s.foldl groupInsert []).filterMap (groupDropped tol)

theorem group_split (tol : Tol R) (h : Term R) (rest : List (Term R)) :
    ∃ u : Term R, u.ops = h.ops ∧ u.coeff = sumCoeffs (h :: rest) ∧
      (groupResult tol (h :: rest) = some u ∧ groupDropped tol (h :: rest) = none ∨
        groupResult tol (h :: rest) = none ∧ groupDropped tol (h :: rest) = some u ∧ tol.negl u.coeff = true) := by
  cases rest with
  | nil =>
    refine ⟨h, rfl, (zero_add _).symm, ?_⟩
    rw [groupResult, groupDropped]
    cases hn : tol.negl h.coeff
    · exact Or.inl ⟨rfl, rfl⟩
    · exact Or.inr ⟨rfl, rfl, rfl⟩
  | cons v rest =>
    refine ⟨⟨h.ops, sumCoeffs (h :: v :: rest)⟩, rfl, rfl, ?_⟩
    simp only [groupResult, groupDropped]
    cases hn : tol.negl (sumCoeffs (h :: v :: rest))
    · exact Or.inl ⟨rfl, rfl⟩
    · exact Or.inr ⟨rfl, rfl, rfl⟩

theorem dropped_negl (tol : Tol R) (s : PSum R) (t : Term R) (ht : t ∈ dropped tol s) : tol.negl t.coeff = true := by
  obtain ⟨g, -, hres⟩ := List.mem_filterMap.1 ht
  cases g with
  | nil => cases hres
  | cons h rest =>
    obtain ⟨u, -, -, ⟨-, h2⟩ | ⟨-, h2, h3⟩⟩ := group_split tol h rest
    · rw [h2] at hres; cases hres
    · rw [h2] at hres; cases hres; exact h3

end OQ.C09
