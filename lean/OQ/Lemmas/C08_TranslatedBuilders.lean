/- C08 — helper lemmas of the translation ties `OQ/Props/C08_TranslatedBuilders.lean`:
   lists of non-negative Python ints read as lists of naturals. -/
import OQ.Lemmas.C08
namespace OQ.C08

theorem setOrder_nat (L : List Int) (qs : List Nat) (hnd : L.Nodup) (hmem : ∀ q, q ∈ L ↔ q ∈ qs.map Int.ofNat) :
    L = (L.map Int.toNat).map Int.ofNat ∧ (L.map Int.toNat).Nodup ∧ (∀ q, q ∈ L.map Int.toNat ↔ q ∈ qs) := by
  -- every element is a natural, so `L` is the image of a list of naturals
  obtain ⟨L, rfl⟩ : ∃ L' : List Nat, L'.map Int.ofNat = L := CanLift.prf L fun z hz => by
    obtain ⟨n, _, rfl⟩ := List.mem_map.mp ((hmem z).mp hz)
    exact Int.natCast_nonneg n
  rw [map_toNat_ofNat]
  exact ⟨rfl, hnd.of_map _, fun q => by
    rw [← List.mem_map_of_injective Int.ofNat_injective, hmem, List.mem_map_of_injective Int.ofNat_injective]⟩

end OQ.C08
