/-
  What the functions of OQ/Model/C16.lean return, as closed expressions.  Every loop of `evolution.py` is
  `if <the guards it evaluates> then .ok <a list expression> else .error .value`; that equation is proved once per
  function, right here, and everything else reasons about the list expressions.
-/
import OQ.Model.C16
import Mathlib.Data.Nat.Notation
set_option linter.unusedSectionVars false
namespace OQ.C16
open OQ.Pauli

section bind
variable {ε α β γ : Type}

@[simp] theorem ok_bind (a : α) (f : α → Except ε β) : (Except.ok a >>= f) = f a := rfl
@[simp] theorem error_bind (e : ε) (f : α → Except ε β) : (Except.error e >>= f) = .error e := rfl
@[simp] theorem pure_eq_ok (a : α) : (pure a : Except ε α) = .ok a := rfl

theorem guard_bind₂ {p q : Prop} [Decidable p] [Decidable q] (a : α) (b : β) (f : α → β → γ) (e : ε) :
    ((if p then Except.ok a else .error e) >>= fun x =>
      (if q then Except.ok b else .error e) >>= fun y => pure (f x y))
      = if p ∧ q then .ok (f a b) else .error e := by
  by_cases hp : p <;> by_cases hq : q <;> simp [hp, hq]

/-- the shape of one round of the double loop of `time_evolution_derivatives`: a term is skipped (`r0`) or contributes
    two circuits under the guard `A`; the remaining rounds evaluate `A` if one of them is not skipped (`P`) -/
theorem guard_bind_pair {r0 A P : Prop} [Decidable r0] [Decidable A] [Decidable P] (d₁ d₂ : α) (X : List α) (e : ε) :
    ((if r0 then Except.ok none else if A then .ok (some d₁) else .error e) >>= fun p =>
      (if r0 then Except.ok none else if A then .ok (some d₂) else .error e) >>= fun m =>
        (if P → A then Except.ok X else .error e) >>= fun rest => pure (p.toList ++ (m.toList ++ rest)))
      = if (¬ r0 ∨ P) → A then .ok ((if r0 then [] else [d₁, d₂]) ++ X) else .error e := by
  by_cases hA : A
  · by_cases h0 : r0 <;> simp [h0, hA]
  · by_cases h0 : r0
    · by_cases hP : P <;> simp [h0, hA, hP]
    · simp [h0, hA]

theorem guard_eq_ok {p : Prop} [Decidable p] (a b : α) (e : ε) :
    (if p then Except.ok a else .error e) = .ok b ↔ p ∧ a = b := by
  by_cases hp : p <;> simp [hp]

theorem toOption_eq_some (x : Except ε α) (a : α) : x.toOption = some a ↔ x = .ok a := by
  cases x <;> simp [Except.toOption]

end bind

theorem foldl_append_flatMap {α β : Type} (f : α → List β) (l : List α) (init : List β) :
    l.foldl (fun acc t => acc ++ f t) init = init ++ l.flatMap f := by
  induction l generalizing init with
  | nil => simp
  | cons a l ih => rw [List.foldl_cons, ih, List.flatMap_cons, List.append_assoc]

theorem exists_mem_cons {α : Type} (p : α → Prop) (a : α) (l : List α) :
    (∃ x, x ∈ a :: l ∧ p x) ↔ p a ∨ ∃ x, x ∈ l ∧ p x := by simp

theorem flatMap_const {α β : Type} (f : α → List β) (s : List β) (l : List α) (h : ∀ i ∈ l, f i = s) :
    l.flatMap f = (List.replicate l.length s).flatten := by
  induction l with
  | nil => rfl
  | cons a l ih =>
    rw [List.flatMap_cons, h a List.mem_cons_self, ih fun i hi => h i (List.mem_cons_of_mem _ hi),
      List.length_cons, List.replicate_succ, List.flatten_cons]

/-- all ways to single out one element: (prefix, element, suffix) -/
def splits {α : Type} : List α → List (List α × α × List α)
  | [] => []
  | x :: xs => ([], x, xs) :: (splits xs).map (fun s => (x :: s.1, s.2.1, s.2.2))

theorem splits_spec {α : Type} (l : List α) : ∀ s ∈ splits l, l = s.1 ++ s.2.1 :: s.2.2 := by
  induction l with
  | nil => simp [splits]
  | cons x xs ih =>
    intro s hs
    simp only [splits, List.mem_cons, List.mem_map] at hs
    rcases hs with rfl | ⟨s', hs', rfl⟩
    · rfl
    · exact congrArg (x :: ·) (ih s' hs')

theorem splits_forall {α : Type} (p : α → Prop) (l : List α) (h : ∀ a ∈ l, p a) :
    ∀ s ∈ splits l, (∀ a ∈ s.1, p a) ∧ p s.2.1 ∧ ∀ a ∈ s.2.2, p a := by
  intro s hs
  rw [splits_spec l s hs] at h
  simpa only [List.forall_mem_append, List.forall_mem_cons] using h

theorem splits_map {α β : Type} (f : α → β) (l : List α) :
    splits (l.map f) = (splits l).map (fun s => (s.1.map f, f s.2.1, s.2.2.map f)) := by
  induction l with
  | nil => rfl
  | cons x xs ih => simp [splits, ih, Function.comp_def]

section term
variable {T : Type} {Q : Type} [One Q] [Mul Q] [Div Q] [Neg Q] [NatCast Q] [DecidableEq Q]

/-- the guard of `time_evolution_for_term`: constant, or negligible imaginary part -/
def acc (negl : Q → Bool) (t : Term (Q × Q)) : Bool := t.ops.isEmpty || negl t.coeff.2

theorem acc_of_ne_nil (negl : Q → Bool) (t : Term (Q × Q)) (h : t.ops ≠ []) : acc negl t = negl t.coeff.2 := by
  simp [acc, h]

/-- the circuit `time_evolution_for_term` builds when it does not raise -/
def evoCirc (alg : TimeAlg Q T) (t : Term (Q × Q)) (time : T) : Circ T :=
  if t.ops.isEmpty then []
  else
    match (sortedQubits t).getLast? with
    | none => []
    | some last =>
      basisChange alg t (sortedQubits t) ++
        ((ladder (sortedQubits t) : Circ T) ++
          [⟨.RZ (alg.smul t.coeff.1 (alg.smul ((2 : Nat) : Q) time)), [last]⟩] ++ inverse (ladder (sortedQubits t))) ++
        inverse (basisChange alg t (sortedQubits t))

theorem evolutionForTerm_eq (alg : TimeAlg Q T) (negl : Q → Bool) (t : Term (Q × Q)) (time : T) :
    evolutionForTerm alg negl t time = if acc negl t then .ok (evoCirc alg t time) else .error .value := by
  unfold evolutionForTerm acc evoCirc
  cases h0 : t.ops.isEmpty with
  | true => simp
  | false =>
    cases hn : negl t.coeff.2 with
    | false => simp
    | true =>
      simp only [Bool.false_eq_true, if_false, Bool.not_true, Bool.false_or, if_true]
      cases (sortedQubits t).getLast? <;> rfl

theorem stepCircuit_eq (alg : TimeAlg Q T) (negl : Q → Bool) (τ : T) (ts : PSum (Q × Q)) :
    stepCircuit alg negl τ ts =
      if ∀ t ∈ ts, acc negl t = true then .ok (ts.flatMap fun t => evoCirc alg t τ) else .error .value := by
  induction ts with
  | nil => simp [stepCircuit]
  | cons t ts ih =>
    simp only [stepCircuit, evolutionForTerm_eq, ih, guard_bind₂, List.forall_mem_cons, List.flatMap_cons]

theorem repeatStep_ok (s : Circ T) (n : ℕ) : repeatStep (.ok s) n = .ok (List.replicate n s).flatten := by
  induction n with
  | zero => rfl
  | succ n ih => simp [repeatStep, ih, List.replicate_succ]

/-- with zero steps nothing is evaluated, so no guard can fail -/
theorem timeEvolution_eq (alg : TimeAlg Q T) (negl : Q → Bool) (h : PSum (Q × Q)) (time : T) (n : ℕ) :
    timeEvolution alg negl h time n =
      if n = 0 ∨ ∀ t ∈ h, acc negl t = true then
        .ok (List.replicate n (h.flatMap fun t => evoCirc alg t (alg.smul (1 / (n : Q)) time))).flatten
      else .error .value := by
  unfold timeEvolution
  rw [stepCircuit_eq]
  by_cases hacc : ∀ t ∈ h, acc negl t = true
  · rw [if_pos hacc, if_pos (Or.inr hacc), repeatStep_ok]
  · cases n with
    | zero => simp [repeatStep]
    | succ n => rw [if_neg hacc, if_neg (by simp [hacc])]; rfl

theorem generateCircuitSequence_ok (rep diff : Circ T) (len pos : ℕ) (h : pos < len) :
    generateCircuitSequence rep diff len pos
      = .ok ((List.replicate pos rep).flatten ++ diff ++ (List.replicate (len - pos - 1) rep).flatten) := by
  unfold generateCircuitSequence
  rw [if_neg (by omega)]
  congr 1
  have hr : List.range len = List.range' 0 pos ++ pos :: List.range' (pos + 1) (len - pos - 1) := by
    rw [List.range_eq_range', show len = pos + (1 + (len - pos - 1)) by omega, ← List.range'_append_1,
      ← List.range'_append_1]
    simp
  have hc : ∀ a m, (∀ i ∈ List.range' a m, i ≠ pos) →
      (List.range' a m).flatMap (fun i => if i ≠ pos then rep else diff) = (List.replicate m rep).flatten := by
    intro a m hne
    rw [flatMap_const _ rep _ fun i hi => if_pos (hne i hi), List.length_range']
  rw [hr, List.flatMap_append, List.flatMap_cons, hc _ _ fun i hi => by have := List.mem_range'_1.mp hi; omega,
    hc _ _ fun i hi => by have := List.mem_range'_1.mp hi; omega]
  simp

end term

section deriv
variable {T : Type} {Q : Type} [One Q] [Mul Q] [Div Q] [Neg Q] [NatCast Q] [DecidableEq Q]

/-- `r = term.coefficient.real / n_steps` -/
def rate (n : ℕ) (t : Term (Q × Q)) : Q := t.coeff.1 / (n : Q)
/-- the time handed to the shifted term: `(time + factor * (np.pi / (4 r))) / n_steps` -/
def shiftTime (alg : TimeAlg Q T) (time : T) (n : ℕ) (t : Term (Q × Q)) (f : Q) : T :=
  alg.smul (1 / (n : Q)) (alg.add time (alg.smul f (alg.smul (1 / (((4 : Nat) : Q) * rate n t)) alg.pi)))
/-- `time / n_steps` -/
def plainTime (alg : TimeAlg Q T) (time : T) (n : ℕ) : T := alg.smul (1 / (n : Q)) time

/-- one derivative circuit of a single step: terms `a` plain, `t` shifted by the sign `f`, terms `b` plain -/
def derivCirc (alg : TimeAlg Q T) (time : T) (n : ℕ) (a : PSum (Q × Q)) (t : Term (Q × Q)) (b : PSum (Q × Q)) (f : Q) :
    Q × Circ T :=
  (rate n t * f,
    a.flatMap (fun t' => evoCirc alg t' (plainTime alg time n)) ++
      (evoCirc alg t (shiftTime alg time n t f) ++ b.flatMap (fun t' => evoCirc alg t' (plainTime alg time n))))

theorem shiftedStep_of_lt (alg : TimeAlg Q T) (negl : Q → Bool) (i : ℕ) (tS tP : T) (j : ℕ) (hj : i < j)
    (ts : PSum (Q × Q)) : shiftedStep alg negl i tS tP j ts = stepCircuit alg negl tP ts := by
  induction ts generalizing j with
  | nil => rfl
  | cons t ts ih => simp only [shiftedStep, stepCircuit, ih (j + 1) (by omega), if_neg (Nat.ne_of_lt hj)]

theorem shiftedStep_split (alg : TimeAlg Q T) (negl : Q → Bool) (tS tP : T) (j : ℕ) (a : PSum (Q × Q))
    (t : Term (Q × Q)) (b : PSum (Q × Q)) :
    shiftedStep alg negl (j + a.length) tS tP j (a ++ t :: b) =
      if ∀ t' ∈ a ++ t :: b, acc negl t' = true then
        .ok (a.flatMap (fun t => evoCirc alg t tP) ++ (evoCirc alg t tS ++ b.flatMap (fun t => evoCirc alg t tP)))
      else .error .value := by
  induction a generalizing j with
  | nil =>
    simp only [List.nil_append, List.length_nil, Nat.add_zero, shiftedStep, if_true,
      shiftedStep_of_lt alg negl j tS tP (j + 1) (Nat.lt_succ_self j), stepCircuit_eq, evolutionForTerm_eq, guard_bind₂,
      List.forall_mem_cons, List.flatMap_nil]
  | cons x a ih =>
    have e : j + (a.length + 1) = (j + 1) + a.length := by omega
    simp only [List.cons_append, List.length_cons, e, shiftedStep, ih, if_neg (show ¬ (j + 1 + a.length = j) by omega),
      evolutionForTerm_eq, guard_bind₂, List.forall_mem_cons, List.flatMap_cons, List.append_assoc]

theorem singleDerivative_def (alg : TimeAlg Q T) (negl : Q → Bool) (h : PSum (Q × Q)) (time : T) (n i : ℕ)
    (t : Term (Q × Q)) (f : Q) :
    singleDerivative alg negl h time n i t f =
      if n = 0 then .error .zerodiv
      else if rate n t = ((0 : Nat) : Q) then .ok none
      else (shiftedStep alg negl i (shiftTime alg time n t f) (plainTime alg time n) 0 h >>= fun c =>
        pure (some (rate n t * f, c))) := rfl

theorem singleDerivative_eq (alg : TimeAlg Q T) (negl : Q → Bool) (time : T) (n : ℕ) (hn : n ≠ 0) (a : PSum (Q × Q))
    (t : Term (Q × Q)) (b : PSum (Q × Q)) (f : Q) :
    singleDerivative alg negl (a ++ t :: b) time n a.length t f =
      if rate n t = ((0 : Nat) : Q) then .ok none
      else if ∀ t' ∈ a ++ t :: b, acc negl t' = true then .ok (some (derivCirc alg time n a t b f))
      else .error .value := by
  have := shiftedStep_split alg negl (shiftTime alg time n t f) (plainTime alg time n) 0 a t b
  rw [Nat.zero_add] at this
  rw [singleDerivative_def, if_neg hn, this]
  refine ite_congr rfl (fun _ => rfl) fun _ => ?_
  by_cases hacc : ∀ t' ∈ a ++ t :: b, acc negl t' = true
  · rw [if_pos hacc, if_pos hacc]; rfl
  · rw [if_neg hacc, if_neg hacc]; rfl

/-- the two derivative circuits of one term of a single step – none when its rate r is 0 (the code skips it) -/
def derivTwo (alg : TimeAlg Q T) (time : T) (n : ℕ) (s : PSum (Q × Q) × Term (Q × Q) × PSum (Q × Q)) :
    List (Q × Circ T) :=
  if rate n s.2.1 = ((0 : Nat) : Q) then []
  else [derivCirc alg time n s.1 s.2.1 s.2.2 1, derivCirc alg time n s.1 s.2.1 s.2.2 (-1)]

theorem singleTrotter_eq (alg : TimeAlg Q T) (negl : Q → Bool) (time : T) (n : ℕ) (hn : n ≠ 0) (pre ts : PSum (Q × Q)) :
    singleTrotterDerivatives alg negl (pre ++ ts) time n pre.length ts =
      if (∃ t ∈ ts, rate n t ≠ ((0 : Nat) : Q)) → ∀ t' ∈ pre ++ ts, acc negl t' = true then
        .ok ((splits ts).flatMap fun s => derivTwo alg time n (pre ++ s.1, s.2.1, s.2.2))
      else .error .value := by
  induction ts generalizing pre with
  | nil => simp [singleTrotterDerivatives, splits]
  | cons t ts ih =>
    have ih' := ih (pre ++ [t])
    simp only [List.append_assoc, List.singleton_append, List.length_append, List.length_singleton] at ih'
    simp only [singleTrotterDerivatives, singleDerivative_eq alg negl time n hn pre t ts, ih', guard_bind_pair, splits,
      List.flatMap_map, List.flatMap_cons, List.append_nil, exists_mem_cons, derivTwo, ne_eq]

/-- the spliced sequence: `p` copies of the repeated step, the different step, `n − p − 1` more copies -/
def spliceCirc (rep : Circ T) (n p : ℕ) (d : Circ T) : Circ T :=
  (List.replicate p rep).flatten ++ d ++ (List.replicate (n - p - 1) rep).flatten

theorem spliceAll_eq (rep : Circ T) (n p : ℕ) (hp : p < n) (single : List (Q × Circ T)) :
    spliceAll rep n p single = .ok (single.map (fun x => (x.1, spliceCirc rep n p x.2))) := by
  induction single with
  | nil => rfl
  | cons x single ih =>
    simp only [spliceAll, generateCircuitSequence_ok rep x.2 n p hp, ih, ok_bind, pure_eq_ok, List.map_cons, spliceCirc]

theorem splicePositions_eq (rep : Circ T) (n : ℕ) (single : List (Q × Circ T)) (ps : List ℕ) (hps : ∀ p ∈ ps, p < n) :
    splicePositions rep n single ps
      = .ok (ps.flatMap (fun p => single.map (fun x => (x.1, spliceCirc rep n p x.2)))) := by
  induction ps with
  | nil => rfl
  | cons p ps ih =>
    simp only [splicePositions, spliceAll_eq rep n p (hps p List.mem_cons_self) single,
      ih fun q hq => hps q (List.mem_cons_of_mem _ hq), ok_bind, pure_eq_ok, List.flatMap_cons]

/-- the single-step derivative circuits, in the order the code produces them -/
def singleList (alg : TimeAlg Q T) (time : T) (n : ℕ) (h : PSum (Q × Q)) : List (Q × Circ T) :=
  (splits h).flatMap (derivTwo alg time n)

/-- the repeated step of the code: `time_evolution(hamiltonian, time / n_steps, n_steps=1)` -/
def repStep (alg : TimeAlg Q T) (time : T) (n : ℕ) (h : PSum (Q × Q)) : Circ T :=
  h.flatMap (fun t => evoCirc alg t (alg.smul (1 / ((1 : ℕ) : Q)) (plainTime alg time n)))

/-- what `time_evolution_derivatives` returns: the guards are evaluated when the repeated step is built (n > 1) or some
    term is not skipped -/
theorem derivatives_eq (alg : TimeAlg Q T) (negl : Q → Bool) (h : PSum (Q × Q)) (time : T) (n : ℕ) (hn : 1 ≤ n) :
    derivatives alg negl h time n =
      if (n > 1 ∨ ∃ t ∈ h, rate n t ≠ ((0 : Nat) : Q)) → ∀ t ∈ h, acc negl t = true then
        .ok ((List.range n).flatMap fun p =>
          (singleList alg time n h).map fun x => (x.1, spliceCirc (repStep alg time n h) n p x.2))
      else .error .value := by
  have hs : singleTrotterDerivatives alg negl h time n 0 h =
      if (∃ t ∈ h, rate n t ≠ ((0 : Nat) : Q)) → ∀ t ∈ h, acc negl t = true then .ok (singleList alg time n h)
      else .error .value := singleTrotter_eq alg negl time n (by omega) [] h
  have hd : derivatives alg negl h time n =
      (singleTrotterDerivatives alg negl h time n 0 h >>= fun single =>
        if n > 1 then
          (timeEvolution alg negl h (alg.smul (1 / (n : Q)) time) 1 >>= fun rep =>
            splicePositions rep n single (List.range n))
        else pure single) := rfl
  rw [hd, hs, timeEvolution_eq]
  by_cases h1 : n > 1
  · by_cases hacc : ∀ t ∈ h, acc negl t = true
    · rw [if_pos fun _ => hacc, if_pos (Or.inr hacc), if_pos fun _ => hacc]
      simp only [ok_bind, if_pos h1, List.replicate_one, List.flatten_cons, List.flatten_nil, List.append_nil]
      exact splicePositions_eq _ n _ _ fun p hp => List.mem_range.mp hp
    · rw [if_neg (show ¬ ((1 : ℕ) = 0 ∨ ∀ t ∈ h, acc negl t = true) by simp [hacc]),
        if_neg fun hh : (n > 1 ∨ ∃ t ∈ h, rate n t ≠ ((0 : Nat) : Q)) → _ => hacc (hh (Or.inl h1))]
      split <;> simp
  · obtain rfl : n = 1 := by omega
    simp only [h1, false_or, if_false]
    split
    · simp [spliceCirc, singleList]
    · rfl

end deriv
end OQ.C16
